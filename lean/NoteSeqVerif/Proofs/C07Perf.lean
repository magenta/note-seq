import NoteSeqVerif.Proofs.C07
import NoteSeqVerif.Model.C06P
/-! C07 — the lemmas behind the Performance theorems of `Props/C07.lean` (core Lean only): the note events
(`note_events` of `_from_quantized_sequence`); `emit` (Model/C06P), the extractor's loop as a list function: the loop
is `emit` checked by the validator (`perfLoop_eq`), and `stream` reads back what `emit` wrote (`emit_read`); the FIFO
reading of the note events (`openAt`, `fifo_noteEvents`). -/
namespace NSV.C07
open NSV.C06P

def onOf (e : NEv) : NEv := ⟨e.note.qs, e.idx, false, e.note⟩

def offOf (e : NEv) : NEv := ⟨e.note.qe, e.idx, true, e.note⟩

theorem offOf_onOf {e : NEv} (hs : e.step = e.note.qe) (ho : e.isOff = true) : offOf (onOf e) = e := by
  cases e
  simp only at hs ho
  subst hs ho
  rfl

/-- an event of `note_events`: it carries the note at its index and happens at that note's start / end step -/
def WFEv (l : List Note) (e : NEv) : Prop :=
  l[e.idx]? = some e.note ∧ e.step = (if e.isOff then e.note.qe else e.note.qs)

theorem wf_on_eq {l : List Note} {x a : NEv} (hx : WFEv l x) (ha : WFEv l a)
    (hi : x.idx = a.idx) (hox : x.isOff = false) (hoa : a.isOff = false) : x = a := by
  obtain ⟨hx1, hx2⟩ := hx
  obtain ⟨ha1, ha2⟩ := ha
  rw [hi, ha1] at hx1
  simp only [Option.some.injEq] at hx1
  rw [hox] at hx2; rw [hoa] at ha2
  simp only [Bool.false_eq_true, ↓reduceIte] at hx2 ha2
  cases x; cases a
  simp_all

theorem mem_onsets {l : List Note} {e : NEv} :
    e ∈ onsets l ↔ WFEv l e ∧ e.isOff = false := by
  simp only [onsets, List.mem_map, Prod.exists, List.mem_zipIdx_iff_getElem?, WFEv]
  constructor
  · rintro ⟨n, i, h, rfl⟩; exact ⟨⟨h, rfl⟩, rfl⟩
  · rintro ⟨⟨h1, h2⟩, h3⟩
    refine ⟨e.note, e.idx, h1, ?_⟩
    cases e; simp_all

theorem mem_offsets {l : List Note} {e : NEv} :
    e ∈ offsets l ↔ WFEv l e ∧ e.isOff = true := by
  simp only [offsets, List.mem_map, Prod.exists, List.mem_zipIdx_iff_getElem?, WFEv]
  constructor
  · rintro ⟨n, i, h, rfl⟩; exact ⟨⟨h, rfl⟩, rfl⟩
  · rintro ⟨⟨h1, h2⟩, h3⟩
    refine ⟨e.note, e.idx, h1, ?_⟩
    cases e; simp_all

theorem mem_noteEvents_iff {l : List Note} {e : NEv} : e ∈ noteEvents l ↔ WFEv l e := by
  rw [noteEvents, List.mem_mergeSort, List.mem_append, mem_onsets, mem_offsets]
  cases e.isOff <;> simp

theorem noteEvents_perm (l : List Note) : (noteEvents l).Perm (onsets l ++ offsets l) := List.mergeSort_perm _ _

theorem noteEvents_facts (l : List Note) :
    (noteEvents l).Pairwise NevLt ∧ (∀ e ∈ noteEvents l, WFEv l e) ∧
    (∀ e ∈ noteEvents l, onOf e ∈ noteEvents l ∧ offOf e ∈ noteEvents l) := by
  refine ⟨?_, fun e => mem_noteEvents_iff.mp, fun e he => ?_⟩
  · -- sorted by `nevLe`, and no two events share `(idx, isOff)`
    have hkey : (onsets l ++ offsets l).Pairwise (fun a b => ¬ (a.idx = b.idx ∧ a.isOff.toNat = b.isOff.toNat)) := by
      rw [List.pairwise_append]
      refine ⟨?_, ?_, ?_⟩
      · exact List.pairwise_map.mpr ((zipIdx_pairwise_lt l 0).imp fun h hab => by simp only at hab; omega)
      · exact List.pairwise_map.mpr ((zipIdx_pairwise_lt l 0).imp fun h hab => by simp only at hab; omega)
      · intro a ha b hb hab
        rw [(mem_onsets.mp ha).2, (mem_offsets.mp hb).2] at hab
        exact absurd hab.2 (by simp)
    have hkey' : (noteEvents l).Pairwise (fun a b => ¬ (a.idx = b.idx ∧ a.isOff.toNat = b.isOff.toNat)) :=
      (List.Perm.pairwise_iff (fun h hab => h ⟨hab.1.symm, hab.2.symm⟩) (noteEvents_perm l)).mpr hkey
    have hsorted := nevLe_pre.sorted (onsets l ++ offsets l)
    refine (hsorted.and hkey').imp ?_
    intro a b ⟨hle, hk⟩
    rw [nevLe_iff] at hle
    rw [nevLt_iff]
    omega
  · have h := (mem_noteEvents_iff.mp he).1
    exact ⟨mem_noteEvents_iff.mpr ⟨h, rfl⟩, mem_noteEvents_iff.mpr ⟨h, rfl⟩⟩

/-- `note_events` is the one strictly `(step, idx, is_offset)`-sorted list of the events of `l` -/
theorem noteEvents_unique {l : List Note} {E : List NEv} (hs : E.Pairwise NevLt) (hm : ∀ e, e ∈ E ↔ WFEv l e) :
    noteEvents l = E := by
  have nd : ∀ {L : List NEv}, L.Pairwise NevLt → L.Nodup := fun h =>
    h.imp fun {a b} (hab : NevLt a b) (e : a = b) => NevLt.irrefl b (e ▸ hab)
  have hstrict := (noteEvents_facts l).1
  exact List.Perm.eq_of_pairwise (fun a b _ _ h1 h2 => absurd h2 h1.asymm) hstrict hs
    ((List.perm_ext_iff_of_nodup (nd hstrict) (nd hs)).mpr fun e => mem_noteEvents_iff.trans (hm e).symm)

theorem noteEvents_sorted (l : List Note) : (noteEvents l).Pairwise (fun a b => a.step ≤ b.step) :=
  (noteEvents_facts l).1.imp fun h => by rw [nevLt_iff] at h; omega

theorem mem_noteEvents {l : List Note} {e : NEv} (h : e ∈ noteEvents l) :
    e.note ∈ l ∧ (e.step = e.note.qs ∨ e.step = e.note.qe) := by
  obtain ⟨h1, h2⟩ := mem_noteEvents_iff.mp h
  exact ⟨List.mem_of_getElem? h1, by rw [h2]; cases e.isOff <;> simp⟩

theorem onsets_map {β} (l : List Note) (g : NEv → β) (f : Note → β)
    (h : ∀ n i, g ⟨n.qs, i, false, n⟩ = f n) : (onsets l).map g = l.map f := by
  have : (onsets l).map g = (l.zipIdx.map Prod.fst).map f := by
    simp only [onsets, List.map_map]
    apply List.map_congr_left
    rintro ⟨n, i⟩ _
    exact h n i
  rw [this, List.zipIdx_map_fst]

theorem offsets_map {β} (l : List Note) (g : NEv → β) (f : Note → β)
    (h : ∀ n i, g ⟨n.qe, i, true, n⟩ = f n) : (offsets l).map g = l.map f := by
  have : (offsets l).map g = (l.zipIdx.map Prod.fst).map f := by
    simp only [offsets, List.map_map]
    apply List.map_congr_left
    rintro ⟨n, i⟩ _
    exact h n i
  rw [this, List.zipIdx_map_fst]

theorem filter_on_noteEvents (l : List Note) :
    ((noteEvents l).filter (fun e => !e.isOff)).Perm (onsets l) := by
  have a : (onsets l).filter (fun e => !e.isOff) = onsets l :=
    List.filter_eq_self.mpr fun e he => by simp [(mem_onsets.mp he).2]
  have b : (offsets l).filter (fun e => !e.isOff) = [] :=
    List.filter_eq_nil_iff.mpr fun e he => by simp [(mem_offsets.mp he).2]
  have := (noteEvents_perm l).filter (fun e => !e.isOff)
  rwa [List.filter_append, a, b, List.append_nil] at this

theorem filter_off_noteEvents (l : List Note) :
    ((noteEvents l).filter (·.isOff)).Perm (offsets l) := by
  have a : (onsets l).filter (·.isOff) = [] :=
    List.filter_eq_nil_iff.mpr fun e he => by simp [(mem_onsets.mp he).2]
  have b : (offsets l).filter (·.isOff) = offsets l :=
    List.filter_eq_self.mpr fun e he => (mem_offsets.mp he).2
  have := (noteEvents_perm l).filter (·.isOff)
  rwa [List.filter_append, a, b, List.nil_append] at this

theorem mem_sortedNotes {s : NoteSeq} {start : Int} {inst : Option Int} {n : Note} :
    n ∈ sortedNotes s start inst ↔ n ∈ s.notes ∧ start ≤ n.qs ∧ instOk inst n = true := by
  simp [sortedNotes, selectNotes, List.mem_mergeSort, List.mem_filter]

theorem forall_sortedNotes {s : NoteSeq} {start : Int} {inst : Option Int} {P : Note → Prop} :
    (∀ n ∈ sortedNotes s start inst, P n) ↔ ∀ n ∈ s.notes, start ≤ n.qs → instOk inst n = true → P n := by
  simp only [mem_sortedNotes, and_imp]

theorem shiftSum_append (a b : List PEvent) : shiftSum (a ++ b) = shiftSum a + shiftSum b := by
  induction a with
  | nil => simp [shiftSum]
  | cons e r ih => cases e <;> simp [shiftSum, ih] <;> omega


theorem shiftLoop_spec (ms : Int) (hms : 1 ≤ ms) :
    ∀ (fuel : Nat) (d : Int), 0 < d → d ≤ fuel →
      (∀ e ∈ shiftLoop ms fuel d, ∃ v, e = .timeShift v ∧ 1 ≤ v ∧ v ≤ ms) ∧
      shiftSum (shiftLoop ms fuel d) = d ∧
      ∀ c w r, stream c w (shiftLoop ms fuel d ++ r) = stream (c + d) w r := by
  intro fuel
  induction fuel with
  | zero => intro d h1 h2; omega
  | succ f ih =>
    intro d h1 h2
    unfold shiftLoop
    by_cases hd : d > ms
    · simp only [hd, ↓reduceIte]
      obtain ⟨i1, i2, i3⟩ := ih (d - ms) (by omega) (by omega)
      refine ⟨List.forall_mem_cons.mpr ⟨⟨ms, rfl, hms, Int.le_refl _⟩, i1⟩, ?_, ?_⟩
      · simp only [shiftSum, i2]; omega
      · intro c w r
        rw [List.cons_append, stream, i3, show c + ms + (d - ms) = c + d by omega]
    · simp only [hd, ↓reduceIte]
      refine ⟨?_, ?_, fun c w r => rfl⟩
      · intro e he
        simp only [List.mem_singleton] at he
        exact ⟨d, he, by omega, by omega⟩
      · simp [shiftSum]

end NSV.C07

namespace NSV.C06P
open C07

def SEv.shift (S : Int) (e : SEv) : SEv := { e with step := e.step + S }

/-- the time shifts `emit` writes to get from step `cur` to step `step` -/
def shiftsTo (ms cur step : Int) : List PEvent :=
  if step > cur then shiftLoop ms (step - cur).toNat (step - cur) else []

/-- what `emit` writes for one event after the time shifts, and the bin in force afterwards -/
def emitHead (nb bin : Int) (e : SEv) : List PEvent × Int :=
  if e.isOff then ([.noteOff e.pitch], bin)
  else if nb ≠ 0 ∧ e.bin ≠ bin then ([.velocity e.bin, .noteOn e.pitch], e.bin)
  else ([.noteOn e.pitch], bin)

theorem emit_cons (nb ms cur bin : Int) (e : SEv) (es : List SEv) :
    emit nb ms cur bin (e :: es) = shiftsTo ms cur e.step ++ ((emitHead nb bin e).1 ++
      emit nb ms (if e.step > cur then e.step else cur) (emitHead nb bin e).2 es) := by
  rw [emit]
  unfold shiftsTo emitHead
  split
  · rfl
  · split <;> rfl

theorem shiftsTo_spec (ms : Int) (hms : 1 ≤ ms) (cur step : Int) :
    ∀ x ∈ shiftsTo ms cur step, ∃ v, x = PEvent.timeShift v ∧ 1 ≤ v ∧ v ≤ ms := by
  unfold shiftsTo
  by_cases hgt : step > cur
  · rw [if_pos hgt]
    exact (shiftLoop_spec ms hms (step - cur).toNat (step - cur) (by omega) (by omega)).1
  · rw [if_neg hgt]
    exact fun x hx => absurd hx (by simp)

theorem emit_forall (P : PEvent → Prop) (nb ms : Int) (hsh : ∀ cur step, ∀ x ∈ shiftsTo ms cur step, P x) :
    ∀ (es : List SEv) (cur bin : Int), (∀ e ∈ es, ∀ bin, ∀ x ∈ (emitHead nb bin e).1, P x) →
      ∀ x ∈ emit nb ms cur bin es, P x := by
  intro es
  induction es with
  | nil => intro cur bin _ x hx; simp [emit] at hx
  | cons e es ih =>
    intro cur bin hes x hx
    rw [emit_cons, List.mem_append, List.mem_append] at hx
    rcases hx with hx | hx | hx
    · exact hsh _ _ x hx
    · exact hes e (List.mem_cons_self ..) bin x hx
    · exact ih _ _ (fun y hy => hes y (List.mem_cons_of_mem _ hy)) x hx

theorem emit_shift (nb ms S : Int) : ∀ (es : List SEv) (cur bin : Int),
    emit nb ms (cur + S) bin (es.map (SEv.shift S)) = emit nb ms cur bin es := by
  intro es
  induction es with
  | nil => intro cur bin; rfl
  | cons e es ih =>
    intro cur bin
    have hgt : e.step + S > cur + S ↔ e.step > cur := by omega
    have h1 : shiftsTo ms (cur + S) (e.step + S) = shiftsTo ms cur e.step := by
      unfold shiftsTo
      rw [show e.step + S - (cur + S) = e.step - cur by omega]
      simp only [hgt]
    have h2 : (if e.step + S > cur + S then e.step + S else cur + S) = (if e.step > cur then e.step else cur) + S := by
      simp only [hgt]; split <;> rfl
    rw [List.map_cons, emit_cons, emit_cons]
    show shiftsTo ms (cur + S) (e.step + S) ++ ((emitHead nb bin e).1 ++
      emit nb ms (if e.step + S > cur + S then e.step + S else cur + S) (emitHead nb bin e).2 _) = _
    rw [h1, h2, ih]

theorem mem_emitHead {nb bin : Int} {e : SEv} {x : PEvent} (hx : x ∈ (emitHead nb bin e).1) :
    (x = .noteOff e.pitch ∧ e.isOff = true) ∨ (x = .noteOn e.pitch ∧ e.isOff = false) ∨
      (x = .velocity e.bin ∧ e.isOff = false ∧ nb ≠ 0) := by
  unfold emitHead at hx
  cases hoff : e.isOff with
  | true => rw [hoff, if_pos rfl] at hx; exact Or.inl ⟨List.mem_singleton.mp hx, rfl⟩
  | false =>
    rw [hoff, if_neg (by simp)] at hx
    split at hx
    next hc =>
      rcases List.mem_cons.mp hx with rfl | hx
      · exact Or.inr (Or.inr ⟨rfl, rfl, hc.1⟩)
      · exact Or.inr (Or.inl ⟨List.mem_singleton.mp hx, rfl⟩)
    next => exact Or.inr (Or.inl ⟨List.mem_singleton.mp hx, rfl⟩)

theorem emit_valid (nb ms : Int) (hms : 1 ≤ ms) (es : List SEv) (cur bin : Int)
    (hes : ∀ e ∈ es, 0 ≤ e.pitch ∧ e.pitch ≤ 127 ∧ (e.isOff = false → nb ≠ 0 → 1 ≤ e.bin ∧ e.bin ≤ 127)) :
    ∀ x ∈ emit nb ms cur bin es, x.valid = true := by
  refine emit_forall _ nb ms ?_ es cur bin ?_
  · intro cur step x hx
    obtain ⟨v, rfl, h1, _⟩ := shiftsTo_spec ms hms cur step x hx
    simp [PEvent.valid]; omega
  · intro e he bin x hx
    obtain ⟨p0, p1, hb⟩ := hes e he
    rcases mem_emitHead hx with ⟨rfl, _⟩ | ⟨rfl, _⟩ | ⟨rfl, hoff, h0⟩
    · simp [PEvent.valid, C07.Gen.MIN_MIDI_PITCH, C07.Gen.MAX_MIDI_PITCH, p0, p1]
    · simp [PEvent.valid, C07.Gen.MIN_MIDI_PITCH, C07.Gen.MAX_MIDI_PITCH, p0, p1]
    · simp [PEvent.valid, C07.Gen.MAX_NUM_VELOCITY_BINS, hb hoff h0]

theorem emit_kinds (nb ms : Int) (hms : 1 ≤ ms) (es : List SEv) (cur bin : Int) : ∀ x ∈ emit nb ms cur bin es,
    (∀ v, x ≠ PEvent.duration v) ∧ (nb = 0 → ∀ b, x ≠ PEvent.velocity b) := by
  refine emit_forall _ nb ms ?_ es cur bin ?_
  · intro cur step x hx
    obtain ⟨v, rfl, _⟩ := shiftsTo_spec ms hms cur step x hx
    exact ⟨(fun _ h => nomatch h), (fun _ _ h => nomatch h)⟩
  · intro e _ bin x hx
    rcases mem_emitHead hx with ⟨rfl, _⟩ | ⟨rfl, _⟩ | ⟨rfl, _, h0⟩
    · exact ⟨(fun _ h => nomatch h), (fun _ _ h => nomatch h)⟩
    · exact ⟨(fun _ h => nomatch h), (fun _ _ h => nomatch h)⟩
    · exact ⟨(fun _ h => nomatch h), (fun h => absurd h h0)⟩

/-- what the extractor's loop looks at in a note event: step, on/off, pitch, and (for an onset, when bins are
used) the velocity bin -/
def sevOfNEv (nb : Int) (e : NEv) : SEv :=
  ⟨e.step, e.isOff, e.note.pitch,
    if e.isOff then 0 else if nb = 0 then 0 else C07.Gen.velocityToBin e.note.velocity nb⟩

theorem shiftsTo_valid (ms : Int) (hms : 1 ≤ ms) (cur step : Int) : (shiftsTo ms cur step).all PEvent.valid = true := by
  rw [List.all_eq_true]
  intro x hx
  obtain ⟨v, rfl, h1, _⟩ := shiftsTo_spec ms hms cur step x hx
  simp [PEvent.valid]; omega

theorem shiftsTo_read (ms : Int) (hms : 1 ≤ ms) {cur step : Int} (h : cur ≤ step) :
    shiftSum (shiftsTo ms cur step) = step - cur ∧
    ∀ bin r, stream cur bin (shiftsTo ms cur step ++ r) = stream step bin r := by
  unfold shiftsTo
  by_cases hgt : step > cur
  · obtain ⟨_, h2, h3⟩ := shiftLoop_spec ms hms (step - cur).toNat (step - cur) (by omega) (by omega)
    rw [if_pos hgt]
    exact ⟨h2, fun bin r => by rw [h3, show cur + (step - cur) = step by omega]⟩
  · obtain rfl : step = cur := by omega
    rw [if_neg hgt]
    exact ⟨by simp [shiftSum], fun _ _ => rfl⟩

/-- what `stream` can return: a NOTE_OFF carries bin 0, and so does every event when bins are not used -/
def SEvWF (nb : Int) (x : SEv) : Prop := (x.isOff = true ∨ nb = 0) → x.bin = 0

theorem sevOfNEv_wf (nb : Int) (e : NEv) : SEvWF nb (sevOfNEv nb e) := by
  rintro (h | h)
  · simp only [sevOfNEv] at h ⊢; rw [if_pos h]
  · simp only [sevOfNEv, h, ↓reduceIte, ite_self]

theorem emitHead_read {nb bin : Int} (hb : nb = 0 → bin = 0) {x : SEv} (hx : SEvWF nb x) (r : List PEvent) :
    stream x.step bin ((emitHead nb bin x).1 ++ r) = x :: stream x.step (emitHead nb bin x).2 r ∧
    shiftSum (emitHead nb bin x).1 = 0 ∧ (nb = 0 → (emitHead nb bin x).2 = 0) := by
  obtain ⟨s, off, p, b⟩ := x
  unfold emitHead
  cases off with
  | true => obtain rfl : b = 0 := hx (.inl rfl); exact ⟨rfl, rfl, hb⟩
  | false =>
    by_cases hc : nb ≠ 0 ∧ b ≠ bin
    · rw [if_neg (by simp), if_pos hc]; exact ⟨rfl, rfl, fun h => absurd h hc.1⟩
    · rw [if_neg (by simp), if_neg hc]
      obtain rfl : bin = b := by
        by_cases h0 : nb = 0
        · rw [hb h0]; exact (hx (.inr h0)).symm
        · exact (Decidable.not_not.mp fun h => hc ⟨h0, h⟩).symm
      exact ⟨rfl, rfl, hb⟩

/-- `emit` as a list function: `stream` reads back the events it was given, and its time shifts add up to the step
of the last one -/
theorem emit_read (nb ms : Int) (hms : 1 ≤ ms) : ∀ (E : List SEv) (cur bin : Int),
    E.Pairwise (fun a b => a.step ≤ b.step) → (∀ e ∈ E, cur ≤ e.step ∧ SEvWF nb e) → (nb = 0 → bin = 0) →
    stream cur bin (emit nb ms cur bin E) = E ∧
    cur + shiftSum (emit nb ms cur bin E) = (E.getLast?.map (·.step)).getD cur := by
  intro E
  induction E with
  | nil => intro cur bin _ _ _; simp [emit, stream, shiftSum]
  | cons e E ih =>
    intro cur bin hpw hge hb
    rw [List.pairwise_cons] at hpw
    obtain ⟨hce, hwf⟩ := hge e (List.mem_cons_self ..)
    obtain ⟨hs1, hs2⟩ := shiftsTo_read ms hms hce
    have hhead := emitHead_read hb hwf
    obtain ⟨i1, i2⟩ := ih e.step (emitHead nb bin e).2 hpw.2
      (fun x hx => ⟨hpw.1 x hx, (hge x (List.mem_cons_of_mem _ hx)).2⟩) (hhead []).2.2
    rw [emit_cons, show (if e.step > cur then e.step else cur) = e.step by split <;> omega, hs2, shiftSum_append,
      shiftSum_append, hs1, List.getLast?_cons, (hhead _).1, i1, (hhead []).2.1]
    refine ⟨rfl, ?_⟩
    cases hl : E.getLast? <;> simp [hl] at i2 ⊢ <;> omega

end NSV.C06P

namespace NSV.C07
open NSV.C06P

theorem perfShift_eq (ms : Int) (hms : 1 ≤ ms) (st : PState) (step : Int) :
    perfShift ms st step =
      .ok ⟨if step > st.cur then step else st.cur, st.vel, st.out ++ shiftsTo ms st.cur step⟩ := by
  unfold perfShift shiftsTo
  by_cases hgt : step > st.cur
  · simp only [hgt, ↓reduceIte, show ¬ ms < 0 by omega, show ¬ ms = 0 by omega]
  · simp only [hgt, ↓reduceIte, List.append_nil]

/-- one round of the extractor's loop, exactly: the time shifts, then what `emit` writes for the event — or
`ValueError`, if the validator rejects any of that -/
theorem perfStep_eq (nb ms : Int) (hms : 1 ≤ ms) (hnb : 0 ≤ nb) (st : PState) (e : NEv) :
    perfStep nb ms st e =
      if (emitHead nb st.vel (sevOfNEv nb e)).1.all PEvent.valid = true then
        .ok ⟨if e.step > st.cur then e.step else st.cur, (emitHead nb st.vel (sevOfNEv nb e)).2,
          st.out ++ shiftsTo ms st.cur e.step ++ (emitHead nb st.vel (sevOfNEv nb e)).1⟩
      else .error .valueError := by
  obtain ⟨step, idx, off, note⟩ := e
  have hneg : ¬ nb < 0 := by omega
  rw [perfStep, perfShift_eq ms hms]
  simp only [Except.bind, perfVelocity, perfNote, mkEvent, emitHead, sevOfNEv, hneg, ↓reduceIte]
  cases off with
  | true =>
    simp only [↓reduceIte, Bool.not_true, Bool.false_and, Bool.false_eq_true, ite_self, List.all_cons, List.all_nil,
      Bool.and_true]
    cases (PEvent.noteOff note.pitch).valid <;> rfl
  | false =>
    simp only [Bool.false_eq_true, ↓reduceIte, Bool.not_false, Bool.true_and, decide_eq_true_eq]
    by_cases h0 : nb = 0
    · simp only [h0, ↓reduceIte, ne_eq, not_true_eq_false, false_and, List.all_cons, List.all_nil, Bool.and_true]
      cases (PEvent.noteOn note.pitch).valid <;> rfl
    · by_cases hch : Gen.velocityToBin note.velocity nb = st.vel
      · simp only [h0, ↓reduceIte, hch, ne_eq, not_true_eq_false, and_false, List.all_cons, List.all_nil, Bool.and_true]
        cases (PEvent.noteOn note.pitch).valid <;> rfl
      · simp only [h0, ↓reduceIte, hch, ne_eq, not_false_eq_true, and_self, List.all_cons, List.all_nil, Bool.and_true]
        cases (PEvent.velocity (Gen.velocityToBin note.velocity nb)).valid <;>
          cases (PEvent.noteOn note.pitch).valid <;>
          simp only [Bool.false_eq_true, ↓reduceIte, Bool.and_self, Bool.and_false, Bool.and_true, List.append_assoc,
            List.cons_append, List.nil_append]

/-- the extractor's loop is `emit`, checked by the validator -/
theorem perfLoop_eq (nb ms : Int) (hms : 1 ≤ ms) (hnb : 0 ≤ nb) : ∀ (E : List NEv) (st : PState),
    (perfLoop nb ms st E).map PState.out =
      if (emit nb ms st.cur st.vel (E.map (sevOfNEv nb))).all PEvent.valid = true then
        .ok (st.out ++ emit nb ms st.cur st.vel (E.map (sevOfNEv nb)))
      else .error .valueError := by
  intro E
  induction E with
  | nil => intro st; simp [perfLoop, emit, Except.map]
  | cons e E ih =>
    intro st
    rw [perfLoop, perfStep_eq nb ms hms hnb, List.map_cons, emit_cons, List.all_append, List.all_append,
      shiftsTo_valid ms hms, Bool.true_and]
    cases hv : (emitHead nb st.vel (sevOfNEv nb e)).1.all PEvent.valid with
    | false => simp [Except.map]
    | true =>
      simp only [↓reduceIte, Bool.true_and]
      rw [ih]
      simp only [List.append_assoc]
      rfl

theorem perfEvents_eq (s : NoteSeq) (start nb ms : Int) (inst : Option Int) (hms : 1 ≤ ms) (hnb : 0 ≤ nb) :
    perfEvents s start nb ms inst =
      if (emit nb ms start 0 ((noteEvents (sortedNotes s start inst)).map (sevOfNEv nb))).all PEvent.valid = true then
        .ok (emit nb ms start 0 ((noteEvents (sortedNotes s start inst)).map (sevOfNEv nb)))
      else .error .valueError := by
  have := perfLoop_eq nb ms hms hnb (noteEvents (sortedNotes s start inst)) ⟨start, 0, []⟩
  simp only [List.nil_append] at this
  rw [← this]
  unfold perfEvents
  cases perfLoop nb ms ⟨start, 0, []⟩ (noteEvents (sortedNotes s start inst)) <;> rfl

/-- a negative bin count (`range(…)` of a negative number: not modelled) stops the loop at its first event -/
theorem perfLoop_neg (nb ms : Int) (hms : 1 ≤ ms) (hnb : nb < 0) (st : PState) (e : NEv) (E : List NEv) :
    perfLoop nb ms st (e :: E) = .error .unmodelled := by
  rw [perfLoop, perfStep, perfShift_eq ms hms]
  simp [Except.bind, perfVelocity, show ¬ nb = 0 by omega, hnb]

/-- what a successful extraction returns, read through `stream`: the note events in `note_events` order,
separated by shifts of `1..ms` steps that add up to the step of the last one -/
theorem perfEvents_stream (s : NoteSeq) (start nb ms : Int) (inst : Option Int) (evs : List PEvent) (hms : 1 ≤ ms)
    (hwf : ∀ n ∈ s.notes, start ≤ n.qs → instOk inst n = true → n.qs ≤ n.qe)
    (h : perfEvents s start nb ms inst = .ok evs) :
    (∀ v, PEvent.timeShift v ∈ evs → 1 ≤ v ∧ v ≤ ms) ∧
    stream start 0 evs = (noteEvents (sortedNotes s start inst)).map (sevOfNEv nb) ∧
    (∀ e ∈ noteEvents (sortedNotes s start inst), e.step ≤ start + shiftSum evs) ∧
    (noteEvents (sortedNotes s start inst) = [] ∨
      ∃ e ∈ noteEvents (sortedNotes s start inst), e.step = start + shiftSum evs) := by
  have hge : ∀ e ∈ noteEvents (sortedNotes s start inst), start ≤ e.step := by
    intro e he
    obtain ⟨hm, hstep⟩ := mem_noteEvents he
    have := forall_sortedNotes.mpr hwf _ hm
    have := mem_sortedNotes.mp hm
    rcases hstep with h' | h' <;> omega
  have hpw := noteEvents_sorted (sortedNotes s start inst)
  generalize hN : noteEvents (sortedNotes s start inst) = N at hge hpw ⊢
  rcases Int.lt_or_le nb 0 with hnb | hnb
  · -- the loop cannot have run
    rw [perfEvents, hN] at h
    cases N with
    | nil => cases h; simp [stream]
    | cons e E => rw [perfLoop_neg nb ms hms hnb] at h; cases h
  rw [perfEvents_eq s start nb ms inst hms hnb, hN] at h
  split at h
  case isFalse => cases h
  cases h
  obtain ⟨h1, h2⟩ := emit_read nb ms hms _ start 0 (List.pairwise_map.mpr hpw)
    (List.forall_mem_map.mpr fun e he => ⟨hge e he, sevOfNEv_wf nb e⟩) (fun _ => rfl)
  rw [List.getLast?_map, Option.map_map] at h2
  refine ⟨fun v hv => ?_, h1, ?_⟩
  · refine emit_forall (fun x => ∀ v, x = PEvent.timeShift v → 1 ≤ v ∧ v ≤ ms) nb ms
      (fun c s x hx v hv => ?_) _ start 0 (fun e _ bin x hx v hv => ?_) _ hv v rfl
    · obtain ⟨w, rfl, hb⟩ := shiftsTo_spec ms hms c s x hx
      exact PEvent.timeShift.inj hv ▸ hb
    · rcases mem_emitHead hx with ⟨rfl, _⟩ | ⟨rfl, _⟩ | ⟨rfl, _⟩ <;> cases hv
  · -- the last note event has the greatest step
    rw [h2]
    rcases List.eq_nil_or_concat N with rfl | ⟨L, a, rfl⟩
    · simp
    · rw [List.concat_eq_append] at hpw ⊢
      simp only [List.getLast?_concat, Option.map_some, Option.getD_some, Function.comp]
      refine ⟨fun e he => ?_, .inr ⟨a, by simp, rfl⟩⟩
      rcases List.mem_append.mp he with h | h
      · exact (List.pairwise_append.mp hpw).2.2 e h a (by simp)
      · rw [List.mem_singleton.mp h]; exact Int.le_refl _

/-- `noteStream` and `onStream` are two views of `stream` -/
theorem noteStream_eq_stream (c v : Int) (evs : List PEvent) :
    noteStream c evs = (stream c v evs).map fun x => (if x.isOff then .noteOff x.pitch else .noteOn x.pitch, x.step) := by
  induction evs generalizing c v with
  | nil => rfl
  | cons e r ih => cases e <;> simp only [noteStream, stream, List.map_cons, ← ih] <;> rfl

theorem onStream_eq_stream (c v : Int) (evs : List PEvent) :
    onStream c v evs = (stream c v evs).filterMap fun x => if x.isOff then none else some (x.pitch, x.step, x.bin) := by
  induction evs generalizing c v with
  | nil => rfl
  | cons e r ih => cases e <;> simp only [onStream, stream, List.filterMap_cons, ← ih] <;> rfl

structure AState where
  open_ : List (Int × Int × Int)
  out : List (Int × Int × Int × Int)


def absStep (st : AState) (x : SEv) : AState :=
  if x.isOff then
    match st.open_.find? (fun y => y.1 == x.pitch) with
    | none => st
    | some y => { open_ := st.open_.eraseP (fun y => y.1 == x.pitch),
                  out := if y.2.1 = x.step then st.out else st.out ++ [(x.pitch, y.2.1, x.step, y.2.2)] }
  else { st with open_ := st.open_ ++ [(x.pitch, x.step, x.bin)] }

/-- `decodeStep` keeps the running step and velocity bin in its state; `absStep` reads them off the event -/
theorem decode_abs : ∀ (evs : List PEvent) (cur vel : Int) (o : List (Int × Int × Int))
    (out : List (Int × Int × Int × Int)),
    (evs.foldl decodeStep ⟨cur, vel, o, out⟩).open_ = ((stream cur vel evs).foldl absStep ⟨o, out⟩).open_ ∧
    (evs.foldl decodeStep ⟨cur, vel, o, out⟩).out = ((stream cur vel evs).foldl absStep ⟨o, out⟩).out := by
  intro evs
  induction evs with
  | nil => intro cur vel o out; exact ⟨rfl, rfl⟩
  | cons e r ih =>
    intro cur vel o out
    cases e with
    | noteOff p =>
      simp only [List.foldl_cons, decodeStep, stream, absStep, ↓reduceIte]
      cases o.find? (fun x => x.1 == p) <;> exact ih ..
    | _ => exact ih ..

def entryOf (nb : Int) (e : NEv) : Int × Int × Int := (e.note.pitch, e.note.qs, binOf nb 0 e.note)

def tupleOf (nb : Int) (e : NEv) : Int × Int × Int × Int :=
  (e.note.pitch, e.note.qs, e.note.qe, binOf nb 0 e.note)

/-- the NOTE_ONs of a prefix `P` of `note_events` whose NOTE_OFF is still to come, in order: the notes any decoder
has open after reading `P` -/
def openAt (P : List NEv) : List NEv := P.filter fun x => !x.isOff && decide (offOf x ∉ P)

theorem noSamePitch_index {l : List Note} (h : NoSamePitchOverlap l) :
    ∀ (i j : Nat) (ni nj : Note), l[i]? = some ni → l[j]? = some nj → i ≠ j → ni.pitch = nj.pitch →
      ni.qe ≤ nj.qs ∨ nj.qe ≤ ni.qs := by
  intro i j ni nj hi hj hij hp
  rw [NoSamePitchOverlap, List.pairwise_iff_getElem] at h
  obtain ⟨hil, hie⟩ := List.getElem?_eq_some_iff.mp hi
  obtain ⟨hjl, hje⟩ := List.getElem?_eq_some_iff.mp hj
  rcases Nat.lt_or_gt_of_ne hij with hlt | hlt
  · have := h i j hil hjl hlt
    rw [hie, hje] at this
    exact this hp
  · have := h j i hjl hil hlt
    rw [hie, hje] at this
    exact (this hp.symm).symm

theorem openAt_on {l : List Note} (hpos : ∀ n ∈ l, n.qs < n.qe) {P Q : List NEv} {e : NEv}
    (hes : noteEvents l = P ++ e :: Q) (hoff : e.isOff = false) : openAt (P ++ [e]) = openAt P ++ [e] := by
  obtain ⟨hstrict, hwf, _⟩ := noteEvents_facts l
  rw [hes] at hstrict hwf
  obtain ⟨_, hP_lt, _, _⟩ := nevLt_split hstrict
  have he_wf := hwf e (by simp)
  have hq := hpos _ (List.mem_of_getElem? he_wf.1)
  have hstep : e.step = e.note.qs := by rw [he_wf.2, hoff]; rfl
  have hne : ∀ x : NEv, offOf x ≠ e := fun x h => by rw [← h] at hoff; cases hoff
  have hoffe : offOf e ∉ P := fun h => (hP_lt _ h).asymm (by unfold NevLt offOf; left; simp only; omega)
  simp only [openAt, List.filter_append, List.mem_append, List.mem_singleton, hne, or_false, List.filter_cons, hoff,
    hoffe, Bool.not_false, not_false_eq_true, decide_true, Bool.and_self, ↓reduceIte, List.filter_nil]

/-- FIFO matching on `note_events`: when no two notes of one pitch overlap, the earliest open note of a NOTE_OFF's
pitch is the note the NOTE_OFF belongs to (a later open note of that pitch can only start on this very step) -/
theorem openAt_off {l : List Note} (hpos : ∀ n ∈ l, n.qs < n.qe) (hno : NoSamePitchOverlap l) {P Q : List NEv}
    {e : NEv} (hes : noteEvents l = P ++ e :: Q) (hoff : e.isOff = true) :
    (openAt P).find? (fun x => x.note.pitch == e.note.pitch) = some (onOf e) ∧
    openAt (P ++ [e]) = (openAt P).eraseP (fun x => x.note.pitch == e.note.pitch) := by
  obtain ⟨hstrict, hwf, hpart⟩ := noteEvents_facts l
  rw [hes] at hstrict hwf hpart
  obtain ⟨hP_pw, hP_lt, hQ_gt, hbefore⟩ := nevLt_split hstrict
  have he_mem : e ∈ P ++ e :: Q := by simp
  have he_wf := hwf e he_mem
  have hnote_pos : e.note.qs < e.note.qe := hpos _ (List.mem_of_getElem? he_wf.1)
  have hstep : e.step = e.note.qe := by rw [he_wf.2, hoff]; rfl
  have ha_mem_es : onOf e ∈ P ++ e :: Q := (hpart e he_mem).1
  have ha_P : onOf e ∈ P := hbefore _ ha_mem_es (by unfold NevLt onOf; left; simp only; omega)
  have ha_wf := hwf _ ha_mem_es
  have hoff_a : offOf (onOf e) = e := offOf_onOf hstep hoff
  have ha_O : onOf e ∈ openAt P :=
    List.mem_filter.mpr ⟨ha_P, by rw [hoff_a]; simpa [onOf] using fun h => NevLt.irrefl e (hP_lt e h)⟩
  obtain ⟨L1, L2, hO⟩ := List.append_of_mem ha_O
  obtain ⟨_, hL1_lt, hL2_gt, _⟩ := nevLt_split (hO ▸ hP_pw.filter _ : (L1 ++ onOf e :: L2).Pairwise NevLt)
  have hLmem : ∀ x, x ∈ L1 ∨ x ∈ L2 → x ∈ P ∧ x.isOff = false ∧ offOf x ∉ P := by
    intro x hx
    have := List.mem_filter.mp (show x ∈ openAt P by
      rw [hO, List.mem_append, List.mem_cons]; exact hx.imp_right .inr)
    simpa using this
  -- earlier open notes have another pitch
  have hL1 : ∀ x ∈ L1, ¬ (x.note.pitch == e.note.pitch) = true := by
    intro x hx hp
    obtain ⟨hxP, hxc⟩ := hLmem x (.inl hx)
    have hx_es : x ∈ P ++ e :: Q := List.mem_append_left _ hxP
    have hx_wf := hwf x hx_es
    have hxstep : x.step = x.note.qs := by rw [hx_wf.2, hxc.1]; rfl
    have hlt := hL1_lt x hx
    have hidx : x.idx ≠ e.idx := by
      intro hi
      have : x = onOf e := wf_on_eq hx_wf ha_wf hi hxc.1 rfl
      rw [this] at hlt; exact NevLt.irrefl _ hlt
    have hxpos : x.note.qs < x.note.qe := hpos _ (List.mem_of_getElem? hx_wf.1)
    have hqs : x.note.qs ≤ e.note.qs := by
      unfold NevLt onOf at hlt; simp only at hlt; omega
    have hdisj := noSamePitch_index hno x.idx e.idx x.note e.note hx_wf.1 he_wf.1 hidx (by simpa using hp)
    exact hxc.2 (hbefore _ (hpart x hx_es).2 (by unfold NevLt offOf; left; simp only; omega))
  -- among the open notes only `onOf e` has its offset at `e`
  have hkeep : ∀ x, x ∈ L1 ∨ x ∈ L2 → (!x.isOff && decide (offOf x ∉ P ++ [e])) = true := by
    intro x hx
    obtain ⟨hxP, hxc⟩ := hLmem x hx
    have : offOf x ≠ e := fun h => by
      obtain rfl : x = onOf e := wf_on_eq (hwf x (List.mem_append_left _ hxP)) ha_wf (by rw [← h]; rfl) hxc.1 rfl
      exact hx.elim (fun h => NevLt.irrefl _ (hL1_lt _ h)) fun h => NevLt.irrefl _ (hL2_gt _ h)
    simp [hxc, this]
  refine ⟨by rw [hO, List.find?_append, List.find?_eq_none.mpr hL1]; simp [onOf], ?_⟩
  have hdrop : openAt (P ++ [e]) = (openAt P).filter fun x => !x.isOff && decide (offOf x ∉ P ++ [e]) := by
    simp only [openAt, List.filter_append, List.filter_filter, List.filter_cons, hoff, Bool.not_true, Bool.false_and,
      Bool.false_eq_true, ↓reduceIte, List.filter_nil, List.append_nil]
    refine List.filter_congr fun x _ => ?_
    cases x.isOff <;> by_cases h : offOf x ∈ P <;> simp [h]
  rw [hdrop, hO, List.eraseP_append_right _ hL1, List.eraseP_cons_of_pos (by simp [onOf]), List.filter_append,
    List.filter_cons, if_neg (by simp [hoff_a]), List.filter_eq_self.mpr fun x hx => hkeep x (.inl hx),
    List.filter_eq_self.mpr fun x hx => hkeep x (.inr hx)]

theorem openAt_noteEvents (l : List Note) : openAt (noteEvents l) = [] :=
  List.filter_eq_nil_iff.mpr fun e he => by simp [((noteEvents_facts l).2.2 e he).2]

/-- after the prefix `P` of the note events: the open list holds the open notes in order; the finished notes are those
whose offset is in `P` -/
def FInv (nb : Int) (P : List NEv) (st : AState) : Prop :=
  st.open_ = (openAt P).map (entryOf nb) ∧ st.out.Perm ((P.filter (·.isOff)).map (tupleOf nb))

theorem fifo_step (nb : Int) (l : List Note) (hpos : ∀ n ∈ l, n.qs < n.qe)
    (hno : NoSamePitchOverlap l)
    (P : List NEv) (e : NEv) (Q : List NEv) (hes : noteEvents l = P ++ e :: Q)
    (st : AState) (hinv : FInv nb P st) : FInv nb (P ++ [e]) (absStep st (sevOfNEv nb e)) := by
  obtain ⟨hopen, hout⟩ := hinv
  have he_wf := mem_noteEvents_iff.mp (hes ▸ List.mem_append_right P (List.mem_cons_self ..))
  have hq := hpos _ (List.mem_of_getElem? he_wf.1)
  cases hoff : e.isOff with
  | false =>
    have hstep : e.step = e.note.qs := by rw [he_wf.2, hoff]; rfl
    have habs : absStep st (sevOfNEv nb e) = { st with open_ := st.open_ ++ [entryOf nb e] } := by
      simp only [sevOfNEv, hoff, Bool.false_eq_true, ↓reduceIte, absStep, entryOf, hstep, binOf]
    rw [habs]
    exact ⟨by rw [openAt_on hpos hes hoff, List.map_append, hopen]; rfl, by simpa [List.filter_append, hoff] using hout⟩
  | true =>
    have hstep : e.step = e.note.qe := by rw [he_wf.2, hoff]; rfl
    obtain ⟨hfind, herase⟩ := openAt_off hpos hno hes hoff
    have habs : absStep st (sevOfNEv nb e) =
        { open_ := (openAt (P ++ [e])).map (entryOf nb), out := st.out ++ [tupleOf nb e] } := by
      simp only [sevOfNEv, hoff, ↓reduceIte, absStep, hopen, List.find?_map, List.eraseP_map, Function.comp_def,
        entryOf, hfind, herase, Option.map_some, onOf, tupleOf, hstep, show ¬ e.note.qs = e.note.qe by omega]
    rw [habs]
    refine ⟨rfl, ?_⟩
    simp only [List.filter_append, List.filter_cons, hoff, ↓reduceIte, List.filter_nil, List.map_append]
    exact hout.append_right _

/-- FIFO matching of the whole of `note_events` closes every note with its own offset -/
theorem fifo_noteEvents (nb : Int) (l : List Note) (hpos : ∀ n ∈ l, n.qs < n.qe) (hno : NoSamePitchOverlap l) :
    (((noteEvents l).map (sevOfNEv nb)).foldl absStep ⟨[], []⟩).open_ = [] ∧
    (((noteEvents l).map (sevOfNEv nb)).foldl absStep ⟨[], []⟩).out.Perm
      (l.map fun n => (n.pitch, n.qs, n.qe, binOf nb 0 n)) := by
  obtain ⟨hopen, hout⟩ := foldl_prefix_inv (Inv := FInv nb) (fifo_step nb l hpos hno) (noteEvents l) [] ⟨[], []⟩ rfl
    ⟨rfl, List.Perm.refl _⟩
  rw [List.nil_append] at hopen hout
  constructor
  · rw [hopen, openAt_noteEvents]; rfl
  · refine hout.trans (((filter_off_noteEvents l).map _).trans ?_)
    rw [offsets_map _ _ (fun n => (n.pitch, n.qs, n.qe, binOf nb 0 n)) (fun n i => rfl)]

end NSV.C07

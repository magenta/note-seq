import NoteSeqVerif.Proofs.C06PGrid
import NoteSeqVerif.Proofs.C06PDecode
/-! C06 (performance half) — what `CanonicalPerfB` says of the annotated stream (`canonicalPerfB_iff`, `Accepted`), and
the notes of an accepted stream in NOTE_ON order (`noteAt`): the list both of the extractor's sorts (`sorted_notes` by
`(start_time, pitch)`, `note_events` by `(step, idx, is_offset)`) are compared with. -/
namespace NSV.C06P
open NSV.C07

theorem find_of_nodup_map {α β} [DecidableEq β] (f : α → β) (l : List α) (a : α) (hnd : (l.map f).Nodup)
    (ha : a ∈ l) : l.find? (fun x => f x == f a) = some a := by
  obtain ⟨s, t, rfl⟩ := List.append_of_mem ha
  rw [List.map_append, List.map_cons, List.nodup_append] at hnd
  refine List.find?_eq_some_iff_append.mpr ⟨by simp, s, t, rfl, fun x hx => ?_⟩
  simpa using hnd.2.2 (f x) (List.mem_map_of_mem hx) (f a) (List.mem_cons_self ..)

theorem inj_of_nodup_map {α β} [DecidableEq β] (f : α → β) {l : List α} (hnd : (l.map f).Nodup) {a b : α}
    (ha : a ∈ l) (hb : b ∈ l) (h : f a = f b) : a = b :=
  Option.some.inj ((find_of_nodup_map f l a hnd ha).symm.trans (by rw [h]; exact find_of_nodup_map f l b hnd hb))

theorem getElem?_of_map_eq_range {α} (f : α → Nat) (l : List α) (n : Nat) (h : l.map f = List.range n) (a : α)
    (ha : a ∈ l) : l[f a]? = some a := by
  obtain ⟨k, hk⟩ := List.mem_iff_getElem?.mp ha
  have h1 : (l.map f)[k]? = some (f a) := by rw [List.getElem?_map, hk]; rfl
  rw [h] at h1
  have hkn : k < n := by
    rcases Nat.lt_or_ge k n with h' | h'
    · exact h'
    · rw [List.getElem?_eq_none (by simpa using h')] at h1; simp at h1
  rw [List.getElem?_range hkn] at h1
  simp only [Option.some.injEq] at h1
  rw [← h1]; exact hk

theorem onLe_of_onLt {a b : AEv} (h : onLt a b = true) : onLe a b = true := by
  simp only [onLt, onLe, Bool.or_eq_true, Bool.and_eq_true, beq_iff_eq, decide_eq_true_eq] at h ⊢
  rcases h with h | ⟨h, p⟩
  · exact Or.inl h
  · exact Or.inr ⟨h, Int.le_of_lt p⟩

theorem canonicalPerfB_iff (nb ms : Int) (strict : Bool) (evs : List PEvent) :
    CanonicalPerfB nb ms strict evs = true ↔
      1 ≤ ms ∧ (∀ x ∈ evs, x.valid = true) ∧ emit nb ms 0 0 (stream 0 0 evs) = evs ∧
      (annotate (stream 0 0 evs)).ok = true ∧ (annotate (stream 0 0 evs)).open_ = [] ∧
      (annotate (stream 0 0 evs)).out.Pairwise (fun a b => aevLt a b = true) ∧
      (annotate (stream 0 0 evs)).ons.Pairwise (fun a b => (if strict then onLt a b else onLe a b) = true) ∧
      PosLen (annotate (stream 0 0 evs)).out ∧
      (nb ≠ 0 → ∀ a ∈ (annotate (stream 0 0 evs)).out, a.isOff = false → 1 ≤ a.bin) := by
  have hpos : ∀ out : List AEv, (∀ a ∈ out, a.isOff = false ∨ a.s < a.step) ↔ PosLen out :=
    fun out => forall₂_congr fun a _ => by cases a.isOff <;> simp
  have hbins : ∀ out : List AEv, (nb = 0 ∨ ∀ a ∈ out, a.isOff = true ∨ 1 ≤ a.bin) ↔
      (nb ≠ 0 → ∀ a ∈ out, a.isOff = false → 1 ≤ a.bin) := fun out => by
    constructor
    · rintro (h0 | h) hn a ha hoff
      · exact absurd h0 hn
      · exact (h a ha).resolve_left (by simp [hoff])
    · intro h
      by_cases h0 : nb = 0
      · exact Or.inl h0
      · refine Or.inr fun a ha => ?_
        cases hoff : a.isOff
        · exact Or.inr (h h0 a ha hoff)
        · exact Or.inl rfl
  simp only [CanonicalPerfB, streamOk, Bool.and_eq_true, decide_eq_true_eq, List.all_eq_true, Bool.or_eq_true,
    beq_iff_eq, List.isEmpty_iff, Bool.not_eq_true', hpos, hbins, and_assoc]
  rfl

/-- what `streamOk nb strict` gives about the final annotator state, together with the invariant every annotator
state has (`inv`) and step bounds -/
structure Accepted (nb B : Int) (strict : Bool) (st : AnState) : Prop where
  inv : AInv st
  ok : st.ok = true
  closed : st.open_ = []
  sorted : st.out.Pairwise (fun a b => aevLt a b = true)
  onsSorted : st.ons.Pairwise (fun a b => (if strict then onLt a b else onLe a b) = true)
  pos : PosLen st.out
  bins : nb ≠ 0 → ∀ a ∈ st.out, a.isOff = false → 1 ≤ a.bin
  range : ∀ a ∈ st.out, 0 ≤ a.step ∧ a.step < B

theorem mem_offs {st : AnState} {a : AEv} : a ∈ st.offs ↔ a ∈ st.out ∧ a.isOff = true := by
  simp [AnState.offs]

theorem mem_ons {st : AnState} {a : AEv} : a ∈ st.ons ↔ a ∈ st.out ∧ a.isOff = false := by
  simp [AnState.ons]

/-- the note whose NOTE_ON is the `i`-th NOTE_ON (closed notes only: in an accepted stream, all) -/
def noteAt (nb v0 : Int) (st : AnState) (i : Nat) : RNote :=
  match st.offs.find? (fun a => a.idx == i) with
  | some a => noteOfOff nb v0 a
  | none => ⟨0, 0, 0, 0⟩

section accepted
variable {nb B v0 : Int} {strict : Bool} {st : AnState} (acc : Accepted nb B strict st)
include acc

theorem Accepted.offsIdx_perm : (st.offs.map (·.idx)).Perm (List.range st.nOn) := by
  have := acc.inv.perm
  rw [acc.closed] at this
  simpa using this

theorem Accepted.offsIdx_nodup : (st.offs.map (·.idx)).Nodup :=
  (acc.offsIdx_perm.nodup_iff).mpr List.nodup_range

theorem Accepted.noteAt_off (a : AEv) (ha : a ∈ st.offs) : noteAt nb v0 st a.idx = noteOfOff nb v0 a := by
  unfold noteAt
  rw [find_of_nodup_map (·.idx) st.offs a acc.offsIdx_nodup ha]

theorem Accepted.off_of_idx (i : Nat) (hi : i < st.nOn) : ∃ a ∈ st.offs, a.idx = i := by
  have : i ∈ st.offs.map (·.idx) := (acc.offsIdx_perm.mem_iff).mpr (List.mem_range.mpr hi)
  obtain ⟨a, ha, rfl⟩ := List.mem_map.mp this
  exact ⟨a, ha, rfl⟩

theorem Accepted.on_of_idx (i : Nat) (hi : i < st.nOn) : ∃ a ∈ st.ons, a.idx = i := by
  have : i ∈ st.ons.map (·.idx) := by rw [acc.inv.onsIdx]; exact List.mem_range.mpr hi
  obtain ⟨a, ha, rfl⟩ := List.mem_map.mp this
  exact ⟨a, ha, rfl⟩

theorem Accepted.on_of_off (a : AEv) (ha : a ∈ st.offs) : st.ons[a.idx]? = some a.onOf :=
  acc.inv.offOn a (mem_offs.mp ha).1 (mem_offs.mp ha).2

theorem Accepted.on_self (a : AEv) (ha : a ∈ st.ons) : st.ons[a.idx]? = some a :=
  getElem?_of_map_eq_range (·.idx) st.ons st.nOn acc.inv.onsIdx a ha

theorem Accepted.idx_lt (a : AEv) (ha : a ∈ st.out) : a.idx < st.nOn := by
  rw [← acc.inv.onsLen]
  cases h : a.isOff with
  | true => exact (List.getElem?_eq_some_iff.mp (acc.on_of_off a (mem_offs.mpr ⟨ha, h⟩))).1
  | false => exact (List.getElem?_eq_some_iff.mp (acc.on_self a (mem_ons.mpr ⟨ha, h⟩))).1

theorem Accepted.noteAt_on (a : AEv) (ha : a ∈ st.ons) :
    (noteAt nb v0 st a.idx).pitch = a.pitch ∧ (noteAt nb v0 st a.idx).s = a.step ∧
    (noteAt nb v0 st a.idx).vel = velOf nb v0 a.bin := by
  obtain ⟨b, hb, hbi⟩ := acc.off_of_idx a.idx (acc.idx_lt a (mem_ons.mp ha).1)
  have h1 := acc.on_of_off b hb
  rw [hbi, acc.on_self a ha] at h1
  simp only [Option.some.injEq] at h1
  rw [← hbi, acc.noteAt_off (v0 := v0) b hb]
  rw [h1]
  simp [noteOfOff, AEv.onOf]

theorem Accepted.inB (a : AEv) (ha : a ∈ st.offs) : (noteOfOff nb v0 a).inB B := by
  have hm := mem_offs.mp ha
  have hon := acc.on_of_off a ha
  have hmem : a.onOf ∈ st.ons := List.mem_of_getElem? hon
  have h0 := (acc.range a.onOf (mem_ons.mp hmem).1).1
  exact ⟨h0, acc.pos a hm.1 hm.2, (acc.range a hm.1).2⟩

theorem Accepted.ons_rel (a b : AEv) (ha : a ∈ st.offs) (hb : b ∈ st.offs) (hij : a.idx < b.idx) :
    (if strict then onLt a.onOf b.onOf else onLe a.onOf b.onOf) = true := by
  obtain ⟨hi', h1⟩ := List.getElem?_eq_some_iff.mp (acc.on_of_off a ha)
  obtain ⟨hj', h2⟩ := List.getElem?_eq_some_iff.mp (acc.on_of_off b hb)
  have := List.pairwise_iff_getElem.mp acc.onsSorted a.idx b.idx hi' hj' hij
  rwa [h1, h2] at this

/-- the NOTE_ON order is a `(start step, pitch)` order of the notes -/
theorem Accepted.rnLe_of_idx_lt (a : AEv) (ha : a ∈ st.offs) (b : AEv) (hb : b ∈ st.offs) (hij : a.idx < b.idx) :
    rnLe (noteOfOff nb v0 a) (noteOfOff nb v0 b) = true := by
  have hlt := acc.ons_rel a b ha hb hij
  cases strict with
  | false => exact hlt
  | true => exact onLe_of_onLt hlt

end accepted

end NSV.C06P

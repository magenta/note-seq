import NoteSeqVerif.Proofs.C02Extract
/-! C02 — the state in effect at an instant of a piece equals the one in effect at the corresponding
instant of the original: generic lemma for the four state kinds, and per (instrument, control number)
for pedals.

`R` is any monotone operator with `R 0 = 0` (`id`, every rounding operator).  An instant `τ` of the
piece `[a, b)` and an instant `T ∈ [a, b)` of the original correspond when the rounded shift moves no
event inside the piece across: `R (time e - a) ≤ τ ↔ time e ≤ T`; in exact arithmetic these are `τ`
and `a + τ`. -/
namespace NSV.C02

/-- `inEffect time evs t`: the last event, in stable time order, with time ≤ `t` -/
def inEffect {α : Type} (time : α → Rat) (evs : List α) (t : Rat) : Option α :=
  ((sortByRat time evs).filter (fun e => decide (time e ≤ t))).getLast?

section pieces
variable {α μ : Type} {R : Rat → Rat} (hmono : ∀ x y, x ≤ y → R x ≤ R y) (hzero : R 0 = 0)
include hmono hzero

/-- a piece of a loop that stores an event at its rounded shifted time and puts the carried state at
time 0 is in time order, with every time in `[0, R (b - a)]` -/
theorem pieceSpec_times (L : Loop α μ) (hplace : ∀ a b e, L.time (L.place a b e) = R (L.time e - a))
    (henter : ∀ m, ∀ x ∈ L.enter m, L.time x = 0) (m : μ) {E : List α}
    (hE : E.Pairwise (fun x y => L.time x ≤ L.time y)) {a b : Rat} (hab : a ≤ b) :
    (pieceSpec L m E (a, b)).Pairwise (fun x y => L.time x ≤ L.time y) ∧
    ∀ x ∈ pieceSpec L m E (a, b), 0 ≤ L.time x ∧ L.time x ≤ R (b - a) := by
  have hR0 : ∀ x, 0 ≤ x → 0 ≤ R x := fun x hx => hzero ▸ hmono 0 x hx
  have hC := henter (memAt L m a E)
  have hin : ∀ y ∈ inside L a b E, 0 ≤ L.time y ∧ L.time y ≤ R (b - a) := by
    intro y hy
    obtain ⟨e, he, rfl⟩ := List.mem_map.mp hy
    have := within_bounds (List.mem_filter.mp he).2
    rw [hplace]
    exact ⟨hR0 _ (by grind), hmono _ _ (by grind)⟩
  refine ⟨List.pairwise_append.mpr ⟨?_, ?_, ?_⟩, ?_⟩
  · exact List.pairwise_of_forall_mem_list fun x hx y hy => by rw [hC x hx, hC y hy]; exact Rat.le_refl
  · refine List.pairwise_map.mpr ((hE.filter _).imp fun {x y} hxy => ?_)
    rw [hplace, hplace]
    exact hmono _ _ (by grind)
  · intro x hx y hy
    rw [hC x hx]
    exact (hin y hy).1
  · intro x hx
    rcases List.mem_append.mp hx with h | h
    · rw [hC x h]
      exact ⟨Rat.le_refl, hR0 _ (by grind)⟩
    · exact hin x h

theorem specState_times (time : α → Rat) (setTime : α → Rat → α) (htime : ∀ e t, time (setTime e t) = t)
    (evs : List α) (a b : Rat) (hab : a ≤ b) :
    (specState R time setTime evs a b).Pairwise (fun x y => time x ≤ time y) ∧
    ∀ x ∈ specState R time setTime evs a b, 0 ≤ time x ∧ time x ≤ R (b - a) :=
  pieceSpec_state R time setTime evs (a, b) ▸
    pieceSpec_times hmono hzero (stateL R time setTime) (fun _ _ e => htime e _)
      (fun m x hx => by cases m <;> simp_all [stateL]) none (sortByRat_pairwise _ _) hab

theorem specNotes_times (s : NoteSeq) (a b : Rat) (hab : a ≤ b) :
    (specNotes R s a b).Pairwise (fun x y => x.start ≤ y.start) ∧
    ∀ x ∈ specNotes R s a b, 0 ≤ x.start ∧ x.start ≤ R (b - a) :=
  pieceSpec_notes R s (a, b) ▸ pieceSpec_times hmono hzero (notesL R) (fun _ _ _ => rfl)
    (fun _ _ h => nomatch h) () (sortByRat_pairwise _ _) hab

theorem specBeats_times (s : NoteSeq) (a b : Rat) (hab : a ≤ b) :
    (specBeats R s a b).Pairwise (fun x y => x.time ≤ y.time) ∧
    ∀ x ∈ specBeats R s a b, 0 ≤ x.time ∧ x.time ≤ R (b - a) :=
  pieceSpec_beats R s (a, b) ▸ pieceSpec_times hmono hzero (beatL R) (fun _ _ _ => rfl)
    (fun _ _ h => nomatch h) () (sortByRat_pairwise _ _) hab

end pieces

theorem mem_filter_sortByRat {α : Type} {key : α → Rat} {l : List α} {p : α → Bool} {e : α} :
    e ∈ (sortByRat key l).filter p ↔ e ∈ l ∧ p e = true := by
  rw [List.mem_filter, (sortByRat_perm _ _).mem_iff]

theorem mem_specNotes {R : Rat → Rat} {s : NoteSeq} {a b : Rat} {m : Note} :
    m ∈ specNotes R s a b ↔ ∃ n ∈ s.notes, (a ≤ n.start ∧ n.start < b) ∧ m = clipR R a b n := by
  simp only [specNotes, List.mem_map, mem_filter_sortByRat, Bool.and_eq_true, decide_eq_true_eq, and_assoc,
    @eq_comm _ m]

theorem mem_specBeats {R : Rat → Rat} {s : NoteSeq} {a b : Rat} {x : TextAnn} :
    x ∈ specBeats R s a b ↔
      ∃ e ∈ beats s, (a ≤ e.time ∧ e.time < b) ∧ x = TextAnn.setTime e (R (e.time - a)) := by
  simp only [specBeats, List.mem_map, mem_filter_sortByRat, Bool.and_eq_true, decide_eq_true_eq, and_assoc,
    @eq_comm _ x]

/-- every event of a piece is an original event: one at or before `a` moved to time 0, or one inside
`(a, b)` shifted -/
theorem mem_specState {α : Type} {R : Rat → Rat} {time : α → Rat} {setTime : α → Rat → α}
    {evs : List α} {a b : Rat} {x : α} (hx : x ∈ specState R time setTime evs a b) :
    ∃ e ∈ evs, (time e ≤ a ∧ x = setTime e 0) ∨
      (a < time e ∧ time e < b ∧ x = setTime e (R (time e - a))) := by
  rcases List.mem_append.mp hx with h | h
  · cases hl : ((sortByRat time evs).filter (fun e => decide (time e ≤ a))).getLast? with
    | none => simp [hl] at h
    | some e =>
      rw [hl] at h
      have := mem_filter_sortByRat.mp (List.mem_of_getLast? hl)
      exact ⟨e, this.1, Or.inl ⟨by simpa using this.2, List.mem_singleton.mp h⟩⟩
  · obtain ⟨e, he, rfl⟩ := List.mem_map.mp h
    have := mem_filter_sortByRat.mp he
    simp only [Bool.and_eq_true, decide_eq_true_eq] at this
    exact ⟨e, this.1, Or.inr ⟨this.2.1, this.2.2, rfl⟩⟩

/-- in the text container of a piece the carried-over and shifted chord symbols are chord symbols, the
beats are beats -/
theorem specPiece_texts_kinds (R : Rat → Rat) (s : NoteSeq) (a b : Rat) :
    (∀ x ∈ specState R (·.time) TextAnn.setTime (chords s) a b, x.kind = Gen.CHORD_SYMBOL) ∧
    (∀ x ∈ specBeats R s a b, x.kind = Gen.BEAT) := by
  constructor
  · intro x hx
    obtain ⟨e, he, ⟨_, rfl⟩ | ⟨_, _, rfl⟩⟩ := mem_specState hx <;>
    exact beq_iff_eq.mp (List.mem_filter.mp he).2
  · intro x hx
    obtain ⟨e, he, _, rfl⟩ := mem_specBeats.mp hx
    exact beq_iff_eq.mp (List.mem_filter.mp he).2

theorem specPiece_chords (R : Rat → Rat) (preserve : List Int) (s : NoteSeq) (a b : Rat) :
    chords (specPiece R preserve s (a, b)) = specState R (·.time) TextAnn.setTime (chords s) a b := by
  obtain ⟨hc, hb⟩ := specPiece_texts_kinds R s a b
  have hne : Gen.BEAT ≠ Gen.CHORD_SYMBOL := by decide
  show List.filter _ (_ ++ _) = _
  rw [List.filter_append, List.filter_eq_self.mpr fun x hx => by simp [hc x hx],
    List.filter_eq_nil_iff.mpr fun x hx => by simp [hb x hx, hne], List.append_nil]

theorem specPiece_beats (R : Rat → Rat) (preserve : List Int) (s : NoteSeq) (a b : Rat) :
    beats (specPiece R preserve s (a, b)) = specBeats R s a b := by
  obtain ⟨hc, hb⟩ := specPiece_texts_kinds R s a b
  have hne : Gen.CHORD_SYMBOL ≠ Gen.BEAT := by decide
  show List.filter _ (_ ++ _) = _
  rw [List.filter_append, List.filter_eq_nil_iff.mpr fun x hx => by simp [hc x hx, hne],
    List.filter_eq_self.mpr fun x hx => by simp [hb x hx], List.nil_append]

/-- in exact arithmetic every event of a piece has `time < b - a` (so an event exactly at the end
`b` of a piece is not in it: it is the carried state of the next piece) -/
theorem specState_times_exact {α : Type} (time : α → Rat) (setTime : α → Rat → α)
    (htime : ∀ e t, time (setTime e t) = t) (evs : List α) (a b : Rat) (hab : a < b) :
    ∀ x ∈ specState id time setTime evs a b, 0 ≤ time x ∧ time x < b - a := by
  intro x hx
  obtain ⟨e, _, ⟨_, rfl⟩ | ⟨h1, h2, rfl⟩⟩ := mem_specState hx <;> rw [htime] <;> grind

theorem sorted_filter_le_split {α : Type} (time : α → Rat) (S : List α)
    (hS : S.Pairwise (fun x y => time x ≤ time y)) (x y : Rat) (hxy : x ≤ y) :
    S.filter (fun e => decide (time e ≤ y)) =
      S.filter (fun e => decide (time e ≤ x)) ++
      S.filter (fun e => decide (x < time e) && decide (time e ≤ y)) := by
  induction S with
  | nil => simp
  | cons e es ih =>
    obtain ⟨hle, hes⟩ := List.pairwise_cons.mp hS
    by_cases hx : time e ≤ x
    · simp [hx, Rat.le_trans hx hxy, Rat.not_lt.mpr hx, ih hes]
    · -- every event from `e` on is after `x`
      have hall : ∀ e' ∈ e :: es, x < time e' := by
        intro e' he'
        rcases List.mem_cons.mp he' with rfl | h
        · exact Rat.not_le.mp hx
        · have := hle e' h; grind
      have hnil : (e :: es).filter (fun e => decide (time e ≤ x)) = [] :=
        List.filter_eq_nil_iff.mpr fun e' he' => by simpa [Rat.not_le] using hall e' he'
      rw [hnil, List.nil_append]
      exact List.filter_congr fun e' he' => by simp [hall e' he']

/-- core of the in-effect argument, over a sorted list: for corresponding instants `τ` and `T` the
last event up to `τ` in the piece and the last event up to `T` in the original carry the same value.
The piece is the carried event followed by the events of `(a, b)`; the events up to `T` are those up
to `a` followed by those of `(a, T]`, and `hc` identifies the latter with the piece's events up to `τ`. -/
theorem specStateS_last_R {α β : Type} {R : Rat → Rat} (time : α → Rat) (setTime : α → Rat → α)
    (val : α → β) (htime : ∀ e t, time (setTime e t) = t) (hval : ∀ e t, val (setTime e t) = val e)
    (S : List α) (hS : S.Pairwise (fun x y => time x ≤ time y)) (a b τ T : Rat) (h0 : 0 ≤ τ)
    (hT : a ≤ T) (hTb : T < b)
    (hc : ∀ e ∈ S, a < time e → time e < b → (R (time e - a) ≤ τ ↔ time e ≤ T)) :
    ((pieceSpec (stateL R time setTime) none S (a, b)).filter (fun e => decide (time e ≤ τ))).getLast?.map val =
      (S.filter (fun e => decide (time e ≤ T))).getLast?.map val := by
  rw [sorted_filter_le_split time S hS a T hT]
  rw [pieceSpec_stateL, List.filter_append, List.getLast?_append, List.getLast?_append]
  have hcarry : ∀ o : Option α,
      ((match o with | none => ([] : List α) | some e => [setTime e 0]).filter
        (fun e => decide (time e ≤ τ))).getLast?.map val = o.map val := by
    intro o
    cases o with
    | none => simp
    | some e => simp [htime, h0, hval]
  have hins : (((S.filter (fun e => decide (a < time e) && decide (time e < b))).map
        (fun e => setTime e (R (time e - a)))).filter (fun e => decide (time e ≤ τ))).getLast?.map val =
      (S.filter (fun e => decide (a < time e) && decide (time e ≤ T))).getLast?.map val := by
    rw [List.filter_map, List.filter_filter, List.getLast?_map, Option.map_map]
    have hf : S.filter (fun e => ((fun e => decide (time e ≤ τ)) ∘ fun e => setTime e (R (time e - a))) e &&
          (decide (a < time e) && decide (time e < b))) =
        S.filter (fun e => decide (a < time e) && decide (time e ≤ T)) := by
      apply List.filter_congr
      intro e he
      rw [Bool.eq_iff_iff]
      simp only [Function.comp, htime, Bool.and_eq_true, decide_eq_true_eq]
      exact ⟨fun ⟨h1, h2, h3⟩ => ⟨h2, (hc e he h2 h3).mp h1⟩, fun ⟨h2, h4⟩ =>
        have h3 : time e < b := by grind
        ⟨(hc e he h2 h3).mpr h4, h2, h3⟩⟩
    rw [hf]
    congr 1
    funext e
    simp [hval]
  rw [Option.map_or, Option.map_or, hins]
  congr 1
  exact hcarry _

/-- at corresponding instants the event in effect in the piece carries
the same value as the one in effect in the original, for every `val` that does not look at the time -/
theorem specState_in_effect {α β : Type} {R : Rat → Rat} (hmono : ∀ x y, x ≤ y → R x ≤ R y)
    (hzero : R 0 = 0) (time : α → Rat) (setTime : α → Rat → α) (val : α → β)
    (htime : ∀ e t, time (setTime e t) = t) (hval : ∀ e t, val (setTime e t) = val e)
    (evs : List α) (a b τ T : Rat) (h0 : 0 ≤ τ) (hT : a ≤ T) (hTb : T < b)
    (hc : ∀ e ∈ evs, a < time e → time e < b → (R (time e - a) ≤ τ ↔ time e ≤ T)) :
    (inEffect time (specState R time setTime evs a b) τ).map val = (inEffect time evs T).map val := by
  unfold inEffect
  rw [sortByRat_of_pairwise time _
    (specState_times hmono hzero time setTime htime evs a b (Rat.le_trans hT (Rat.le_of_lt hTb))).1]
  rw [← pieceSpec_state R time setTime evs (a, b)]
  exact specStateS_last_R time setTime val htime hval _ (sortByRat_pairwise time evs) a b τ T h0 hT hTb
    (fun e he => hc e ((sortByRat_perm _ _).mem_iff.mp he))

/-- in exact arithmetic the instant `τ` of the piece `[a, b)` corresponds to `a + τ`
(`id (t - a)` is `R (t - a)` at `R := id`, the shape the hypothesis `hc` of `specState_in_effect` has) -/
theorem corr_exact {a b τ : Rat} (h0 : 0 ≤ τ) (h1 : τ < b - a) :
    a ≤ a + τ ∧ a + τ < b ∧ ∀ t : Rat, id (t - a) ≤ τ ↔ t ≤ a + τ :=
  ⟨by grind, by grind, fun t => by grind⟩


/-- the last pedal event, in stable time order, of the key `κ` with time ≤ `t` -/
def inEffectKey (ccs : List CC) (κ : PedalKey) (t : Rat) : Option CC :=
  (((sortByRat (·.time) ccs).filter (fun e => decide (CC.key e = κ))).filter
    (fun e => decide (e.time ≤ t))).getLast?

theorem mem_assocSet {κ ν : Type} [DecidableEq κ] (m : List (κ × ν)) (k : κ) (v : ν) :
    ∀ kv ∈ assocSet m k v, kv ∈ m ∨ kv = (k, v) := by
  induction m with
  | nil => intro kv hkv; exact Or.inr (List.mem_singleton.mp hkv)
  | cons x r ih =>
    obtain ⟨k', v'⟩ := x
    intro kv hkv
    rw [assocSet] at hkv
    split at hkv
    · rcases List.mem_cons.mp hkv with h | h
      · exact Or.inr (by rw [h, ‹k' = k›])
      · exact Or.inl (List.mem_cons_of_mem _ h)
    · rcases List.mem_cons.mp hkv with h | h
      · exact Or.inl (h ▸ List.mem_cons_self)
      · exact (ih kv h).imp (List.mem_cons_of_mem _) id

theorem assocSet_pairwise {κ ν : Type} [DecidableEq κ] (m : List (κ × ν)) (k : κ) (v : ν)
    (h : m.Pairwise (fun x y => x.1 ≠ y.1)) : (assocSet m k v).Pairwise (fun x y => x.1 ≠ y.1) := by
  induction m with
  | nil => simp [assocSet]
  | cons x r ih =>
    obtain ⟨k', v'⟩ := x
    obtain ⟨hx, hr⟩ := List.pairwise_cons.mp h
    rw [assocSet]
    split
    · exact List.pairwise_cons.mpr ⟨hx, hr⟩
    · refine List.pairwise_cons.mpr ⟨fun y hy => ?_, ih hr⟩
      rcases mem_assocSet r k v y hy with h' | rfl
      · exact hx y h'
      · assumption

theorem foldl_assocSet_mem (l : List CC) (m : List (PedalKey × CC)) :
    ∀ kv ∈ l.foldl (fun m e => assocSet m (CC.key e) e) m, kv ∈ m ∨ kv.2 ∈ l ∧ kv.1 = CC.key kv.2 := by
  induction l generalizing m with
  | nil => intro kv hkv; exact Or.inl hkv
  | cons e es ih =>
    intro kv hkv
    rcases ih _ kv hkv with h | h
    · rcases mem_assocSet m _ e kv h with h' | rfl
      · exact Or.inl h'
      · exact Or.inr ⟨List.mem_cons_self, rfl⟩
    · exact Or.inr ⟨List.mem_cons_of_mem _ h.1, h.2⟩

/-- Python dict assignment seen from one key `k₀`: its entries lose their first one to the new entry
when `k = k₀` and are untouched otherwise, whatever the list (no invariant is needed) -/
theorem filter_assocSet {κ ν : Type} [DecidableEq κ] (m : List (κ × ν)) (k : κ) (v : ν) (k₀ : κ) :
    (assocSet m k v).filter (fun kv => decide (kv.1 = k₀)) =
      if k = k₀ then (k, v) :: (m.filter (fun kv => decide (kv.1 = k₀))).tail
      else m.filter (fun kv => decide (kv.1 = k₀)) := by
  induction m with
  | nil => by_cases h : k = k₀ <;> simp [assocSet, h]
  | cons x r ih =>
    obtain ⟨k', v'⟩ := x
    rw [assocSet]
    by_cases hk : k' = k <;> by_cases h : k = k₀ <;> simp_all [List.filter_cons]

/-- the dict built from events stored under their own key, seen from one key: a one-slot memory -/
theorem filter_foldl_assocSet {κ ν : Type} [DecidableEq κ] (key : ν → κ) (k₀ : κ) (l : List ν) :
    ∀ m : List (κ × ν), (l.foldl (fun m e => assocSet m (key e) e) m).filter (fun kv => decide (kv.1 = k₀)) =
      match (l.filter (fun e => decide (key e = k₀))).getLast? with
      | some e => (key e, e) :: (m.filter (fun kv => decide (kv.1 = k₀))).tail
      | none => m.filter (fun kv => decide (kv.1 = k₀)) := by
  induction l with
  | nil => intro m; simp
  | cons e es ih =>
    intro m
    rw [List.foldl_cons, ih, filter_assocSet]
    by_cases h : key e = k₀
    · simp only [h, ↓reduceIte, List.tail_cons, List.filter_cons, decide_true, List.getLast?_cons]
      cases (es.filter (fun e => decide (key e = k₀))).getLast? <;> simp [h]
    · simp [h]

theorem pedalPiece_eq (R : Rat → Rat) (S : List CC) (a b : Rat) :
    pieceSpec (pedalL R) [] S (a, b) =
      ((S.filter (fun e => decide (e.time ≤ a))).foldl (fun m e => assocSet m (CC.key e) e) []).map
        (fun kv => CC.setTime kv.2 0) ++
      (S.filter (fun e => decide (a < e.time) && decide (e.time < b))).map
        (fun e => CC.setTime e (R (e.time - a))) := by
  simp only [pieceSpec, memAt, inside, pedalL, before, within, ↓reduceIte]
  rfl

/-- the pedal events of a piece come from the preserved pedal events by the rule of `mem_specState` -/
theorem mem_specPedals {R : Rat → Rat} {preserve : List Int} {s : NoteSeq} {a b : Rat} {c : CC}
    (hc : c ∈ specPedals R preserve s a b) :
    ∃ e ∈ pedals preserve s, (e.time ≤ a ∧ c = CC.setTime e 0) ∨
      (a < e.time ∧ e.time < b ∧ c = CC.setTime e (R (e.time - a))) := by
  rw [specPedals, pedalPiece_eq] at hc
  rcases List.mem_append.mp hc with hc | hc
  · obtain ⟨kv, hkv, rfl⟩ := List.mem_map.mp hc
    rcases foldl_assocSet_mem _ [] kv hkv with h' | h'
    · exact absurd h' List.not_mem_nil
    · have := mem_filter_sortByRat.mp h'.1
      exact ⟨kv.2, this.1, Or.inl ⟨by simpa using this.2, rfl⟩⟩
  · obtain ⟨e, he, rfl⟩ := List.mem_map.mp hc
    have := mem_filter_sortByRat.mp he
    simp only [Bool.and_eq_true, decide_eq_true_eq] at this
    exact ⟨e, this.1, Or.inr ⟨this.2.1, this.2.2, rfl⟩⟩

/-- the pedal piece restricted to one key is the generic state piece of that key's events -/
theorem pedalPiece_filter (R : Rat → Rat) (S : List CC) (a b : Rat) (κ : PedalKey) :
    (pieceSpec (pedalL R) [] S (a, b)).filter (fun e => decide (CC.key e = κ)) =
      pieceSpec (stateL R (fun e => e.time) CC.setTime) none (S.filter (fun e => decide (CC.key e = κ))) (a, b) := by
  rw [pedalPiece_eq, pieceSpec_stateL, List.filter_append]
  congr 1
  · -- an entry's value has the entry's key, so the values of key `κ` are the entries of key `κ`
    rw [List.filter_map, List.filter_congr fun kv hkv =>
      show _ = decide (kv.1 = κ) by
        rcases foldl_assocSet_mem _ [] kv hkv with h | h
        · exact absurd h List.not_mem_nil
        · rw [h.2]; rfl,
      filter_foldl_assocSet, List.filter_filter, List.filter_filter]
    simp only [Bool.and_comm]
    generalize (S.filter _).getLast? = o
    cases o <;> simp
  · rw [List.filter_map, List.filter_filter, List.filter_filter]
    congr 1
    apply List.filter_congr
    intro e _
    exact Bool.and_comm _ _

section pedals
variable {R : Rat → Rat} (hmono : ∀ x y, x ≤ y → R x ≤ R y) (hzero : R 0 = 0)
include hmono hzero

theorem specPedals_times (preserve : List Int) (s : NoteSeq) (a b : Rat) (hab : a ≤ b) :
    (specPedals R preserve s a b).Pairwise (fun x y => x.time ≤ y.time) ∧
    ∀ x ∈ specPedals R preserve s a b, 0 ≤ x.time ∧ x.time ≤ R (b - a) :=
  pieceSpec_times hmono hzero (pedalL R) (fun _ _ _ => rfl)
    (fun m x hx => by obtain ⟨kv, _, rfl⟩ := List.mem_map.mp hx; rfl) [] (sortByRat_pairwise _ _) hab

/-- `specState_in_effect` for pedals, per (instrument, control number) -/
theorem specPedals_in_effect_R (preserve : List Int) (s : NoteSeq) (a b τ T : Rat) (κ : PedalKey)
    (h0 : 0 ≤ τ) (hT : a ≤ T) (hTb : T < b)
    (hc : ∀ e ∈ pedals preserve s, CC.key e = κ → a < e.time → e.time < b →
      (R (e.time - a) ≤ τ ↔ e.time ≤ T)) :
    (inEffectKey (specPedals R preserve s a b) κ τ).map (fun e => CC.setTime e 0) =
      (inEffectKey (pedals preserve s) κ T).map (fun e => CC.setTime e 0) := by
  unfold inEffectKey
  rw [sortByRat_of_pairwise _ _
    (specPedals_times hmono hzero preserve s a b (Rat.le_trans hT (Rat.le_of_lt hTb))).1,
    specPedals, pedalPiece_filter]
  refine specStateS_last_R (fun e : CC => e.time) CC.setTime _ (fun _ _ => rfl) (fun _ _ => rfl) _
    ((sortByRat_pairwise _ _).filter _) a b τ T h0 hT hTb (fun e he => ?_)
  have h1 := List.mem_filter.mp he
  exact hc e ((sortByRat_perm _ _).mem_iff.mp h1.1) (by simpa using h1.2)

end pedals

end NSV.C02

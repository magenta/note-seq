import NoteSeqVerif.Proofs.C04_time
import NoteSeqVerif.Proofs.RoundingApps
import Mathlib.Tactic.Linarith
import Mathlib.Tactic.Ring
import Mathlib.Tactic.FieldSimp
import Mathlib.Tactic.NormNum
import Mathlib.Tactic.Positivity
/-! C04 — the timing clause in FLOATING POINT: the notions (`FBody`, `posDurs`, `FChain`, `dyadicDurs`) and
the lemmas behind `Props/C04_float.lean`.

`R` is any rounding operator with the facts of `Proofs/Rounding.lean` (`Rounding R`; the executable
`rne53` is one, `rounding_rne53`).  What is float in `abc_parser.py` and what is not:
the note length `length` is a `fractions.Fraction` (EXACT); the tempo is
`float((tempo_unit / Fraction(1, 4)) * tempo_rate)` = ONE rounding of the exact `4·u·r`; the clock
advance is `(1 / (qpm / 60)) * (length / Fraction(1, 4))` = `R (R (1 / R (qpm / 60)) · R (4·length))`
(`float * Fraction` converts the Fraction with one correct rounding), and `current_time += …` is one
more rounding.  So a duration is 5 roundings away from the notated `unit·factor·240/Q` (`Q` the notated,
unrounded tempo), and the k-th onset `k + 5` (the error index of a sum of non-negative terms is the
larger of the two, plus the rounding of the sum). -/
namespace NSV.C04

/-- the unit roundoff of binary64 -/
abbrev u53 : ℚ := 1 / 2 ^ 53

/-- the body-phase invariant: the unit note length is the notated one (a Fraction, exact), the tempo
is ONE rounding of the notated tempo, the clock is a float -/
structure FBody (R : ℚ → ℚ) (st : St) (c : Ctx) : Prop where
  inHeader : st.inHeader = false
  unit : st.unit = some c.unit
  qpm : qpm st = R c.qpm
  broken : st.broken = none
  tfix : R st.time = st.time

/-- every note token has a positive notated length (`unit · factor > 0`) under a positive notated
tempo, with the unit length and tempo in force at the token -/
def posDurs (c : Ctx) : List Item → Prop
  | [] => True
  | .tok (.note _ _ _ len) :: r => 0 < c.unit * specFactor len ∧ 0 < c.qpm ∧ posDurs c r
  | i :: r => posDurs (itemCtx c i) r

/-- the float notes against the notated durations: the note starts at the clock, ends at
`R (clock + dt)` where the float clock advance `dt` is positive and 5 roundings away from the notated
duration, and the next note starts where this one ends -/
def FChain (R : ℚ → ℚ) : ℚ → List Note → List ℚ → ℚ → Prop
  | t, [], [], te => te = t
  | t, n :: ns, d :: ds, te =>
    n.start = t ∧ (∃ dt, 0 < dt ∧ Near 53 5 dt d ∧ n.end_ = R (t + dt)) ∧ FChain R n.end_ ns ds te
  | _, _, _, _ => False

/-- every note token sounds under a tempo `60·2^i` and lasts a whole number `B` of quanta `2^e`
(`A` = quanta elapsed so far), and the running total stays below `2^53` quanta -/
def dyadicDurs (e : ℤ) : Ctx → ℕ → List Item → Prop
  | _, _, [] => True
  | c, A, .tok (.note _ _ _ len) :: r =>
    ∃ (i : ℤ) (B : ℕ), c.qpm = 60 * 2 ^ i ∧ c.unit * specFactor len * 240 / c.qpm = (B : ℚ) * 2 ^ e ∧
      A + B ≤ 2 ^ 53 ∧ dyadicDurs e c (A + B) r
  | c, A, i :: r => dyadicDurs e (itemCtx c i) A r

theorem near_nonneg {n : ℕ} {a' a : ℚ} (h : Near 53 n a' a) (ha : 0 ≤ a) : 0 ≤ a' :=
  NSV.near_nonneg h ha

/-- a positive number rounds to a positive number (no underflow in the model) -/
theorem round_pos {R : ℚ → ℚ} (hR : Rounding R) {a : ℚ} (ha : 0 < a) : 0 < R a :=
  hR.relErr.pos (by norm_num) ha

/-- `(1 / (qpm / 60)) * (length / Fraction(1, 4))` with the tempo `qpm = R Q` (one rounding of the
notated tempo `Q > 0`) and a positive length: the result is positive and 5 roundings away from the
notated `length · 240 / Q` -/
theorem seconds_float {R : ℚ → ℚ} (hR : Rounding R) {Q l dt : ℚ} (hQ : 0 < Q) (hl : 0 < l)
    (h : seconds R (R Q) l = .ok dt) : 0 < dt ∧ Near 53 5 dt (l * 240 / Q) := by
  have hp : 1 ≤ 53 := by norm_num
  unfold seconds at h
  simp only at h
  split at h
  · simp at h
  -- the five roundings: `R Q`, `/ 60`, `1 /`, `float(4·length)`, `·`
  have l60 : NearN 53 0 (60 : ℚ) 60 := .lit (by norm_num)
  have hm := ((((NearN.lit zero_le_one).div hp ((((NearN.lit hQ.le).rnd hR.relErr).div hp l60 (by norm_num)).rnd
    hR.relErr) (by positivity)).rnd hR.relErr).mul (((NearN.lit hl.le).div hp (.lit (by norm_num : (0 : ℚ) ≤ 1 / 4))
    (by norm_num)).rnd hR.relErr)).rnd hR.relErr
  rw [Except.ok.inj h, show 1 / (Q / 60) * (l / (1 / 4)) = l * 240 / Q by field_simp; ring] at hm
  exact ⟨hm.2.pos hp (by positivity), hm.2⟩

/-- the same with every operand dyadic: tempo `60·2^i`, `4·length = B·2^j` with `B ≤ 2^53`:
every operation is exact -/
theorem seconds_dyadic {R : ℚ → ℚ} (hR : Rounding R) (i j : ℤ) (B : ℕ) (hB : B ≤ 2 ^ 53) {l : ℚ}
    (hl : l * 4 = (B : ℚ) * 2 ^ j) :
    seconds R (R (60 * 2 ^ i)) l = .ok (l * 240 / (60 * 2 ^ i)) := by
  have hp : 1 ≤ 53 := by norm_num
  have h2i : (2 : ℚ) ^ i ≠ 0 := zpow_ne_zero _ (by norm_num)
  have fix : ∀ (n : ℤ) (k : ℤ) (x : ℚ), n.natAbs ≤ 2 ^ 53 → x = (n : ℚ) * 2 ^ k → R x = x := by
    intro n k x hn hx; rw [hx]; exact hR.exact_dyadic hp n hn k
  have e1 : R (60 * (2 : ℚ) ^ i) = 60 * 2 ^ i := fix 60 i _ (by norm_num) (by push_cast; ring)
  have e2 : R (60 * (2 : ℚ) ^ i / 60) = 2 ^ i := by
    have : (60 : ℚ) * 2 ^ i / 60 = 2 ^ i := by field_simp
    rw [this]; exact fix 1 i _ (by norm_num) (by push_cast; ring)
  have e3 : R (1 / (2 : ℚ) ^ i) = 1 / 2 ^ i :=
    fix 1 (-i) _ (by norm_num) (by rw [zpow_neg]; push_cast; field_simp)
  have e4 : R (l / (1 / 4)) = l * 4 := by
    have : l / (1 / 4) = l * 4 := by field_simp
    rw [this]; exact fix B j _ (by simpa using hB) (by rw [hl]; push_cast; ring)
  have e5 : R (1 / (2 : ℚ) ^ i * (l * 4)) = 1 / 2 ^ i * (l * 4) :=
    fix B (j + -i) _ (by simpa using hB) (by
      rw [hl, zpow_add₀ (by norm_num : (2 : ℚ) ≠ 0), zpow_neg]; push_cast; field_simp)
  unfold seconds
  simp only [e1, e2, e3, e4, e5]
  rw [if_neg h2i]
  congr 1
  field_simp
  ring

/-- `Step.body` with the clock: it stays a float -/
theorem Step.fbody {R : ℚ → ℚ} (hR : Rounding R) {st st' : St} {c : Ctx} {i : Item} (h : Step R st i st')
    (hb : FBody R st c) (hnb : isBrokenItem i = false) :
    FBody R st' (itemCtx c i) ∧
    ((∃ a l o len p dt, i = .tok (.note a l o len) ∧
        seconds R (R c.qpm) (c.unit * specFactor len) = .ok dt ∧
        st'.notes = st.notes ++ [newNote p st.time (R (st.time + dt))] ∧
        st'.time = R (st.time + dt)) ∨
     (isNote i = false ∧ st'.notes = st.notes ∧ st'.time = st.time)) := by
  obtain ⟨hb', hcase⟩ := h.body ⟨hb.inHeader, hb.unit, hb.qpm, hb.broken⟩ hnb
  refine ⟨⟨hb'.inHeader, hb'.unit, hb'.qpm, hb'.broken, ?_⟩, hcase⟩
  rcases hcase with ⟨_, _, _, _, _, _, _, _, _, ht⟩ | ⟨_, _, ht⟩
  · rw [ht]; exact hR.idem _
  · rw [ht]; exact hb.tfix

theorem posDurs_non_note {c : Ctx} {i : Item} {r : List Item} (h : isNote i = false) :
    posDurs c (i :: r) = posDurs (itemCtx c i) r := by
  cases i with
  | tok t => cases t <;> simp_all [posDurs, isNote]
  | field f => simp [posDurs]
  | start => simp [posDurs]

theorem posDurs_pos {c : Ctx} {items : List Item} (h : posDurs c items) : ∀ d ∈ specDurs c items, 0 < d := by
  induction items generalizing c with
  | nil => simp [specDurs]
  | cons i r ih =>
    by_cases hn : isNote i = true
    · cases i with
      | tok t =>
        cases t with
        | note a l o len =>
          simp only [posDurs] at h
          simp only [specDurs, List.mem_cons]
          rintro d (rfl | hd)
          · have := h.1; have := h.2.1; positivity
          · exact ih h.2.2 d hd
        | _ => simp [isNote] at hn
      | _ => simp [isNote] at hn
    · have hn' : isNote i = false := by simpa using hn
      rw [posDurs_non_note hn'] at h
      rw [specDurs_non_note hn']
      exact ih h

theorem FChain.length {R : ℚ → ℚ} : ∀ {t : ℚ} {ns : List Note} {ds : List ℚ} {te : ℚ},
    FChain R t ns ds te → ns.length = ds.length
  | _, [], [], _, _ => rfl
  | _, n :: ns, d :: ds, _, h => by simp [FChain.length h.2.2]
  | _, [], _ :: _, _, h => by simp [FChain] at h
  | _, _ :: _, [], _, h => by simp [FChain] at h

theorem Run.fbody {R : ℚ → ℚ} (hR : Rounding R) {st st' : St} {c : Ctx} {items : List Item}
    (h : Run R st items st') (hb : FBody R st c) (hnb : ∀ i ∈ items, isBrokenItem i = false)
    (hpos : posDurs c items) :
    ∃ new, st'.notes = st.notes ++ new ∧ FChain R st.time new (specDurs c items) st'.time := by
  induction h generalizing c with
  | nil => exact ⟨[], by simp, by simp [specDurs, FChain]⟩
  | @cons st i st1 r st' h1 _ ih =>
    obtain ⟨hb1, hcase⟩ := h1.fbody hR hb (hnb i (by simp))
    rcases hcase with ⟨a, l, o, len, p, dt, rfl, hdt, hn, ht⟩ | ⟨hni, hn, ht⟩
    · simp only [posDurs] at hpos
      simp only [itemCtx] at hb1
      obtain ⟨new, hnew, hch⟩ := ih hb1 (fun j hj => hnb j (by simp [hj])) hpos.2.2
      obtain ⟨hdpos, hnear⟩ := seconds_float hR hpos.2.1 hpos.1 hdt
      refine ⟨newNote p st.time (R (st.time + dt)) :: new, by rw [hnew, hn]; simp, ?_⟩
      simp only [specDurs, FChain]
      refine ⟨rfl, ⟨dt, hdpos, hnear, rfl⟩, ?_⟩
      rw [ht] at hch
      exact hch
    · rw [posDurs_non_note hni] at hpos
      obtain ⟨new, hnew, hch⟩ := ih hb1 (fun j hj => hnb j (by simp [hj])) hpos
      refine ⟨new, by rw [hnew, hn], ?_⟩
      rw [specDurs_non_note hni, ← ht]
      exact hch

/-- order: every note ends no earlier than it starts, notes follow each other without gap, onsets
are non-decreasing, the clock never goes back -/
theorem FChain.order {R : ℚ → ℚ} (hR : Rounding R) : ∀ {t : ℚ} {ns : List Note} {ds : List ℚ} {te : ℚ},
    R t = t → FChain R t ns ds te →
    t ≤ te ∧ R te = te ∧ (∀ n ∈ ns, t ≤ n.start ∧ n.start ≤ n.end_ ∧ n.end_ ≤ te) ∧
    ns.Pairwise (fun a b => a.start ≤ b.start ∧ a.end_ ≤ b.start)
  | t, [], [], te, ht, h => by
    simp only [FChain] at h; subst h
    exact ⟨le_refl _, ht, by simp, List.Pairwise.nil⟩
  | t, n :: ns, d :: ds, te, ht, h => by
    obtain ⟨hs, ⟨dt, hdt, _, he⟩, hrest⟩ := h
    have hle : t ≤ n.end_ := by
      rw [he]
      have := hR.mono t (t + dt) (by linarith)
      rwa [ht] at this
    have hfix : R n.end_ = n.end_ := by rw [he]; exact hR.idem _
    obtain ⟨h1, h2, h3, h4⟩ := FChain.order hR hfix hrest
    refine ⟨le_trans hle h1, h2, ?_, ?_⟩
    · intro m hm
      rcases List.mem_cons.mp hm with rfl | hm
      · exact ⟨by rw [hs], by rw [hs]; exact hle, h1⟩
      · obtain ⟨a, b, c⟩ := h3 m hm
        exact ⟨le_trans hle a, b, c⟩
    · refine List.Pairwise.cons ?_ h4
      intro m hm
      obtain ⟨a, _, _⟩ := h3 m hm
      exact ⟨by rw [hs]; exact le_trans hle a, a⟩
  | _, [], _ :: _, _, _, h => by simp [FChain] at h
  | _, _ :: _, [], _, _, h => by simp [FChain] at h

/-- accuracy: if the clock is `m + 5` roundings away from the notated time `T`, the k-th note's onset
is `m + k + 5` and its end `m + k + 6` roundings away from the notated running sums -/
theorem FChain.near {R : ℚ → ℚ} (hR : Rounding R) : ∀ {t : ℚ} {ns : List Note} {ds : List ℚ} {te : ℚ} {T : ℚ} {m : ℕ},
    Near 53 (m + 5) t T → 0 ≤ T → (∀ d ∈ ds, 0 < d) → FChain R t ns ds te →
    Near 53 (m + ds.length + 5) te (T + ds.sum) ∧
    ∀ k, k < ds.length → ∃ n, ns[k]? = some n ∧
      Near 53 (m + k + 5) n.start (T + (ds.take k).sum) ∧ Near 53 (m + k + 6) n.end_ (T + (ds.take (k + 1)).sum)
  | t, [], [], te, T, m, ht, _, _, h => by
    simp only [FChain] at h; subst h
    exact ⟨by simpa using ht, by simp⟩
  | t, n :: ns, d :: ds, te, T, m, ht, hT, hd, h => by
    obtain ⟨hs, ⟨dt, _, hnear, he⟩, hrest⟩ := h
    have hd0 : 0 < d := hd d (by simp)
    have hend : Near 53 (m + 1 + 5) n.end_ (T + d) :=
      he ▸ ((((NearN.of hT ht).add (.of hd0.le hnear)).rnd hR.relErr).mono (by omega)).2
    obtain ⟨r1, r2⟩ := FChain.near hR hend (by linarith) (fun x hx => hd x (by simp [hx])) hrest
    refine ⟨?_, ?_⟩
    · have e1 : m + (d :: ds).length + 5 = m + 1 + ds.length + 5 := by rw [List.length_cons]; omega
      have e2 : T + (d :: ds).sum = T + d + ds.sum := by rw [List.sum_cons, add_assoc]
      rw [e1, e2]; exact r1
    · intro k hk
      cases k with
      | zero =>
        refine ⟨n, rfl, ?_, ?_⟩
        · simpa [hs] using ht
        · simpa using hend
      | succ k =>
        obtain ⟨n', hn', a, b⟩ := r2 k (by simpa using hk)
        refine ⟨n', by simpa using hn', ?_, ?_⟩
        · have e1 : m + (k + 1) + 5 = m + 1 + k + 5 := by omega
          have e2 : T + ((d :: ds).take (k + 1)).sum = T + d + (ds.take k).sum := by
            rw [List.take_succ_cons, List.sum_cons, add_assoc]
          rw [e1, e2]; exact a
        · have e1 : m + (k + 1) + 6 = m + 1 + k + 6 := by omega
          have e2 : T + ((d :: ds).take (k + 1 + 1)).sum = T + d + (ds.take (k + 1)).sum := by
            rw [List.take_succ_cons, List.sum_cons, add_assoc]
          rw [e1, e2]; exact b
  | _, [], _ :: _, _, _, _, _, _, _, h => by simp [FChain] at h
  | _, _ :: _, [], _, _, _, _, _, _, h => by simp [FChain] at h

theorem dyadicDurs_non_note {e : ℤ} {c : Ctx} {A : ℕ} {i : Item} {r : List Item} (h : isNote i = false) :
    dyadicDurs e c A (i :: r) = dyadicDurs e (itemCtx c i) A r := by
  cases i with
  | tok t => cases t <;> simp_all [dyadicDurs, isNote]
  | field f => simp [dyadicDurs]
  | start => simp [dyadicDurs]

/-- all operands dyadic: the float run is the exact run -/
theorem Run.dyadic {R : ℚ → ℚ} (hR : Rounding R) {e : ℤ} {st st' : St} {c : Ctx} {items : List Item} {A : ℕ}
    (h : Run R st items st') (hb : FBody R st c) (hnb : ∀ i ∈ items, isBrokenItem i = false)
    (ht : st.time = (A : ℚ) * 2 ^ e) (hdy : dyadicDurs e c A items) :
    st'.notes.map span = st.notes.map span ++ spans st.time (specDurs c items) ∧
    st'.time = st.time + (specDurs c items).sum := by
  induction h generalizing c A with
  | nil => simp [specDurs, spans]
  | @cons st i st1 r st' h1 _ ih =>
    obtain ⟨hb1, hcase⟩ := h1.fbody hR hb (hnb i (by simp))
    rcases hcase with ⟨a, l, o, len, p, dt, rfl, hdt, hn, ht1⟩ | ⟨hni, hn, ht1⟩
    · simp only [dyadicDurs] at hdy
      obtain ⟨i, B, hq, hd, hAB, hrest⟩ := hdy
      simp only [itemCtx] at hb1
      have h2i : (2 : ℚ) ^ i ≠ 0 := zpow_ne_zero _ (by norm_num)
      have hB : B ≤ 2 ^ 53 := by omega
      have hl4 : c.unit * specFactor len * 4 = (B : ℚ) * 2 ^ (e + i) := by
        rw [hq] at hd
        rw [zpow_add₀ (by norm_num : (2 : ℚ) ≠ 0)]
        have : c.unit * specFactor len * 240 / (60 * 2 ^ i) * 2 ^ i = c.unit * specFactor len * 4 := by
          field_simp; ring
        rw [← this, hd]; ring
      rw [hq, seconds_dyadic hR i (e + i) B hB hl4] at hdt
      simp only [Except.ok.injEq] at hdt
      have hdt' : dt = (B : ℚ) * 2 ^ e := by rw [← hdt, ← hq]; exact hd
      have hs : st.time + dt = (((A + B : ℕ) : ℤ) : ℚ) * 2 ^ e := by rw [ht, hdt']; push_cast; ring
      have hsum : R (st.time + dt) = st.time + dt := by
        rw [hs]
        exact hR.exact_dyadic (by norm_num) _ (by rw [Int.natAbs_natCast]; exact hAB) e
      have ht1' : st1.time = ((A + B : ℕ) : ℚ) * 2 ^ e := by rw [ht1, hsum, hs]; norm_cast
      obtain ⟨ihn, iht⟩ := ih hb1 (fun j hj => hnb j (by simp [hj])) ht1' hrest
      have hdd : c.unit * specFactor len * 240 / c.qpm = dt := by rw [hd, hdt']
      simp only [specDurs, spans, List.sum_cons, hdd]
      rw [ihn, iht, hn, ht1, hsum]
      constructor
      · simp [span, newNote]
      · ring
    · rw [dyadicDurs_non_note hni] at hdy
      have ht' : st1.time = (A : ℚ) * 2 ^ e := by rw [ht1, ht]
      obtain ⟨ihn, iht⟩ := ih hb1 (fun j hj => hnb j (by simp [hj])) ht' hdy
      rw [specDurs_non_note hni, ihn, iht, hn, ht1]
      exact ⟨rfl, rfl⟩

/-! two facts about one rounding, for the default unit length and for broken rhythm -/

/-- for a denominator `0 < d ≤ 2^51` the float quotient `n / d` is below 0.75 exactly when `n / d` is:
`3/4` and `3/4 - 2^-53` are floats, and `n/d < 3/4` means `n/d ≤ 3/4 - 1/(4d) ≤ 3/4 - 2^-53` -/
theorem round_div_lt_three_quarters {R : ℚ → ℚ} (hR : Rounding R) {n d : ℤ} (hd0 : 0 < d) (hd1 : d ≤ 2 ^ 51) :
    R ((n : ℚ) / d) < 3 / 4 ↔ (n : ℚ) / d < 3 / 4 := by
  have hp : 1 ≤ 53 := by norm_num
  have hdq : (0 : ℚ) < d := by exact_mod_cast hd0
  constructor
  · intro h
    have h34 : R (3 / 4) = 3 / 4 := by
      have := hR.exact_dyadic hp 3 (by norm_num) (-2)
      norm_num at this ⊢
      exact this
    by_contra hc
    have := hR.mono (3 / 4) ((n : ℚ) / d) (not_lt.mp hc)
    rw [h34] at this
    exact absurd h (not_lt.mpr this)
  · intro h
    have h4 : (4 * n : ℚ) ≤ 3 * d - 1 := by
      have : (n * 4 : ℚ) < 3 * d := (div_lt_div_iff₀ hdq (by norm_num)).mp h
      have : 4 * n ≤ 3 * d - 1 := Int.le_sub_one_of_lt (by rw [mul_comm]; exact_mod_cast this)
      exact_mod_cast this
    have hy : R (3 / 4 - 1 / 2 ^ 53) = 3 / 4 - 1 / 2 ^ 53 := by
      have := hR.exact_dyadic hp (3 * 2 ^ 51 - 1) (by norm_num) (-53)
      have e : (((3 * 2 ^ 51 - 1 : ℤ)) : ℚ) * 2 ^ (-53 : ℤ) = 3 / 4 - 1 / 2 ^ 53 := by
        rw [zpow_neg]; push_cast; norm_num
      rwa [e] at this
    have hx : (n : ℚ) / d ≤ 3 / 4 - 1 / 2 ^ 53 := by
      rw [div_le_iff₀ hdq]
      have hd51 : (d : ℚ) ≤ 2 ^ 51 := by exact_mod_cast hd1
      linarith
    have := hR.mono _ _ hx
    rw [hy] at this
    exact lt_of_le_of_lt this (sub_lt_self _ (by positivity))

/-- the shift of a broken-rhythm pair of float length `l`: `l / 2^k` is exact, so the shift is one
rounding of `l·(1 − 2^-k)`, and it lies between 0 and `l` -/
theorem broken_shift {R : ℚ → ℚ} (hR : Rounding R) {l : ℚ} (hl : 0 ≤ l) (hfix : R l = l) (k : ℕ) :
    R (l - R (l / 2 ^ k)) = R (l * (1 - 1 / 2 ^ k)) ∧ 0 ≤ R (l * (1 - 1 / 2 ^ k)) ∧
      R (l * (1 - 1 / 2 ^ k)) ≤ l := by
  have hdiv : R (l / 2 ^ k) = l / 2 ^ k := by
    have := hR.exact_pow2_mul l (-(k : ℤ))
    rw [hfix, zpow_neg, zpow_natCast] at this
    rw [div_eq_mul_inv]; exact this
  have h0k : (0 : ℚ) ≤ 1 / 2 ^ k := by positivity
  have hle1 : (1 : ℚ) / 2 ^ k ≤ 1 := by
    rw [div_le_one (by positivity)]; exact one_le_pow₀ (by norm_num)
  refine ⟨by rw [hdiv]; congr 1; ring, hR.nonneg (mul_nonneg hl (sub_nonneg.mpr hle1)), ?_⟩
  have := hR.mono _ _ (mul_le_of_le_one_right hl (sub_le_self _ h0k))
  rwa [hfix] at this

end NSV.C04

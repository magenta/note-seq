import NoteSeqVerif.Model.C17
/-! C17 — the predicates the property theorems are stated with (invariants, operation domains,
the abstract `(start, List event)` model).  Definitions only. -/
namespace NSV.C17
variable {α : Type}

/-- what the generic theorems need to know about a class record -/
structure Lawful (c : Cls α) : Prop where
  clean_length : ∀ l, (c.clean l).length = l.length
  clean_valid : ∀ l, (∀ e ∈ l, c.valid e = true) → ∀ e ∈ c.clean l, c.valid e = true
  pad_valid : c.valid c.pad = true
  fill_valid : ∀ f, c.fixedFill = some f → c.valid f = true
  sustain_valid : ∀ l x, c.sustain l = some x → c.valid x = true

/-- the invariant of the property: the step range is exactly as long as the event list, and every
event is valid for the class (Melody: within `MIN_MELODY_EVENT..MAX_MELODY_EVENT`) -/
def Inv (c : Cls α) (s : Seq α) : Prop :=
  s.stop - s.start = (s.events.length : Int) ∧ ∀ e ∈ s.events, c.valid e = true

/-- the domain of each operation: a length is `≥ 0`, a resolution factor is `≥ 1`, and a fill
event handed to the base-class `increase_resolution` is an event of the class.  Everything else
(any event, any slice bounds, any re-initialisation arguments) is unrestricted: invalid events
are rejected by the code itself. -/
def OpOk (c : Cls α) : Op α → Prop
  | .setLength n _ => 0 ≤ n
  | .incRes k fill => 1 ≤ k ∧ (c.fixedFill = none → ∀ f, fill = some f → c.valid f = true)
  | _ => True

/-- the abstract list model of the property text: a start step and a list of events -/
abbrev Abs (α : Type) := Int × List α

def Seq.abs (s : Seq α) : Abs α := (s.start, s.events)

/-- operations on the abstract model, written with plain list functions (no end step, no Python
index arithmetic): `lo`/`hi` are the clamped slice bounds -/
def astep (c : Cls α) (a : Abs α) : Op α → Except Err (Abs α)
  | .append e => if c.valid e then .ok (a.1, a.2 ++ [e]) else .error .valueError
  | .setLength n false =>
      .ok (a.1,
        if n.toNat ≤ a.2.length then a.2.take n.toNat
        else a.2 ++ ((c.sustain a.2).getD c.pad :: List.replicate (n.toNat - a.2.length - 1) c.pad))
  | .setLength n true =>
      .ok (a.1 + a.2.length - n,
        if n.toNat ≤ a.2.length then a.2.drop (a.2.length - n.toNat)
        else List.replicate (n.toNat - a.2.length) c.pad ++ a.2)
  | .slice i j =>
      let lo := sliceLo a.2.length i
      let hi := sliceHi a.2.length j
      if ((a.2.drop lo).take (hi - lo)).all c.valid then
        .ok (a.1 + lo, c.clean ((a.2.drop lo).take (hi - lo)))
      else .error .valueError
  | .sliceStep i j k =>
      if k = 0 then .error .valueError
      else if (pySliceStep a.2 i j k).all c.valid then
        .ok (a.1 + stepLo a.2.length k i, c.clean (pySliceStep a.2 i j k))
      else .error .valueError
  | .incRes k fill =>
      let f := match c.fixedFill with
        | some x => some x
        | none => fill
      .ok (a.1 * k, a.2.flatMap (fun e => match f with
        | none => List.replicate k.toNat e
        | some x => e :: List.replicate (k.toNat - 1) x))
  | .deepcopy => if a.2.all c.valid then .ok (a.1, c.clean a.2) else .error .valueError
  | .reinit ev st _ _ => if ev.all c.valid then .ok (st, c.clean ev) else .error .valueError
  | .reset => .ok (0, [])

/-- a note is sounding at the end of a melody: its last event other than NO_EVENT is a pitch -/
def Sounding (evs : List Int) : Prop :=
  ∃ pre p post, evs = pre ++ p :: post ∧ p ≠ Gen.MELODY_NO_EVENT ∧ p ≠ Gen.MELODY_NOTE_OFF ∧
    ∀ x ∈ post, x = Gen.MELODY_NO_EVENT

def LInv (l : LeadSheet) : Prop :=
  Inv melodyCls l.melody ∧ Inv chordCls l.chords ∧
  l.melody.events.length = l.chords.events.length ∧ l.melody.start = l.chords.start ∧
  l.melody.stop = l.chords.stop ∧ l.melody.spb = l.chords.spb ∧ l.melody.spq = l.chords.spq

def LOpOk : LOp → Prop
  | .setLength n => 0 ≤ n
  | .incRes k => 1 ≤ k
  | _ => True

def ROpOk : ROp → Prop
  | .setLength n _ => 0 ≤ n
  | _ => True

/-- what the `PerformanceEvent` validator guarantees of every time shift, plus a usable
`max_shift_steps` -/
def PInv (p : Perf) : Prop :=
  1 ≤ p.maxShift ∧ ∀ e ∈ p.events, isShift e = true → 0 ≤ e.val

def ShiftsOk (mx : Int) (evs : List PEvent) : Prop :=
  ∀ e ∈ evs, isShift e = true → 1 ≤ e.val ∧ e.val ≤ mx

def POpOk : POp → Prop
  | .setLength n _ => 0 ≤ n
  | .appendSteps n => 0 ≤ n
  | .trimSteps n => 0 ≤ n
  | _ => True

/-- an appended time shift respects the bound (needed only for preserving `ShiftsOk`) -/
def POpShiftOk (mx : Int) : POp → Prop
  | .append ty v => ty = Gen.TIME_SHIFT → 1 ≤ v ∧ v ≤ mx
  | _ => True

end NSV.C17

import NoteSeqVerif.Proofs.C04
import Mathlib.Tactic.Linarith
import Mathlib.Tactic.Ring
import Mathlib.Tactic.FieldSimp
import Mathlib.Tactic.NormNum
/-! the notions of the length / onset theorems of C04, then the lemmas: one step of the body phase for any
rounding operator `R` (`Body st (c.round R)`), and the exact-arithmetic (`R = id`) folds and header end -/
namespace NSV.C04

/-- ABC 2.1 §4.3 note-length shorthands as a factor of the unit note length: `A` 1, `An` n,
`A/` ½, `A//` ¼ …, `A/d` 1/d, `An/` n/2, `An/d` n/d (0 for the spellings the parser rejects) -/
def specFactor (l : LenSpec) : Rat :=
  match l.num, l.slashes, l.den with
  | none, 0, _ => 1
  | some n, 0, _ => n
  | none, k + 1, none => 1 / (2 : Rat) ^ (k + 1)
  | none, 1, some d => 1 / (d : Rat)
  | some n, 1, none => (n : Rat) / 2
  | some n, 1, some d => (n : Rat) / (d : Rat)
  | _, _, _ => 0

/-- unit note length (whole notes) and tempo (quarters per minute) in force -/
structure Ctx where
  unit : Rat
  qpm : Rat

/-- ABC 2.1 in the tune body: `L:n/d` sets the unit length, `Q:a/b c/d=r` the tempo to `r` beats of
length `a/b + c/d` per minute (`qpm = 4·(a/b + c/d)·r`), a bare `Q:r` to `r` unit lengths per minute -/
def fieldCtx (c : Ctx) : Field → Ctx
  | .unitLen n d => { c with unit := (n : Rat) / (d : Rat) }
  | .tempo beats r => { c with qpm := 4 * (beats.map (fun b => (b.1 : Rat) / (b.2 : Rat))).sum * (r : Rat) }
  | .tempoOld r => { c with qpm := 4 * c.unit * (r : Rat) }
  | _ => c

def itemCtx (c : Ctx) : Item → Ctx
  | .field f => fieldCtx c f
  | .tok (.inline f) => fieldCtx c f
  | _ => c

/-- seconds of every note token: `unit · factor` whole notes at `240/qpm` seconds per whole note,
with the unit length and tempo in force at the token -/
def specDurs (c : Ctx) : List Item → List Rat
  | [] => []
  | .tok (.note _ _ _ len) :: r => c.unit * specFactor len * 240 / c.qpm :: specDurs c r
  | i :: r => specDurs (itemCtx c i) r

/-- consecutive intervals: onset_k = t + Σ_{j<k} d_j -/
def spans (t : Rat) : List Rat → List (Rat × Rat)
  | [] => []
  | d :: r => (t, t + d) :: spans (t + d) r

def span (n : Note) : Rat × Rat := (n.start, n.end_)

def isBrokenItem : Item → Bool
  | .tok (.broken _ _) => true
  | _ => false

structure Body (st : St) (c : Ctx) : Prop where
  inHeader : st.inHeader = false
  unit : st.unit = some c.unit
  qpm : qpm st = c.qpm
  broken : st.broken = none

/-- what the parser holds when the notated context is `c`: the unit note length is a Fraction (exact),
the tempo is the notated one rounded once -/
def Ctx.round (R : Rat → Rat) (c : Ctx) : Ctx := ⟨c.unit, R c.qpm⟩

/-- ABC 2.1 §3.1.7: default unit note length from the meter(s) of the header (`none`: the parser
rejects the header: zero denominator or more than one meter) -/
def defaultUnit : List (Rat × Int × Int) → Option Rat
  | [] => some (1 / 8)
  | [(_, n, d)] => if d = 0 then none else if (n : Rat) / (d : Rat) < 3 / 4 then some (1 / 16) else some (1 / 8)
  | _ => none

/-- the unit note length at the end of the header: the last `L:` if it is non-zero, else the default -/
def unitAtEnd (explicit : Option Rat) (meters : List (Rat × Int × Int)) : Option Rat :=
  match explicit with
  | some x => if x ≠ 0 then some x else defaultUnit meters
  | none => defaultUnit meters

def tempoAtEnd (u : Rat) (t : Rat) : Option (Option Rat × Nat) → List (Rat × Rat)
  | some (some b, r) => if r = 0 then [] else [(t, 4 * b * (r : Rat))]
  | some (none, r) => if r = 0 then [] else [(t, 4 * u * (r : Rat))]
  | none => []

theorem noteLength_ok {u : Rat} {l : LenSpec} {x : Rat} (h : noteLength u l = .ok x) : x = u * specFactor l := by
  unfold noteLength at h
  unfold specFactor
  split at h
  all_goals first
    | (simp at h; done)
    | (simp only [Except.ok.injEq] at h; subst h; simp_all <;> ring)
    | (split at h
       · simp at h
       · simp only [Except.ok.injEq] at h; subst h; simp_all <;> ring)

theorem seconds_exact {q len dt : Rat} (h : seconds id q len = .ok dt) : q ≠ 0 ∧ dt = len * 240 / q := by
  unfold seconds at h
  simp only [id] at h
  split at h
  · simp at h
  · rename_i hx
    have hq : q ≠ 0 := by
      intro h0; apply hx; rw [h0]; simp
    simp only [Except.ok.injEq] at h
    refine ⟨hq, ?_⟩
    rw [← h]
    field_simp
    ring

theorem sumBeats_ok {beats : List (Nat × Nat)} {s : Rat} (h : sumBeats beats = .ok s) :
    s = (beats.map (fun b => (b.1 : Rat) / (b.2 : Rat))).sum := by
  induction beats generalizing s with
  | nil => simp only [sumBeats, Except.ok.injEq] at h; subst h; simp
  | cons b r ih =>
    obtain ⟨n, d⟩ := b
    simp only [sumBeats] at h
    split at h
    · simp at h
    · split at h
      · simp at h
      · rename_i s' hs
        simp only [Except.ok.injEq] at h
        rw [← h, ih hs]; simp

theorem qpm_append (st : St) (ts : List (Rat × Rat)) (t q : Rat) (h : st.tempos = ts ++ [(t, q)]) : qpm st = q := by
  simp [qpm, h]

theorem specDurs_non_note {c : Ctx} {i : Item} {r : List Item} (h : isNote i = false) :
    specDurs c (i :: r) = specDurs (itemCtx c i) r := by
  cases i with
  | tok t => cases t <;> simp_all [specDurs, isNote]
  | field f => simp [specDurs]
  | start => simp [specDurs]

theorem spans_getElem (t : Rat) (ds : List Rat) (k : Nat) (hk : k < ds.length) :
    (spans t ds)[k]? = some (t + (ds.take k).sum, t + (ds.take (k + 1)).sum) := by
  induction ds generalizing t k with
  | nil => simp at hk
  | cons d r ih =>
    cases k with
    | zero => simp [spans]
    | succ k =>
      simp only [spans, List.getElem?_cons_succ, List.take_succ_cons, List.sum_cons]
      rw [ih (t + d) k (by simpa using hk)]
      simp only [Option.some.injEq, Prod.mk.injEq]
      constructor <;> ring

theorem spans_nth {notes' notes : List Note} {t : Rat} {ds : List Rat}
    (h : notes'.map span = notes.map span ++ spans t ds) (k : Nat) (hk : k < ds.length) :
    (notes'.map span)[notes.length + k]? = some (t + (ds.take k).sum, t + (ds.take (k + 1)).sum) := by
  rw [h, List.getElem?_append_right (by simp)]
  simp only [List.length_map, Nat.add_sub_cancel_left]
  exact spans_getElem _ _ _ hk

theorem spans_append (t : Rat) (a b : List Rat) : spans t (a ++ b) = spans t a ++ spans (t + a.sum) b := by
  induction a generalizing t with
  | nil => simp [spans]
  | cons d r ih => simp [spans, ih, add_assoc]

theorem parseField_body {R : Rat → Rat} {st st' : St} {c : Ctx} {f : Field} (hb : Body st (c.round R))
    (h : parseField R st f = .ok st') : Body st' ((fieldCtx c f).round R) := by
  obtain ⟨_, _, hbr, _, _, _, _, hih, _⟩ := parseField_frame h
  have hih' : st'.inHeader = false := by rw [hih, hb.inHeader]
  have hbr' : st'.broken = none := by rw [hbr, hb.broken]
  cases f with
  | tempo beats rate =>
    simp only [parseField] at h
    split at h
    · simp at h
    rename_i s hs
    simp only [setTempo, hb.inHeader, Bool.false_eq_true, ↓reduceIte, addTempo, Except.ok.injEq] at h
    subst h
    refine ⟨hih', hb.unit, ?_, hbr'⟩
    rw [qpm_append _ _ _ _ rfl]
    simp only [fieldCtx, Ctx.round, sumBeats_ok hs]
    congr 1
    ring
  | tempoOld rate =>
    simp only [parseField, setTempo, hb.inHeader, Bool.false_eq_true, ↓reduceIte, addTempo, hb.unit,
      Except.ok.injEq] at h
    subst h
    refine ⟨hih', rfl, ?_, hbr'⟩
    rw [qpm_append _ _ _ _ rfl]
    simp only [fieldCtx, Ctx.round]
    congr 1
    ring
  | unitLen n d =>
    simp only [parseField] at h
    split at h
    · simp at h
    · simp only [Except.ok.injEq] at h; subst h
      exact ⟨hih', rfl, hb.qpm, hbr'⟩
  | key k =>
    simp only [parseField] at h
    split at h
    · simp at h
    · simp only [Except.ok.injEq] at h; subst h
      exact ⟨hih', hb.unit, hb.qpm, hbr'⟩
  | title s =>
    simp only [parseField] at h
    split at h <;> (simp only [Except.ok.injEq] at h; subst h; exact ⟨hih', hb.unit, hb.qpm, hbr'⟩)
  | refnum _ | composer _ | meterC | meterCut | meterNone | meter _ _ | tempoStr | other =>
    simp only [parseField, Except.ok.injEq] at h; subst h; exact ⟨hih', hb.unit, hb.qpm, hbr'⟩
  | refBad | meterBad | unitBad | tempoBad | keyBad | part | voice =>
    simp [parseField] at h

theorem qpm_congr {st st' : St} (h : st'.tempos = st.tempos) : qpm st' = qpm st := by
  simp [qpm, h]

/-- one non-broken-rhythm item in the body phase, any `R`: a note token appends the note
`(clock, R (clock + dt))` with `dt` the clock advance, everything else leaves notes and clock -/
theorem Step.body {R : Rat → Rat} {st st' : St} {c : Ctx} {i : Item} (h : Step R st i st')
    (hb : Body st (c.round R)) (hnb : isBrokenItem i = false) :
    Body st' ((itemCtx c i).round R) ∧
    ((∃ a l o len p dt, i = .tok (.note a l o len) ∧
        seconds R (R c.qpm) (c.unit * specFactor len) = .ok dt ∧
        st'.notes = st.notes ++ [newNote p st.time (R (st.time + dt))] ∧
        st'.time = R (st.time + dt)) ∨
     (isNote i = false ∧ st'.notes = st.notes ∧ st'.time = st.time)) := by
  cases h with
  | field hf | inline hf =>
    obtain ⟨hn, _, _, ht, _⟩ := parseField_frame hf
    exact ⟨parseField_body hb hf, .inr ⟨rfl, hn, ht⟩⟩
  | note _ _ _ _ hu hlen hdt hn =>
    obtain rfl := Option.some.inj (hb.unit.symm.trans hu)
    obtain rfl := noteLength_ok hlen
    rw [hb.qpm] at hdt
    rw [hb.broken] at hn
    subst hn
    exact ⟨⟨hb.inHeader, hb.unit, hb.qpm, rfl⟩, .inl ⟨_, _, _, _, _, _, rfl, hdt, rfl, rfl⟩⟩
  | broken => simp [isBrokenItem] at hnb
  | start u t hbody =>
    obtain ⟨rfl, rfl⟩ := hbody hb.inHeader
    exact ⟨⟨rfl, hb.unit, hb.qpm, rfl⟩, .inr ⟨rfl, rfl, rfl⟩⟩
  | bar | colons | annot | deco | slur | tie | cont => exact ⟨⟨hb.inHeader, hb.unit, hb.qpm, hb.broken⟩, .inr ⟨rfl, rfl, rfl⟩⟩

theorem Run.body {st st' : St} {c : Ctx} {items : List Item} (h : Run id st items st') (hb : Body st c)
    (hnb : ∀ i ∈ items, isBrokenItem i = false) :
    st'.notes.map span = st.notes.map span ++ spans st.time (specDurs c items) ∧
    st'.time = st.time + (specDurs c items).sum := by
  induction h generalizing c with
  | nil => simp [specDurs, spans]
  | @cons st i st1 r st' h1 _ ih =>
    obtain ⟨hb1, hcase⟩ := h1.body (R := id) hb (hnb i (by simp))
    obtain ⟨ihn, iht⟩ := ih (c := itemCtx c i) hb1 (fun j hj => hnb j (by simp [hj]))
    rcases hcase with ⟨a, l, o, len, p, dt, rfl, hdt, hn, ht⟩ | ⟨hni, hn, ht⟩
    · obtain ⟨_, rfl⟩ := seconds_exact hdt
      simp only [itemCtx] at ihn iht
      simp only [specDurs, spans, List.sum_cons]
      rw [ihn, iht, hn, ht]
      constructor
      · simp [span, newNote]
      · simp only [id]; ring
    · rw [specDurs_non_note hni, ihn, iht, hn, ht]
      exact ⟨rfl, rfl⟩

theorem tolerance_pos : (0 : Rat) < Gen.BROKEN_TOLERANCE := by
  unfold Gen.BROKEN_TOLERANCE; norm_num

/-- `_apply_broken_rhythm` on two notes of equal length `d`: `k` marks move `d·(1 − 2^-k)` -/
theorem applyBroken_exact (pre : List Note) (n1 n2 : Note) (gt : Bool) (k : Nat)
    (hlen : n1.end_ - n1.start = n2.end_ - n2.start) :
    applyBroken id (pre ++ [n1, n2]) gt k =
      .ok (pre ++ [{ n1 with end_ := if gt then n1.end_ + ((n1.end_ - n1.start) - (n1.end_ - n1.start) / 2 ^ k)
                                      else n1.end_ - ((n1.end_ - n1.start) - (n1.end_ - n1.start) / 2 ^ k) },
                   { n2 with start := if gt then n2.start + ((n1.end_ - n1.start) - (n1.end_ - n1.start) / 2 ^ k)
                                       else n2.start - ((n1.end_ - n1.start) - (n1.end_ - n1.start) / 2 ^ k) }]) := by
  unfold applyBroken
  have hrev : (pre ++ [n1, n2]).reverse = n2 :: n1 :: pre.reverse := by simp
  rw [hrev]
  simp only [id, List.reverse_reverse]
  have h0 : n1.end_ - n1.start - (n2.end_ - n2.start) = 0 := by rw [hlen]; ring
  have hp := tolerance_pos
  rw [h0]
  rw [if_neg (by intro hc; rcases hc with hc | hc <;> linarith)]
  cases gt <;> simp

theorem setUnitFromHeader_exact {st st' : St} (h : setUnitFromHeader id st = .ok st') :
    ∃ u, unitAtEnd st.unit st.timeSigs = some u ∧ st' = { st with unit := some u } := by
  unfold setUnitFromHeader at h
  split at h
  · rename_i hs
    simp only [Except.ok.injEq] at h; subst h
    cases hu : st.unit with
    | none => simp [unitSet, hu] at hs
    | some x =>
      have : x ≠ 0 := by simpa [unitSet, hu] using hs
      exact ⟨x, by simp [unitAtEnd, this], by cases st; simp_all⟩
  · rename_i hs
    have hd : unitAtEnd st.unit st.timeSigs = defaultUnit st.timeSigs := by
      unfold unitAtEnd
      cases hu : st.unit with
      | none => rfl
      | some x =>
        have : x = 0 := by simpa [unitSet, hu] using hs
        simp [this]
    rw [hd]
    split at h
    · rename_i hts
      simp only [Except.ok.injEq] at h
      exact ⟨1 / 8, by simp [hts, defaultUnit], by rw [← h]; simp [Gen.UNIT_FREE]⟩
    · rename_i t n d hts
      split at h
      · simp at h
      rename_i hd0
      split at h
      · rename_i hlt
        simp only [Except.ok.injEq] at h
        simp only [id, Gen.UNIT_THRESHOLD] at hlt
        exact ⟨1 / 16, by simp [hts, defaultUnit, hd0, hlt], by rw [← h]; simp [Gen.UNIT_BELOW]⟩
      · rename_i hlt
        simp only [Except.ok.injEq] at h
        simp only [id, Gen.UNIT_THRESHOLD] at hlt
        exact ⟨1 / 8, by simp [hts, defaultUnit, hd0, hlt], by rw [← h]; simp [Gen.UNIT_OTHERWISE]⟩
    · simp at h

/-- the end of the header for any `R`: the unit note length is set, and the pending header tempo is
added, rounded once -/
theorem finishHeader_ok {R : Rat → Rat} {st st' : St} (h : finishHeader R st = .ok st') :
    ∃ u, setUnitFromHeader R st = .ok { st with unit := some u } ∧
      st' = { st with unit := some u, tempos := st.tempos ++
        (tempoAtEnd u st.time (pendingTempo st)).map fun p => (p.1, R p.2) } := by
  unfold finishHeader at h
  split at h
  · simp at h
  rename_i st1 h1
  obtain ⟨u, rfl⟩ := setUnitFromHeader_shape h1
  refine ⟨u, h1, ?_⟩
  have e : ∀ x : Rat, ∀ r : Nat, x / (1 / 4) * (r : Rat) = 4 * x * r := fun x r => by ring
  simp only at h
  cases hr : st.hdrTempoRate with
  | none =>
    simp only [hr, Except.ok.injEq] at h
    rw [← h]; simp [pendingTempo, hr, tempoAtEnd]
  | some r =>
    simp only [hr] at h
    by_cases hr0 : r = 0
    · simp only [hr0, ne_eq, not_true_eq_false, ↓reduceIte, Except.ok.injEq] at h
      rw [← h]
      cases hb : st.hdrTempoUnit <;> simp [pendingTempo, hr, hb, tempoAtEnd, hr0]
    · simp only [ne_eq, hr0, not_false_eq_true, ↓reduceIte] at h
      cases hb : st.hdrTempoUnit <;>
        (simp only [addTempo, hb, Except.ok.injEq, e] at h
         rw [← h]; simp [pendingTempo, hr, hb, tempoAtEnd, hr0])

theorem finishHeader_exact {st st' : St} (h : finishHeader id st = .ok st') :
    ∃ u, unitAtEnd st.unit st.timeSigs = some u ∧
      st' = { st with unit := some u, tempos := st.tempos ++ tempoAtEnd u st.time (pendingTempo st) } := by
  obtain ⟨u, hu, rfl⟩ := finishHeader_ok h
  obtain ⟨u', hu', e⟩ := setUnitFromHeader_exact hu
  obtain rfl : u = u' := by simpa using congrArg St.unit e
  exact ⟨u, hu', by simp⟩

end NSV.C04

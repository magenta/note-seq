import NoteSeqVerif.Proofs.C07Perf
/-! C06 (performance half) — elementary facts about `stream` (core Lean only): where the steps / pitches / bins of a
stream come from; `CanonicalPerf` counts steps from 0, the extractor from `start_step`, and `stream` and the extractor's
loop (`emit`, `Proofs/C07Perf`) commute with shifting all steps. -/
namespace NSV.C06P
open NSV.C07

theorem stream_spec : ∀ (evs : List PEvent) (cur bin : Int), (∀ x ∈ evs, x.valid = true) →
    0 ≤ shiftSum evs ∧ (stream cur bin evs).Pairwise (fun a b => a.step ≤ b.step) ∧
    ∀ e ∈ stream cur bin evs, cur ≤ e.step ∧ e.step ≤ cur + shiftSum evs ∧ 0 ≤ e.pitch ∧ e.pitch ≤ 127 ∧
      (e.isOff = true → e.bin = 0) ∧ (e.isOff = false → e.bin = bin ∨ (1 ≤ e.bin ∧ e.bin ≤ 127)) := by
  intro evs
  induction evs with
  | nil => intro cur bin _; simp [stream, shiftSum]
  | cons x r ih =>
    intro cur bin hv
    have hx := hv _ (List.mem_cons_self ..)
    have hv' : ∀ y ∈ r, y.valid = true := fun y hy => hv y (List.mem_cons_of_mem _ hy)
    cases x with
    | timeShift v =>
      have h0 : 0 ≤ v := by simpa [PEvent.valid] using hx
      obtain ⟨i0, ipw, imem⟩ := ih (cur + v) bin hv'
      simp only [stream, shiftSum]
      refine ⟨by omega, ipw, fun e he => ?_⟩
      obtain ⟨h1, h2, rest⟩ := imem e he
      exact ⟨by omega, by omega, rest⟩
    | velocity b =>
      simp only [PEvent.valid, C07.Gen.MAX_NUM_VELOCITY_BINS, Bool.and_eq_true, decide_eq_true_eq] at hx
      have hb : 1 ≤ b ∧ b ≤ 127 := ⟨hx.1, of_decide_eq_true hx.2⟩
      obtain ⟨i0, ipw, imem⟩ := ih cur b hv'
      refine ⟨i0, ipw, fun e he => ?_⟩
      obtain ⟨h1, h2, p0, p1, hoff, hon⟩ := imem e he
      exact ⟨h1, h2, p0, p1, hoff, fun h => Or.inr ((hon h).elim (fun h' => h' ▸ hb) id)⟩
    | duration d => exact ih cur bin hv'
    | noteOn p =>
      simp only [PEvent.valid, C07.Gen.MIN_MIDI_PITCH, C07.Gen.MAX_MIDI_PITCH, Bool.and_eq_true] at hx
      obtain ⟨i0, ipw, imem⟩ := ih cur bin hv'
      simp only [stream, shiftSum, List.pairwise_cons, List.mem_cons]
      refine ⟨i0, ⟨fun e he => (imem e he).1, ipw⟩, fun e he => ?_⟩
      rcases he with rfl | he
      · exact ⟨Int.le_refl _, Int.le_add_of_nonneg_right i0, of_decide_eq_true hx.1, of_decide_eq_true hx.2,
          fun h => Bool.noConfusion h, fun _ => Or.inl rfl⟩
      · exact imem e he
    | noteOff p =>
      simp only [PEvent.valid, C07.Gen.MIN_MIDI_PITCH, C07.Gen.MAX_MIDI_PITCH, Bool.and_eq_true] at hx
      obtain ⟨i0, ipw, imem⟩ := ih cur bin hv'
      simp only [stream, shiftSum, List.pairwise_cons, List.mem_cons]
      refine ⟨i0, ⟨fun e he => (imem e he).1, ipw⟩, fun e he => ?_⟩
      rcases he with rfl | he
      · exact ⟨Int.le_refl _, Int.le_add_of_nonneg_right i0, of_decide_eq_true hx.1, of_decide_eq_true hx.2,
          fun _ => rfl, fun h => Bool.noConfusion h⟩
      · exact imem e he

theorem stream_sorted : ∀ (evs : List PEvent) (cur bin : Int), (∀ x ∈ evs, x.valid = true) →
    (stream cur bin evs).Pairwise (fun a b => a.step ≤ b.step) := by
  intro evs cur bin hv
  exact (stream_spec evs cur bin hv).2.1

theorem stream_bins_const : ∀ (evs : List PEvent) (cur bin : Int), (∀ x ∈ evs, ∀ b, x ≠ PEvent.velocity b) →
    ∀ e ∈ stream cur bin evs, e.isOff = false → e.bin = bin := by
  intro evs
  induction evs with
  | nil => intro cur bin _ e he; simp [stream] at he
  | cons x r ih =>
    intro cur bin hv e he
    have hv' : ∀ y ∈ r, ∀ b, y ≠ PEvent.velocity b := fun y hy => hv y (List.mem_cons_of_mem _ hy)
    cases x with
    | timeShift v => simp only [stream] at he; exact ih _ _ hv' e he
    | duration d => simp only [stream] at he; exact ih _ _ hv' e he
    | velocity b => exact absurd rfl (hv _ (List.mem_cons_self ..) b)
    | noteOn p =>
      simp only [stream, List.mem_cons] at he
      rcases he with rfl | he
      · intro _; rfl
      · exact ih _ _ hv' e he
    | noteOff p =>
      simp only [stream, List.mem_cons] at he
      rcases he with rfl | he
      · intro h; simp at h
      · exact ih _ _ hv' e he

theorem stream_shift (S : Int) : ∀ (evs : List PEvent) (cur bin : Int),
    stream (cur + S) bin evs = (stream cur bin evs).map (SEv.shift S) := by
  intro evs
  induction evs with
  | nil => intro cur bin; rfl
  | cons e r ih =>
    intro cur bin
    cases e with
    | timeShift v =>
      simp only [stream]
      rw [show cur + S + v = cur + v + S by omega, ih]
    | velocity b => simp only [stream, ih]
    | duration d => simp only [stream, ih]
    | noteOn p => simp only [stream, ih, List.map_cons, SEv.shift]
    | noteOff p => simp only [stream, ih, List.map_cons, SEv.shift]

/-- `E`: the extractor's note events with steps counted from `start_step` -/
theorem perfEvents_emit (s : NoteSeq) (start nb ms : Int) (inst : Option Int) (hms : 1 ≤ ms) (hnb : 0 ≤ nb)
    (E : List SEv) (hE : (noteEvents (sortedNotes s start inst)).map (sevOfNEv nb) = E.map (SEv.shift start)) :
    perfEvents s start nb ms inst =
      if (emit nb ms 0 0 E).all PEvent.valid = true then .ok (emit nb ms 0 0 E) else .error .valueError := by
  have hsh := emit_shift nb ms start E 0 0
  rw [Int.zero_add] at hsh
  rw [perfEvents_eq s start nb ms inst hms hnb, hE, hsh]

end NSV.C06P

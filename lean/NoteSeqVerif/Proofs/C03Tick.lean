import NoteSeqVerif.Proofs.C03
import NoteSeqVerif.Proofs.RoundingInt
import Mathlib.Tactic.Linarith
import Mathlib.Tactic.Ring
import Mathlib.Tactic.FieldSimp
import Mathlib.Tactic.NormNum
import Mathlib.Tactic.Positivity
import Mathlib.Data.Rat.Floor
/-! The tick map (pretty_midi's `_tick_scales`, `__tick_to_time`, `time_to_tick`).  What holds for every `R` is shared by
the exact and the float side: the array entry by entry (`ttAux_seg`, `ttAux_tail`), the case description of
`time_to_tick` and its monotonicity (`timeToTick_cases`, `timeToTick_mono`), when `scaleOfQpm` succeeds, the tempo chain
on values that `R` leaves alone.  The rest is exact arithmetic (`R = id`): `time_to_tick` returns a nearest tick
(`NearTick`), the tempo loop keeps the map well-formed (`LoopInv`), the writer's loops do not raise on valid input. -/
namespace NSV.C03

theorem leastGE_spec (p : Int → Bool) (fuel : Nat) (lo hi : Int) (h1 : lo ≤ hi) (h2 : hi - lo ≤ fuel)
    (hmono : ∀ i j, lo ≤ i → i ≤ j → j < hi → p i = true → p j = true) :
    lo ≤ leastGE p fuel lo hi ∧ leastGE p fuel lo hi ≤ hi ∧
    (∀ i, lo ≤ i → i < leastGE p fuel lo hi → p i = false) ∧
    (leastGE p fuel lo hi < hi → p (leastGE p fuel lo hi) = true) := by
  fun_induction leastGE p fuel lo hi with
  | case1 lo hi => exact ⟨le_refl _, h1, fun i a b => by omega, fun a => by omega⟩
  | case2 fuel lo hi hc => exact ⟨le_refl _, h1, fun i a b => by omega, fun a => by omega⟩
  | case3 fuel lo hi hc mid hp ih =>
    obtain ⟨a, b, c, d⟩ := ih (by omega) (by omega) (fun i j hi1 hij hj => hmono i j hi1 hij (by omega))
    refine ⟨a, by omega, c, fun _ => ?_⟩
    by_cases e : leastGE p fuel lo mid < mid
    · exact d e
    · rw [show leastGE p fuel lo mid = mid by omega]; exact hp
  | case4 fuel lo hi hc mid hp ih =>
    obtain ⟨a, b, c, d⟩ := ih (by omega) (by omega) (fun i j hi1 hij hj => hmono i j (by omega) hij hj)
    refine ⟨by omega, b, fun i hi1 hi2 => ?_, d⟩
    by_cases e : i ≤ mid
    · cases hpi : p i
      · rfl
      · exact absurd (hmono i _ hi1 e (by omega) hpi) hp
    · exact c i (by omega) hi2

/-- ticks non-decreasing, starting at or after `s` -/
def SortedFrom : Int → List (Int × Rat) → Prop
  | _, [] => True
  | s, (s', _) :: r => s ≤ s' ∧ SortedFrom s' r

/-- well-formed `_tick_scales`: positive scales, ticks ≥ 0 and non-decreasing -/
structure WF (m : TickMap) : Prop where
  c0 : 0 < m.c0
  pos : ∀ p ∈ m.rest, 0 < p.2
  sorted : SortedFrom 0 m.rest

def maxScaleOf (c : Rat) : List (Int × Rat) → Rat
  | [] => c
  | (_, c') :: r => max c (maxScaleOf c' r)

def maxScale (m : TickMap) : Rat := maxScaleOf m.c0 m.rest

/-- at its own start tick a segment's time is its base time (`c · 0` is exact, the addition rounds) -/
theorem ttAux_start {R : Rat → Rat} (h0 : R 0 = 0) (b : Rat) (s : Int) (c : Rat) (rest : List (Int × Rat))
    (h : SortedFrom s rest) : ttAux R b s c rest s = R b := by
  cases rest with
  | nil => simp [ttAux, h0]
  | cons p r =>
    obtain ⟨s', c'⟩ := p
    simp only [ttAux]
    rw [if_pos h.1]
    simp [h0]

/-- `max(ts[0] for ts in _tick_scales)` as a running maximum -/
theorem maxTickOf_eq (a : Int) (rest : List (Int × Rat)) : maxTickOf a rest = (rest.map Prod.fst).foldl max a := by
  induction rest generalizing a with
  | nil => rfl
  | cons p r ih =>
    rw [maxTickOf, ih, List.map_cons, List.foldl_cons]
    congr 1
    omega

theorem le_maxTickOf (a : Int) (rest : List (Int × Rat)) :
    a ≤ maxTickOf a rest ∧ ∀ p ∈ rest, p.1 ≤ maxTickOf a rest := by
  rw [maxTickOf_eq]
  exact ⟨(foldl_max_ge _ a).1, fun p hp => (foldl_max_ge _ a).2 _ (List.mem_map_of_mem hp)⟩

theorem maxTickOf_cons {s s' : Int} (h : s ≤ s') (c' : Rat) (r : List (Int × Rat)) :
    maxTickOf s ((s', c') :: r) = maxTickOf s' r := by
  rw [maxTickOf_eq, maxTickOf_eq, List.map_cons, List.foldl_cons, max_eq_right h]

theorem maxScaleTick_nonneg (m : TickMap) : 0 ≤ maxScaleTick m := (le_maxTickOf 0 m.rest).1

theorem lastOf_mem (c : Rat) (rest : List (Int × Rat)) : lastOf c rest ∈ c :: rest.map Prod.snd := by
  induction rest generalizing c with
  | nil => simp [lastOf]
  | cons p r ih => exact List.mem_cons_of_mem _ (ih p.2)

theorem le_maxScaleOf {c : Rat} {rest : List (Int × Rat)} {x : Rat} (h : x ∈ c :: rest.map Prod.snd) :
    x ≤ maxScaleOf c rest := by
  induction rest generalizing c with
  | nil => simp only [List.map_nil, List.mem_singleton] at h; exact h.le
  | cons p r ih =>
    rcases List.mem_cons.mp h with rfl | h
    · exact le_max_left _ _
    · exact (ih h).trans (le_max_right _ _)

theorem WF.scale_pos {m : TickMap} (hw : WF m) {x : Rat} (h : x ∈ m.c0 :: m.rest.map Prod.snd) : 0 < x := by
  rcases List.mem_cons.mp h with rfl | h
  · exact hw.c0
  · obtain ⟨p, hp, rfl⟩ := List.mem_map.mp h
    exact hw.pos p hp

/-! ### what the array is

For every idempotent `R` that fixes `0` (the float roundings and `id` alike) an entry of the array is
`R (arr s₀ + R (c₀ · (k - s₀)))` for the start tick `s₀` and the scale `c₀` of its segment: the base time of a segment is
the array's own entry at its start tick.  `ttAux_seg` says so for two consecutive ticks, `ttAux_tail` for all ticks from
the last tempo tick on; exact arithmetic reads them at `R = id` (`arr_succ`, `arr_beyond`), floating point through
`seg_near` (Proofs/C03FloatGen), which is where signs first matter.  Nothing else unfolds `ttAux` for a general map except
`ttAux_append` and `ttAux_scale`. -/

theorem ttAux_cons_ge {R : Rat → Rat} (h0 : R 0 = 0) (hi : ∀ a, R (R a) = R a) (base : Rat) (s : Int) (c : Rat)
    (s' : Int) (c' : Rat) (rest : List (Int × Rat)) (hs : SortedFrom s' rest) {j : Int} (hj : s' ≤ j) :
    ttAux R base s c ((s', c') :: rest) j = ttAux R (R (base + R (c * ((s' - s : Int) : Rat)))) s' c' rest j := by
  simp only [ttAux]
  by_cases h : j ≤ s'
  · obtain rfl : j = s' := le_antisymm h hj
    rw [if_pos h, ttAux_start h0 _ _ _ _ hs, hi]
  · rw [if_neg h]

theorem ttAux_seg {R : Rat → Rat} (h0 : R 0 = 0) (hi : ∀ a, R (R a) = R a) (rest : List (Int × Rat)) (base : Rat)
    (s : Int) (c : Rat) (hb : R base = base) (hs : SortedFrom s rest) (j : Int) :
    ∃ (s₀ : Int) (c₀ : Rat), (s ≤ j → s ≤ s₀ ∧ s₀ ≤ j) ∧ c₀ ∈ c :: rest.map Prod.snd ∧
      ∀ k, k = j ∨ k = j + 1 →
        ttAux R base s c rest k = R (ttAux R base s c rest s₀ + R (c₀ * ((k - s₀ : Int) : Rat))) := by
  induction rest generalizing base s c with
  | nil =>
    refine ⟨s, c, fun h => ⟨le_rfl, h⟩, List.mem_cons_self, fun k _ => ?_⟩
    rw [ttAux_start h0 base s c [] hs, hb]
    rfl
  | cons p r ih =>
    obtain ⟨s', c'⟩ := p
    by_cases hj1 : j + 1 ≤ s'
    · refine ⟨s, c, fun h => ⟨le_rfl, h⟩, List.mem_cons_self, fun k hk => ?_⟩
      rw [ttAux_start h0 base s c _ hs, hb]
      simp only [ttAux]
      rw [if_pos (by omega)]
    · obtain ⟨s₀, c₀, e2, e3, e4⟩ := ih _ s' c' (hi _) hs.2
      obtain ⟨e5, e6⟩ := e2 (by omega)
      refine ⟨s₀, c₀, fun _ => ⟨hs.1.trans e5, e6⟩, List.mem_cons_of_mem _ e3, fun k hk => ?_⟩
      rw [ttAux_cons_ge h0 hi base s c s' c' r hs.2 (show s' ≤ k by omega), ttAux_cons_ge h0 hi base s c s' c' r hs.2 e5]
      exact e4 k hk

theorem ttAux_tail {R : Rat → Rat} (h0 : R 0 = 0) (hi : ∀ a, R (R a) = R a) (rest : List (Int × Rat)) (base : Rat)
    (s : Int) (c : Rat) (hb : R base = base) (hs : SortedFrom s rest) {k : Int} (hk : maxTickOf s rest ≤ k) :
    ttAux R base s c rest k =
      R (ttAux R base s c rest (maxTickOf s rest) + R (lastOf c rest * ((k - maxTickOf s rest : Int) : Rat))) := by
  induction rest generalizing base s c with
  | nil =>
    show _ = R (ttAux R base s c [] s + _)
    rw [ttAux_start h0 base s c [] hs, hb]
    rfl
  | cons p r ih =>
    obtain ⟨s', c'⟩ := p
    rw [maxTickOf_cons hs.1] at hk ⊢
    have hle := (le_maxTickOf s' r).1
    rw [ttAux_cons_ge h0 hi base s c s' c' r hs.2 (hle.trans hk), ttAux_cons_ge h0 hi base s c s' c' r hs.2 hle]
    exact ih _ s' c' (hi _) hs.2 hk

-- `arr k` in lemma names and comments is `tickToTime R m k`: entry `k` of pretty_midi's `__tick_to_time` array
theorem arr_zero {R : Rat → Rat} (h0 : R 0 = 0) {m : TickMap} (hs : SortedFrom 0 m.rest) : tickToTime R m 0 = 0 := by
  unfold tickToTime
  rw [ttAux_start h0 0 0 m.c0 m.rest hs, h0]

section arr
variable (m : TickMap) (hw : WF m)
include hw

theorem arr_succ (j : Int) :
    ∃ c₀, 0 < c₀ ∧ c₀ ≤ maxScale m ∧ tickToTime id m (j + 1) = tickToTime id m j + c₀ := by
  obtain ⟨s₀, c₀, -, hc, e⟩ := ttAux_seg (R := id) rfl (fun _ => rfl) m.rest 0 0 m.c0 rfl hw.sorted j
  refine ⟨c₀, hw.scale_pos hc, le_maxScaleOf hc, ?_⟩
  unfold tickToTime
  rw [e j (Or.inl rfl), e _ (Or.inr rfl)]
  simp only [id]
  push_cast
  ring

theorem arr_strictMono : StrictMono (tickToTime id m) :=
  strictMono_int_of_lt_succ fun j => by
    obtain ⟨c₀, h, -, e⟩ := arr_succ m hw j
    rw [e]
    exact lt_add_of_pos_right _ h

theorem arr_mono {j k : Int} (hjk : j ≤ k) : tickToTime id m j ≤ tickToTime id m k :=
  (arr_strictMono m hw).monotone hjk

theorem arr_nonneg {k : Int} (hk : 0 ≤ k) : 0 ≤ tickToTime id m k := by
  have := arr_mono m hw hk
  rwa [arr_zero rfl hw.sorted] at this

theorem arr_beyond (M : Int) (hM : maxScaleTick m ≤ M) {k : Int} (hk : M ≤ k) :
    tickToTime id m k = tickToTime id m M + ((k - M : Int) : Rat) * lastScale m := by
  have e := fun k => ttAux_tail (R := id) rfl (fun _ => rfl) m.rest 0 0 m.c0 rfl hw.sorted (k := k)
  unfold tickToTime
  rw [e k (hM.trans hk), e M hM]
  simp only [id, lastScale]
  push_cast
  ring

theorem lastScale_pos : 0 < lastScale m := hw.scale_pos (lastOf_mem _ _)

end arr

theorem lastScale_le (m : TickMap) : lastScale m ≤ maxScale m := le_maxScaleOf (lastOf_mem _ _)

/-- Python's `round()` as the model transcribes it is the round-half-even `rnE` of Proofs/RoundingInt, whose order and
error facts are used from here on -/
theorem roundHalfEven_eq_rnE (x : Rat) : roundHalfEven x = rnE x := (rnE_eq_round x).symm

theorem roundHalfEven_spec (x : Rat) :
    ((roundHalfEven x : Int) : Rat) ≤ x + 1/2 ∧ x - 1/2 ≤ ((roundHalfEven x : Int) : Rat) ∧ x.floor ≤ roundHalfEven x := by
  rw [roundHalfEven_eq_rnE]
  have h := abs_le.mp (rnE_abs_sub_le x)
  exact ⟨by linarith only [h.2], by linarith only [h.1], floor_le_rnE x⟩

theorem roundHalfEven_mono {x y : ℚ} (h : x ≤ y) : roundHalfEven x ≤ roundHalfEven y := by
  rw [roundHalfEven_eq_rnE, roundHalfEven_eq_rnE]
  exact rnE_mono h

theorem roundHalfEven_eq_of_close {x : ℚ} {k : Int} (h : |x - (k : ℚ)| < 1 / 2) : roundHalfEven x = k :=
  (roundHalfEven_eq_rnE x).trans (rnE_eq_of_near h)

def mid (m : TickMap) (k : Int) : Rat := (tickToTime id m k + tickToTime id m (k + 1)) / 2

/-- `k` is a nearest tick to `t` (ties either way; times before 0 belong to tick 0) -/
def NearTick (m : TickMap) (k : Int) (t : Rat) : Prop := 0 ≤ k ∧ (k = 0 ∨ mid m (k - 1) ≤ t) ∧ t ≤ mid m k

theorem mid_mono (m : TickMap) (hw : WF m) {j k : Int} (hjk : j ≤ k) : mid m j ≤ mid m k := by
  unfold mid
  have a := arr_mono m hw hjk
  have b := arr_mono m hw (show j + 1 ≤ k + 1 by omega)
  linarith

theorem arr_lt_mid (m : TickMap) (hw : WF m) (k : Int) : tickToTime id m k < mid m k := by
  unfold mid
  have := arr_strictMono m hw (show k < k + 1 by omega)
  linarith

theorem mid_pred (m : TickMap) (k : Int) : mid m (k - 1) = (tickToTime id m (k - 1) + tickToTime id m k) / 2 := by
  unfold mid
  rw [Int.sub_add_cancel]

theorem mid_pred_lt_arr (m : TickMap) (hw : WF m) (k : Int) : mid m (k - 1) < tickToTime id m k := by
  rw [mid_pred]
  linarith only [arr_strictMono m hw (show k - 1 < k by omega)]

theorem nearTick_lower (m : TickMap) (hw : WF m) {k : Int} {t : Rat} (h : tickToTime id m k ≤ t) :
    k = 0 ∨ mid m (k - 1) ≤ t :=
  Or.inr ((mid_pred_lt_arr m hw k).le.trans h)

theorem absR_eq (x : Rat) : absR x = |x| := by
  unfold absR
  split
  · rename_i h; rw [abs_of_neg h]
  · rename_i h; rw [abs_of_nonneg (not_lt.mp h)]

theorem absR_of_nonneg {x : ℚ} (h : 0 ≤ x) : absR x = x := by rw [absR_eq, abs_of_nonneg h]
theorem absR_of_nonpos {x : ℚ} (h : x ≤ 0) : absR x = -x := by rw [absR_eq, abs_of_nonpos h]

/-- `time_to_tick` on a nondecreasing array (`searchsorted(side='left')` finds the first entry `≥ t`): beyond the last
entry it rounds the extrapolation with the final scale; otherwise, with `i` the first entry `≥ t`, it returns `i - 1` or
`i`, whichever has the smaller rounded distance to `t` (a tie goes to `i`). -/
theorem timeToTick_cases {R : Rat → Rat} {m : TickMap}
    (hmono : Monotone (tickToTime R m)) (M : Int) (hM : 0 ≤ M) (t : Rat) :
    (tickToTime R m M < t ∧
      timeToTick R m M t = roundHalfEven (R ((M : Rat) + R (R (t - tickToTime R m M) / lastScale m)))) ∨
    ∃ i : Int, 0 ≤ i ∧ i ≤ M ∧ (∀ j, 0 ≤ j → j < i → tickToTime R m j < t) ∧ t ≤ tickToTime R m i ∧
      timeToTick R m M t =
        if i ≠ 0 ∧ absR (R (t - tickToTime R m (i - 1))) < absR (R (t - tickToTime R m i)) then i - 1 else i := by
  obtain ⟨s1, s2, s3, s4⟩ := leastGE_spec (fun k => decide (t ≤ tickToTime R m k)) (M + 1).toNat 0 (M + 1)
    (by omega) (by omega) (fun i j hi hij _ h => by
      simp only [decide_eq_true_eq] at *
      exact le_trans h (hmono hij))
  unfold timeToTick
  simp only
  generalize leastGE (fun k => decide (t ≤ tickToTime R m k)) (M + 1).toNat 0 (M + 1) = i at *
  by_cases hi : i = M + 1
  · rw [if_pos hi]
    exact Or.inl ⟨by simpa using s3 M hM (by omega), rfl⟩
  · rw [if_neg hi]
    exact Or.inr ⟨i, s1, by omega, fun j h0 hj => by simpa using s3 j h0 hj, by simpa using s4 (by omega), rfl⟩

/-- beyond the array the computed tick is at least `M`: the added quotient is nonnegative and `R` leaves `M` alone -/
theorem beyond_ge {R : ℚ → ℚ} (hm : Monotone R) (h0 : R 0 = 0) {m : TickMap} (hls : 0 < lastScale m) {M : Int}
    (hRM : R (M : ℚ) = M) {t : ℚ} (hgt : tickToTime R m M < t) :
    M ≤ roundHalfEven (R ((M : ℚ) + R (R (t - tickToTime R m M) / lastScale m))) := by
  have hn : ∀ {a}, 0 ≤ a → 0 ≤ R a := fun h => h0 ▸ hm h
  have h3 := hm (le_add_of_nonneg_right (a := (M : ℚ)) (hn (div_nonneg (hn (sub_nonneg.mpr hgt.le)) hls.le)))
  rw [hRM] at h3
  have h4 := roundHalfEven_mono h3
  rwa [roundHalfEven_eq_of_close (k := M) (by simp)] at h4

theorem timeToTick_mono {R : ℚ → ℚ} (hm : Monotone R) (h0 : R 0 = 0) {m : TickMap} (hls : 0 < lastScale m)
    (hmono : Monotone (tickToTime R m)) {M : Int} (hM : 0 ≤ M) (hRM : R (M : ℚ) = M) {t t' : ℚ} (h : t ≤ t') :
    timeToTick R m M t ≤ timeToTick R m M t' := by
  rcases timeToTick_cases hmono M hM t' with ⟨hgt', e'⟩ | ⟨i', h0', hiM', hlt', hge', e'⟩
  · rcases timeToTick_cases hmono M hM t with ⟨hgt, e⟩ | ⟨i, hi0, hiM, hlt, hge, e⟩
    · rw [e, e']
      exact roundHalfEven_mono (hm (add_le_add_right (hm (div_le_div_of_nonneg_right
        (hm (sub_le_sub_right h (tickToTime R m M))) hls.le)) _))
    · rw [e, e']
      have := beyond_ge hm h0 hls hRM hgt'
      split_ifs <;> omega
  · rcases timeToTick_cases hmono M hM t with ⟨hgt, e⟩ | ⟨i, hi0, hiM, hlt, hge, e⟩
    · exact absurd (hgt.trans_le (h.trans (hge'.trans (hmono hiM')))) (lt_irrefl _)
    · rw [e, e']
      have hii : i ≤ i' := by
        by_contra hgt
        exact absurd ((hlt i' h0' (by omega)).trans_le (h.trans hge')) (lt_irrefl _)
      rcases hii.lt_or_eq with hlt2 | rfl
      · split_ifs <;> omega
      · -- same index: if the lower neighbour is the nearer one for `t'`, it is for `t`
        by_cases hc' : i ≠ 0 ∧ absR (R (t' - tickToTime R m (i - 1))) < absR (R (t' - tickToTime R m i))
        · rw [if_pos hc']
          obtain ⟨hi0', hlt''⟩ := hc'
          have p1 : tickToTime R m (i - 1) < t := hlt (i - 1) (by omega) (by omega)
          have e1 : 0 ≤ R (t - tickToTime R m (i - 1)) := h0 ▸ hm (sub_nonneg.mpr p1.le)
          have e2 := hm (sub_le_sub_right h (tickToTime R m (i - 1)))
          have e3 := hm (sub_le_sub_right h (tickToTime R m i))
          have e4 : R (t' - tickToTime R m i) ≤ 0 := h0 ▸ hm (sub_nonpos.mpr hge')
          rw [absR_of_nonneg (e1.trans e2), absR_of_nonpos e4] at hlt''
          have : absR (R (t - tickToTime R m (i - 1))) < absR (R (t - tickToTime R m i)) := by
            rw [absR_of_nonneg e1, absR_of_nonpos (e3.trans e4)]
            linarith only [e2, e3, hlt'']
          rw [if_pos ⟨hi0', this⟩]
        · rw [if_neg hc']
          split_ifs <;> omega

theorem timeToTick_nearTick (m : TickMap) (hw : WF m) (M : Int) (hM : maxScaleTick m ≤ M) (t : Rat) :
    NearTick m (timeToTick id m M t) t := by
  have hM0 : 0 ≤ M := (maxScaleTick_nonneg m).trans hM
  rcases timeToTick_cases (arr_strictMono m hw).monotone M hM0 t with ⟨hlt, e⟩ | ⟨i, s1, hiM, s3, hge, e⟩
  · rw [e]
    simp only [id]
    -- beyond the end of the array: `t = arr M + (x - M)·c` and `arr k = arr M + (k - M)·c` for the final scale `c`
    have hc := lastScale_pos m hw
    have hxM : (M : Rat) ≤ (M : Rat) + (t - tickToTime id m M) / lastScale m :=
      le_add_of_nonneg_right (div_nonneg (sub_nonneg.mpr hlt.le) hc.le)
    have ht : t = tickToTime id m M + ((M : Rat) + (t - tickToTime id m M) / lastScale m - M) * lastScale m := by
      field_simp; ring
    generalize (M : Rat) + (t - tickToTime id m M) / lastScale m = x at *
    obtain ⟨r1, r2, r3⟩ := roundHalfEven_spec x
    have hKM : M ≤ roundHalfEven x := le_trans (by rw [Rat.le_floor_iff]; exact hxM) r3
    generalize roundHalfEven x = K at *
    have r1' := mul_le_mul_of_nonneg_right r1 hc.le
    have r2' := mul_le_mul_of_nonneg_right r2 hc.le
    have hK := arr_beyond m hw M hM hKM
    have hK1 := arr_beyond m hw M hM (show M ≤ K + 1 by omega)
    push_cast at hK hK1
    refine ⟨by omega, ?_, ?_⟩
    · rcases hKM.eq_or_lt with rfl | hMK
      · exact nearTick_lower m hw hlt.le
      · right
        have hK0 := arr_beyond m hw M hM (show M ≤ K - 1 by omega)
        push_cast at hK0
        rw [mid_pred, hK, hK0]
        linarith only [ht, r1']
    · unfold mid
      rw [hK, hK1]
      linarith only [ht, r2']
  · rw [e]
    simp only [id]
    by_cases hi0 : i = 0
    · rw [if_neg (fun h => h.1 hi0)]
      exact ⟨s1, Or.inl hi0, hge.trans (arr_lt_mid m hw i).le⟩
    · -- `arr (i-1) < t ≤ arr i`: the comparison of distances is a comparison with the midpoint
      have hprev : tickToTime id m (i - 1) < t := s3 (i - 1) (by omega) (by omega)
      simp only [absR_eq, abs_of_pos (sub_pos.mpr hprev), abs_of_nonpos (sub_nonpos.mpr hge)]
      split_ifs with hc
      · refine ⟨by omega, nearTick_lower m hw hprev.le, ?_⟩
        rw [mid_pred]
        linarith only [hc.2]
      · refine ⟨s1, Or.inr ?_, hge.trans (arr_lt_mid m hw i).le⟩
        rw [mid_pred]
        linarith only [not_lt.mp fun h => hc ⟨hi0, h⟩]

theorem maxScale_pos (m : TickMap) (hw : WF m) : 0 < maxScale m := (lastScale_pos m hw).trans_le (lastScale_le m)

theorem arr_succ_le (m : TickMap) (hw : WF m) (k : Int) :
    tickToTime id m (k + 1) ≤ tickToTime id m k + maxScale m := by
  obtain ⟨c₀, -, h, e⟩ := arr_succ m hw k
  rw [e]
  exact add_le_add_right h _

theorem nearTick_bound (m : TickMap) (hw : WF m) {k : Int} {t : Rat} (h : NearTick m k t) (ht : 0 ≤ t) :
    |tickToTime id m k - t| ≤ maxScale m / 2 := by
  obtain ⟨h0, h1, h2⟩ := h
  rw [abs_le]
  constructor
  · unfold mid at h2
    linarith only [h2, arr_succ_le m hw k]
  · by_cases e : k = 0
    · rw [e, arr_zero rfl hw.sorted]
      linarith only [ht, maxScale_pos m hw]
    · have h1 := h1.resolve_left e
      rw [mid_pred] at h1
      have := arr_succ_le m hw (k - 1)
      rw [Int.sub_add_cancel] at this
      linarith only [h1, this]

theorem ttAux_append (R : Rat → Rat) (base : Rat) (s : Int) (c : Rat) (rest : List (Int × Rat)) (k' : Int) (c' : Rat)
    (j : Int) (hj : j ≤ k') : ttAux R base s c (rest ++ [(k', c')]) j = ttAux R base s c rest j := by
  induction rest generalizing base s c with
  | nil => simp [ttAux, hj]
  | cons p r ih =>
    obtain ⟨s1, c1⟩ := p
    simp only [List.cons_append, ttAux]
    split
    · rfl
    · exact ih _ _ _

theorem tickToTime_append (R : Rat → Rat) (m : TickMap) (k' : Int) (c' : Rat) (j : Int) (hj : j ≤ k') :
    tickToTime R { m with rest := m.rest ++ [(k', c')] } j = tickToTime R m j := by
  unfold tickToTime
  exact ttAux_append R 0 0 m.c0 m.rest k' c' j hj

theorem sortedFrom_append (s : Int) (rest : List (Int × Rat)) (k : Int) (c : Rat)
    (h : SortedFrom s rest) (hk : maxTickOf s rest ≤ k) : SortedFrom s (rest ++ [(k, c)]) := by
  induction rest generalizing s with
  | nil => exact ⟨hk, trivial⟩
  | cons p r ih => exact ⟨h.1, ih p.1 h.2 (maxTickOf_cons h.1 p.2 r ▸ hk)⟩

theorem maxTickOf_append (a : Int) (rest : List (Int × Rat)) (k : Int) (c : Rat) (hk : maxTickOf a rest ≤ k) :
    maxTickOf a (rest ++ [(k, c)]) = k := by
  rw [maxTickOf_eq] at hk ⊢
  rw [List.map_append, List.foldl_append]
  exact max_eq_right hk

def scaleMap (ρ : ℚ) (m : TickMap) : TickMap := ⟨ρ * m.c0, m.rest.map (fun p => (p.1, ρ * p.2))⟩

theorem ttAux_scale (ρ : ℚ) (rest : List (Int × ℚ)) (base : ℚ) (s : Int) (c : ℚ) (k : Int) :
    ttAux id (ρ * base) s (ρ * c) (rest.map (fun p => (p.1, ρ * p.2))) k = ρ * ttAux id base s c rest k := by
  induction rest generalizing base s c with
  | nil => simp only [List.map_nil, ttAux, id]; ring
  | cons p r ih =>
    obtain ⟨s', c'⟩ := p
    simp only [List.map_cons, ttAux, id]
    split
    · ring
    · rw [show ρ * base + ρ * c * ((s' - s : Int) : ℚ) = ρ * (base + c * ((s' - s : Int) : ℚ)) by ring]
      exact ih _ _ _

theorem tickToTime_scaleMap (ρ : ℚ) (m : TickMap) (k : Int) :
    tickToTime id (scaleMap ρ m) k = ρ * tickToTime id m k := by
  unfold tickToTime scaleMap
  have := ttAux_scale ρ m.rest 0 0 m.c0 k
  rw [mul_zero] at this
  exact this

theorem scaleOfQpm_eq_ok {R : Rat → Rat} {res : Int} {q c : Rat} :
    scaleOfQpm R res q = .ok c ↔ 0 < R ((res : Rat) * q) ∧ R (60 / R ((res : Rat) * q)) = c := by
  unfold scaleOfQpm
  simp only
  split_ifs with h0 hneg
  · simp [h0]
  · simp [not_lt_of_gt hneg]
  · simp [lt_of_le_of_ne (not_lt.mp hneg) (Ne.symm h0)]

theorem scaleOfQpm_pos {R : Rat → Rat} (hR : ∀ a, 0 < a → 0 < R a) {res : Int} {q c : Rat}
    (h : scaleOfQpm R res q = .ok c) : 0 < c := by
  obtain ⟨hd, rfl⟩ := scaleOfQpm_eq_ok.mp h
  exact hR _ (div_pos (by norm_num) hd)

/-- `tempoMicros` is `int(6e7 / qpm')` with `qpm'` the tempo `get_tempo_changes` reports -/
theorem tempoMicros_eq (R : Rat → Rat) (res : Int) (c : Rat) :
    tempoMicros R res c = truncR (R (60000000 / qpmOfScale R res c)) := rfl

/-- The tempo chain writer → `write` → loader → `get_tempo_changes` for `n` µs per quarter is exact as soon as `R` leaves
its five intermediate values alone; nothing else about `R` is used, so `R = id` is an instance. -/
theorem tempo_chain_exact (R : Rat → Rat) (res n : Int) (hres : 0 < res) (hn : 0 < n)
    (h1 : R (60000000 / (n : Rat)) = 60000000 / (n : Rat))
    (h2 : R ((res : Rat) * (60000000 / (n : Rat))) = (res : Rat) * (60000000 / (n : Rat)))
    (h3 : R ((n : Rat) / ((res : Rat) * 1000000)) = (n : Rat) / ((res : Rat) * 1000000))
    (h4 : R ((n : Rat) / 1000000) = (n : Rat) / 1000000) (h5 : R (n : Rat) = (n : Rat)) :
    scaleOfQpm R res (60000000 / (n : Rat)) = .ok ((n : Rat) / ((res : Rat) * 1000000)) ∧
    tempoMicros R res ((n : Rat) / ((res : Rat) * 1000000)) = n ∧
    scaleOfMicros R res n = (n : Rat) / ((res : Rat) * 1000000) ∧
    qpmOfScale R res ((n : Rat) / ((res : Rat) * 1000000)) = 60000000 / (n : Rat) := by
  have hr : (0 : Rat) < (res : Rat) := by exact_mod_cast hres
  have hq : (0 : Rat) < (n : Rat) := by exact_mod_cast hn
  have e1 : (60 : Rat) / ((res : Rat) * (60000000 / (n : Rat))) = (n : Rat) / ((res : Rat) * 1000000) := by
    field_simp; ring
  have e2 : (n : Rat) / ((res : Rat) * 1000000) * (res : Rat) = (n : Rat) / 1000000 := by field_simp
  have e3 : (60 : Rat) / ((n : Rat) / 1000000) = 60000000 / (n : Rat) := by field_simp; ring
  have e4 : (60000000 : Rat) / (60000000 / (n : Rat)) = (n : Rat) := by field_simp
  have hqs : qpmOfScale R res ((n : Rat) / ((res : Rat) * 1000000)) = 60000000 / (n : Rat) := by
    unfold qpmOfScale
    rw [e2, h4, e3, h1]
  refine ⟨?_, ?_, ?_, hqs⟩
  · have := scaleOfQpm_eq_ok (R := R) (res := res) (q := 60000000 / (n : Rat)).mpr
      ⟨by rw [h2]; positivity, rfl⟩
    rwa [h2, e1, h3] at this
  · rw [tempoMicros_eq, hqs, e4, h5, truncR_intCast]
  · unfold scaleOfMicros
    rw [h1, mul_comm, h2, e1, h3]

theorem tempoStep_ok_cases {R : Rat → Rat} {res : Int} {init : Option Tempo} {met : Option Rat} {acc acc' : TickMap}
    {t : Tempo} (h : tempoStep R res init met acc t = .ok acc') :
    acc' = acc ∨ ∃ c, scaleOfQpm R res t.qpm = .ok c ∧
      acc' = { acc with rest := acc.rest ++ [(timeToTick R acc (maxScaleTick acc) t.time, c)] } := by
  unfold tempoStep at h
  split_ifs at h
  · exact Or.inl (Except.ok.inj h).symm
  · exact Or.inl (Except.ok.inj h).symm
  · split at h
    · cases h
    · exact Or.inr ⟨_, ‹_›, (Except.ok.inj h).symm⟩

theorem tempoStep_isOk {R : Rat → Rat} {res : Int} (init : Option Tempo) (met : Option Rat) (acc : TickMap)
    {t : Tempo} {c : Rat} (hc : scaleOfQpm R res t.qpm = .ok c) : ∃ acc', tempoStep R res init met acc t = .ok acc' := by
  unfold tempoStep
  rw [hc]
  split_ifs <;> exact ⟨_, rfl⟩

/-- loop invariant: well-formed map, and every tempo still to come lies after the midpoint below the last
tempo tick -/
def LoopInv (acc : TickMap) (l : List Tempo) : Prop :=
  WF acc ∧ ∀ t ∈ l, maxScaleTick acc = 0 ∨ mid acc (maxScaleTick acc - 1) < t.time

theorem tempoStep_inv {res : Int} {init : Option Tempo} {met : Option Rat} {acc acc' : TickMap} {t : Tempo}
    {r : List Tempo} (hinv : LoopInv acc (t :: r)) (ht : ∀ t' ∈ r, t.time < t'.time)
    (h : tempoStep id res init met acc t = .ok acc') : LoopInv acc' r := by
  rcases tempoStep_ok_cases h with rfl | ⟨c, hc, rfl⟩
  · exact ⟨hinv.1, fun t' ht' => hinv.2 t' (List.mem_cons_of_mem _ ht')⟩
  have hw := hinv.1
  have hnear := timeToTick_nearTick acc hw (maxScaleTick acc) (le_refl _) t.time
  generalize timeToTick id acc (maxScaleTick acc) t.time = k at *
  have hKk : maxScaleTick acc ≤ k := by
    by_contra hlt
    rcases hinv.2 t (by simp) with e | hmid
    · have := hnear.1; omega
    · have := mid_mono acc hw (show k ≤ maxScaleTick acc - 1 by omega)
      linarith only [this, hmid, hnear.2.2]
  have hw' : WF { acc with rest := acc.rest ++ [(k, c)] } := by
    refine ⟨hw.c0, fun p hp => ?_, sortedFrom_append 0 acc.rest k c hw.sorted hKk⟩
    rcases List.mem_append.mp hp with hp | hp
    · exact hw.pos p hp
    · rw [List.mem_singleton.mp hp]
      exact scaleOfQpm_pos (fun _ h => h) hc
  refine ⟨hw', fun t' ht' => ?_⟩
  rw [show maxScaleTick { acc with rest := acc.rest ++ [(k, c)] } = k from maxTickOf_append 0 acc.rest k c hKk]
  by_cases hk0 : k = 0
  · exact Or.inl hk0
  · right
    have hm : mid { acc with rest := acc.rest ++ [(k, c)] } (k - 1) = mid acc (k - 1) := by
      unfold mid
      rw [tickToTime_append id acc k c (k - 1) (by omega), tickToTime_append id acc k c (k - 1 + 1) (by omega)]
    rw [hm]
    exact lt_of_le_of_lt (hnear.2.1.resolve_left hk0) (ht t' ht')

theorem tempoFold_wf (res : Int) (init : Option Tempo) (met : Option Rat) (l : List Tempo) (acc m : TickMap)
    (hl : l.Pairwise (fun a b => a.time < b.time)) (hinv : LoopInv acc l)
    (h : tempoFold id res init met acc l = .ok m) : WF m := by
  induction l generalizing acc with
  | nil => exact (Except.ok.inj h) ▸ hinv.1
  | cons t r ih =>
    obtain ⟨ht, hr⟩ := List.pairwise_cons.mp hl
    simp only [tempoFold] at h
    split at h
    · cases h
    · exact ih _ hr (tempoStep_inv hinv ht ‹_›) h

theorem writeTimeSigs_ok (met : Option Rat) (l : List TimeSig)
    (h : ∀ t ∈ l, 0 < t.num ∧ 0 < t.den ∧ 0 ≤ t.time) : ∃ r, writeTimeSigs met l = .ok r := by
  induction l with
  | nil => exact ⟨[], rfl⟩
  | cons t r ih =>
    obtain ⟨⟨h1, h2, h3⟩, hr⟩ := List.forall_mem_cons.mp h
    obtain ⟨r', hr'⟩ := ih hr
    unfold writeTimeSigs
    split
    · exact ⟨r', hr'⟩
    · rw [if_neg (by simp only [not_or, not_le, not_lt]; exact ⟨h1, h2, h3⟩), hr']
      exact ⟨_, rfl⟩

theorem writeKeySigs_ok (met : Option Rat) (l : List KeySig)
    (h : ∀ k ∈ l, 0 ≤ encodeKey k.key k.mode ∧ encodeKey k.key k.mode < 24 ∧ 0 ≤ k.time) :
    ∃ r, writeKeySigs met l = .ok r := by
  induction l with
  | nil => exact ⟨[], rfl⟩
  | cons k r ih =>
    obtain ⟨⟨h1, h2, h3⟩, hr⟩ := List.forall_mem_cons.mp h
    obtain ⟨r', hr'⟩ := ih hr
    unfold writeKeySigs
    split
    · exact ⟨r', hr'⟩
    · simp only
      rw [if_neg (by simp only [not_or, not_le, not_lt]; exact ⟨h1, h2, h3⟩), hr']
      exact ⟨_, rfl⟩

theorem tempoFold_ok (res : Int) (init : Option Tempo) (met : Option Rat) (l : List Tempo) (acc : TickMap)
    (hres : 0 < res) (h : ∀ t ∈ l, 0 < t.qpm) : ∃ m, tempoFold id res init met acc l = .ok m := by
  induction l generalizing acc with
  | nil => exact ⟨acc, rfl⟩
  | cons t r ih =>
    have hr := fun x hx => h x (List.mem_cons_of_mem _ hx)
    have hc := scaleOfQpm_eq_ok (R := id).mpr ⟨mul_pos (Int.cast_pos.mpr hres) (h t (by simp)), rfl⟩
    obtain ⟨acc', ha⟩ := tempoStep_isOk init met acc hc
    simp only [tempoFold]
    rw [ha]
    exact ih acc' hr

end NSV.C03

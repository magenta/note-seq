import Mathlib.Tactic.SplitIfs
import NoteSeqVerif.Model.C18
import NoteSeqVerif.Proofs.C12CRoll
/-! C18, `sequence_to_pianoroll`, read through the pure description of its loops in `Proofs/C12CRoll`: a loop is its
first exception, which never depends on the rolls, and a fold of a pure step (`C12.encNotes_eq`, `C12.encCCs_eq`); the
step runs one column program (`C12.colProg`) on each roll.  A cell of such a roll is then the fold, over the notes in
start order, of what the programs of its column do to that cell (`stepFn_cell`, for all five note rolls); on a roll that
gets one slice assignment per note the action of a note is "if the note covers the cell, its value" (`progOp_cell`). -/
namespace NSV.C18
open NSV.C12 (colUpd colProg uPaint uSeq uCell paintErr paintFn outOfRange stepErr stepFn ccErr ccFn)

def getCell {α} (m : List (List α)) (f p : Nat) : Option α := (m[f]?).bind (·[p]?)

theorem getCell_colUpd {α} (m : List (List α)) (col : Nat) (u : Nat → Nat → Option α) (f p : Nat) :
    getCell (colUpd m col u) f p =
      if p = col then (getCell m f p).map fun x => (u m.length f).getD x else getCell m f p := by
  unfold getCell colUpd
  rw [List.getElem?_mapIdx]
  cases m[f]? with
  | none => simp
  | some row =>
    cases u m.length f with
    | none => simp
    | some v =>
      by_cases hp : p = col
      · subst hp
        by_cases hl : p < row.length <;> simp [hl]
      · simp [hp, List.getElem?_set_ne (Ne.symm hp)]

theorem length_colProg {α} (us : List (Nat → Nat → Option α)) (m : List (List α)) (col : Nat) :
    (colProg m col us).length = m.length := by
  induction us generalizing m with
  | nil => rfl
  | cons u us ih => exact (ih _).trans (C12.length_colUpd ..)

theorem getCell_colProg {α} (us : List (Nat → Nat → Option α)) (m : List (List α)) (col f p : Nat) :
    getCell (colProg m col us) f p =
      if p = col then (getCell m f p).map fun x => us.foldl (fun x u => (u m.length f).getD x) x
      else getCell m f p := by
  induction us generalizing m with
  | nil => by_cases hp : p = col <;> simp [colProg, hp]
  | cons u us ih =>
    have := ih (colUpd m col u)
    rw [C12.length_colUpd, getCell_colUpd] at this
    simp only [colProg, List.foldl_cons] at this ⊢
    rw [this]
    by_cases hp : p = col <;> simp [hp, Function.comp_def]

/-- a roll written by one column program per element of `l`: a cell ends as the fold, over `l`, of what the programs
of its column do to it -/
theorem getCell_foldl_colProg {α β} (col : β → Nat) (prog : β → List (Nat → Nat → Option α)) (l : List β)
    (m : List (List α)) (f p : Nat) :
    getCell (l.foldl (fun m a => colProg m (col a) (prog a)) m) f p =
      (getCell m f p).map fun x => l.foldl (fun x a =>
        if p = col a then (prog a).foldl (fun x u => (u m.length f).getD x) x else x) x := by
  induction l generalizing m with
  | nil => simp
  | cons a l ih =>
    rw [List.foldl_cons, ih, length_colProg, getCell_colProg]
    by_cases hp : p = col a <;> simp [hp, Function.comp_def]

theorem length_foldl_colProg {α β} (col : β → Nat) (prog : β → List (Nat → Nat → Option α)) (l : List β)
    (m : List (List α)) : (l.foldl (fun m a => colProg m (col a) (prog a)) m).length = m.length := by
  induction l generalizing m with
  | nil => rfl
  | cons a l ih => rw [List.foldl_cons, ih, length_colProg]

theorem rowLen_colProg {α} (us : List (Nat → Nat → Option α)) (m : List (List α)) (col w : Nat)
    (h : ∀ row ∈ m, row.length = w) : ∀ row ∈ colProg m col us, row.length = w := by
  induction us generalizing m with
  | nil => exact h
  | cons u us ih =>
    refine ih _ fun row hrow => ?_
    obtain ⟨i, hi, rfl⟩ := List.mem_mapIdx.mp hrow
    split
    · rw [List.length_set]; exact h _ (List.getElem_mem hi)
    · exact h _ (List.getElem_mem hi)

theorem rowLen_foldl_colProg {α β} (col : β → Nat) (prog : β → List (Nat → Nat → Option α)) (l : List β)
    (m : List (List α)) (w : Nat) (h : ∀ row ∈ m, row.length = w) :
    ∀ row ∈ l.foldl (fun m a => colProg m (col a) (prog a)) m, row.length = w := by
  induction l generalizing m with
  | nil => exact h
  | cons a l ih => exact ih _ (rowLen_colProg _ _ _ w h)

theorem getCell_replicate {α} (n w : Nat) (v : α) (f p : Nat) (hf : f < n) (hp : p < w) :
    getCell (List.replicate n (List.replicate w v)) f p = some v := by
  unfold getCell
  simp [hf, hp]

theorem getCell_zipWith2 {α β γ} (g : α → β → γ) (A : List (List α)) (B : List (List β)) (f p : Nat) :
    getCell (List.zipWith (List.zipWith g) A B) f p =
      match getCell A f p, getCell B f p with
      | some a, some b => some (g a b)
      | _, _ => none := by
  unfold getCell
  rw [List.getElem?_zipWith]
  cases hA : A[f]? with
  | none => simp
  | some ra =>
    cases hB : B[f]? with
    | none =>
      simp only [Option.bind_some, Option.bind_none]
      cases ra[p]? <;> rfl
    | some rb =>
      simp only [Option.bind_some]
      rw [List.getElem?_zipWith]
      cases ra[p]? <;> cases rb[p]? <;> rfl

theorem normIdx_natCast (n i : Nat) : normIdx n (i : Int) = min n i := by
  unfold normIdx
  split_ifs <;> omega

theorem inSlice_iff (n : Nat) (a b : Int) (f : Nat) (ha : 0 ≤ a) (hb : 0 ≤ b) (hf : f < n) :
    inSlice n a b f = true ↔ a ≤ (f : Int) ∧ (f : Int) < b := by
  obtain ⟨a, rfl⟩ := Int.eq_ofNat_of_zero_le ha
  obtain ⟨b, rfl⟩ := Int.eq_ofNat_of_zero_le hb
  unfold inSlice
  rw [normIdx_natCast, normIdx_natCast]
  simp only [Bool.and_eq_true, decide_eq_true_eq]
  omega

theorem inSlice_def (n : Nat) (a b : Int) (i : Nat) : (normIdx n a ≤ i ∧ i < normIdx n b) ↔ inSlice n a b i = true := by
  simp [inSlice]

/-- the paint operation `m[a:b, col] = v` as `(a, b, col, v)` -/
abbrev Op := Int × Int × Nat × Rat
def covers (n f p : Nat) (op : Op) : Bool := inSlice n op.1 op.2.1 f && decide (p = op.2.2.1)

theorem foldl_congr_mem {α β} {f g : β → α → β} (l : List α) (x : β) (h : ∀ x, ∀ a ∈ l, f x a = g x a) :
    l.foldl f x = l.foldl g x := by
  induction l generalizing x with
  | nil => rfl
  | cons a l ih =>
    rw [List.foldl_cons, List.foldl_cons, h x a List.mem_cons_self]
    exact ih _ fun y b hb => h y b (List.mem_cons_of_mem _ hb)

theorem foldl_sel_const {α} (l : List α) (c : α → Bool) (val : α → Rat) (v x : Rat)
    (hv : ∀ a ∈ l, c a = true → val a = v) :
    l.foldl (fun x a => if c a then val a else x) x = if ∃ a ∈ l, c a = true then v else x := by
  induction l generalizing x with
  | nil => simp
  | cons a rest ih =>
    rw [List.foldl_cons, ih _ fun o ho => hv o (List.mem_cons_of_mem _ ho)]
    by_cases h2 : c a = true
    · by_cases h1 : ∃ o ∈ rest, c o = true <;> simp [h1, h2, hv a List.mem_cons_self h2]
    · simp [h2]

/-- last writer wins -/
theorem foldl_sel_last {α} (l : List α) (c : α → Bool) (val : α → Rat) (x : Rat)
    (h : ∃ a ∈ l, c a = true) :
    ∃ l1 a l2, l = l1 ++ a :: l2 ∧ c a = true ∧ (∀ o ∈ l2, c o = false) ∧
      l.foldl (fun x a => if c a then val a else x) x = val a := by
  induction l generalizing x with
  | nil => simp at h
  | cons op rest ih =>
    by_cases h1 : ∃ o ∈ rest, c o = true
    · obtain ⟨l1, o, l2, rfl, hc, hl, hv⟩ := ih (if c op then val op else x) h1
      exact ⟨op :: l1, o, l2, rfl, hc, hl, hv⟩
    · have hop : c op = true := by simpa [h1] using h
      have hall : ∀ o ∈ rest, c o = false := by simpa using h1
      refine ⟨[], op, rest, rfl, hop, hall, ?_⟩
      rw [List.foldl_cons, foldl_sel_const rest c val 0 _ (fun a ha hc => by simp [hall a ha] at hc),
        if_neg h1, if_pos hop]

theorem foldl_sel_cases {α} (l : List α) (c : α → Bool) (val : α → Rat) (x : Rat) :
    ((∀ a ∈ l, c a = false) ∧ l.foldl (fun x a => if c a then val a else x) x = x) ∨
    ∃ l1 a l2, l = l1 ++ a :: l2 ∧ c a = true ∧ (∀ o ∈ l2, c o = false) ∧
      l.foldl (fun x a => if c a then val a else x) x = val a := by
  by_cases hex : ∃ a ∈ l, c a = true
  · exact Or.inr (foldl_sel_last l c val x hex)
  · refine Or.inl ⟨fun a ha => ?_, ?_⟩
    · cases hc : c a with
      | false => rfl
      | true => exact absurd ⟨a, ha, hc⟩ hex
    · rw [foldl_sel_const l c val x x fun a ha hc => absurd ⟨a, ha, hc⟩ hex, ite_self]

theorem mem_sortByStart (nt : PNote) (notes : List PNote) : nt ∈ sortByStart notes ↔ nt ∈ notes :=
  (C12.sortBy_perm _ notes).mem_iff

def InRange (c : Cfg) (nt : PNote) : Prop := c.minPitch ≤ nt.pitch ∧ nt.pitch ≤ c.maxPitch
def colOf (c : Cfg) (nt : PNote) : Nat := (nt.pitch - c.minPitch).toNat

variable {R R32 : Rat → Rat} {eps : Rat} {c : Cfg} {total : Rat} {n : Nat}

theorem noteFrames_defined (nt : PNote)
    (hm : c.mode = 0 ∨ c.mode = 1) : ∃ nf, noteFrames R eps c total n nt = .ok nf := by
  unfold noteFrames
  rcases hm with hm | hm
  · simp only [if_pos hm]; exact ⟨_, rfl⟩
  · simp only [if_neg (show ¬ c.mode = 0 by omega), if_pos hm]; exact ⟨_, rfl⟩

theorem noteFrames_bad_mode (nt : PNote)
    (h0 : c.mode ≠ 0) (h1 : c.mode ≠ 1) : noteFrames R eps c total n nt = .error .valueError := by
  unfold noteFrames
  simp [h0, h1]

/-- `1 ≤ nf.ef` without `onset_overlap`: the note span then ends after the onset span, which is clipped at frame 0 -/
theorem noteFrames_ok {nt : PNote} {nf : NF} (h : noteFrames R eps c total n nt = .ok nf) :
    (c.mode = 0 ∨ c.mode = 1) ∧ 0 ≤ nf.os ∧ 0 ≤ nf.oe ∧ (c.overlap = false → 1 ≤ nf.ef) ∧
      (c.overlap = true → nf.sf = (framesFromTimes R eps c.fps c.occ nt.start nt.end_).1 ∧
        nf.ef = (framesFromTimes R eps c.fps c.occ nt.start nt.end_).2) := by
  unfold noteFrames at h
  simp only at h
  split at h
  · cases h
  · rename_i os0 oe0 hons
    cases h
    refine ⟨?_, Int.le_max_left .., Int.le_max_left .., fun ho => ?_, fun ho => ?_⟩
    · split_ifs at hons with h0 h1
      · exact .inl h0
      · exact .inr h1
    · simp only [ho, Bool.false_eq_true, if_false]; omega
    · simp only [ho, if_true, and_self]

theorem noteFrames_overlap (R : Rat → Rat) (eps : Rat) (c : Cfg) (total : Rat) (n : Nat) (nt : PNote)
    (hm : c.mode = 0 ∨ c.mode = 1) (ho : c.overlap = true) :
    ∃ nf, noteFrames R eps c total n nt = .ok nf ∧
      nf.sf = (framesFromTimes R eps c.fps c.occ nt.start nt.end_).1 ∧
      nf.ef = (framesFromTimes R eps c.fps c.occ nt.start nt.end_).2 :=
  (noteFrames_defined nt hm).imp fun _ h => ⟨h, (noteFrames_ok h).2.2.2.2 ho⟩

/-- the paint operation a note contributes to one roll (`sel` picks span and value) -/
def noteOp (R : Rat → Rat) (eps : Rat) (c : Cfg) (total : Rat) (n : Nat) (sel : NF → PNote → Op)
    (nt : PNote) : Option Op :=
  if nt.pitch < c.minPitch ∨ nt.pitch > c.maxPitch then none
  else match noteFrames R eps c total n nt with
    | .ok nf => some (sel nf nt)
    | .error _ => none

theorem noteOp_some_iff (R : Rat → Rat) (eps : Rat) (c : Cfg) (total : Rat) (n : Nat) (sel : NF → PNote → Op)
    (nt : PNote) (op : Op) :
    noteOp R eps c total n sel nt = some op ↔
      InRange c nt ∧ ∃ nf, noteFrames R eps c total n nt = .ok nf ∧ op = sel nf nt := by
  unfold noteOp InRange
  split_ifs with hr
  · simp only [false_iff]
    rintro ⟨h, _⟩
    omega
  · have hin : c.minPitch ≤ nt.pitch ∧ nt.pitch ≤ c.maxPitch := by omega
    cases noteFrames R eps c total n nt <;> simp [hin, eq_comm]

def selActive (c : Cfg) (nf : NF) (nt : PNote) : Op := (nf.sf, nf.ef, colOf c nt, 1)
def selOnset (c : Cfg) (nf : NF) (nt : PNote) : Op := (nf.os, nf.oe, colOf c nt, 1)
def selOffset (c : Cfg) (nf : NF) (nt : PNote) : Op := (nf.fs, nf.fe, colOf c nt, 1)
def selVel (R R32 : Rat → Rat) (c : Cfg) (nf : NF) (nt : PNote) : Op :=
  (nf.sf, nf.ef, colOf c nt, R32 (R ((nt.velocity : Rat) / (c.maxVelocity : Rat))))

/-- note `nt` paints cell `(f, p)` of the roll selected by `sel` -/
def NoteCovers (R : Rat → Rat) (eps : Rat) (c : Cfg) (total : Rat) (n : Nat) (sel : NF → PNote → Op)
    (f p : Nat) (nt : PNote) : Bool :=
  match noteOp R eps c total n sel nt with
  | some op => covers n f p op
  | none => false

def noteVal (R : Rat → Rat) (eps : Rat) (c : Cfg) (total : Rat) (n : Nat) (sel : NF → PNote → Op)
    (nt : PNote) : Rat :=
  match noteOp R eps c total n sel nt with
  | some op => op.2.2.2
  | none => 0

/-- a roll whose notes are painted over the frames `[a nf : b nf]` of their pitch column -/
theorem NoteCovers_span_iff {f p : Nat} {nt : PNote} (a b : NF → Int) (v : NF → PNote → Rat) :
    NoteCovers R eps c total n (fun nf nt => (a nf, b nf, colOf c nt, v nf nt)) f p nt = true ↔
      InRange c nt ∧ p = colOf c nt ∧
        ∃ nf, noteFrames R eps c total n nt = .ok nf ∧ inSlice n (a nf) (b nf) f = true := by
  unfold NoteCovers noteOp InRange
  split_ifs with hr
  · simp only [false_iff]
    rintro ⟨h, _⟩
    omega
  · have hin : c.minPitch ≤ nt.pitch ∧ nt.pitch ≤ c.maxPitch := by omega
    cases noteFrames R eps c total n nt <;> simp [covers, hin, and_comm]

theorem NoteCovers_active_iff (R : Rat → Rat) (eps : Rat) (c : Cfg) (total : Rat) (n f p : Nat) (nt : PNote) :
    NoteCovers R eps c total n (selActive c) f p nt = true ↔
      InRange c nt ∧ p = colOf c nt ∧
        ∃ nf, noteFrames R eps c total n nt = .ok nf ∧ inSlice n nf.sf nf.ef f = true :=
  NoteCovers_span_iff (·.sf) (·.ef) fun _ _ => 1

theorem NoteCovers_onset_iff (R : Rat → Rat) (eps : Rat) (c : Cfg) (total : Rat) (n f p : Nat) (nt : PNote) :
    NoteCovers R eps c total n (selOnset c) f p nt = true ↔
      InRange c nt ∧ p = colOf c nt ∧
        ∃ nf, noteFrames R eps c total n nt = .ok nf ∧ inSlice n nf.os nf.oe f = true :=
  NoteCovers_span_iff (·.os) (·.oe) fun _ _ => 1

theorem NoteCovers_offset_iff (R : Rat → Rat) (eps : Rat) (c : Cfg) (total : Rat) (n f p : Nat) (nt : PNote) :
    NoteCovers R eps c total n (selOffset c) f p nt = true ↔
      InRange c nt ∧ p = colOf c nt ∧
        ∃ nf, noteFrames R eps c total n nt = .ok nf ∧ inSlice n nf.fs nf.fe f = true :=
  NoteCovers_span_iff (·.fs) (·.fe) fun _ _ => 1

theorem noteVal_of_covers {sel : NF → PNote → Op}
    {f p : Nat} {nt : PNote} (h : NoteCovers R eps c total n sel f p nt = true) :
    ∃ nf, noteVal R eps c total n sel nt = (sel nf nt).2.2.2 := by
  unfold NoteCovers at h
  unfold noteVal
  cases hop : noteOp R eps c total n sel nt with
  | none => rw [hop] at h; cases h
  | some op =>
    obtain ⟨_, nf, _, rfl⟩ := (noteOp_some_iff _ _ _ _ _ _ _ _).mp hop
    exact ⟨nf, rfl⟩

theorem NoteCovers_vel_eq (R R32 : Rat → Rat) (eps : Rat) (c : Cfg) (total : Rat) (n f p : Nat) (nt : PNote) :
    NoteCovers R eps c total n (selVel R R32 c) f p nt = NoteCovers R eps c total n (selActive c) f p nt :=
  Bool.eq_iff_iff.mpr <|
    (NoteCovers_span_iff (·.sf) (·.ef)
      fun _ nt => R32 (R ((nt.velocity : Rat) / (c.maxVelocity : Rat)))).trans
    (NoteCovers_active_iff R eps c total n f p nt).symm

theorem noteVal_vel (R R32 : Rat → Rat) (eps : Rat) (c : Cfg) (total : Rat) (n f p : Nat) (nt : PNote)
    (h : NoteCovers R eps c total n (selVel R R32 c) f p nt = true) :
    noteVal R eps c total n (selVel R R32 c) nt = R32 (R ((nt.velocity : Rat) / (c.maxVelocity : Rat))) :=
  (noteVal_of_covers h).elim fun _ h => h

/-- the column program a note runs on one roll (`sel` picks it from the note's frames): none for a note outside the
pitch range -/
def noteProg (R : Rat → Rat) (eps : Rat) (c : Cfg) (total : Rat) (n : Nat)
    (sel : NF → PNote → List (Nat → Nat → Option Rat)) (nt : PNote) : List (Nat → Nat → Option Rat) :=
  if outOfRange c nt then [] else
    match noteFrames R eps c total n nt with
    | .ok f => sel f nt
    | .error _ => []

/-- a roll (`proj`) on which `paintFn` runs the column program `sel` -/
def RunsProg (R R32 : Rat → Rat) (c : Cfg) (n : Nat) (proj : Rolls → List (List Rat))
    (sel : NF → PNote → List (Nat → Nat → Option Rat)) : Prop :=
  ∀ st nt f, proj (paintFn R R32 c n nt (colOf c nt) f st) = colProg (proj st) (colOf c nt) (sel f nt)

def progActive (c : Cfg) (n : Nat) (f : NF) (_ : PNote) : List (Nat → Nat → Option Rat) :=
  [uPaint f.sf f.ef 1, uCell (c.blank ∧ 0 < f.sf ∧ f.sf ≤ (n : Int)) (f.sf - 1).toNat 0]
def progWeights (R R32 : Rat → Rat) (c : Cfg) (n : Nat) (f : NF) (_ : PNote) : List (Nat → Nat → Option Rat) :=
  [uPaint f.os f.oe (R32 c.upweight),
   uSeq f.oe (min f.ef (n : Int)) ((min f.ef (n : Int) - f.oe).toNat == 1)
     (fun j => R32 (R (c.upweight / ((j + 1 : Nat) : Rat)))),
   uCell (c.blank ∧ 0 < f.sf ∧ f.sf ≤ (n : Int)) (f.sf - 1).toNat 1]
/-- a roll that gets one slice assignment per note -/
def progOp (sel : NF → PNote → Op) (f : NF) (nt : PNote) : List (Nat → Nat → Option Rat) :=
  [uPaint (sel f nt).1 (sel f nt).2.1 (sel f nt).2.2.2]

theorem runs_active : RunsProg R R32 c n (·.active) (progActive c n) := fun _ _ _ => rfl
theorem runs_weights : RunsProg R R32 c n (·.weights) (progWeights R R32 c n) := fun _ _ _ => rfl
theorem runs_onsets : RunsProg R R32 c n (·.onsets) (progOp (selOnset c)) := fun _ _ _ => rfl
theorem runs_offsets : RunsProg R R32 c n (·.offsets) (progOp (selOffset c)) := fun _ _ _ => rfl
theorem runs_vels : RunsProg R R32 c n (·.vels) (progOp (selVel R R32 c)) := fun _ _ _ => rfl

theorem foldl_stepFn_proj {proj : Rolls → List (List Rat)} {sel : NF → PNote → List (Nat → Nat → Option Rat)}
    (h : RunsProg R R32 c n proj sel) (l : List PNote) (st : Rolls) :
    proj (l.foldl (stepFn R R32 eps c total n) st) =
      l.foldl (fun m nt => colProg m (colOf c nt) (noteProg R eps c total n sel nt)) (proj st) := by
  refine (List.foldl_hom proj (l := l) (init := st) fun st nt => ?_).symm
  unfold stepFn noteProg
  split
  · rfl
  · cases noteFrames R eps c total n nt with
    | error e => rfl
    | ok f => exact (h st nt f).symm

/-- **the** cell theorem of the note loop: all five rolls are instances -/
theorem stepFn_cell {proj : Rolls → List (List Rat)} {sel : NF → PNote → List (Nat → Nat → Option Rat)}
    (hrun : RunsProg R R32 c n proj sel) (l : List PNote) {w : Nat} {x0 : Rat}
    (h0 : proj (initRolls n w) = List.replicate n (List.replicate w x0)) {f p : Nat} (hf : f < n) (hp : p < w) :
    getCell (proj (l.foldl (stepFn R R32 eps c total n) (initRolls n w))) f p =
      some (l.foldl (fun x nt => if p = colOf c nt then
        (noteProg R eps c total n sel nt).foldl (fun x u => (u n f).getD x) x else x) x0) := by
  rw [foldl_stepFn_proj hrun, getCell_foldl_colProg, h0, getCell_replicate n w x0 f p hf hp, List.length_replicate]
  rfl

theorem stepFn_length {proj : Rolls → List (List Rat)} {sel : NF → PNote → List (Nat → Nat → Option Rat)}
    (hrun : RunsProg R R32 c n proj sel) (l : List PNote) (st : Rolls) :
    (proj (l.foldl (stepFn R R32 eps c total n) st)).length = (proj st).length := by
  rw [foldl_stepFn_proj hrun, length_foldl_colProg]

theorem paintErr_none_iff {nt : PNote} {nf : NF} :
    paintErr c n nt nf = none ↔ nt.velocity ≤ c.maxVelocity ∧ c.maxVelocity ≠ 0 ∧
      ((min nf.ef (n : Int) - nf.oe).toNat = sliceLen n nf.oe (min nf.ef (n : Int)) ∨
        (min nf.ef (n : Int) - nf.oe).toNat = 1) := by
  unfold paintErr
  split_ifs with h1 h2 h3
  · exact ⟨nofun, fun h => absurd h.1 (by omega)⟩
  · exact ⟨nofun, fun h => absurd h2 h.2.1⟩
  · exact ⟨nofun, fun h => by omega⟩
  · exact ⟨fun _ => ⟨by omega, h2, by omega⟩, fun _ => rfl⟩

theorem paintNote_ok_iff {st st' : Rolls} {nt : PNote} {col : Nat} {nf : NF} :
    paintNote R R32 c n st nt col nf = .ok st' ↔
      paintErr c n nt nf = none ∧ st' = paintFn R R32 c n nt col nf st := by
  rw [C12.paintNote_eq]
  cases paintErr c n nt nf <;> simp [eq_comm]

theorem stepErr_none_iff {nt : PNote} :
    stepErr R eps c total n nt = none ↔ (InRange c nt → ∃ nf, noteFrames R eps c total n nt = .ok nf ∧
      nt.velocity ≤ c.maxVelocity ∧ c.maxVelocity ≠ 0 ∧
      ((min nf.ef (n : Int) - nf.oe).toNat = sliceLen n nf.oe (min nf.ef (n : Int)) ∨
        (min nf.ef (n : Int) - nf.oe).toNat = 1)) := by
  unfold stepErr InRange
  by_cases hr : outOfRange c nt
  · rw [if_pos hr]
    exact ⟨fun _ h => by unfold outOfRange at hr; omega, fun _ => rfl⟩
  · have hin : c.minPitch ≤ nt.pitch ∧ nt.pitch ≤ c.maxPitch := by unfold outOfRange at hr; omega
    rw [if_neg hr]
    cases noteFrames R eps c total n nt with
    | error e => exact ⟨nofun, fun h => by obtain ⟨_, h, _⟩ := h hin; cases h⟩
    | ok nf =>
      exact paintErr_none_iff.trans ⟨fun h _ => ⟨nf, rfl, h⟩, fun h => by obtain ⟨_, h1, h⟩ := h hin; cases h1; exact h⟩

/-- `encode` returns exactly when the roll has a size, no note and no control change raises; the rolls are then the
pure folds -/
theorem encode_ok_iff {notes : List PNote} {ccs : List PCC} {pr : Pianoroll} :
    encode R R32 eps c total notes ccs = .ok pr ↔
      0 ≤ numRows R c.fps total ∧ 0 ≤ c.maxPitch - c.minPitch + 1 ∧
      (∀ nt ∈ notes, stepErr R eps c total (numRows R c.fps total).toNat nt = none) ∧
      (∀ cc ∈ ccs, ccErr R eps c (numRows R c.fps total).toNat cc = none) ∧
      ∃ st cc, st = (sortByStart notes).foldl (stepFn R R32 eps c total (numRows R c.fps total).toNat)
          (initRolls (numRows R c.fps total).toNat (c.maxPitch - c.minPitch + 1).toNat) ∧
        cc = (sortCCs ccs).foldl (ccFn R eps c (numRows R c.fps total).toNat)
          (List.replicate (numRows R c.fps total).toNat (List.replicate 128 0)) ∧
        pr = { active := st.active, weights := st.weights, onsets := st.onsets,
               onsetVelocities := List.zipWith (List.zipWith fun v o => R32 (v * o)) st.vels st.onsets,
               activeVelocities := st.vels, offsets := st.offsets, controlChanges := cc } := by
  unfold encode
  simp only [C12.encNotes_eq, C12.encCCs_eq]
  have hN : (∀ nt ∈ notes, stepErr R eps c total (numRows R c.fps total).toNat nt = none) ↔
      (sortByStart notes).findSome? (stepErr R eps c total (numRows R c.fps total).toNat) = none := by
    simp only [List.findSome?_eq_none_iff, mem_sortByStart]
  have hC : (∀ cc ∈ ccs, ccErr R eps c (numRows R c.fps total).toNat cc = none) ↔
      (sortCCs ccs).findSome? (ccErr R eps c (numRows R c.fps total).toNat) = none := by
    simp only [List.findSome?_eq_none_iff, sortCCs, (C12.sortBy_perm _ ccs).mem_iff]
  rw [hN, hC]
  split
  · rename_i h; constructor
    · nofun
    · rintro ⟨h1, h2, _⟩; omega
  · rename_i h
    cases (sortByStart notes).findSome? (stepErr R eps c total (numRows R c.fps total).toNat) with
    | some e => simp
    | none =>
      cases (sortCCs ccs).findSome? (ccErr R eps c (numRows R c.fps total).toNat) with
      | some e => simp
      | none =>
        simp only [Except.ok.injEq, true_and]
        exact ⟨fun h' => ⟨by omega, by omega, _, _, rfl, rfl, h'.symm⟩,
          fun ⟨_, _, _, _, h1, h2, h3⟩ => by rw [h3, h1, h2]⟩

theorem encode_active_rect {notes : List PNote}
    {ccs : List PCC} {pr : Pianoroll} (h : encode R R32 eps c total notes ccs = .ok pr) :
    pr.active.length = (numRows R c.fps total).toNat ∧
    ∀ row ∈ pr.active, row.length = (c.maxPitch - c.minPitch + 1).toNat := by
  obtain ⟨_, _, _, _, _, _, rfl, rfl, rfl⟩ := encode_ok_iff.mp h
  dsimp only
  rw [foldl_stepFn_proj (proj := (·.active)) runs_active]
  refine ⟨(length_foldl_colProg ..).trans (by simp [initRolls]), rowLen_foldl_colProg _ _ _ _ _ fun row hrow => ?_⟩
  simp only [initRolls, List.mem_replicate] at hrow
  rw [hrow.2]; simp

theorem noteProg_progOp (sel : NF → PNote → Op) (nt : PNote) :
    noteProg R eps c total n (progOp sel) nt =
      match noteOp R eps c total n sel nt with
      | some op => [uPaint op.1 op.2.1 op.2.2.2]
      | none => [] := by
  unfold noteProg noteOp
  by_cases hr : outOfRange c nt
  · have hr' : nt.pitch < c.minPitch ∨ nt.pitch > c.maxPitch := hr
    rw [if_pos hr, if_pos hr']
  · have hr' : ¬ (nt.pitch < c.minPitch ∨ nt.pitch > c.maxPitch) := hr
    rw [if_neg hr, if_neg hr']
    cases noteFrames R eps c total n nt <;> rfl

/-- one slice assignment per note: the action is "if the note covers the cell, its value" -/
theorem progOp_cell (sel : NF → PNote → Op) (hsel : ∀ nf nt, (sel nf nt).2.2.1 = colOf c nt) (nt : PNote)
    (f p : Nat) (x : Rat) :
    (if p = colOf c nt then (noteProg R eps c total n (progOp sel) nt).foldl (fun x u => (u n f).getD x) x else x) =
      if NoteCovers R eps c total n sel f p nt then noteVal R eps c total n sel nt else x := by
  rw [noteProg_progOp]
  unfold NoteCovers noteVal
  cases hop : noteOp R eps c total n sel nt with
  | none => simp
  | some op =>
    obtain ⟨_, nf, _, rfl⟩ := (noteOp_some_iff _ _ _ _ _ _ _ _).mp hop
    simp only [List.foldl_cons, List.foldl_nil, uPaint, covers, inSlice_def, hsel, Bool.and_eq_true,
      decide_eq_true_eq]
    by_cases hp : p = colOf c nt <;> by_cases hs : inSlice n (sel nf nt).1 (sel nf nt).2.1 f = true <;> simp [hp, hs]

theorem runs_active_noblank (hb : c.blank = false) : RunsProg R R32 c n (·.active) (progOp (selActive c)) :=
  fun st nt f => C12.colUpd_false _ _ _ _ _ (by simp [hb])

/-- a roll that starts at 0 and into which every note paints 1 holds 1 exactly in the cells some note paints -/
theorem stepFn_unit_cell {w : Nat} {proj : Rolls → List (List Rat)} {sel : NF → PNote → Op}
    (hrun : RunsProg R R32 c n proj (progOp sel)) (hcol : ∀ nf nt, (sel nf nt).2.2.1 = colOf c nt)
    (hsel : ∀ nf nt, (sel nf nt).2.2.2 = 1) (notes : List PNote)
    (h0 : proj (initRolls n w) = List.replicate n (List.replicate w 0)) {f p : Nat} (hf : f < n) (hp : p < w) :
    getCell (proj ((sortByStart notes).foldl (stepFn R R32 eps c total n) (initRolls n w))) f p =
      some (if ∃ nt ∈ notes, NoteCovers R eps c total n sel f p nt = true then 1 else 0) := by
  rw [stepFn_cell hrun _ h0 hf hp]
  simp only [progOp_cell sel hcol]
  rw [foldl_sel_const _ _ _ 1 0 fun a _ hc => by obtain ⟨nf, hv⟩ := noteVal_of_covers hc; rw [hv, hsel]]
  simp only [mem_sortByStart]

/-- **active roll**: with `add_blank_frame_before_onset = False` a cell of the active roll is 1
exactly when some note of the sequence paints it, else 0 (any rounding, any other parameter) -/
theorem enc_active_cell {R R32 : Rat → Rat} {eps : Rat} {c : Cfg} {total : Rat} {notes : List PNote}
    {ccs : List PCC} {pr : Pianoroll} (hb : c.blank = false)
    (h : encode R R32 eps c total notes ccs = .ok pr) (f p : Nat)
    (hf : f < (numRows R c.fps total).toNat) (hp : p < (c.maxPitch - c.minPitch + 1).toNat) :
    getCell pr.active f p = some
      (if ∃ nt ∈ notes, NoteCovers R eps c total (numRows R c.fps total).toNat (selActive c) f p nt = true
       then 1 else 0) := by
  obtain ⟨_, _, _, _, _, _, rfl, rfl, rfl⟩ := encode_ok_iff.mp h
  exact stepFn_unit_cell (proj := (·.active)) (runs_active_noblank hb) (fun _ _ => rfl) (fun _ _ => rfl) notes rfl hf hp

end NSV.C18

import NoteSeqVerif.Model.C01
import NoteSeqVerif.Proofs.Basics
/-! First the notions the C01 statements are written in (what counts as a negative step, a change of
time signature or tempo, the values kept), then what each loop and each validation of
`Model/C01.lean` returns, as "rejected for this reason, or accepted with this value"
(core Lean only). -/
namespace NSV.C01

/-- `if note.quantized_end_step == note.quantized_start_step: note.quantized_end_step += 1` -/
def fixEnd (qs qe0 : Int) : Int := if qe0 = qs then qe0 + 1 else qe0

def qNote (q : Rat → Int) (n : Note) : Note :=
  { n with qs := q n.start, qe := fixEnd (q n.start) (q n.end_) }

def noteNeg (q : Rat → Int) (n : Note) : Prop := q n.start < 0 ∨ fixEnd (q n.start) (q n.end_) < 0

instance (q : Rat → Int) (n : Note) : Decidable (noteNeg q n) := by unfold noteNeg; infer_instance

/-- the inputs `_quantize_notes` rejects: some event would get a negative step -/
def anyNeg (q : Rat → Int) (s : NoteSeq) : Prop :=
  (∃ n ∈ s.notes, noteNeg q n) ∨ (∃ c ∈ s.ccs, q c.time < 0) ∨ (∃ c ∈ s.texts, q c.time < 0)

instance (q : Rat → Int) (s : NoteSeq) : Decidable (anyNeg q s) := by unfold anyNeg; infer_instance

/-- what `_quantize_notes` returns otherwise -/
def quantized (q : Rat → Int) (s : NoteSeq) : NoteSeq :=
  { s with notes := s.notes.map (qNote q),
           totalQSteps := (s.notes.map (fun n => (qNote q n).qe)).foldl max s.totalQSteps,
           ccs := s.ccs.map (fun c => { c with qstep := q c.time }),
           texts := s.texts.map (fun c => { c with qstep := q c.time }) }

def sameSig (a b : TimeSig) : Prop := a.num = b.num ∧ a.den = b.den
instance (a b : TimeSig) : Decidable (sameSig a b) := by unfold sameSig; infer_instance

def tsChange (l : List TimeSig) : Prop := ∃ a ∈ l, ∃ b ∈ l, ¬ sameSig a b
/-- note-seq's "implicit change": the earliest signature is not at time 0 and differs from the 4/4 assumed
before it (likewise `tpImplicit` with the default tempo) -/
def tsImplicit (l : List TimeSig) : Prop :=
  ∃ e ∈ l, (∀ x ∈ l, e.time ≤ x.time) ∧ e.time ≠ 0 ∧ ¬ (e.num = 4 ∧ e.den = 4)

def tpChange (l : List Tempo) : Prop := ∃ a ∈ l, ∃ b ∈ l, a.qpm ≠ b.qpm
def tpImplicit (dq : Rat) (l : List Tempo) : Prop :=
  ∃ e ∈ l, (∀ x ∈ l, e.time ≤ x.time) ∧ e.time ≠ 0 ∧ e.qpm ≠ dq

instance (l : List TimeSig) : Decidable (tsChange l) := by unfold tsChange; infer_instance
instance (l : List TimeSig) : Decidable (tsImplicit l) := by unfold tsImplicit; infer_instance
instance (l : List Tempo) : Decidable (tpChange l) := by unfold tpChange; infer_instance
instance (dq : Rat) (l : List Tempo) : Decidable (tpImplicit dq l) := by unfold tpImplicit; infer_instance

/-- the time signature that survives validation -/
def keptTimeSig (s : NoteSeq) : TimeSig :=
  match s.timeSigs with
  | [] => ⟨0, 4, 4⟩
  | first :: _ => { first with time := 0 }

def keptTempo (dq : Rat) (s : NoteSeq) : Tempo :=
  match s.tempos with
  | [] => ⟨0, dq⟩
  | first :: _ => { first with time := 0 }

/-- the code's `if total < qe: total = qe` -/
theorem ite_lt_eq_max (a b : Int) : (if a < b then b else a) = max a b := by
  rw [Int.max_def]; split <;> split <;> omega

theorem qNotes_spec (q : Rat → Int) (ns : List Note) (tot : Int) :
    qNotes q ns tot = if ∃ n ∈ ns, noteNeg q n then .error .negativeTimeError
      else .ok (ns.map (qNote q), (ns.map fun n => (qNote q n).qe).foldl max tot) := by
  induction ns generalizing tot with
  | nil => simp [qNotes]
  | cons n ns ih =>
    have hn : (q n.start < 0 ∨ (if q n.end_ = q n.start then q n.end_ + 1 else q n.end_) < 0) =
        noteNeg q n := rfl
    simp only [qNotes, ih, ite_lt_eq_max, hn, List.map_cons, List.foldl_cons]
    by_cases hc : noteNeg q n
    · simp [hc]
    · by_cases he : ∃ n ∈ ns, noteNeg q n <;> simp [hc, he, qNote, fixEnd]

theorem qCCs_spec (q : Rat → Int) (cs : List CC) :
    qCCs q cs = if ∃ c ∈ cs, q c.time < 0 then .error .negativeTimeError
      else .ok (cs.map fun c => { c with qstep := q c.time }) := by
  induction cs with
  | nil => simp [qCCs]
  | cons c cs ih =>
    simp only [qCCs, ih, List.map_cons]
    by_cases hc : q c.time < 0
    · simp [hc]
    · by_cases he : ∃ c ∈ cs, q c.time < 0 <;> simp [hc, he]

theorem qTexts_spec (q : Rat → Int) (cs : List TextAnn) :
    qTexts q cs = if ∃ c ∈ cs, q c.time < 0 then .error .negativeTimeError
      else .ok (cs.map fun c => { c with qstep := q c.time }) := by
  induction cs with
  | nil => simp [qTexts]
  | cons c cs ih =>
    simp only [qTexts, ih, List.map_cons]
    by_cases hc : q c.time < 0
    · simp [hc]
    · by_cases he : ∃ c ∈ cs, q c.time < 0 <;> simp [hc, he]

theorem quantizeNotes_spec (q : Rat → Int) (s : NoteSeq) :
    quantizeNotes q s = if anyNeg q s then .error .negativeTimeError else .ok (quantized q s) := by
  unfold quantizeNotes anyNeg quantized
  rw [qNotes_spec, qCCs_spec, qTexts_spec]
  by_cases h1 : ∃ n ∈ s.notes, noteNeg q n
  · simp [h1]
  · by_cases h2 : ∃ c ∈ s.ccs, q c.time < 0
    · simp [h1, h2]
    · by_cases h3 : ∃ c ∈ s.texts, q c.time < 0 <;> simp [h1, h2, h3]

theorem quantizeNotes_ok {q : Rat → Int} {s r : NoteSeq} (h : quantizeNotes q s = .ok r) :
    ¬ anyNeg q s ∧ r = quantized q s := by
  rw [quantizeNotes_spec] at h
  split at h
  · cases h
  · exact ⟨‹_›, (Except.ok.inj h).symm⟩

/-- The argument shared by the two validations of `quantize_note_sequence`, for entries compared through a `key`
(numerator and denominator; qpm).  The code looks at the head `e` of the stable sort by time and rejects when `e` is
off time zero with a key other than the default, or when a later entry's key differs from `e`'s.  Said without the
sort: two entries differ in key, or an earliest entry is off zero and not the default. -/
theorem earliest_verdict {α κ : Type} (time : α → Rat) (key : α → κ) (dflt : κ) {l : List α} {e : α}
    {later : List α} (h : sortByRat time l = e :: later) :
    ((time e ≠ 0 ∧ key e ≠ dflt) ∨ ∃ t ∈ later, key t ≠ key e) ↔
    ((∃ a ∈ l, ∃ b ∈ l, key a ≠ key b) ∨
      ∃ e ∈ l, (∀ x ∈ l, time e ≤ time x) ∧ time e ≠ 0 ∧ key e ≠ dflt) := by
  obtain ⟨he, hlater, hcases, hmin⟩ := sortByRat_cons _ _ _ _ h
  constructor
  · rintro (c1 | ⟨t, ht, hd⟩)
    · exact .inr ⟨e, he, hmin, c1⟩
    · exact .inl ⟨t, hlater t ht, e, he, hd⟩
  · intro hc
    apply Classical.byContradiction
    intro hn
    have hsame : ∀ x ∈ l, key x = key e := fun x hx =>
      (hcases x hx).elim (fun h => h ▸ rfl) fun hx =>
        Classical.byContradiction fun hh => hn (.inr ⟨x, hx, hh⟩)
    rcases hc with ⟨a, ha, b, hb, hab⟩ | ⟨e', he', hmin', hne, hk⟩
    · exact hab ((hsame a ha).trans (hsame b hb).symm)
    · -- two earliest entries are at the same time, and all keys agree
      have ht : time e' = time e := Rat.le_antisymm (hmin' e he) (hmin e' he')
      exact hn (.inl ⟨ht ▸ hne, hsame e' he' ▸ hk⟩)

theorem ite_ite_of_or {α : Type} {A B C : Prop} [Decidable A] [Decidable B] [Decidable C] (h : A ∨ B ↔ C)
    (x y : α) : (if A then x else if B then x else y) = if C then x else y := by
  by_cases hA : A <;> by_cases hB : B <;> simp [hA, hB, ← h]

theorem checkTimeSigs_spec (first : TimeSig) (rest : List TimeSig) :
    checkTimeSigs (first :: rest) = if tsChange (first :: rest) ∨ tsImplicit (first :: rest)
      then .error .multipleTimeSignatureError else .ok { first with time := 0 } := by
  unfold checkTimeSigs
  cases hsort : sortByRat (·.time) (first :: rest) with
  | nil => exact absurd hsort (sortByRat_ne_nil _ _ _)
  | cons e later =>
    have h := earliest_verdict TimeSig.time (fun t => (t.num, t.den)) (4, 4) hsort
    simp only [ne_eq, Prod.mk.injEq] at h
    refine ite_ite_of_or (Iff.trans ?_ h) _ _
    simp only [List.any_eq_true, decide_eq_true_eq, ne_eq, Decidable.not_and_iff_not_or_not]

theorem checkTempos_spec (dq : Rat) (first : Tempo) (rest : List Tempo) :
    checkTempos dq (first :: rest) = if tpChange (first :: rest) ∨ tpImplicit dq (first :: rest)
      then .error .multipleTempoError else .ok { first with time := 0 } := by
  unfold checkTempos
  cases hsort : sortByRat (·.time) (first :: rest) with
  | nil => exact absurd hsort (sortByRat_ne_nil _ _ _)
  | cons e later =>
    refine ite_ite_of_or (Iff.trans ?_ (earliest_verdict Tempo.time Tempo.qpm dq hsort)) _ _
    simp only [List.any_eq_true, decide_eq_true_eq]

theorem checkTimeSigs_eq (s : NoteSeq) :
    checkTimeSigs s.timeSigs = if tsChange s.timeSigs ∨ tsImplicit s.timeSigs
      then .error .multipleTimeSignatureError else .ok (keptTimeSig s) := by
  unfold keptTimeSig
  generalize s.timeSigs = l
  cases l with
  | nil => simp [checkTimeSigs, tsChange, tsImplicit]
  | cons first rest => exact checkTimeSigs_spec first rest

theorem checkTempos_eq (dq : Rat) (s : NoteSeq) :
    checkTempos dq s.tempos = if tpChange s.tempos ∨ tpImplicit dq s.tempos
      then .error .multipleTempoError else .ok (keptTempo dq s) := by
  unfold keptTempo
  generalize s.tempos = l
  cases l with
  | nil => simp [checkTempos, tpChange, tpImplicit]
  | cons first rest => exact checkTempos_spec dq first rest

theorem tsChange_perm {l l' : List TimeSig} (h : l.Perm l') : tsChange l ↔ tsChange l' := by
  unfold tsChange; simp only [h.mem_iff]

theorem tsImplicit_perm {l l' : List TimeSig} (h : l.Perm l') : tsImplicit l ↔ tsImplicit l' := by
  unfold tsImplicit; simp only [h.mem_iff]

theorem tpChange_perm {l l' : List Tempo} (h : l.Perm l') : tpChange l ↔ tpChange l' := by
  unfold tpChange; simp only [h.mem_iff]

theorem tpImplicit_perm (dq : Rat) {l l' : List Tempo} (h : l.Perm l') : tpImplicit dq l ↔ tpImplicit dq l' := by
  unfold tpImplicit; simp only [h.mem_iff]

/-- the verdict on the time signatures and the entry kept do not depend on the order in which they are stored:
the conditions speak of membership only, and when they fail all entries agree in numerator and denominator -/
theorem checkTimeSigs_eq_of_perm {l l' : List TimeSig} (h : l.Perm l') : checkTimeSigs l = checkTimeSigs l' := by
  cases l with
  | nil => cases h.nil_eq; rfl
  | cons a as =>
    cases l' with
    | nil => exact absurd h.eq_nil (by simp)
    | cons b bs =>
      simp only [checkTimeSigs_spec, tsChange_perm h, tsImplicit_perm h]
      split
      · rfl
      next hc =>
        have : sameSig a b := Classical.byContradiction fun hh =>
          hc (.inl ⟨a, h.mem_iff.mp (by simp), b, by simp, hh⟩)
        rw [this.1, this.2]

theorem checkTempos_eq_of_perm (dq : Rat) {l l' : List Tempo} (h : l.Perm l') :
    checkTempos dq l = checkTempos dq l' := by
  cases l with
  | nil => cases h.nil_eq; rfl
  | cons a as =>
    cases l' with
    | nil => exact absurd h.eq_nil (by simp)
    | cons b bs =>
      simp only [checkTempos_spec, tpChange_perm h, tpImplicit_perm dq h]
      split
      · rfl
      next hc =>
        have : a.qpm = b.qpm := Classical.byContradiction fun hh =>
          hc (.inl ⟨a, h.mem_iff.mp (by simp), b, by simp, hh⟩)
        rw [this]

/-- `quantize_note_sequence` as one chain of decisions, in the order of the code -/
theorem quantizeRelR_eq (R : Rat → Rat) (c dq : Rat) (s : NoteSeq) (spq : Int) :
    quantizeRelR R c dq s spq =
      if tsChange s.timeSigs ∨ tsImplicit s.timeSigs then .error .multipleTimeSignatureError
      else if isPow2 (keptTimeSig s).den = false ∨ (keptTimeSig s).num = 0 then
        .error .badTimeSignatureError
      else if tpChange s.tempos ∨ tpImplicit dq s.tempos then .error .multipleTempoError
      else
        let q := fun t => qstepR R c t (spsR R spq (keptTempo dq s).qpm)
        quantizeNotes q { s with spq := spq, sps := 0, timeSigs := [keptTimeSig s],
                                 tempos := [keptTempo dq s], totalQSteps := q s.totalTime } := by
  unfold quantizeRelR
  rw [checkTimeSigs_eq, checkTempos_eq]
  by_cases h1 : tsChange s.timeSigs ∨ tsImplicit s.timeSigs
  · simp only [if_pos h1]
  · by_cases hp : isPow2 (keptTimeSig s).den <;> by_cases hn : (keptTimeSig s).num = 0 <;>
      by_cases h3 : tpChange s.tempos ∨ tpImplicit dq s.tempos <;> simp [h1, hp, hn, h3]

end NSV.C01

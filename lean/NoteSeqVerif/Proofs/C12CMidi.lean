import NoteSeqVerif.Proofs.C12
import NoteSeqVerif.Proofs.C10
import NoteSeqVerif.Proofs.C03
import NoteSeqVerif.Proofs.C03Drop
/-! C12 — helper lemmas for the storage-order invariance of MIDI export (`note_sequence_to_pretty_midi` =
`Model/C03.writePM`): PrettyMIDI objects up to the order inside their containers (`PMPerm`), the latest note end,
the time / key signature loops as filter + map, the grouping and the instrument loop on permuted groups. -/
namespace NSV.C12
open NSV.C03

structure PMInstPerm (a b : PMInst) : Prop where
  program : a.program = b.program
  isDrum : a.isDrum = b.isDrum
  notes : a.notes.Perm b.notes
  bends : a.bends.Perm b.bends
  ccs : a.ccs.Perm b.ccs

/-- instrument lists of the same length whose entries at equal positions are the same instrument up to the
order of its events (the ORDER OF THE INSTRUMENTS is part of the result and is kept) -/
def InstsPerm : List PMInst → List PMInst → Prop
  | [], [] => True
  | a :: l, b :: l' => PMInstPerm a b ∧ InstsPerm l l'
  | _, _ => False

/-- two PrettyMIDI objects that differ only in the order of the notes / bends / control changes inside each
instrument and of the time-signature and key-signature lists: same resolution, IDENTICAL `_tick_scales`, the
same instruments in the same order -/
structure PMPerm (a b : PM) : Prop where
  resolution : a.resolution = b.resolution
  map : a.map = b.map
  tsigs : a.tsigs.Perm b.tsigs
  ksigs : a.ksigs.Perm b.ksigs
  insts : InstsPerm a.insts b.insts

def PMResPerm (r r' : Except WErr PM) : Prop :=
  match r, r' with
  | .ok a, .ok b => PMPerm a b
  | .error e, .error e' => e = e'
  | _, _ => False

theorem PMInstPerm.refl (a : PMInst) : PMInstPerm a a := ⟨rfl, rfl, .refl _, .refl _, .refl _⟩

theorem instsPerm_pointwise : ∀ {l l' : List PMInst}, InstsPerm l l' ↔ C10.Pointwise PMInstPerm l l'
  | [], [] => Iff.rfl
  | _ :: _, _ :: _ => and_congr Iff.rfl instsPerm_pointwise
  | [], _ :: _ => Iff.rfl
  | _ :: _, [] => Iff.rfl

theorem InstsPerm.refl : ∀ l : List PMInst, InstsPerm l l :=
  fun l => instsPerm_pointwise.mpr (.refl PMInstPerm.refl l)

theorem InstsPerm.length_eq {l l' : List PMInst} (h : InstsPerm l l') : l.length = l'.length :=
  (instsPerm_pointwise.mp h).length_eq

theorem InstsPerm.get {l l' : List PMInst} (h : InstsPerm l l') (i : Nat) (a b : PMInst) :
    l[i]? = some a → l'[i]? = some b → PMInstPerm a b :=
  (instsPerm_pointwise.mp h).get? i a b

/-! ## `max([n.end_time for n in sequence.notes] or [0])` -/

theorem maxEnd_perm {l l' : List Note} (h : l.Perm l') : maxEnd l = maxEnd l' := by
  by_cases hl : l = []
  · subst hl
    rw [h.nil_eq]
  · -- both maxima are attained by a note of the other list
    obtain ⟨n, hn, e⟩ := maxEnd_mem l hl
    obtain ⟨n', hn', e'⟩ := maxEnd_mem l' fun e => hl (e ▸ h).eq_nil
    exact Rat.le_antisymm (e ▸ maxEnd_ge l' n (h.subset hn)) (e' ▸ maxEnd_ge l n' (h.symm.subset hn'))

def tsBad (ts : TimeSig) : Bool := decide (ts.num ≤ 0 ∨ ts.den ≤ 0 ∨ ts.time < 0)
def ksBad (ks : KeySig) : Bool :=
  decide (encodeKey ks.key ks.mode < 0 ∨ 24 ≤ encodeKey ks.key ks.mode ∨ ks.time < 0)

/-- the time-signature loop: ValueError iff some kept signature is invalid, else the kept signatures in storage order -/
theorem writeTimeSigs_eq (met : Option Rat) (l : List TimeSig) :
    writeTimeSigs met l =
      if (l.filter (fun ts => !dropped met ts.time)).any tsBad then .error .valueError
      else .ok ((l.filter (fun ts => !dropped met ts.time)).map (fun ts => ⟨ts.num, ts.den, ts.time⟩)) := by
  induction l with
  | nil => rfl
  | cons ts r ih =>
    unfold writeTimeSigs
    by_cases hd : dropped met ts.time = true
    · simp only [hd, if_true, ih, List.filter_cons, Bool.not_true, Bool.false_eq_true, if_false]
    · have hd' : dropped met ts.time = false := by simpa using hd
      by_cases hb : ts.num ≤ 0 ∨ ts.den ≤ 0 ∨ ts.time < 0
      · simp [hd', hb, tsBad]
      · have : tsBad ts = false := by simp [tsBad, hb]
        simp only [hd', Bool.false_eq_true, if_false, hb, ih, List.filter_cons, Bool.not_false, if_true,
          List.any_cons, this, Bool.false_or, List.map_cons]
        by_cases ha : (r.filter (fun ts => !dropped met ts.time)).any tsBad = true <;> simp [ha]

theorem writeKeySigs_eq (met : Option Rat) (l : List KeySig) :
    writeKeySigs met l =
      if (l.filter (fun ks => !dropped met ks.time)).any ksBad then .error .valueError
      else .ok ((l.filter (fun ks => !dropped met ks.time)).map
        (fun ks => ⟨encodeKey ks.key ks.mode, ks.time⟩)) := by
  induction l with
  | nil => rfl
  | cons ks r ih =>
    unfold writeKeySigs
    by_cases hd : dropped met ks.time = true
    · simp only [hd, if_true, ih, List.filter_cons, Bool.not_true, Bool.false_eq_true, if_false]
    · have hd' : dropped met ks.time = false := by simpa using hd
      by_cases hb : encodeKey ks.key ks.mode < 0 ∨ 24 ≤ encodeKey ks.key ks.mode ∨ ks.time < 0
      · simp [hd', hb, ksBad]
      · have : ksBad ks = false := by simp [ksBad, hb]
        simp only [hd', Bool.false_eq_true, if_false, hb, ih, List.filter_cons, Bool.not_false, if_true,
          List.any_cons, this, Bool.false_or, List.map_cons]
        by_cases ha : (r.filter (fun ks => !dropped met ks.time)).any ksBad = true <;> simp [ha]

theorem writeTimeSigs_perm (met : Option Rat) {l l' : List TimeSig} (h : l.Perm l') :
    ResRel List.Perm (writeTimeSigs met l) (writeTimeSigs met l') := by
  rw [writeTimeSigs_eq, writeTimeSigs_eq, (h.filter _).any_eq]
  split
  · rfl
  · exact (h.filter _).map _

theorem writeKeySigs_perm (met : Option Rat) {l l' : List KeySig} (h : l.Perm l') :
    ResRel List.Perm (writeKeySigs met l) (writeKeySigs met l') := by
  rw [writeKeySigs_eq, writeKeySigs_eq, (h.filter _).any_eq]
  split
  · rfl
  · exact (h.filter _).map _

theorem groupKeys_perm (met : Option Rat) {s s' : NoteSeq} (h : NSPerm s s') : groupKeys met s = groupKeys met s' :=
  sortedKeys_congr fun _ =>
    (((h.notes.map _).append ((h.bends.filter _).map _)).append ((h.ccs.filter _).map _)).mem_iff

theorem mkInst_perm (met : Option Rat) {s s' : NoteSeq} (h : NSPerm s s') (k : Key) :
    PMInstPerm (mkInst met s k) (mkInst met s' k) :=
  ⟨rfl, rfl, (h.notes.filter _).map _, ((h.bends.filter _).filter _).map _, ((h.ccs.filter _).filter _).map _⟩

/-- the instrument loop over ONE sorted key list with two instrument constructors that agree up to event order -/
theorem instLoop_perm (mk mk' : Key → PMInst) (hmk : ∀ k, PMInstPerm (mk k) (mk' k)) (first : PMInst)
    {ks : List Key} (hs : KeySorted ks) :
    ResRel InstsPerm (instLoop mk false first [] ks) (instLoop mk' false first [] ks) := by
  rw [instLoop_eq mk first ks hs, instLoop_eq mk' first ks hs]
  have hm : ∀ l : List Key, InstsPerm (l.map mk) (l.map mk') := fun l => by
    induction l with
    | nil => trivial
    | cons k l ih => exact ⟨hmk k, ih⟩
  split
  · rfl
  · cases ks with
    | nil => exact ⟨.refl _, trivial⟩
    | cons k0 t =>
      show InstsPerm (if 0 < k0.1 then _ else _) (if 0 < k0.1 then _ else _)
      split
      · exact ⟨.refl _, hm _⟩
      · exact hm _

end NSV.C12

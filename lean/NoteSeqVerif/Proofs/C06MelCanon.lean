import NoteSeqVerif.Proofs.C06MelNotes
import NoteSeqVerif.Proofs.C06Drums
/-! C06 — Melody: an event list that reads a chain of notes position by position (`ruleAt`, which is what C07's
`melody_steps` says of the extractor's output) is canonical.  The scanning predicates of `CanonicalMelody` are
established by induction over the positions, with the state of each scan expressed through the latest onset before
the position.  (core Lean only) -/
namespace NSV.C06

/-- the values `f k, f (k+1), …, f (k+n−1)` -/
def tab (f : Int → Int) : Int → Nat → List Int
  | _, 0 => []
  | k, n + 1 => f k :: tab f (k + 1) n

theorem tab_length (f : Int → Int) : ∀ (n : Nat) (k : Int), (tab f k n).length = n := by
  intro n; induction n with
  | zero => intro k; rfl
  | succ n ih => intro k; simp [tab, ih]

theorem tab_getElem? (f : Int → Int) : ∀ (n : Nat) (k : Int) (i : Nat), i < n → (tab f k n)[i]? = some (f (k + i)) := by
  intro n; induction n with
  | zero => intro k i hi; omega
  | succ n ih =>
    intro k i hi
    cases i with
    | zero => simp [tab]
    | succ j =>
      simp only [tab, List.getElem?_cons_succ]
      rw [ih (k + 1) j (by omega)]
      congr 2; push_cast; omega

theorem eq_tab (f : Int → Int) (E : List Int) (h : ∀ i : Nat, i < E.length → E[i]? = some (f i)) :
    E = tab f 0 E.length := by
  apply List.ext_getElem?
  intro i
  by_cases hi : i < E.length
  · rw [h i hi, tab_getElem? f _ 0 i hi]; simp
  · rw [List.getElem?_eq_none (by omega), List.getElem?_eq_none (by rw [tab_length]; omega)]

theorem tab_succ (f : Int → Int) : ∀ (n : Nat) (k : Int), tab f k (n + 1) = tab f k n ++ [f (k + n)] := by
  intro n; induction n with
  | zero => intro k; simp [tab]
  | succ n ih =>
    intro k
    rw [tab, ih (k + 1), tab, List.cons_append,
      show k + 1 + (n : Int) = k + ((n + 1 : Nat) : Int) by push_cast; omega]

theorem tab_congr {f g : Int → Int} : ∀ (n : Nat) (k : Int), (∀ t, k ≤ t → f t = g t) → tab f k n = tab g k n := by
  intro n
  induction n with
  | zero => intro k _; rfl
  | succ n ih =>
    intro k h
    rw [tab, tab, h k (Int.le_refl k), ih (k + 1) fun t ht => h t (by omega)]

theorem onset_some {N : List SNote} {t : Int} {d : SNote} (h : onset N t = some d) : d ∈ N ∧ d.a = t := by
  unfold onset at h
  exact ⟨List.mem_of_find?_eq_some h, by have := List.find?_some h; simpa using this⟩

theorem latest_succ : ∀ (N : List SNote) (t : Int), N.Pairwise (fun x y => x.a < y.a) →
    latest N (t + 1) = match onset N t with
      | some d => some d
      | none => latest N t := by
  intro N
  induction N with
  | nil => intro t _; rfl
  | cons n N ih =>
    intro t hs
    obtain ⟨hn, hs'⟩ := List.pairwise_cons.mp hs
    have ih' := ih t hs'
    unfold latest onset at *
    by_cases h1 : n.a < t
    · -- `n` starts before `t`: it passes both filters and is not the onset at `t`
      rw [List.filter_cons_of_pos (by simp; omega), List.filter_cons_of_pos (by simpa using h1),
        List.find?_cons_of_neg (by simp; omega), List.getLast?_cons, List.getLast?_cons, ih']
      cases N.find? (fun d => d.a == t) <;> rfl
    · -- every note after `n` starts after `t`
      have hf1 : N.filter (fun d => decide (d.a < t + 1)) = [] :=
        List.filter_eq_nil_iff.mpr fun d hd => by have := hn d hd; simp; omega
      by_cases h2 : n.a = t
      · rw [List.filter_cons_of_pos (by simp; omega), List.find?_cons_of_pos (by simpa using h2), hf1]
        rfl
      · have hf0 : N.filter (fun d => decide (d.a < t)) = [] :=
          List.filter_eq_nil_iff.mpr fun d hd => by have := hn d hd; simp; omega
        have hfo : N.find? (fun d => d.a == t) = none :=
          List.find?_eq_none.mpr fun d hd => by have := hn d hd; simp; omega
        rw [List.filter_cons_of_neg (by simp; omega), List.find?_cons_of_neg (by simpa using h2), hf1, hfo,
          List.filter_cons_of_neg (by simpa using h1), hf0]

theorem latest_some {N : List SNote} {t : Int} {x : SNote} (h : latest N t = some x) : x ∈ N ∧ x.a < t := by
  unfold latest at h
  have := List.mem_of_getLast? h
  rw [List.mem_filter] at this
  exact ⟨this.1, by simpa using this.2⟩

theorem latest_none {N : List SNote} {t : Int} (h : latest N t = none) : ∀ d ∈ N, ¬ d.a < t := by
  unfold latest at h
  rw [List.getLast?_eq_none_iff, List.filter_eq_nil_iff] at h
  intro d hd; simpa using h d hd

theorem latest_pred (N : List SNote) (x y : SNote) (hs : N.Pairwise (fun x y => x.a < y.a)) (hy : y ∈ N)
    (hl : latest N y.a = some x) : ∃ pre post, N = pre ++ x :: y :: post := by
  obtain ⟨l1, l2, rfl⟩ := List.append_of_mem hy
  obtain ⟨_, h2, h12⟩ := List.pairwise_append.mp hs
  have hf : (l1 ++ y :: l2).filter (fun d => decide (d.a < y.a)) = l1 := by
    rw [List.filter_append, List.filter_eq_self.mpr fun a ha => decide_eq_true (h12 a ha y (List.mem_cons_self ..)),
      List.filter_eq_nil_iff.mpr, List.append_nil]
    intro a ha
    rcases List.mem_cons.mp ha with rfl | ha
    · simp
    · have := (List.pairwise_cons.mp h2).1 a ha; simp; omega
  unfold latest at hl
  rw [hf] at hl
  obtain ⟨pre, rfl⟩ := List.getLast?_eq_some_iff.mp hl
  exact ⟨pre, l2, by simp⟩

/-- state of the `offsOk` scan at position `t`: a note sounds (before the event at `t` is read) -/
def soundingAt (N : List SNote) (t : Int) : Bool :=
  match latest N t with
  | some x => decide (t ≤ x.b)
  | none => false

/-- state of the `gapsOk` scan at position `t` -/
def gapState (N : List SNote) (t : Int) : Option Int :=
  match latest N t with
  | some x => if t ≤ x.b then none else some (t - x.b)
  | none => none

/-- what is known of the notes a melody keeps (C07's `kept_increasing`, `kept_chain`), in indexes relative to the
melody's start: increasing onsets, positive lengths, MIDI pitches, and each note starting fewer than `gap` steps after
the end of the one before it.  `chain` says of every adjacent pair what `chainOk` (`Proofs/C06Melody.lean`) says
recursively of the rendered notes. -/
structure ChainData (gap : Int) (N : List SNote) : Prop where
  sorted : N.Pairwise (fun x y => x.a < y.a)
  valid : ∀ d ∈ N, d.a < d.b ∧ isPitch d.pitch = true
  chain : ∀ pre x y post, N = pre ++ x :: y :: post → y.a - x.b < gap

theorem ChainData.tail {gap : Int} {h : SNote} {N : List SNote} (c : ChainData gap (h :: N)) : ChainData gap N :=
  ⟨(List.pairwise_cons.mp c.sorted).2, fun d hd => c.valid d (List.mem_cons_of_mem _ hd),
    fun pre x y post e => c.chain (h :: pre) x y post (by rw [e]; rfl)⟩

/-- the two scans of `CanonicalMelody` along a reading, from position `k` on, each started in its state at `k` -/
theorem scans_tab {gap : Int} {N : List SNote} (hN : ChainData gap N) : ∀ (n : Nat) (k : Int),
    offsOk (soundingAt N k) (tab (ruleAt N) k n) = true ∧
      gapsOk gap (gapState N k) (tab (ruleAt N) k n) = true := by
  intro n
  induction n with
  | zero => intro k; exact ⟨rfl, rfl⟩
  | succ n ih =>
    intro k
    obtain ⟨ih1, ih2⟩ := ih (k + 1)
    simp only [soundingAt, gapState, latest_succ N k hN.sorted] at ih1 ih2
    simp only [tab, offsOk, gapsOk, ruleAt, soundingAt, gapState]
    cases ho : onset N k with
    | some d =>
      obtain ⟨hd, hda⟩ := onset_some ho
      obtain ⟨hab, hp⟩ := hN.valid d hd
      have hkb : k + 1 ≤ d.b := by omega
      simp only [ho, hkb, decide_true, ↓reduceIte] at ih1 ih2
      simp only [hp, ↓reduceIte, Bool.and_eq_true]
      refine ⟨ih1, ?_, ih2⟩
      cases hl : latest N k with
      | none => rfl
      | some x =>
        by_cases h : k ≤ x.b
        · simp [h]
        · simp only [h, ↓reduceIte, decide_eq_true_eq]
          rw [← hda] at hl
          obtain ⟨pre, post, hpp⟩ := latest_pred N x d hN.sorted hd hl
          have := hN.chain pre x d post hpp
          omega
    | none =>
      simp only [ho] at ih1 ih2
      cases hl : latest N k with
      | none =>
        simp only [hl] at ih1 ih2
        simp only [isPitch_no_event, Bool.false_eq_true, ↓reduceIte,
          C07.no_event_ne_note_off, Option.map_none]
        exact ⟨ih1, ih2⟩
      | some x =>
        simp only [hl] at ih1 ih2
        by_cases hb : x.b = k
        · have h1 : ¬ k + 1 ≤ x.b := by omega
          have h2 : k ≤ x.b := by omega
          simp only [h1, decide_false, ↓reduceIte, show k + 1 - x.b = 1 by omega] at ih1 ih2
          simp only [hb, ↓reduceIte, isPitch_note_off, Bool.false_eq_true, Int.le_refl, decide_true, Bool.true_and]
          exact ⟨ih1, ih2⟩
        · simp only [hb, ↓reduceIte, isPitch_no_event, Bool.false_eq_true,
            C07.no_event_ne_note_off]
          by_cases h : k ≤ x.b
          · have h1 : k + 1 ≤ x.b := by omega
            simp only [h1, decide_true, ↓reduceIte] at ih1 ih2
            simp only [h, decide_true, ↓reduceIte, Option.map_none]
            exact ⟨ih1, ih2⟩
          · have h1 : ¬ k + 1 ≤ x.b := by omega
            simp only [h1, decide_false, ↓reduceIte] at ih1 ih2
            simp only [h, decide_false, ↓reduceIte, Option.map_some, show k - x.b + 1 = k + 1 - x.b by omega]
            exact ⟨ih1, ih2⟩

theorem first_tab_nil : ∀ (n : Nat) (k : Int), firstPitch (tab (ruleAt []) k n) = none := by
  intro n
  induction n with
  | zero => intro k; rfl
  | succ n ih =>
    intro k
    rw [tab, firstPitch, if_neg (by exact Bool.eq_false_iff.mp isPitch_no_event), ih]
    rfl

theorem first_tab {N' : List SNote} {n0 : SNote} (hs : (n0 :: N').Pairwise (fun x y => x.a < y.a))
    (hp : isPitch n0.pitch = true) : ∀ (n : Nat) (k : Int), k ≤ n0.a → n0.a < k + n →
    firstPitch (tab (ruleAt (n0 :: N')) k n) = some (n0.a - k).toNat := by
  intro n
  induction n with
  | zero => intro k h1 h2; omega
  | succ n ih =>
    intro k h1 h2
    obtain ⟨hn, _⟩ := List.pairwise_cons.mp hs
    -- up to the first onset only the first note is read
    have : ruleAt (n0 :: N') k = if n0.a = k then n0.pitch else C07.Gen.MELODY_NO_EVENT := by
      rw [ruleAt_cons_later _ _ k fun d hd => by have := hn d hd; omega, ruleAt_singleton,
        if_neg (show ¬ n0.a < k by omega)]
    simp only [tab, firstPitch, this]
    by_cases hk : n0.a = k
    · rw [if_pos hk, if_pos hp]
      congr 1; omega
    · rw [if_neg hk, if_neg (by rw [isPitch_no_event]; simp), ih (k + 1) (by omega) (by push_cast at h2 ⊢; omega)]
      simp only [Option.map_some, Option.some.injEq]
      omega

theorem lastMark_concat (l : List Int) (x : Int) :
    lastMark (l ++ [x]) = if isPitch x then some none
      else if x = C07.Gen.MELODY_NOTE_OFF then some (some l.length) else lastMark l := by
  induction l with
  | nil => simp [lastMark]
  | cons y l ih =>
    rw [List.cons_append, lastMark, ih]
    by_cases hp : isPitch x = true
    · simp [hp]
    · by_cases ho : x = C07.Gen.MELODY_NOTE_OFF
      · subst ho; simp [isPitch_note_off]
      · simp only [hp, ho, Bool.false_eq_true, ↓reduceIte]
        rw [lastMark]

/-- the reading ends with the last note: its pitch, NO_EVENTs while it sounds, and — if the line goes on — its
NOTE_OFF followed by NO_EVENTs.  By induction on the length, one position at a time from the last onset. -/
theorem end_tab {N : List SNote} (hs : N.Pairwise (fun x y => x.a < y.a))
    (hv : ∀ d ∈ N, d.a < d.b ∧ isPitch d.pitch = true) (last : SNote)
    (hlast : N.getLast? = some last) (h0 : 0 ≤ last.a) (n : Nat) (hn : last.b ≤ n) :
    lastMark (tab (ruleAt N) 0 n) = if (n : Int) = last.b then some none else some (some last.b.toNat) := by
  obtain ⟨hab, hp⟩ := hv last (List.mem_of_getLast? hlast)
  -- from the last onset on only the last note is read
  have hrd : ∀ t, last.a ≤ t → ruleAt N t = ruleAt [last] t := by
    obtain ⟨ys, rfl⟩ := List.getLast?_eq_some_iff.mp hlast
    exact fun t ht => ruleAt_append_behind ys last [] t
      (fun p hp => (List.pairwise_append.mp hs).2.2 p hp last (List.mem_singleton_self _)) ht
  have hlater : ∀ t, last.a < t →
      ruleAt N t = if last.b = t then C07.Gen.MELODY_NOTE_OFF else C07.Gen.MELODY_NO_EVENT := by
    intro t ht
    rw [hrd t (Int.le_of_lt ht), ruleAt_singleton, if_neg (by omega), if_pos ht]
  -- the last onset and end as naturals `a < b`; the table up to `a` and `m` positions beyond it
  obtain ⟨a, ha⟩ := Int.eq_ofNat_of_zero_le h0
  obtain ⟨b, hb⟩ := Int.eq_ofNat_of_zero_le (Int.le_trans h0 (Int.le_of_lt hab))
  have key : ∀ m : Nat, lastMark (tab (ruleAt N) 0 (a + 1 + m)) =
      if ((a + 1 + m : Nat) : Int) ≤ last.b then some none else some (some b) := by
    intro m
    induction m with
    | zero =>
      rw [Nat.add_zero, tab_succ, lastMark_concat, Int.zero_add, ← ha, hrd _ (Int.le_refl _), ruleAt_singleton,
        if_pos rfl, if_pos hp, if_pos (by omega)]
    | succ m ih =>
      rw [← Nat.add_assoc, tab_succ, lastMark_concat, ih, Int.zero_add, hlater _ (by omega), tab_length]
      by_cases h : last.b = ((a + 1 + m : Nat) : Int)
      · rw [if_pos h, if_neg (Bool.eq_false_iff.mp isPitch_note_off), if_pos rfl, if_neg (by omega)]
        congr 2; omega
      · rw [if_neg h, if_neg (Bool.eq_false_iff.mp isPitch_no_event), if_neg C07.no_event_ne_note_off]
        by_cases h' : ((a + 1 + m : Nat) : Int) ≤ last.b
        · rw [if_pos h', if_pos (by omega)]
        · rw [if_neg h', if_neg (by omega)]
  obtain ⟨m, rfl⟩ : ∃ m, n = a + 1 + m := ⟨n - (a + 1), by omega⟩
  rw [key, show last.b.toNat = b by rw [hb, Int.toNat_natCast]]
  by_cases h : ((a + 1 + m : Nat) : Int) = last.b
  · rw [if_pos h, if_pos (by omega)]
  · rw [if_neg h, if_neg (by omega)]

theorem ruleAt_range {gap : Int} {N : List SNote} (hN : ChainData gap N) (t : Int) :
    C07.Gen.MELODY_NO_EVENT ≤ ruleAt N t ∧ ruleAt N t ≤ Gen.MAX_MIDI_PITCH := by
  unfold ruleAt
  simp only [C07.Gen.MELODY_NO_EVENT, C07.Gen.MELODY_NOTE_OFF, Gen.MAX_MIDI_PITCH]
  cases ho : onset N t with
  | some d =>
    have := (isPitch_iff d.pitch).mp (hN.valid d (onset_some ho).1).2
    simp only
    omega
  | none =>
    simp only
    cases latest N t with
    | none => simp only; omega
    | some x =>
      simp only
      split <;> omega

/-- the step from C07's `melody_steps` to `extract_canonical_Melody`; the indexes of `n0 :: N'` are relative to
`start` -/
theorem canonical_of_rule (spb gap : Int) (pad : Bool) (ss start : Int) (n0 : SNote) (N' : List SNote)
    (last : SNote) (E : List Int)
    (hpos : 0 < spb) (hN : ChainData gap (n0 :: N')) (hlast : (n0 :: N').getLast? = some last)
    (h0 : 0 ≤ n0.a) (h1 : n0.a < spb) (hss0 : 0 ≤ ss) (hssS : ss ≤ start) (hmod : (start - ss) % spb = 0)
    (hlen : (E.length : Int) = last.b + (if pad then Int.fmod (-last.b) spb else 0))
    (hE : ∀ i : Nat, i < E.length → E[i]? = some (ruleAt (n0 :: N') i)) :
    CanonicalMelody spb gap pad ss start E := by
  have hEtab := eq_tab (ruleAt (n0 :: N')) E hE
  have hlm : last ∈ n0 :: N' := List.mem_of_getLast? hlast
  obtain ⟨hlab, _⟩ := hN.valid last hlm
  have hla : n0.a ≤ last.a := by
    rcases List.mem_cons.mp hlm with rfl | h
    · omega
    · have := (List.pairwise_cons.mp hN.sorted).1 last h; omega
  have hge : ∀ d ∈ n0 :: N', ¬ d.a < 0 := by
    intro d hd
    rcases List.mem_cons.mp hd with rfl | h
    · omega
    · have := (List.pairwise_cons.mp hN.sorted).1 d h; omega
  have hl0 : latest (n0 :: N') 0 = none := by
    unfold latest
    rw [List.getLast?_eq_none_iff, List.filter_eq_nil_iff]
    intro d hd; have := hge d hd; simpa using this
  have hpadnn : 0 ≤ (if pad then Int.fmod (-last.b) spb else 0) := by
    split
    · exact Int.fmod_nonneg_of_pos _ hpos
    · omega
  refine Or.inr ⟨?_, ?_, hss0, hssS, hmod, ?_, ?_, ?_⟩
  · -- range
    intro x hx
    obtain ⟨i, hi, rfl⟩ := List.mem_iff_getElem.mp hx
    have := hE i hi
    rw [List.getElem?_eq_getElem hi] at this
    rw [Option.some.inj this]
    exact ruleAt_range hN _
  · -- NOTE_OFF only while a note sounds
    rw [hEtab]
    have := (scans_tab hN E.length 0).1
    rwa [show soundingAt (n0 :: N') 0 = false by simp [soundingAt, hl0]] at this
  · -- the first note lies in the first bar
    rw [hEtab]
    unfold firstOk
    have hp := (hN.valid n0 (List.mem_cons_self ..)).2
    rw [first_tab hN.sorted hp E.length 0 h0 (by omega)]
    simp only [Int.sub_zero, decide_eq_true_eq]
    omega
  · -- gaps
    rw [hEtab]
    have := (scans_tab hN E.length 0).2
    rwa [show gapState (n0 :: N') 0 = none by simp [gapState, hl0]] at this
  · -- the end
    unfold endOk
    rw [hEtab, tab_length, end_tab hN.sorted hN.valid last hlast (by omega) E.length (by omega)]
    cases pad with
    | false => rw [if_pos (by simpa using hlen)]; rfl
    | true =>
      obtain ⟨h1, h2, h3⟩ := (pad_line hpos _).mp hlen.symm
      by_cases hz : (E.length : Int) = last.b
      · rw [if_pos hz]; simp [h3]
      · rw [if_neg hz]
        simp only [h3, Bool.true_and, decide_true, decide_eq_true_eq]
        omega

end NSV.C06

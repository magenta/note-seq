import NoteSeqVerif.Model.C08
import NoteSeqVerif.Proofs.Lib
/-! C08 — how the encoder loops are read.  The label and decoding loops run over `reversed(list(enumerate(dists)))`,
so every fact about them is an induction from the END of the distance list (`revIdx_snoc`, `snoc_induction`);
a loop that fills an input vector is followed as `blank done m` (the cells written so far, `m` zeros to go);
the generation loop is treated once for an arbitrary decoder (`genLoop_total`, `genLoop_roundtrip`).
Core Lean only. -/
namespace NSV.C08

theorem pyIdx_of_norm {α : Type} (l : List α) (i : Int) (q : Nat) (hq : normIdx l.length i = q) (h : q < l.length) :
    pyIdx l i = .ok l[q] := by
  unfold pyIdx
  rw [hq]
  simp [List.getElem?_eq_getElem h]

theorem pyIdx_nat {α : Type} (l : List α) (p : Nat) (h : p < l.length) : pyIdx l (p : Int) = .ok l[p] :=
  pyIdx_of_norm l p p (by unfold normIdx; omega) h

/-- `events[-d]` for `1 ≤ d ≤ len` is the element `len - d` -/
theorem pyIdx_neg {α : Type} (l : List α) (d : Int) (q : Nat) (h1 : 1 ≤ d) (hq : (q : Int) = l.length - d)
    (h : q < l.length) : pyIdx l (-d) = .ok l[q] :=
  pyIdx_of_norm l (-d) q (by unfold normIdx; omega) h

theorem pySet_nat {α : Type} (l : List α) (i : Nat) (v : α) (h : i < l.length) :
    pySet l (i : Int) v = .ok (l.set i v) := by
  have hn : normIdx l.length (i : Int) = i := by unfold normIdx; omega
  unfold pySet
  rw [hn]
  have h2 : (0 : Int) ≤ i ∧ (i : Int) < l.length := by omega
  simp [h2]

theorem pySet_length {α : Type} {l l' : List α} {i : Int} {v : α} (h : pySet l i v = .ok l') :
    l'.length = l.length := by
  unfold pySet at h
  split at h
  · rw [← Except.ok.inj h, List.length_set]
  · cases h

theorem pySliceTo_nat {α : Type} (l : List α) (p : Nat) : pySliceTo l (p : Int) = l.take p := by
  unfold pySliceTo normIdx
  have : ¬ ((p : Int) < 0) := by omega
  simp [this]

/-- `reversed(list(enumerate(dists)))` is `dists.zipIdx.reverse`: the loops over it meet the LAST distance first -/
theorem revIdx_snoc {α : Type} (ds : List α) (d : α) :
    (ds ++ [d]).zipIdx.reverse = (d, ds.length) :: ds.zipIdx.reverse := by
  simp [List.zipIdx_append]

/-- legal lookback distance lists: any length, any order, duplicates allowed, every distance ≥ 1 -/
def LegalDists (ds : List Int) : Prop := ∀ d ∈ ds, 1 ≤ d

/-- valid pianoroll events: strictly increasing tuples of pitches below `input_size` -/
def PrEvent (n : Nat) (ev : List Nat) : Prop := ev.Pairwise (· < ·) ∧ ∀ p ∈ ev, p < n

section
variable {ε : Type} [DecidableEq ε]

/-- a valid event of a one-hot encoding: it encodes into `[0, numClasses)` and decodes back to itself
(for the concrete encodings this is what C09 proves) -/
def ValidEv (oh : OneHot ε) (e : ε) : Prop :=
  ∃ i, oh.encode e = .ok i ∧ 0 ≤ i ∧ i < oh.numClasses ∧ oh.decode i = .ok e

def DecodeTotal (oh : OneHot ε) : Prop :=
  ∀ i, 0 ≤ i → i < oh.numClasses → ∃ e, oh.decode i = .ok e ∧ ValidEv oh e

omit [DecidableEq ε] in
theorem decodeTotal_of (oh : OneHot ε)
    (h : ∀ i, 0 ≤ i → i < oh.numClasses → ∃ e, oh.decode i = .ok e ∧ oh.encode e = .ok i) : DecodeTotal oh :=
  fun i h0 h1 => let ⟨e, hd, he⟩ := h i h0 h1; ⟨e, hd, i, he, h0, h1, hd⟩

/-- lookback distance `d` really matches at position `p`: `p - d ≥ 0` and the two events are equal -/
def rep (evs : List ε) (p : Nat) (d : Int) : Bool :=
  decide (d ≤ (p : Int) ∧ evs[p]? = evs[((p : Int) - d).toNat]?)

/-- lookback index `i` matches at position `p`: its distance really matches, or it is the last distance,
the position is closer to the start than that distance and the event is the default event (the
"virtual all-default prehistory") -/
def Matches (dflt : ε) (ds : List Int) (evs : List ε) (p i : Nat) : Prop :=
  ∃ d, ds[i]? = some d ∧
    (rep evs p d = true ∨ (i + 1 = ds.length ∧ (p : Int) < d ∧ evs[p]? = some dflt))

def oneHotVec (n i : Nat) : List Int := (List.replicate n 0).set i 1

theorem repeats_eq (evs : List ε) (p : Nat) (hp : p < evs.length) (d : Int) (hd : 1 ≤ d) :
    repeats evs p d = .ok (rep evs p d) := by
  unfold repeats rep
  by_cases h : (p : Int) - d ≥ 0
  · have hq : ((p : Int) - d).toNat < evs.length := by omega
    have e2 := pyIdx_of_norm evs ((p : Int) - d) ((p : Int) - d).toNat (by unfold normIdx; omega) hq
    have hle : d ≤ (p : Int) := by omega
    simp [pyIdx_nat evs p hp, e2, bind, Except.bind, pure, Except.pure, hle,
      List.getElem?_eq_getElem hp, List.getElem?_eq_getElem hq]
  · have hle : ¬ d ≤ (p : Int) := by omega
    simp [hle, pure, Except.pure]

theorem labelLoop_snoc (base : Int) (plain : Except String Int) (evs : List ε) (p : Nat) (hp : p < evs.length)
    (ds : List Int) (d : Int) (hd : 1 ≤ d) :
    labelLoop base plain evs p (ds ++ [d]).zipIdx.reverse =
      if rep evs p d then .ok (base + ds.length) else labelLoop base plain evs p ds.zipIdx.reverse := by
  rw [revIdx_snoc, labelLoop, repeats_eq evs p hp d hd]
  cases rep evs p d <;> rfl

omit [DecidableEq ε] in
theorem citeLoop_snoc (base : Int) (dflt : ε) (plain : Except String ε) (ci : Int) (evs : List ε)
    (ds : List Int) (d : Int) :
    citeLoop base dflt plain ci evs (ds ++ [d]).zipIdx.reverse =
      if ci = base + ds.length then (if (evs.length : Int) < d then .ok dflt else pyIdx evs (-d))
      else citeLoop base dflt plain ci evs ds.zipIdx.reverse := by
  rw [revIdx_snoc, citeLoop]

omit [DecidableEq ε] in
/-- label `base + i` cites lookback `i` -/
theorem citeLoop_idx (base : Int) (dflt : ε) (plain : Except String ε) (evs : List ε) (ds : List Int) (i : Nat)
    (d : Int) (h : ds[i]? = some d) :
    citeLoop base dflt plain (base + i) evs ds.zipIdx.reverse =
      if (evs.length : Int) < d then .ok dflt else pyIdx evs (-d) := by
  induction ds using snoc_induction with
  | nil => cases h
  | snoc ds d' ih =>
    rw [citeLoop_snoc]
    rcases Nat.lt_or_ge i ds.length with hi | hi
    · rw [if_neg (by omega), ih (by rwa [List.getElem?_append_left hi] at h)]
    · have := (List.getElem?_eq_some_iff.mp h).1
      obtain rfl : i = ds.length := by simp at this; omega
      rw [List.getElem?_concat_length] at h
      rw [if_pos rfl, Option.some.inj h]

omit [DecidableEq ε] in
theorem citeLoop_plain (base : Int) (dflt : ε) (plain : Except String ε) (ci : Int) (evs : List ε) (ds : List Int)
    (h : ci < base ∨ base + ds.length ≤ ci) : citeLoop base dflt plain ci evs ds.zipIdx.reverse = plain := by
  induction ds using snoc_induction with
  | nil => rfl
  | snoc ds d ih =>
    rw [List.length_append, List.length_singleton] at h
    rw [citeLoop_snoc, if_neg (by omega), ih (by omega)]

omit [DecidableEq ε] in
theorem citeLoop_step (base : Int) (dflt : ε) (plainCite : Int → Except String ε) (Valid : ε → Prop)
    (ds : List Int) (hd : LegalDists ds)
    (hplain : ∀ l, 0 ≤ l → l < base → ∃ e, plainCite l = .ok e ∧ Valid e) (hdef : Valid dflt)
    (l : Int) (hl0 : 0 ≤ l) (hl1 : l < base + ds.length) (evs : List ε) (hev : ∀ e ∈ evs, Valid e) :
    ∃ e, citeLoop base dflt (plainCite l) l evs ds.zipIdx.reverse = .ok e ∧ Valid e := by
  by_cases hlt : l < base
  · rw [citeLoop_plain _ _ _ _ _ _ (.inl hlt)]
    exact hplain l hl0 hlt
  · have hidx : (l - base).toNat < ds.length := by omega
    have hd1 := hd _ (List.getElem_mem hidx)
    rw [show l = base + ((l - base).toNat : Nat) by omega,
      citeLoop_idx _ _ _ _ _ _ _ (List.getElem?_eq_getElem hidx)]
    generalize ds[(l - base).toNat] = d at hd1
    by_cases hlen : (evs.length : Int) < d
    · rw [if_pos hlen]; exact ⟨_, rfl, hdef⟩
    · have hq : (evs.length - d.toNat) < evs.length := by omega
      rw [if_neg hlen, pyIdx_neg evs d (evs.length - d.toNat) hd1 (by omega) hq]
      exact ⟨_, rfl, hev _ (List.getElem_mem hq)⟩

/-- the loop answers with the greatest index whose distance really repeats, or with the plain label when none does -/
theorem labelLoop_spec (base : Int) (plain : Except String Int) (evs : List ε) (p : Nat) (hp : p < evs.length)
    (ds : List Int) (hd : LegalDists ds) :
    (labelLoop base plain evs p ds.zipIdx.reverse = plain ∧ ∀ (j : Nat) d, ds[j]? = some d → rep evs p d = false) ∨
    ∃ (i : Nat) (d : Int), ds[i]? = some d ∧ rep evs p d = true ∧
      (∀ (j : Nat) d', i < j → ds[j]? = some d' → rep evs p d' = false) ∧
      labelLoop base plain evs p ds.zipIdx.reverse = .ok (base + i) := by
  induction ds using snoc_induction with
  | nil => exact .inl ⟨rfl, fun j d h => nomatch h⟩
  | snoc ds d ih =>
    rw [labelLoop_snoc base plain evs p hp ds d (hd d (by simp))]
    -- an index of `ds ++ [d]` is an index of `ds` or the last one
    have hsplit : ∀ {j : Nat} {d' : Int}, (ds ++ [d])[j]? = some d' → ds[j]? = some d' ∨ (j = ds.length ∧ d' = d) := by
      intro j d' hj
      rcases Nat.lt_or_ge j ds.length with h | h
      · exact .inl (by rwa [List.getElem?_append_left h] at hj)
      · have := (List.getElem?_eq_some_iff.mp hj).1
        obtain rfl : j = ds.length := by simp at this; omega
        rw [List.getElem?_concat_length] at hj
        exact .inr ⟨rfl, (Option.some.inj hj).symm⟩
    cases hr : rep evs p d with
    | true =>
      refine .inr ⟨ds.length, d, List.getElem?_concat_length .., hr, fun j d' hij hj => ?_, rfl⟩
      have := (List.getElem?_eq_some_iff.mp hj).1
      simp at this; omega
    | false =>
      rcases ih (fun x hx => hd x (by simp [hx])) with ⟨h1, h2⟩ | ⟨i, di, h1, h2, h3, h4⟩
      · exact .inl ⟨h1, fun j d' hj => (hsplit hj).elim (h2 j d') fun ⟨_, e⟩ => e ▸ hr⟩
      · have hi := (List.getElem?_eq_some_iff.mp h1).1
        exact .inr ⟨i, di, by rwa [List.getElem?_append_left hi], h2,
          fun j d' hij hj => (hsplit hj).elim (h3 j d' hij) fun ⟨_, e⟩ => e ▸ hr, h4⟩

omit [DecidableEq ε] in
theorem ohEventsToLabel_nat (oh : OneHot ε) (evs : List ε) (p : Nat) (hp : p < evs.length) :
    ohEventsToLabel oh evs p = oh.encode evs[p] := by
  simp [ohEventsToLabel, pyIdx_nat evs p hp, bind, Except.bind]

/-- the leading test of `events_to_label` fires: the last distance reaches before the start and the event there
is the default event -/
def VirtualMatch (dflt : ε) (ds : List Int) (evs : List ε) (p : Nat) : Prop :=
  ∃ dl, ds[ds.length - 1]? = some dl ∧ (p : Int) < dl ∧ evs[p]? = some dflt

theorem lbLabel_cases (oh : OneHot ε) (c : LookbackCfg) (evs : List ε) (p : Nat) (hp : p < evs.length) :
    (VirtualMatch oh.default c.dists evs p →
      lbEventsToLabel oh c evs p = .ok (oh.numClasses + c.dists.length - 1)) ∧
    (¬ VirtualMatch oh.default c.dists evs p → lbEventsToLabel oh c evs p =
      labelLoop oh.numClasses (ohEventsToLabel oh evs p) evs p c.dists.zipIdx.reverse) := by
  unfold lbEventsToLabel virtualRepeat VirtualMatch
  rw [List.getLast?_eq_getElem?, List.getElem?_eq_getElem hp]
  cases c.dists[c.dists.length - 1]? with
  | none => exact ⟨fun ⟨_, h, _⟩ => (nomatch h), fun _ => rfl⟩
  | some dl =>
    by_cases h1 : (p : Int) < dl
    · by_cases h2 : evs[p] = oh.default
      · exact ⟨fun _ => by simp [bind, Except.bind, h1, h2, pyIdx_nat evs p hp, pure, Except.pure],
          fun h => absurd ⟨dl, rfl, h1, by rw [h2]⟩ h⟩
      · exact ⟨fun ⟨_, _, _, h3⟩ => absurd (Option.some.inj h3) h2,
          fun _ => by simp [bind, Except.bind, h1, h2, pyIdx_nat evs p hp, pure, Except.pure]⟩
    · exact ⟨fun ⟨_, e, h3, _⟩ => absurd (Option.some.inj e ▸ h3) h1,
        fun _ => by simp [bind, Except.bind, h1, pure, Except.pure]⟩

/-- a virtual match is the second way in which the last lookback index `Matches` -/
theorem virtualMatch_matches {dflt : ε} {ds : List Int} {evs : List ε} {p : Nat} (h : VirtualMatch dflt ds evs p) :
    0 < ds.length ∧ Matches dflt ds evs p (ds.length - 1) := by
  obtain ⟨dl, h2, h3, h4⟩ := h
  have := (List.getElem?_eq_some_iff.mp h2).1
  exact ⟨by omega, dl, h2, .inr ⟨by omega, h3, h4⟩⟩

/-- the specification of `events_to_label`: `num_classes +` the greatest matching lookback index, or the plain class of
the event when no lookback matches -/
theorem lbLabel_spec (oh : OneHot ε) (c : LookbackCfg) (evs : List ε) (p : Nat) (hp : p < evs.length)
    (hd : LegalDists c.dists) :
    (∃ i, Matches oh.default c.dists evs p i ∧ (∀ j, i < j → ¬ Matches oh.default c.dists evs p j) ∧
      lbEventsToLabel oh c evs p = .ok (oh.numClasses + i)) ∨
    ((∀ i, ¬ Matches oh.default c.dists evs p i) ∧ lbEventsToLabel oh c evs p = oh.encode evs[p]) := by
  obtain ⟨hvirt, hloop⟩ := lbLabel_cases oh c evs p hp
  by_cases hv : VirtualMatch oh.default c.dists evs p
  · -- the virtual match is a match of the last index
    obtain ⟨hn, hm⟩ := virtualMatch_matches hv
    refine .inl ⟨c.dists.length - 1, hm, fun j hj ⟨d, hdj, _⟩ => ?_, by rw [hvirt hv]; congr 1; omega⟩
    have := (List.getElem?_eq_some_iff.mp hdj).1
    omega
  · -- otherwise matching is really repeating
    have hiff : ∀ i d, c.dists[i]? = some d → (Matches oh.default c.dists evs p i ↔ rep evs p d = true) := fun i d hi =>
      ⟨fun ⟨d', hd', h⟩ => by
        rw [hi] at hd'; cases hd'
        exact h.resolve_right fun ⟨h1, h2, h3⟩ => hv ⟨d, by rw [← h1, Nat.add_sub_cancel]; exact hi, h2, h3⟩,
       fun h => ⟨d, hi, .inl h⟩⟩
    rw [hloop hv, ← ohEventsToLabel_nat oh evs p hp]
    rcases labelLoop_spec oh.numClasses (ohEventsToLabel oh evs p) evs p hp c.dists hd with
      ⟨h1, h2⟩ | ⟨i, d, h1, h2, h3, h4⟩
    · refine .inr ⟨fun i ⟨d, hi, h⟩ => ?_, h1⟩
      have := (hiff i d hi).mp ⟨d, hi, h⟩
      rw [h2 i d hi] at this; cases this
    · refine .inl ⟨i, (hiff i d h1).mpr h2, fun j hij ⟨d', hj, h⟩ => ?_, h4⟩
      have := (hiff j d' hj).mp ⟨d', hj, h⟩
      rw [h3 j d' hij hj] at this; cases this

/-- what makes decoding work: a matching lookback, cited against the prefix, is the event itself -/
theorem matches_cite {dflt : ε} {ds : List Int} {evs : List ε} {p i : Nat} (hp : p < evs.length) {d : Int}
    (hm : Matches dflt ds evs p i) (hi : ds[i]? = some d) (hd : 1 ≤ d) :
    (if ((evs.take p).length : Int) < d then Except.ok dflt else pyIdx (evs.take p) (-d)) = .ok evs[p] := by
  have hlen : (evs.take p).length = p := by rw [List.length_take]; omega
  obtain ⟨d', hd', h⟩ := hm
  rw [hi] at hd'; cases hd'
  rw [hlen]
  rcases h with hr | ⟨_, h2, h3⟩
  · obtain ⟨hle, heq⟩ := of_decide_eq_true hr
    have hq : ((p : Int) - d).toNat < p := by omega
    rw [if_neg (by omega), pyIdx_neg (evs.take p) d ((p : Int) - d).toNat hd (by omega) (by omega), List.getElem_take]
    rw [List.getElem?_eq_getElem hp, List.getElem?_eq_getElem (by omega)] at heq
    exact congrArg _ (Option.some.inj heq).symm
  · rw [List.getElem?_eq_getElem hp] at h3
    rw [if_pos h2, Option.some.inj h3]

theorem mapE_eq_mapM {α β : Type} {f : α → Except String β} : ∀ l : List α, mapE f l = l.mapM f
  | [] => rfl
  | a :: l => by
    rw [mapE, mapE_eq_mapM l, List.mapM_cons]
    cases f a with
    | error _ => rfl
    | ok _ => cases l.mapM f <;> rfl

theorem mapE_eq_ok {α β : Type} {f : α → Except String β} {l : List α} {bs : List β} :
    mapE f l = .ok bs ↔ l.map f = bs.map .ok :=
  mapE_eq_mapM l ▸ mapM_eq_ok

theorem mapE_cons_ok {α β : Type} {f : α → Except String β} {a : α} {as : List α} {bs : List β}
    (h : mapE f (a :: as) = .ok bs) : ∃ b bs', f a = .ok b ∧ mapE f as = .ok bs' ∧ bs = b :: bs' := by
  obtain ⟨b, bs', rfl, hb, hbs⟩ := List.map_eq_cons_iff.mp (mapE_eq_ok.mp h).symm
  exact ⟨b, bs', hb.symm, mapE_eq_ok.mpr hbs.symm, rfl⟩

theorem mapE_ok {α β : Type} (f : α → Except String β) (l : List α) (bs : List β) (h : mapE f l = .ok bs) :
    bs.length = l.length ∧ ∀ i (hi : i < l.length) (hb : i < bs.length), f l[i] = .ok bs[i] :=
  ⟨map_ok_length (mapE_eq_ok.mp h), map_ok_get (mapE_eq_ok.mp h)⟩

theorem mapE_total {α β : Type} (f : α → Except String β) (l : List α) (h : ∀ a ∈ l, ∃ b, f a = .ok b) :
    ∃ bs, mapE f l = .ok bs :=
  (map_ok_total h).imp fun _ => mapE_eq_ok.mpr

theorem oneHotVec_length (n i : Nat) : (oneHotVec n i).length = n := by simp [oneHotVec]

theorem oneHotVec_get (n i k : Nat) (hi : i < n) (hk : k < n) :
    (oneHotVec n i)[k]? = some (if k = i then 1 else 0) := by
  unfold oneHotVec
  rw [List.getElem?_set]
  by_cases h : i = k
  · subst h; simp [hk]
  · have : ¬ k = i := fun e => h e.symm
    simp [h, this, hk]

theorem oneHotVec_count (n i : Nat) (hi : i < n) : (oneHotVec n i).count 1 = 1 ∧ (oneHotVec n i).count 0 = n - 1 := by
  simp [oneHotVec, List.count_set, hi, List.count_replicate]

theorem pySet_at (done rest : List Int) (k : Nat) (v : Int) (hk : k < rest.length) :
    pySet (done ++ rest) (done.length + k) v = .ok (done ++ rest.set k v) := by
  have e : (done.length : Int) + (k : Int) = ((done.length + k : Nat) : Int) := by omega
  rw [e, pySet_nat _ _ _ (by simp; omega), List.set_append_right _ _ (by omega)]
  simp

/-- the state of an input-vector writer: `done` written so far, `m` cells still zero, the offset at the first of them -/
def blank (done : List Int) (m : Nat) : List Int × Int := (done ++ List.replicate m 0, done.length)

theorem blank_snoc (done : List Int) (v : Int) (m : Nat) :
    (done ++ [v] ++ List.replicate m 0, (done.length : Int) + 1) = blank (done ++ [v]) m := by
  simp [blank]

theorem pySet_cell (done : List Int) (m : Nat) (v : Int) :
    pySet (done ++ List.replicate (m + 1) 0) done.length v = .ok (done ++ [v] ++ List.replicate m 0) := by
  have := pySet_at done (List.replicate (m + 1) 0) 0 v (by simp)
  simpa [List.replicate_succ] using this

theorem pySet_block (done : List Int) (m n i : Nat) (hi : i < n) :
    pySet (done ++ List.replicate (n + m) 0) (done.length + i) 1 =
      .ok (done ++ oneHotVec n i ++ List.replicate m 0) := by
  rw [pySet_at done _ i 1 (by simp; omega), ← List.replicate_append_replicate,
    List.set_append_left _ _ (by simp; omega)]
  simp [oneHotVec]

theorem blank_block (done : List Int) (n i m : Nat) :
    (done ++ oneHotVec n i ++ List.replicate m 0, (done.length : Int) + n) = blank (done ++ oneHotVec n i) m := by
  simp [blank, oneHotVec]

/-- the event the lookback block of distance `d` encodes at position `p`: the event one step after the
lookback position, or the default event when that lies before the start -/
def NextEv (dflt : ε) (evs : List ε) (p : Nat) (d : Int) (e : ε) : Prop :=
  ((p : Int) - d + 1 < 0 ∧ e = dflt) ∨ (0 ≤ (p : Int) - d + 1 ∧ evs[((p : Int) - d + 1).toNat]? = some e)

omit [DecidableEq ε] in
theorem lbNextLoop_spec (oh : OneHot ε) (evs : List ε) (p : Nat) (n : Nat) (hn : oh.numClasses = n)
    (f : Int → Nat) (ds : List Int)
    (hf : ∀ d ∈ ds, f d < n ∧ ∃ e, NextEv oh.default evs p d e ∧ oh.encode e = .ok (f d))
    (done : List Int) (m : Nat) :
    lbNextLoop oh evs p ds (blank done (ds.length * n + m)) =
      .ok (blank (done ++ (ds.map (fun d => oneHotVec n (f d))).flatten) m) := by
  induction ds generalizing done with
  | nil => simp [lbNextLoop]
  | cons d rest ih =>
    obtain ⟨hfd, e, hne, henc⟩ := hf d (by simp)
    have hev : nextEvent oh evs p d = .ok e := by
      unfold nextEvent
      rcases hne with ⟨h1, h2⟩ | ⟨h1, h2⟩
      · simp [h1, h2]
      · obtain ⟨hq, hq2⟩ := List.getElem?_eq_some_iff.mp h2
        rw [if_neg (by omega), pyIdx_of_norm evs _ ((p : Int) - d + 1).toNat (by unfold normIdx; omega) hq, hq2]
    rw [List.length_cons, Nat.succ_mul, Nat.add_right_comm, Nat.add_comm _ n, blank, lbNextLoop]
    simp only [hev, bind, Except.bind, henc, pySet_block done _ n (f d) hfd, hn]
    rw [blank_block, ih (fun d' hd' => hf d' (by simp [hd']))]
    simp

theorem counterLoop_spec (nn : Int) (is : List Nat) (done : List Int) (m : Nat) :
    counterLoop nn is (blank done (is.length + m)) = .ok (blank (done ++ is.map (counterBit nn)) m) := by
  induction is generalizing done with
  | nil => simp [counterLoop]
  | cons i rest ih =>
    rw [List.length_cons, Nat.add_right_comm, blank, counterLoop, pySet_cell]
    simp only [bind, Except.bind]
    rw [blank_snoc, ih]
    simp

def repFlag (evs : List ε) (p : Nat) (d : Int) : Int := if rep evs p d then 1 else 0

theorem repeatLoop_spec (evs : List ε) (p : Nat) (hp : p < evs.length) (ds : List Int) (hd : LegalDists ds)
    (done : List Int) (m : Nat) :
    repeatLoop evs p ds (blank done (ds.length + m)) = .ok (blank (done ++ ds.map (repFlag evs p)) m) := by
  induction ds generalizing done with
  | nil => simp [repeatLoop]
  | cons d rest ih =>
    rw [List.length_cons, Nat.add_right_comm, blank, repeatLoop, repeats_eq evs p hp d (hd d (by simp))]
    have hstep : setIf (rep evs p d) (done ++ List.replicate (rest.length + m + 1) 0) done.length 1
        = .ok (done ++ [repFlag evs p d] ++ List.replicate (rest.length + m) 0) := by
      unfold repFlag setIf
      by_cases h : rep evs p d = true
      · simp only [h, if_true]; exact pySet_cell done _ 1
      · simp [h, List.replicate_succ]
    simp only [bind, Except.bind, hstep]
    rw [blank_snoc, ih (fun d' hd' => hd d' (by simp [hd']))]
    simp

theorem flatten_oneHot_length (n : Nat) (f : Int → Nat) (ds : List Int) :
    ((ds.map (fun d => oneHotVec n (f d))).flatten).length = ds.length * n := by
  simp [List.length_flatten, Function.comp_def, oneHotVec_length, List.map_const', List.sum_replicate_nat]

/-- `events_to_input` of the lookback encoder succeeds with the final vector when each of its steps does -/
theorem lbEventsToInput_steps (oh : OneHot ε) (c : LookbackCfg) (evs : List ε) (pos : Int) (e : ε) (i : Int)
    (inp : List Int) (st1 st2 st3 : List Int × Int)
    (h1 : pyIdx evs pos = .ok e) (h2 : oh.encode e = .ok i) (h3 : pySet (zeros (lbInputSize oh c)) i 1 = .ok inp)
    (h4 : lbNextLoop oh evs pos c.dists (inp, oh.numClasses) = .ok st1)
    (h5 : counterLoop (pos + 1) (List.range c.bits.toNat) st1 = .ok st2)
    (h6 : repeatLoop evs pos c.dists st2 = .ok st3) (h7 : st3.2 = lbInputSize oh c) :
    lbEventsToInput oh c evs pos = .ok st3.1 := by
  unfold lbEventsToInput
  simp only [h1, h2, h3, h4, h5, h6, h7, bind, Except.bind, if_true, pure, Except.pure]

theorem setIf_length {α : Type} {b : Bool} {l l' : List α} {i : Int} {v : α} (h : setIf b l i v = .ok l') :
    l'.length = l.length := by
  unfold setIf at h
  split at h
  · exact pySet_length h
  · rw [Except.ok.inj h]

omit [DecidableEq ε] in
theorem lbNextLoop_length (oh : OneHot ε) (evs : List ε) (pos : Int) (ds : List Int) (st st' : List Int × Int)
    (h : lbNextLoop oh evs pos ds st = .ok st') : st'.1.length = st.1.length := by
  induction ds generalizing st with
  | nil => rw [← Except.ok.inj h]
  | cons d rest ih =>
    obtain ⟨input, offset⟩ := st
    unfold lbNextLoop at h
    obtain ⟨_, _, h⟩ := bind_ok h
    obtain ⟨_, _, h⟩ := bind_ok h
    obtain ⟨inp, hset, h⟩ := bind_ok h
    rw [ih _ h]; exact pySet_length hset

theorem counterLoop_length (nn : Int) (is : List Nat) (st st' : List Int × Int)
    (h : counterLoop nn is st = .ok st') : st'.1.length = st.1.length := by
  induction is generalizing st with
  | nil => rw [← Except.ok.inj h]
  | cons d rest ih =>
    obtain ⟨input, offset⟩ := st
    unfold counterLoop at h
    obtain ⟨inp, hset, h⟩ := bind_ok h
    rw [ih _ h]; exact pySet_length hset

theorem repeatLoop_length (evs : List ε) (pos : Int) (ds : List Int) (st st' : List Int × Int)
    (h : repeatLoop evs pos ds st = .ok st') : st'.1.length = st.1.length := by
  induction ds generalizing st with
  | nil => rw [← Except.ok.inj h]
  | cons d rest ih =>
    obtain ⟨input, offset⟩ := st
    unfold repeatLoop at h
    obtain ⟨_, _, h⟩ := bind_ok h
    obtain ⟨inp, hset, h⟩ := bind_ok h
    rw [ih _ h]; exact setIf_length hset
end

/-- the generation loop never fails on labels satisfying `Lab` when every step decodes to a `Valid` event;
every generated event is the decoding of its label against everything generated before it -/
theorem genLoop_total {ε κ : Type} (cite : κ → List ε → Except String ε) (Valid : ε → Prop) (Lab : κ → Prop)
    (hstep : ∀ l evs, Lab l → (∀ e ∈ evs, Valid e) → ∃ e, cite l evs = .ok e ∧ Valid e)
    (labels : List κ) (hl : ∀ l ∈ labels, Lab l) (init : List ε) (hi : ∀ e ∈ init, Valid e) :
    ∃ out, genLoop cite labels init = .ok out ∧ out.length = init.length + labels.length ∧
      (∀ e ∈ out, Valid e) ∧ out.take init.length = init ∧
      ∀ k (hk : k < labels.length) (ho : init.length + k < out.length),
        cite labels[k] (out.take (init.length + k)) = .ok out[init.length + k] := by
  induction labels generalizing init with
  | nil => exact ⟨init, rfl, by simp, hi, by simp, fun k hk => absurd hk (Nat.not_lt_zero _)⟩
  | cons l ls ih =>
    obtain ⟨e, he, hve⟩ := hstep l init (hl l (by simp)) hi
    obtain ⟨out, h1, h2, h3, h4, h5⟩ := ih (fun x hx => hl x (by simp [hx])) (init ++ [e])
      (fun x hx => (List.mem_append.mp hx).elim (hi x) (fun h => by rw [List.mem_singleton.mp h]; exact hve))
    have hlen : (init ++ [e]).length = init.length + 1 := by simp
    -- the new history is a prefix of the result, hence so is the old one, and the result holds `e` right after it
    have hpre : init ++ [e] <+: out := List.prefix_iff_eq_take.mpr h4.symm
    have htake : out.take init.length = init :=
      (List.prefix_iff_eq_take.mp ((List.prefix_append _ _).trans hpre)).symm
    refine ⟨out, by unfold genLoop; rw [he]; exact h1, by rw [h2, hlen]; simp; omega, h3, htake, ?_⟩
    intro k hk ho
    cases k with
    | zero =>
      have : out[init.length] = e := by rw [← hpre.getElem (by simp)]; simp
      simp only [Nat.add_zero, htake, List.getElem_cons_zero, he, this]
    | succ k =>
      have := h5 k (by simpa using hk) (by rw [hlen]; omega)
      simp only [hlen, Nat.add_right_comm _ 1 k] at this
      exact this

/-- decoding the labels an encoder produced reconstructs the event sequence: if at every position the label
decodes (against the prefix) to the event, then running the generation loop on the labels of positions
`k, k+1, …` from the first `k` events yields the whole sequence -/
theorem genLoop_roundtrip {ε κ : Type} (cite : κ → List ε → Except String ε) (lab : Nat → Except String κ)
    (evs : List ε)
    (h : ∀ p (hp : p < evs.length), ∃ l, lab p = .ok l ∧ cite l (evs.take p) = .ok evs[p])
    (n k : Nat) (hk : k + n = evs.length) :
    ∃ labels, mapE lab (List.range' k n) = .ok labels ∧ genLoop cite labels (evs.take k) = .ok evs := by
  induction n generalizing k with
  | zero =>
    refine ⟨[], rfl, ?_⟩
    have : k = evs.length := by omega
    subst this
    simp [genLoop]
  | succ n ih =>
    obtain ⟨l, hl1, hl2⟩ := h k (by omega)
    obtain ⟨ls, hls1, hls2⟩ := ih (k + 1) (by omega)
    refine ⟨l :: ls, ?_, ?_⟩
    · rw [List.range'_succ]; unfold mapE; rw [hl1, hls1]
    · unfold genLoop
      rw [hl2]
      simp only []
      have : evs.take k ++ [evs[k]'(by omega)] = evs.take (k + 1) := by
        rw [List.take_succ_eq_append_getElem]
      rw [this]; exact hls2

open Gen

/-- legal key-melody configurations (the constructor does not validate; this is the documented domain) -/
def KeyCfgOk (c : KeyCfg) : Prop := 0 ≤ c.minNote ∧ c.minNote < c.maxNote ∧ ∀ d ∈ c.dists, 1 ≤ d

/-- melody events of the configuration: no-event, note-off, or a pitch in `[min_note, max_note)` -/
def KeyEvent (c : KeyCfg) (e : Int) : Prop :=
  e = MELODY_NO_EVENT ∨ e = MELODY_NOTE_OFF ∨ (c.minNote ≤ e ∧ e < c.maxNote)

/-- the plain classes of `KeyMelodyEncoderDecoder` (pitches, no-event, note-off) as a `OneHotEncoding`: the label side of
that class is the lookback encoder over it -/
def keyOneHot (c : KeyCfg) : OneHot Int where
  numClasses := c.noteRange + 2
  encode e :=
    if e = MELODY_NOTE_OFF then pure (c.noteRange + 1)
    else if e = MELODY_NO_EVENT then pure c.noteRange
    else pure (e - c.minNote)
  decode ci := .ok (keyPlainEvent c ci)
  default := MELODY_NO_EVENT
  numSteps _ := 1

theorem keyEventsToLabel_eq (c : KeyCfg) (evs : List Int) (pos : Int) :
    keyEventsToLabel c evs pos = lbEventsToLabel (keyOneHot c) ⟨c.dists, c.bits⟩ evs pos := by
  unfold keyEventsToLabel lbEventsToLabel
  rw [show (keyOneHot c).numClasses + ((⟨c.dists, c.bits⟩ : LookbackCfg).dists.length : Int) - 1 =
    c.noteRange + c.dists.length + 1 by simp only [keyOneHot]; omega]
  rfl

theorem key_valid (c : KeyCfg) (hc : KeyCfgOk c) (e : Int) (hv : KeyEvent c e) : ValidEv (keyOneHot c) e := by
  obtain ⟨h0, h1, _⟩ := hc
  unfold ValidEv keyOneHot keyPlainEvent
  simp only [pure, Except.pure]
  unfold KeyEvent MELODY_NO_EVENT MELODY_NOTE_OFF at hv
  unfold KeyCfg.noteRange MELODY_NO_EVENT MELODY_NOTE_OFF
  rcases hv with h | h | ⟨h2, h3⟩
  · subst h; exact ⟨c.maxNote - c.minNote, by simp, by omega, by omega, by simp; omega⟩
  · subst h; exact ⟨c.maxNote - c.minNote + 1, by simp, by omega, by omega, by simp⟩
  · have e1 : ¬ e = -1 := by omega
    have e2 : ¬ e = -2 := by omega
    refine ⟨e - c.minNote, by simp [e1, e2], by omega, by omega, ?_⟩
    have e3 : ¬ (e - c.minNote = c.maxNote - c.minNote + 1) := by omega
    have e4 : ¬ (e - c.minNote = c.maxNote - c.minNote) := by omega
    simp [e3, e4]; omega

theorem histLoop_length (mx : Int) (vs : List Int) (st st' : List Int × Int)
    (h : histLoop mx vs st = .ok st') : st'.1.length = st.1.length := by
  induction vs generalizing st with
  | nil => rw [← Except.ok.inj h]
  | cons d rest ih =>
    obtain ⟨input, offset⟩ := st
    unfold histLoop at h
    obtain ⟨inp, hset, h⟩ := bind_ok h
    rw [ih _ h]; exact setIf_length hset

theorem keyWriteNote_length (c : KeyCfg) (cur : Option Int) (input out : List Int) (off : Int)
    (h : keyWriteNote c cur input off = .ok out) : out.length = input.length := by
  unfold keyWriteNote at h
  split at h
  · split at h
    · obtain ⟨i1, h1, h⟩ := bind_ok h
      rw [pySet_length h, pySet_length h1]
    · exact pySet_length h
  · exact pySet_length h

theorem keyWriteAsc_length (asc : Option Bool) (input out : List Int) (off : Int)
    (h : keyWriteAsc asc input off = .ok out) : out.length = input.length := by
  unfold keyWriteAsc at h
  split at h
  · exact pySet_length h
  · rw [Except.ok.inj h]

theorem bestSegments_mem (steps : Nat) (cs : List Nat) (c : Nat) :
    cs.foldl (fun best i => if i + steps / i < best + steps / best then i else best) c ∈ c :: cs :=
  List.mem_cons.mpr (foldl_pick_mem (fun _ _ => by split <;> simp) cs c)

theorem optimalNumSegments_divides (steps s : Nat) (h : optimalNumSegments steps = .ok s) :
    1 ≤ s ∧ s < steps ∧ steps % s = 0 ∧ s * (steps / s) = steps := by
  unfold optimalNumSegments at h
  split at h
  · cases h
  · rename_i c cs hf
    injection h with h
    have hm := bestSegments_mem steps cs c
    rw [h, ← hf] at hm
    simp only [List.mem_filter, List.mem_range'_1, decide_eq_true_eq] at hm
    obtain ⟨⟨h1, h2⟩, h3⟩ := hm
    refine ⟨h1, by omega, h3, ?_⟩
    exact Nat.mul_div_cancel' (Nat.dvd_of_mod_eq_zero h3)

theorem divmod_spec (x sp ss : Int) (hsp : 1 ≤ sp) (h0 : 0 ≤ x) (h1 : x < ss * sp) :
    0 ≤ x.fdiv sp ∧ x.fdiv sp < ss ∧ 0 ≤ x.fmod sp ∧ x.fmod sp < sp ∧ x.fdiv sp * sp + x.fmod sp = x := by
  rw [Int.fdiv_eq_ediv_of_nonneg _ (by omega), Int.fmod_eq_emod_of_nonneg _ (by omega)]
  exact ⟨Int.ediv_nonneg h0 (by omega), (Int.ediv_lt_iff_lt_mul (by omega)).mpr h1,
    Int.emod_nonneg _ (by omega), Int.emod_lt_of_pos _ (by omega), Int.ediv_mul_add_emod x sp⟩

/-- `(a, b) ↦ a * sp + b` maps `[0, ss) × [0, sp)` into `[0, ss * sp)`, and floor division undoes it -/
theorem divmod_unique (a b sp ss : Int) (ha0 : 0 ≤ a) (ha1 : a < ss) (h0 : 0 ≤ b) (h1 : b < sp) :
    0 ≤ a * sp + b ∧ a * sp + b < ss * sp ∧ (a * sp + b).fdiv sp = a ∧ (a * sp + b).fmod sp = b := by
  have hlo : 0 ≤ a * sp := Int.mul_nonneg ha0 (by omega)
  have hhi : (a + 1) * sp ≤ ss * sp := Int.mul_le_mul_of_nonneg_right (by omega) (by omega)
  rw [Int.add_mul, Int.one_mul] at hhi
  refine ⟨by omega, by omega, ?_⟩
  rw [Int.fdiv_eq_ediv_of_nonneg _ (by omega), Int.fmod_eq_emod_of_nonneg _ (by omega),
    Int.add_comm, Int.add_mul_ediv_right _ _ (by omega), Int.add_mul_emod_self_right,
    Int.ediv_eq_zero_of_lt h0 h1, Int.emod_eq_of_lt h0 h1]
  omega

/-- componentwise `0 ≤ label[k] < num_classes[k]` -/
def LabelInRange : List Int → List Int → Prop
  | [], [] => True
  | l :: ls, n :: ns => 0 ≤ l ∧ l < n ∧ LabelInRange ls ns
  | _, _ => False

theorem labelInRange_six (a b p v dM dm n1 n2 n3 n4 n5 n6 : Int) :
    LabelInRange [a, b, p, v, dM, dm] [n1, n2, n3, n4, n5, n6] ↔
      (0 ≤ a ∧ a < n1) ∧ (0 ≤ b ∧ b < n2) ∧ (0 ≤ p ∧ p < n3) ∧ (0 ≤ v ∧ v < n4) ∧ (0 ≤ dM ∧ dM < n5) ∧
        (0 ≤ dm ∧ dm < n6) := by
  simp only [LabelInRange, and_true, and_assoc]

/-- legal configurations of the note-performance encoder (beyond the constructor's own assertions) -/
def NPCfgOk (c : NPCfg) : Prop :=
  1 ≤ c.bins ∧ c.bins ≤ MAX_NUM_VELOCITY_BINS ∧ MIN_MIDI_PITCH ≤ c.minPitch ∧ c.minPitch ≤ c.maxPitch ∧
    c.maxPitch ≤ MAX_MIDI_PITCH

def NPValid (c : NPCfg) (ev : NPEvent) : Prop :=
  0 ≤ ev.shift ∧ ev.shift ≤ c.maxShift ∧ c.minPitch ≤ ev.pitch ∧ ev.pitch ≤ c.maxPitch ∧
    1 ≤ ev.vel ∧ ev.vel ≤ c.bins ∧ 1 ≤ ev.dur ∧ ev.dur ≤ c.maxDur

/-- what a successful constructor call establishes: segments × per-segment = steps -/
theorem npInit_spec (c : NPCfg) (E : NPEnc) (h : npInit c = .ok E) :
    E.minPitch = c.minPitch ∧ 1 < E.shiftSeg ∧ 1 ≤ E.shiftPer ∧ E.shiftSeg * E.shiftPer = (c.maxShift : Int) + 1 ∧
    1 < E.durSeg ∧ 1 ≤ E.durPer ∧ E.durSeg * E.durPer = (c.maxDur : Int) ∧
    E.numClasses = [E.shiftSeg, E.shiftPer, c.maxPitch - c.minPitch + 1, c.bins, E.durSeg, E.durPer] := by
  unfold npInit at h
  split at h
  · cases h
  rename_i ss hss
  split at h
  · cases h
  rename_i hs1
  split at h
  · cases h
  rename_i ds hds
  split at h
  · cases h
  rename_i hd1
  cases Except.ok.inj h
  obtain ⟨a1, a2, a3, a4⟩ := optimalNumSegments_divides _ _ hss
  obtain ⟨b1, b2, b3, b4⟩ := optimalNumSegments_divides _ _ hds
  have hs2 : 1 < ss := by simpa using hs1
  have hd2 : 1 < ds := by simpa using hd1
  -- a zero quotient would make the product zero
  have p1 : 1 ≤ (c.maxShift + 1) / ss := Nat.pos_of_ne_zero fun h0 => by rw [h0] at a4; omega
  have p2 : 1 ≤ c.maxDur / ds := Nat.pos_of_ne_zero fun h0 => by rw [h0] at b4; omega
  dsimp only
  exact ⟨rfl, by omega, by exact_mod_cast p1, by exact_mod_cast a4, by omega, by exact_mod_cast p2,
    by exact_mod_cast b4, rfl⟩

/-- a 6-tuple whose recombined values form a valid event decodes to that event: validity implies the
`PerformanceEvent` validation of the constructor -/
theorem npClassIndexToEvent_ok (c : NPCfg) (hc : NPCfgOk c) (E : NPEnc) (a b p v dM dm : Int)
    (hv : NPValid c ⟨a * E.shiftPer + b, p + E.minPitch, v + 1, dM * E.durPer + dm + 1⟩) :
    npClassIndexToEvent E [a, b, p, v, dM, dm] =
      .ok ⟨a * E.shiftPer + b, p + E.minPitch, v + 1, dM * E.durPer + dm + 1⟩ := by
  obtain ⟨c1, c2, c3, c4, c5⟩ := hc
  obtain ⟨v1, v2, v3, v4, v5, v6, v7, v8⟩ := hv
  unfold MAX_NUM_VELOCITY_BINS MIN_MIDI_PITCH MAX_MIDI_PITCH at *
  dsimp only at v1 v3 v4 v5 v6 v7
  dsimp only [npClassIndexToEvent]
  rw [if_pos]
  simp only [perfEventOk, TIME_SHIFT, NOTE_ON, NOTE_OFF, VELOCITY, DURATION, MAX_NUM_VELOCITY_BINS, MIN_MIDI_PITCH,
    MAX_MIDI_PITCH]
  simp
  exact ⟨v1, decide_eq_true ⟨by omega, by omega⟩, decide_eq_true ⟨v5, by omega⟩, v7⟩

theorem npOneHots_spec (ns ks : List Int) (h : LabelInRange ks ns) :
    npOneHots ns ks = .ok ((List.zipWith (fun n k => oneHotVec n.toNat k.toNat) ns ks).flatten) ∧
    (((List.zipWith (fun n k => oneHotVec n.toNat k.toNat) ns ks).flatten).length : Int) = ns.sum := by
  fun_induction LabelInRange ks ns with
  | case1 => exact ⟨rfl, rfl⟩
  | case2 k ks n ns ih =>
    obtain ⟨h0, h1, h2⟩ := h
    obtain ⟨ih1, ih2⟩ := ih h2
    have hk : pySet (zeros n) k 1 = .ok (oneHotVec n.toNat k.toNat) := by
      obtain ⟨kn, rfl⟩ : ∃ kn : Nat, k = kn := ⟨k.toNat, by omega⟩
      rw [pySet_nat _ _ _ (by simp [zeros]; omega)]
      simp [zeros, oneHotVec]
    constructor
    · unfold npOneHots
      simp only [hk, ih1, bind, Except.bind, pure, Except.pure, List.zipWith_cons_cons, List.flatten_cons]
    · simp only [List.zipWith_cons_cons, List.flatten_cons, List.length_append, oneHotVec_length, List.sum_cons]
      omega
  | case3 => exact h.elim

theorem npStepsLoop_spec (E : NPEnc) (labels : List (List Int)) (out : List NPEvent)
    (h : mapE (npClassIndexToEvent E) labels = .ok out) (s : Int) (last : Option NPEvent) :
    npStepsLoop E labels s last = .ok (s + (out.map NPEvent.shift).sum, out.getLast?.or last) := by
  induction labels generalizing out s last with
  | nil => cases Except.ok.inj h; simp [npStepsLoop]
  | cons l ls ih =>
    obtain ⟨ev, rest, hl, hr, rfl⟩ := mapE_cons_ok h
    unfold npStepsLoop
    rw [hl]
    dsimp only
    rw [ih rest hr, List.map_cons, List.sum_cons, List.getLast?_cons, Int.add_assoc]
    cases rest.getLast? <;> rfl

end NSV.C08

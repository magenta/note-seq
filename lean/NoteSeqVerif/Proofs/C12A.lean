import NoteSeqVerif.Proofs.C12
import NoteSeqVerif.Proofs.C10
/-! C12 — a stable sort is the key-sorted list whose *classes* (the elements of one key, in stored order) are those of
its input (`filter_class_sort`, `sorted_eq_of_classes`).  So two storage orders sort to the same list as soon as they
have the same classes (`SameClasses`, `sortByRat_eq_of_classes`) — in particular when no two keys coincide
(`DistinctKeys`, `filter_class_eq_of_perm`).  Also: lists of sequences compared position by position (`PermList`). -/
namespace NSV.C12

def PermList : List NoteSeq → List NoteSeq → Prop
  | [], [] => True
  | a :: l, b :: l' => NSPerm a b ∧ PermList l l'
  | _, _ => False

def ResPermList (r r' : Except Err (List NoteSeq)) : Prop :=
  match r, r' with
  | .ok l, .ok l' => PermList l l'
  | .error e, .error e' => e = e'
  | _, _ => False

theorem permList_pointwise : ∀ {l l' : List NoteSeq}, PermList l l' ↔ C10.Pointwise NSPerm l l'
  | [], [] => Iff.rfl
  | _ :: _, _ :: _ => and_congr Iff.rfl permList_pointwise
  | [], _ :: _ => Iff.rfl
  | _ :: _, [] => Iff.rfl

theorem PermList.refl (l : List NoteSeq) : PermList l l :=
  permList_pointwise.mpr (.refl NSPerm.refl l)

theorem PermList.length_eq {l l' : List NoteSeq} (h : PermList l l') : l.length = l'.length :=
  (permList_pointwise.mp h).length_eq

theorem PermList.get {l l' : List NoteSeq} (h : PermList l l') (i : Nat) (a b : NoteSeq) :
    l[i]? = some a → l'[i]? = some b → NSPerm a b :=
  (permList_pointwise.mp h).get? i a b

theorem permList_iff (l l' : List NoteSeq) :
    PermList l l' ↔ l.length = l'.length ∧
      ∀ (i : Nat) (a b : NoteSeq), l[i]? = some a → l'[i]? = some b → NSPerm a b := by
  constructor
  · intro h; exact ⟨h.length_eq, h.get⟩
  · induction l generalizing l' with
    | nil =>
      rintro ⟨hl, _⟩
      cases l' with
      | nil => trivial
      | cons b l' => simp at hl
    | cons a l ih =>
      rintro ⟨hl, hg⟩
      cases l' with
      | nil => simp at hl
      | cons b l' =>
        refine ⟨hg 0 a b (by simp) (by simp), ih l' ⟨by simpa using hl, ?_⟩⟩
        intro i x y hx hy
        exact hg (i + 1) x y (by simpa using hx) (by simpa using hy)

theorem PermList.map {α : Type} (f g : α → NoteSeq) (l : List α) (h : ∀ x ∈ l, NSPerm (f x) (g x)) :
    PermList (l.map f) (l.map g) := by
  induction l with
  | nil => trivial
  | cons a l ih =>
    exact ⟨h a (by simp), ih (fun x hx => h x (List.mem_cons_of_mem _ hx))⟩

theorem ResPermList.refl (r : Except Err (List NoteSeq)) : ResPermList r r := by
  cases r with
  | ok a => exact PermList.refl a
  | error e => rfl

theorem pairwise_mem_ne {α : Type} {R : α → α → Prop} (hR : ∀ {x y}, R x y → R y x) {l : List α}
    (h : l.Pairwise R) {a b : α} (ha : a ∈ l) (hb : b ∈ l) (hab : a ≠ b) : R a b := by
  induction l with
  | nil => simp at ha
  | cons x l ih =>
    have hx := (List.pairwise_cons.mp h).1
    have hl := (List.pairwise_cons.mp h).2
    rcases List.mem_cons.mp ha with rfl | ha' <;> rcases List.mem_cons.mp hb with rfl | hb'
    · exact absurd rfl hab
    · exact hx b hb'
    · exact hR (hx a ha')
    · exact ih hl ha' hb'

abbrev DistinctKeys {α : Type} (key : α → Rat) (l : List α) : Prop :=
  l.Pairwise (fun a b => key a ≠ key b)

theorem DistinctKeys.perm {α : Type} {key : α → Rat} {l l' : List α} (h : l.Perm l')
    (hd : DistinctKeys key l) : DistinctKeys key l' :=
  h.pairwise hd Ne.symm

/-- the elements of each class (value of `c`) are the same, in the same order, in both lists -/
def SameClasses {α γ : Type} [DecidableEq γ] (c : α → γ) (l l' : List α) : Prop :=
  ∀ k, l.filter (fun a => decide (c a = k)) = l'.filter (fun a => decide (c a = k))

theorem perm_of_filter_eq {α γ : Type} [DecidableEq γ] (c : α → γ) {l l' : List α}
    (h : SameClasses c l l') : l.Perm l' := by
  classical
  rw [List.perm_iff_count]
  intro a
  rw [← List.count_filter (l := l) (p := fun x => decide (c x = c a)) (by simp),
    ← List.count_filter (l := l') (p := fun x => decide (c x = c a)) (by simp), h]

theorem filter_class_sort {α : Type} (key : α → Rat) (l : List α) (k : Rat) :
    (sortByRat key l).filter (fun a => decide (key a = k)) = l.filter (fun a => decide (key a = k)) := by
  have hsub : (l.filter (fun a => decide (key a = k))).Sublist (sortByRat key l) := by
    unfold sortByRat
    refine List.sublist_mergeSort (le := fun a b => decide (key a ≤ key b))
      (TotalPre.ofKey key).trans (TotalPre.ofKey key).total ?_ List.filter_sublist
    refine List.pairwise_of_forall_mem_list ?_
    intro a ha b hb
    have h1 := (List.mem_filter.mp ha).2
    have h2 := (List.mem_filter.mp hb).2
    simp only [decide_eq_true_eq] at h1 h2 ⊢
    rw [h1, h2]
    exact Rat.le_refl
  have hsub2 := hsub.filter (fun a => decide (key a = k))
  rw [List.filter_filter] at hsub2
  simp only [Bool.and_self] at hsub2
  exact (hsub2.eq_of_length (((NSV.sortByRat_perm key l).filter _).length_eq).symm).symm

theorem sorted_eq_of_classes {α : Type} (key : α → Rat) : ∀ {S S' : List α},
    S.Pairwise (fun a b => key a ≤ key b) → S'.Pairwise (fun a b => key a ≤ key b) →
    SameClasses key S S' → S = S'
  | [], [], _, _, _ => rfl
  | [], b :: t', _, _, h => by have := h (key b); simp at this
  | a :: t, [], _, _, h => by have := h (key a); simp at this
  | a :: t, b :: t', hs, hs', h => by
    have hs1 := List.pairwise_cons.mp hs
    have hs1' := List.pairwise_cons.mp hs'
    have ha : a ∈ b :: t' := by
      have : a ∈ (b :: t').filter (fun x => decide (key x = key a)) := by rw [← h (key a)]; simp
      exact (List.mem_filter.mp this).1
    have hb : b ∈ a :: t := by
      have : b ∈ (a :: t).filter (fun x => decide (key x = key b)) := by rw [h (key b)]; simp
      exact (List.mem_filter.mp this).1
    have hab : key a = key b := by
      have h1 : key b ≤ key a := by
        rcases List.mem_cons.mp ha with e | e
        · rw [e]; exact Rat.le_refl
        · exact hs1'.1 a e
      have h2 : key a ≤ key b := by
        rcases List.mem_cons.mp hb with e | e
        · rw [e]; exact Rat.le_refl
        · exact hs1.1 b e
      exact Rat.le_antisymm h2 h1
    have hk := h (key a)
    simp only [List.filter_cons, hab, decide_true, ↓reduceIte, List.cons.injEq] at hk
    obtain ⟨e, _⟩ := hk
    subst e
    have ht : SameClasses key t t' := by
      intro k
      have := h k
      by_cases hk : key a = k
      · simpa [List.filter_cons, hk] using this
      · simpa [List.filter_cons, hk] using this
    rw [sorted_eq_of_classes key hs1.2 hs1'.2 ht]

theorem sortByRat_eq_of_classes {α : Type} (key : α → Rat) {l l' : List α} (h : SameClasses key l l') :
    sortByRat key l = sortByRat key l' := by
  refine sorted_eq_of_classes key (NSV.sortByRat_pairwise key l) (NSV.sortByRat_pairwise key l') ?_
  intro k
  rw [filter_class_sort, filter_class_sort, h k]

theorem filter_class_eq_of_perm {α γ : Type} [DecidableEq γ] (c : α → γ) {b b' : List α} (hp : b.Perm b')
    (hd : b.Pairwise (fun x y => c x ≠ c y)) : SameClasses c b b' := fun _ =>
  -- both sides hold at most one element: two of them would be in one class
  List.Perm.eq_of_pairwise
    (fun _ _ hx hy hxy _ => absurd ((of_decide_eq_true (List.mem_filter.mp hx).2).trans
      (of_decide_eq_true (List.mem_filter.mp hy).2).symm) hxy)
    (hd.filter _) ((hp.pairwise hd Ne.symm).filter _) (hp.filter _)

theorem sortByRat_filter {α : Type} (key : α → Rat) (p : α → Bool) (l : List α) :
    (sortByRat key l).filter p = sortByRat key (l.filter p) := by
  refine sorted_eq_of_classes key ((NSV.sortByRat_pairwise key l).filter p) (NSV.sortByRat_pairwise key _) ?_
  intro k
  rw [filter_class_sort, List.filter_filter, List.filter_filter]
  have : (fun a => decide (key a = k) && p a) = (fun a => p a && decide (key a = k)) := by
    funext a; exact Bool.and_comm _ _
  rw [this, ← List.filter_filter, ← List.filter_filter (p := p), filter_class_sort]

/-- classes of (time, key) determine the time-sorted events of each key -/
theorem sortByRat_filter_key_eq {α γ : Type} [DecidableEq γ] (t : α → Rat) (g : α → γ) {l l' : List α}
    (h : SameClasses (fun e => (t e, g e)) l l') : SameClasses g (sortByRat t l) (sortByRat t l') := by
  intro κ
  rw [sortByRat_filter, sortByRat_filter]
  refine sortByRat_eq_of_classes t fun k => ?_
  rw [List.filter_filter, List.filter_filter]
  have : (fun a => decide (t a = k) && decide (g a = κ)) = (fun a => decide ((t a, g a) = (k, κ))) := by
    funext a; simp [Prod.ext_iff]
  rw [this]; exact h (k, κ)

end NSV.C12

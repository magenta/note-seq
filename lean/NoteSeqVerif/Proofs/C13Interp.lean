import NoteSeqVerif.Proofs.C13
import NoteSeqVerif.Proofs.RoundingApps
/-! C13 — the float transcription of `np.interp` (`interpGo` / `interpR`) under an arbitrary rounding
operator `R` with `Rounding R` (`Proofs/Rounding.lean`: monotone, `R 0 = 0`, relative error `2^-53`;
`rounding_rne53 : Rounding rne53`).

The scan over the knots is argued once, for exact and rounded arithmetic alike, over `SegOK` (Proofs/C13.lean); this file
supplies its instance for such an `R` (`segOK_rounding`: strictly increasing abscissae, non-decreasing ordinates that are floats,
`R y = y`): on one segment `[xₖ, xₖ₊₁]` the arithmetic branch is monotone in `x` (`segR_mono`), not below the left ordinate
(`segR_ge`), and above the right ordinate by at most the factor `(1 + 2^-53)^4` (`segR_le_next`).
Exact monotonicity across a knot is FALSE for `rne53` — see `Props/C13_interp.lean`. -/
namespace NSV.C13
open List

/-- the unit roundoff of float64 -/
def u53 : ℚ := 1 / 2 ^ 53

theorem u53_pos : 0 < u53 := by unfold u53; positivity

/-- ordinates (`fp`) that are floats -/
def RepY (R : ℚ → ℚ) (l : List (ℚ × ℚ)) : Prop := ∀ k ∈ l, R k.2 = k.2

variable {R : ℚ → ℚ}

theorem slope_nonneg (hR : Rounding R) (p q : ℚ × ℚ) (h1 : p.1 < q.1) (h2 : p.2 ≤ q.2) :
    0 ≤ R (R (q.2 - p.2) / R (q.1 - p.1)) := by
  apply hR.nonneg
  apply div_nonneg
  · exact hR.nonneg (by linarith)
  · exact hR.nonneg (by linarith)

/-- anywhere, not only inside the segment -/
theorem segR_mono (hR : Rounding R) (p q : ℚ × ℚ) (h1 : p.1 < q.1) (h2 : p.2 ≤ q.2) (x y : ℚ) (hxy : x ≤ y) :
    segR R p q x ≤ segR R p q y := by
  unfold segR
  apply hR.mono
  have hs := slope_nonneg hR p q h1 h2
  have ht : R (x - p.1) ≤ R (y - p.1) := hR.mono _ _ (by linarith)
  have := hR.mono _ _ (mul_le_mul_of_nonneg_left ht hs)
  linarith

theorem segR_ge (hR : Rounding R) (p q : ℚ × ℚ) (h1 : p.1 < q.1) (h2 : p.2 ≤ q.2) (hy : R p.2 = p.2)
    (x : ℚ) (hx : p.1 ≤ x) : p.2 ≤ segR R p q x := by
  unfold segR
  have hs := slope_nonneg hR p q h1 h2
  have ht : 0 ≤ R (x - p.1) := hR.nonneg (by linarith)
  have hm : 0 ≤ R (R (R (q.2 - p.2) / R (q.1 - p.1)) * R (x - p.1)) := hR.nonneg (mul_nonneg hs ht)
  have := hR.mono p.2 (R (R (R (q.2 - p.2) / R (q.1 - p.1)) * R (x - p.1)) + p.2) (by linarith)
  rwa [hy] at this

/-- one rounding of a non-negative quantity costs at most one factor `1 + u53` -/
theorem round_le_pow_succ (hR : Rounding R) {a B : ℚ} {n : ℕ} (ha : 0 ≤ a) (h : a ≤ B * (1 + u53) ^ n) :
    R a ≤ B * (1 + u53) ^ (n + 1) :=
  calc R a ≤ a * (1 + u53) := (hR.bounds ha).2
    _ ≤ B * (1 + u53) ^ n * (1 + u53) := mul_le_mul_of_nonneg_right h (by have := u53_pos; linarith)
    _ = B * (1 + u53) ^ (n + 1) := by rw [pow_succ, mul_assoc]

/-- the arithmetic branch on abstract increments `dy`, `dx`, `t ≤ dx`: four roundings lie on the path
from `dy` to the result (difference, quotient, product, sum), and replacing `R t` by `R dx` cancels
the divisor -/
theorem round_chain_le (hR : Rounding R) {dy dx t y0 : ℚ} (hdy : 0 ≤ dy) (hdx : 0 < dx) (ht0 : 0 ≤ t)
    (ht : t ≤ dx) (hy0 : 0 ≤ y0) :
    R (R (R (R dy / R dx) * R t) + y0) ≤ (dy + y0) * (1 + u53) ^ 4 := by
  have hb : 0 < R dx := hR.relErr.pos (by norm_num) hdx
  have ha : R dy ≤ dy * (1 + u53) ^ 1 := round_le_pow_succ hR hdy (by rw [pow_zero, mul_one])
  have hq0 : 0 ≤ R dy / R dx := div_nonneg (hR.nonneg hdy) hb.le
  have hs : R (R dy / R dx) ≤ dy / R dx * (1 + u53) ^ 2 :=
    round_le_pow_succ hR hq0 (by rw [div_mul_eq_mul_div]; exact div_le_div_of_nonneg_right ha hb.le)
  have hm0 : 0 ≤ R (R dy / R dx) * R t := mul_nonneg (hR.nonneg hq0) (hR.nonneg ht0)
  have hm : R (R dy / R dx) * R t ≤ dy * (1 + u53) ^ 2 :=
    calc R (R dy / R dx) * R t
        ≤ R (R dy / R dx) * R dx := mul_le_mul_of_nonneg_left (hR.mono _ _ ht) (hR.nonneg hq0)
      _ ≤ dy / R dx * (1 + u53) ^ 2 * R dx := mul_le_mul_of_nonneg_right hs hb.le
      _ = dy * (1 + u53) ^ 2 := by rw [mul_right_comm, div_mul_cancel₀ _ hb.ne']
  have hy : y0 ≤ y0 * (1 + u53) ^ 3 :=
    le_mul_of_one_le_right hy0 (one_le_pow₀ (by have := u53_pos; linarith))
  exact round_le_pow_succ hR (add_nonneg (hR.nonneg hm0) hy0)
    (by rw [add_mul]; exact add_le_add (round_le_pow_succ hR hm0 hm) hy)

theorem segR_le_next (hR : Rounding R) (p q : ℚ × ℚ) (h1 : p.1 < q.1) (h0 : 0 ≤ p.2) (h2 : p.2 ≤ q.2)
    (x : ℚ) (hx : p.1 ≤ x) (hxq : x ≤ q.1) : segR R p q x ≤ q.2 * (1 + u53) ^ 4 := by
  have := round_chain_le hR (sub_nonneg.mpr h2) (sub_pos.mpr h1) (sub_nonneg.mpr hx)
    (sub_le_sub_right hxq p.1) h0
  rw [sub_add_cancel] at this
  exact this

theorem one_le_f4 : (1 : ℚ) ≤ (1 + u53) ^ 4 := one_le_pow₀ (by have := u53_pos; linarith)

theorem KnotsOK.tail {p q : ℚ × ℚ} {rest : List (ℚ × ℚ)} (h : KnotsOK p (q :: rest)) : KnotsOK q rest := h.2.2

theorem segOK_rounding (hR : Rounding R) : SegOK R 0 ((1 + u53) ^ 4) where
  seg h1 h2 hy hx hxy hyq :=
    ⟨segR_ge hR _ _ h1 h2 hy _ hx, segR_mono hR _ _ h1 h2 _ _ hxy,
      fun h0 => segR_le_next hR _ _ h1 h0 h2 _ (le_trans hx hxy) hyq⟩
  le_mul hv := le_mul_of_one_le_right hv one_le_f4
  c_nonneg := le_trans zero_le_one one_le_f4

theorem interpGo_suffix : ∀ (pre : List (ℚ × ℚ)) (p : ℚ × ℚ) (rest : List (ℚ × ℚ)) {a : ℚ × ℚ}
    {post : List (ℚ × ℚ)}, KnotsOK p rest → p :: rest = pre ++ a :: post →
    KnotsOK a post ∧ ∀ x, a.1 ≤ x → interpGo R p rest x = interpGo R a post x
  | [], p, rest, a, post, h, he => by
    obtain ⟨rfl, rfl⟩ := cons.inj he
    exact ⟨h, fun _ _ => rfl⟩
  | c :: pre, p, [], a, post, _, he => by
    have := congrArg length he
    simp at this
  | c :: pre, p, q :: rest, a, post, h, he => by
    obtain ⟨rfl, he'⟩ := cons.inj he
    obtain ⟨hk, hgo⟩ := interpGo_suffix pre q rest h.2.2 he'
    refine ⟨hk, fun x hax => ?_⟩
    have hqa : q.1 ≤ a.1 := xinc_first_le q rest (KnotsOK.xinc q rest h.2.2) a (by rw [he']; simp)
    rw [interpGo_cons, if_pos (le_trans hqa hax)]
    exact hgo x hax

theorem interpGo_seg_mono (hR : Rounding R) (p : ℚ × ℚ) (rest : List (ℚ × ℚ)) (h : KnotsOK p rest)
    (hy : RepY R (p :: rest)) (pre : List (ℚ × ℚ)) (a b : ℚ × ℚ) (post : List (ℚ × ℚ))
    (he : p :: rest = pre ++ a :: b :: post) (x y : ℚ) (hx : a.1 ≤ x) (hxy : x ≤ y) (hyb : y < b.1) :
    interpGo R p rest x ≤ interpGo R p rest y := by
  obtain ⟨hab, hgo⟩ := interpGo_suffix (R := R) pre p rest h he
  rw [hgo x hx, hgo y (le_trans hx hxy)]
  exact interpGo_first_seg_mono (segOK_rounding hR) a b post hab.1 hab.2.1 (hy a (by rw [he]; simp)) x y hx hxy hyb

end NSV.C13

import NoteSeqVerif.Proofs.C18Enc
import NoteSeqVerif.Proofs.C18Dec
/-! C18: `pianoroll_onsets_to_note_sequence` (onset-only decoding) as a closed form over the onset
matrix. -/
namespace NSV.C18

/-- the note `pianoroll_onsets_to_note_sequence` adds for a predicted onset at frame `f`, pitch index
`p`, with velocity value `v` (`dur` = `note_duration_seconds`, `un` = `_unscale_velocity`) -/
def onsetNote (R : Rat → Rat) (un : Rat → Int) (fls dur : Rat) (minMidiPitch : Int) (f p : Nat) (v : Rat) :
    ONote :=
  { pitch := (p : Int) + minMidiPitch, velocity := un v,
    start := R ((f : Rat) * fls), end_ := R (R ((f : Rat) * fls) + dur) }

theorem onsetRow_eq (R : Rat → Rat) (un : Rat → Int) (fls dur : Rat) (mp : Int) (f : Nat) :
    ∀ (p0 : Nat) (bs : List Bool) (vs : List Rat), bs.length = vs.length →
      onsetRow R un fls dur mp f p0 bs vs =
        ((List.range bs.length).filter (fun j => bs[j]?.getD false)).map
          (fun j => onsetNote R un fls dur mp f (p0 + j) (vs[j]?.getD 0)) := by
  intro p0 bs
  induction bs generalizing p0 with
  | nil => intro vs _; cases vs <;> simp [onsetRow]
  | cons b bs ih =>
    rintro (_ | ⟨v, vs⟩) hl
    · simp at hl
    · -- `range (n + 1)` is `0 :: (range n).map succ`; position `j + 1` of a list is position `j` of its tail
      have hs : ∀ j, p0 + 1 + j = p0 + (j + 1) := by omega
      simp only [onsetRow, ih (p0 + 1) vs (by simpa using hl), onsetNote, hs]
      cases b <;> simp [List.range_succ_eq_map, List.filter_map, Function.comp_def]

theorem onsetRows_eq (R : Rat → Rat) (un : Rat → Int) (fls dur : Rat) (mp : Int) :
    ∀ (f0 : Nat) (rs : List (List Bool)) (vs : List (List Rat)), rs.length = vs.length →
      onsetRows R un fls dur mp f0 rs vs =
        (List.range rs.length).flatMap
          (fun i => onsetRow R un fls dur mp (f0 + i) 0 (rs[i]?.getD []) (vs[i]?.getD [])) := by
  intro f0 rs
  induction rs generalizing f0 with
  | nil => intro vs _; cases vs <;> simp [onsetRows]
  | cons r rs ih =>
    rintro (_ | ⟨v, vs⟩) hl
    · simp at hl
    · have hs : ∀ j, f0 + 1 + j = f0 + (j + 1) := by omega
      simp [onsetRows, ih (f0 + 1) vs (by simpa using hl), hs, List.range_succ_eq_map, List.flatMap_map]

/-- width of a roll as the functions read it (`onsets[0]`'s length; 0 for an empty roll) -/
def rollWidth {α} (m : List (List α)) : Nat := match m with | r :: _ => r.length | [] => 0

def onsetAt (onsets : List (List Bool)) (f p : Nat) : Bool := (getCell onsets f p).getD false

/-- the velocity value the onset at `(f, p)` is given: `velocity_values[f, p]`, or — without
`velocity_values` — the `velocity` argument itself (`velocity * np.ones_like(onsets)`), which then goes
through `_unscale_velocity` like a predicted value -/
def onsetVel (d : DCfg) (vels : Option (List (List Rat))) (f p : Nat) : Rat :=
  match vels with
  | some v => (getCell v f p).getD 0
  | none => (d.velocity : Rat)

theorem isRect_width {α} (m : List (List α)) (w : Nat) (h : isRect m m.length w = true) (hne : m ≠ []) :
    rollWidth m = w := by
  cases m with
  | nil => exact absurd rfl hne
  | cons r rest =>
    obtain ⟨row, hrow, hlen⟩ := isRect_row (r :: rest) _ w h 0 (by simp)
    simp only [List.getElem?_cons_zero, Option.some.injEq] at hrow
    subst hrow
    exact hlen

def velsRect (vels : Option (List (List Rat))) (n w : Nat) : Bool :=
  match vels with | some v => isRect v n w | none => true

/-- the matrix of velocity values the loop reads (`velocity * np.ones_like(onsets)` without values) -/
def velsOr (d : DCfg) (onsets : List (List Bool)) (vels : Option (List (List Rat))) : List (List Rat) :=
  match vels with
  | some v => v
  | none => onsets.map fun r => r.map fun _ => (d.velocity : Rat)

/-- the notes of a rectangular onset matrix, cell by cell: frames ascending, pitches ascending inside a
frame (`np.nonzero` order) -/
theorem onsetRows_cells (R : Rat → Rat) (un : Rat → Int) (fls dur : Rat) (mp : Int) {n w : Nat}
    {onsets : List (List Bool)} {vl : List (List Rat)} (hO : isRect onsets n w = true)
    (hV : isRect vl n w = true) :
    onsetRows R un fls dur mp 0 onsets vl =
      (List.range n).flatMap fun f => ((List.range w).filter fun p => onsetAt onsets f p).map fun p =>
        onsetNote R un fls dur mp f p ((getCell vl f p).getD 0) := by
  rw [onsetRows_eq _ _ _ _ _ 0 onsets vl ((isRect_iff.mp hO).1.trans (isRect_iff.mp hV).1.symm), (isRect_iff.mp hO).1,
    List.flatMap_def, List.flatMap_def]
  congr 1
  apply List.map_congr_left
  intro f hf
  obtain ⟨row, hrow, hrl⟩ := isRect_row onsets n w hO f (List.mem_range.mp hf)
  obtain ⟨vrow, hvrow, hvl⟩ := isRect_row vl n w hV f (List.mem_range.mp hf)
  rw [Nat.zero_add, hrow, hvrow, Option.getD_some, Option.getD_some,
    onsetRow_eq _ _ _ _ _ _ 0 row vrow (hrl.trans hvl.symm), hrl]
  simp only [onsetAt, getCell, hrow, hvrow, Option.bind_some, Nat.zero_add]

theorem velsOr_rect (d : DCfg) {onsets : List (List Bool)} {vels : Option (List (List Rat))} {n w : Nat}
    (hO : isRect onsets n w = true) (hV : velsRect vels n w = true) :
    isRect (velsOr d onsets vels) n w = true := by
  cases vels with
  | some v => exact hV
  | none =>
    simpa [isRect_iff, velsOr] using hO

theorem getCell_velsOr (d : DCfg) {onsets : List (List Bool)} (vels : Option (List (List Rat))) {n w : Nat}
    (hO : isRect onsets n w = true) {f p : Nat} (hf : f < n) (hp : p < w) :
    (getCell (velsOr d onsets vels) f p).getD 0 = onsetVel d vels f p := by
  cases vels with
  | some v => rfl
  | none =>
    obtain ⟨row, hrow, hrl⟩ := isRect_row onsets n w hO f hf
    simp [velsOr, onsetVel, getCell, hrow, hrl, hp]

/-- `decodeOnsets` with the width spelled `rollWidth` -/
theorem decodeOnsets_eq (R Rv : Rat → Rat) (d : DCfg) (dur : Rat) (onsets : List (List Bool))
    (vels : Option (List (List Rat))) :
    decodeOnsets R Rv d dur onsets vels =
      if d.fps = 0 then .error .zeroDivisionError
      else if (isRect onsets onsets.length (rollWidth onsets) &&
          velsRect vels onsets.length (rollWidth onsets)) = false
        then .error .shape
      else .ok (onsetRows R (unscale Rv d.scale d.bias) (R (1 / d.fps)) dur d.minMidiPitch 0 onsets
            (velsOr d onsets vels),
           R (R ((onsets.length : Rat) * R (1 / d.fps)) + dur)) := by
  unfold decodeOnsets rollWidth velsRect velsOr
  simp only [Bool.not_eq_true']
  cases onsets <;> rfl

end NSV.C18

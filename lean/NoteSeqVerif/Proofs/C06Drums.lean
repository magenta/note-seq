import NoteSeqVerif.Props.C07
import NoteSeqVerif.Proofs.C06Quant
/-! C06 — DrumTrack, discrete half: extraction (C07 model, through its specification `drums_steps`) of a
sequence whose drum notes are exactly the rendered ones returns the canonical track.  Also the bar arithmetic the
DrumTrack and Melody extractors share.  (core Lean only) -/
namespace NSV.C06
open NSV.C07

theorem evAt_zero (e : List Int) (es : List (List Int)) : evAt (e :: es) 0 = e := by simp [evAt]
theorem evAt_succ (e : List Int) (es : List (List Int)) (i : Nat) : evAt (e :: es) (i + 1) = evAt es i := by
  simp [evAt]
theorem getElem?_eq_evAt {ev : List (List Int)} {i : Nat} (h : i < ev.length) : ev[i]? = some (evAt ev i) := by
  simp [evAt, List.getElem?_eq_getElem h]
theorem evAt_ge {ev : List (List Int)} {i : Nat} (h : ev.length ≤ i) : evAt ev i = [] := by
  simp [evAt, List.getElem?_eq_none h]
theorem evAt_mem {ev : List (List Int)} {i : Nat} (h : i < ev.length) : evAt ev i ∈ ev := by
  simp only [evAt, List.getElem?_eq_getElem h, Option.getD_some]; exact List.getElem_mem h

theorem mem_drumNotesFrom (d : SNote) : ∀ (ev : List (List Int)) (k : Int),
    d ∈ drumNotesFrom k ev ↔
      ∃ i : Nat, i < ev.length ∧ d.a = k + i ∧ d.b = k + i + 1 ∧ d.pitch ∈ evAt ev i := by
  intro ev
  induction ev with
  | nil => intro k; simp [drumNotesFrom]
  | cons e es ih =>
    intro k
    simp only [drumNotesFrom, List.mem_append, List.mem_map, ih (k + 1)]
    constructor
    · rintro (⟨p, hp, rfl⟩ | ⟨i, hi, ha, hb, hp⟩)
      · exact ⟨0, by simp, by simp, by simp, by simpa [evAt_zero] using hp⟩
      · exact ⟨i + 1, by simpa using hi, by push_cast; omega, by push_cast; omega, by rw [evAt_succ]; exact hp⟩
    · rintro ⟨i, hi, ha, hb, hp⟩
      cases i with
      | zero =>
        left
        rw [evAt_zero] at hp
        refine ⟨d.pitch, hp, ?_⟩
        cases d; simp only [SNote.mk.injEq, true_and] at *; omega
      | succ j =>
        right
        rw [evAt_succ] at hp
        exact ⟨j, by simpa using hi, by push_cast at ha; omega, by push_cast at hb; omega, hp⟩

theorem mem_drumNotes (d : SNote) (ev : List (List Int)) :
    d ∈ drumNotes ev ↔ ∃ i : Nat, i < ev.length ∧ d.a = i ∧ d.b = i + 1 ∧ d.pitch ∈ evAt ev i := by
  simp [drumNotes, mem_drumNotesFrom]

/-! `Int.fmod` is what Python's `%` computes; for a positive bar length it is `%`. -/

/-- the extractors start a track at `x − (x − ss) mod spb`, `x` the first selected step: this is the bar line `S`
(bars counted from `ss`) with `S ≤ x < S + spb` -/
theorem bar_line {x ss spb : Int} (hpos : 0 < spb) (S : Int) :
    x - Int.fmod (x - ss) spb = S ↔ S ≤ x ∧ x < S + spb ∧ (S - ss) % spb = 0 := by
  rw [Int.fmod_eq_emod_of_nonneg _ (Int.le_of_lt hpos)]
  constructor
  · rintro rfl
    have h0 := Int.emod_nonneg (x - ss) (Int.ne_of_gt hpos)
    have h1 := Int.emod_lt_of_pos (x - ss) hpos
    refine ⟨by omega, by omega, ?_⟩
    have : x - (x - ss) % spb - ss = spb * ((x - ss) / spb) := by
      have := Int.emod_add_mul_ediv (x - ss) spb; omega
    rw [this, Int.mul_emod_right]
  · rintro ⟨h1, h2, h3⟩
    obtain ⟨c, hc⟩ := Int.dvd_of_emod_eq_zero h3
    rw [show x - ss = x - S + spb * c by omega, Int.add_mul_emod_self_left,
      Int.emod_eq_of_lt (by omega) (by omega)]
    omega

theorem le_bar_line {x ss spb S : Int} (hpos : 0 < spb) (h : ss ≤ x) (h2 : x < S + spb) (h3 : (S - ss) % spb = 0) :
    ss ≤ S := by
  obtain ⟨c, hc⟩ := Int.dvd_of_emod_eq_zero h3
  have : 0 ≤ c := by
    apply Decidable.byContradiction; intro hn
    have := Int.mul_le_mul_of_nonneg_left (show c ≤ -1 by omega) (Int.le_of_lt hpos)
    omega
  have := Int.mul_nonneg (Int.le_of_lt hpos) this
  omega

/-- `pad_end`: a length `L` grows to the next multiple `len` of the bar length -/
theorem pad_line {L spb : Int} (hpos : 0 < spb) (len : Int) :
    L + Int.fmod (-L) spb = len ↔ L ≤ len ∧ len < L + spb ∧ len % spb = 0 := by
  have h := bar_line (x := -L) (ss := 0) hpos (-len)
  rw [Int.sub_zero, Int.sub_zero, ← Int.dvd_iff_emod_eq_zero, Int.dvd_neg, Int.dvd_iff_emod_eq_zero] at h
  constructor
  · intro e
    obtain ⟨h1, h2, h3⟩ := h.mp (by omega)
    exact ⟨by omega, by omega, h3⟩
  · rintro ⟨h1, h2, h3⟩
    have := h.mpr ⟨by omega, by omega, h3⟩
    omega

/-- hops below `gap` cannot jump a gap -/
theorem none_after_gap {ev : List (List Int)} {gap : Int} {l : Nat} (hl : evAt ev l ≠ [])
    (hhops : ∀ j, j < ev.length → evAt ev j ≠ [] →
      (∀ i, i < j → evAt ev i = []) ∨ ∃ i, i < j ∧ evAt ev i ≠ [] ∧ (j : Int) - (i + 1) < gap)
    (hstop : ∀ j, l < j → j < ev.length → evAt ev j ≠ [] → gap ≤ (j : Int) - (l + 1)) :
    ∀ j : Nat, l < j → j < ev.length → evAt ev j = [] := by
  intro j
  induction j using Nat.strongRecOn with
  | ind j ih =>
    intro hlj hjlen
    apply Decidable.byContradiction
    intro hjne
    rcases hhops j hjlen hjne with hall | ⟨k, hkj, hkne, hgap⟩
    · exact hl (hall l hlj)
    · by_cases hlk : l < k
      · exact hkne (ih k hkj hlk (Nat.lt_trans hkj hjlen))
      · have := hstop j hlj hjlen hjne
        omega

/-- **discrete half for DrumTrack**: `s` is any quantized sequence whose notes are drum notes of non-zero velocity
sitting exactly where the canonical track `ev` (start step `S`) has its pitches, in any storage order. -/
theorem drums_discrete (s : NoteSeq) (ev : List (List Int)) (S ss gapBars : Int) (pad ign : Bool) (spb : Int)
    (hspb : stepsPerBar s = .ok spb) (hpos : 0 < spb)
    (h1 : ∀ n ∈ s.notes, n.isDrum = true ∧ n.velocity ≠ 0)
    (h2 : ∀ t p, (∃ n ∈ s.notes, n.qs = t ∧ n.pitch = p) ↔
        ∃ i : Nat, i < ev.length ∧ t = S + i ∧ p ∈ evAt ev i)
    (hc : CanonicalDrums spb (gapBars * spb) pad ss S ev) :
    drumsFromQuantized s ss gapBars pad ign = .ok ⟨ev, S, S + ev.length, spb, s.spq⟩ := by
  rcases hc with ⟨rfl, rfl⟩ | ⟨hsorted, hss0, hssS, hmod, ⟨i0, hi0len, hi0spb, hi0ne, hi0before⟩, hhops,
    ⟨l, hllen, hlne, hlafter, hlen⟩⟩
  · have hsel : s.notes.filter (drumSel ss ign) = [] := by
      rw [List.filter_eq_nil_iff]; intro n hn
      exfalso
      obtain ⟨i, hi, _⟩ := (h2 n.qs n.pitch).mp ⟨n, hn, rfl, rfl⟩
      simp at hi
    rw [drums_empty s ss gapBars pad ign spb hspb hsel]; simp
  · have hselall : s.notes.filter (drumSel ss ign) = s.notes := by
      rw [List.filter_eq_self]; intro n hn
      obtain ⟨i, _, hq, _⟩ := (h2 _ _).mp ⟨n, hn, rfl, rfl⟩
      obtain ⟨hd, hv⟩ := h1 n hn
      simp only [drumSel, hd, Bool.true_or, Bool.true_and, Bool.and_eq_true, bne_iff_ne, ne_eq,
        decide_eq_true_eq]
      exact ⟨hv, by omega⟩
    have hstep : ∀ t, (∃ n ∈ s.notes, n.qs = t) ↔ ∃ i : Nat, i < ev.length ∧ t = S + i ∧ evAt ev i ≠ [] := by
      intro t
      constructor
      · rintro ⟨n, hn, rfl⟩
        obtain ⟨i, hi, hq, hp⟩ := (h2 _ _).mp ⟨n, hn, rfl, rfl⟩
        exact ⟨i, hi, hq, List.ne_nil_of_mem hp⟩
      · rintro ⟨i, hi, rfl, hne⟩
        obtain ⟨p, hp⟩ := List.exists_mem_of_ne_nil _ hne
        obtain ⟨n, hn, hq, _⟩ := (h2 (S + i) p).mpr ⟨i, hi, rfl, hp⟩
        exact ⟨n, hn, hq⟩
    obtain ⟨n0, hn0, hq0⟩ := (hstep (S + i0)).mpr ⟨i0, hi0len, rfl, hi0ne⟩
    obtain ⟨r, first, last, hr, hfirst, hmin, hstart, hrspb, hrspq, hlast, -, hstop, hend, hlenr, hev⟩ :=
      drums_steps s ss gapBars pad ign spb hspb hpos (by rw [hselall]; exact List.ne_nil_of_mem hn0)
    rw [hselall] at hfirst hmin hlast hstop hev
    -- the first selected step is `S + i0`, so the track starts at `S`
    obtain ⟨i, hi, rfl, hine⟩ := (hstep first).mp hfirst
    have hii0 : i = i0 := by
      have := hmin n0 hn0
      have : ¬ i < i0 := fun hlt => hine (hi0before i hlt)
      omega
    subst hii0
    have hstartS : r.startStep = S := hstart.trans ((bar_line hpos S).mpr ⟨by omega, by omega, hmod⟩)
    -- the track stops at the last non-empty event: a later one would be reached from `last` by hops below the gap
    obtain ⟨l', hl', rfl, hl'ne⟩ := (hstep last).mp hlast
    have hreach := none_after_gap hl'ne hhops fun j hlj hjlen hjne => by
      obtain ⟨n1, hn1, hq1⟩ := (hstep (S + j)).mpr ⟨j, hjlen, rfl, hjne⟩
      exact gap_on_indices hq1 (hstop n1 hn1 (step_lt_of_index_lt hq1 hlj))
    have hll' : l' = l := by
      have : ¬ l < l' := fun hlt => hl'ne (hlafter l' hl' hlt)
      have : ¬ l' < l := fun hlt => hlne (hreach l hlt hllen)
      omega
    subst hll'
    clear hreach hstop hmin hfirst hlast hstart hhops
    have hlen_eq : r.events.length = ev.length := by
      have : ((r.events.length : Nat) : Int) = (ev.length : Int) := by
        rw [hlenr, hlen, hstartS, show S + (l' : Int) - S + 1 = (l' : Int) + 1 by omega]
      exact_mod_cast this
    simp only [hstartS, Int.add_le_add_iff_left, Int.ofNat_le] at hev
    have hevents : r.events = ev := by
      apply List.ext_getElem?
      intro i
      by_cases hi : i < ev.length
      · rw [hev i (hlen_eq ▸ hi), getElem?_eq_evAt hi]
        congr 1
        by_cases hil : i ≤ l'
        · rw [if_pos hil]
          apply sorted_ext (pitchesAt_sorted _ _) (hsorted _ (evAt_mem hi))
          intro p
          rw [mem_pitchesAt, h2]
          constructor
          · rintro ⟨i', _, hq, hp⟩
            have : i' = i := by omega
            subst this; exact hp
          · intro hp; exact ⟨i, hi, rfl, hp⟩
        · rw [if_neg hil, hlafter i hi (Nat.lt_of_not_le hil)]
      · rw [List.getElem?_eq_none (hlen_eq ▸ Nat.le_of_not_lt hi), List.getElem?_eq_none (Nat.le_of_not_lt hi)]
    rw [hr]
    cases r
    simp only at hevents hstartS hend hrspb hrspq
    subst hevents hstartS hend hrspb hrspq
    rfl

end NSV.C06

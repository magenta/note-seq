import NoteSeqVerif.Proofs.C18EncC
/-! C18, `sequence_to_pianoroll`: the ACTIVE roll for either setting of
`add_blank_frame_before_onset` (the action of a note's active program on a cell is `aUpd`, folded by `noteA`; the
"covered and not blanked later" characterisation). -/
namespace NSV.C18
open NSV.C12 (uPaint uCell outOfRange)

variable {R R32 : Rat → Rat} {eps : Rat} {c : Cfg} {total : Rat} {n : Nat}

/-- what one painted note does to cell `fr` of its pitch column in the ACTIVE roll (`old` = the cell
before the note): `roll[start:end] = 1`, then — with `add_blank_frame_before_onset`, and only when
`0 < start_frame <= rows`, which for a frame `fr < rows` is what `fr = start_frame - 1` says —
`roll[start_frame - 1] = 0` -/
def aUpd (c : Cfg) (n : Nat) (nf : NF) (fr : Nat) (old : Rat) : Rat :=
  if c.blank = true ∧ (fr : Int) = nf.sf - 1 then 0
  else if inSlice n nf.sf nf.ef fr = true then 1 else old

theorem progActive_cell (nf : NF) (nt : PNote) {fr : Nat} (hfr : fr < n) (x : Rat) :
    (progActive c n nf nt).foldl (fun x u => (u n fr).getD x) x = aUpd c n nf fr x := by
  have hb := blankCell_iff c nf.sf hfr
  simp only [progActive, List.foldl_cons, List.foldl_nil, uPaint, uCell, inSlice_def, hb, aUpd]
  by_cases h1 : c.blank = true ∧ (fr : Int) = nf.sf - 1
  · simp only [if_pos h1, Option.getD_some]
  · by_cases h2 : inSlice n nf.sf nf.ef fr = true
    · simp only [if_neg h1, if_pos h2, Option.getD_some, Option.getD_none]
    · simp only [if_neg h1, if_neg h2, Option.getD_none]

theorem paintNote_active_cell {R R32 : Rat → Rat} {c : Cfg} {n : Nat} {st st' : Rolls} {nt : PNote}
    {col : Nat} {f : NF} (h : paintNote R R32 c n st nt col f = .ok st') (hlen : st.active.length = n)
    (fr p : Nat) (hfr : fr < n) :
    getCell st'.active fr p =
      if p = col then (getCell st.active fr p).map (aUpd c n f fr) else getCell st.active fr p := by
  obtain ⟨_, rfl⟩ := paintNote_ok_iff.mp h
  refine (getCell_colProg (progActive c n f nt) st.active col fr p).trans ?_
  rw [hlen, show (fun x => (progActive c n f nt).foldl (fun x u => (u n fr).getD x) x) = aUpd c n f fr from
    funext (progActive_cell f nt hfr)]

/-- what note `nt` does to the value `x` of cell `(fr, p)` of the active roll -/
def noteA (R : Rat → Rat) (eps : Rat) (c : Cfg) (total : Rat) (n fr p : Nat) (x : Rat) (nt : PNote) : Rat :=
  if c.minPitch ≤ nt.pitch ∧ nt.pitch ≤ c.maxPitch ∧ p = colOf c nt then
    match noteFrames R eps c total n nt with
    | .ok nf => aUpd c n nf fr x
    | .error _ => x
  else x

theorem noteA_eq_prog (nt : PNote) {fr : Nat} (hfr : fr < n) (p : Nat) (x : Rat) :
    (if p = colOf c nt then
      (noteProg R eps c total n (progActive c n) nt).foldl (fun x u => (u n fr).getD x) x else x) =
      noteA R eps c total n fr p x nt := by
  unfold noteA noteProg
  by_cases hr : outOfRange c nt
  · rw [if_pos hr, if_neg (show ¬ (c.minPitch ≤ nt.pitch ∧ nt.pitch ≤ c.maxPitch ∧ p = colOf c nt) by
      unfold outOfRange at hr; omega)]
    simp
  · have hin : c.minPitch ≤ nt.pitch ∧ nt.pitch ≤ c.maxPitch := by unfold outOfRange at hr; omega
    rw [if_neg hr]
    by_cases hp : p = colOf c nt
    · rw [if_pos hp, if_pos ⟨hin.1, hin.2, hp⟩]
      cases noteFrames R eps c total n nt with
      | error e => rfl
      | ok nf => exact progActive_cell nf nt hfr x
    · rw [if_neg hp, if_neg fun h => hp h.2.2]

/-- note `nt` blanks cell `(f, p)`: `add_blank_frame_before_onset` is on, the note is in range, of that
pitch, and `f` is the frame before its first frame -/
def Blanks (R : Rat → Rat) (eps : Rat) (c : Cfg) (total : Rat) (n f p : Nat) (nt : PNote) : Bool :=
  c.blank && decide (c.minPitch ≤ nt.pitch ∧ nt.pitch ≤ c.maxPitch ∧ p = colOf c nt) &&
    match noteFrames R eps c total n nt with
    | .ok nf => decide ((f : Int) = nf.sf - 1)
    | .error _ => false

theorem Blanks_iff (R : Rat → Rat) (eps : Rat) (c : Cfg) (total : Rat) (n f p : Nat) (nt : PNote) :
    Blanks R eps c total n f p nt = true ↔
      c.blank = true ∧ InRange c nt ∧ p = colOf c nt ∧
        ∃ nf, noteFrames R eps c total n nt = .ok nf ∧ (f : Int) = nf.sf - 1 := by
  unfold Blanks InRange
  cases hnf : noteFrames R eps c total n nt with
  | error e => simp
  | ok nf =>
    simp only [Bool.and_eq_true, decide_eq_true_eq]
    constructor
    · rintro ⟨⟨hb, h1, h2, h3⟩, h4⟩; exact ⟨hb, ⟨h1, h2⟩, h3, nf, rfl, h4⟩
    · rintro ⟨hb, ⟨h1, h2⟩, h3, nf', hnf', h4⟩
      cases hnf'
      exact ⟨⟨hb, h1, h2, h3⟩, h4⟩

theorem Blanks_of_noblank (R : Rat → Rat) (eps : Rat) (c : Cfg) (total : Rat) (n f p : Nat) (nt : PNote)
    (hb : c.blank = false) : Blanks R eps c total n f p nt = false := by
  unfold Blanks; simp [hb]

/-- a note never blanks a frame of its own span: `start_frame - 1` lies before the slice
`[start_frame:end_frame]` (here `0 < start_frame ≤ rows`, so the slice bound is not wrapped or clamped) -/
theorem Blanks_not_covers (R : Rat → Rat) (eps : Rat) (c : Cfg) (total : Rat) (n f p : Nat) (nt : PNote)
    (hf : f < n) (h : Blanks R eps c total n f p nt = true) :
    NoteCovers R eps c total n (selActive c) f p nt = false := by
  obtain ⟨_, _, _, nf, hnf, hfr⟩ := (Blanks_iff R eps c total n f p nt).mp h
  cases hc : NoteCovers R eps c total n (selActive c) f p nt with
  | false => rfl
  | true =>
    exfalso
    obtain ⟨_, _, nf', hnf', hs⟩ := (NoteCovers_active_iff R eps c total n f p nt).mp hc
    rw [hnf] at hnf'; cases hnf'
    obtain ⟨s, hs'⟩ := Int.eq_ofNat_of_zero_le (show 0 ≤ nf.sf by omega)
    unfold inSlice at hs
    rw [hs', normIdx_natCast, Bool.and_eq_true, decide_eq_true_eq] at hs
    omega

theorem noteA_eq (R : Rat → Rat) (eps : Rat) (c : Cfg) (total : Rat) (n f p : Nat) (x : Rat) (nt : PNote) :
    noteA R eps c total n f p x nt =
      if Blanks R eps c total n f p nt = true then 0
      else if NoteCovers R eps c total n (selActive c) f p nt = true then 1 else x := by
  by_cases hr : c.minPitch ≤ nt.pitch ∧ nt.pitch ≤ c.maxPitch ∧ p = colOf c nt
  · unfold noteA Blanks NoteCovers noteOp
    rw [if_pos hr, if_neg (show ¬ (nt.pitch < c.minPitch ∨ nt.pitch > c.maxPitch) by omega)]
    cases noteFrames R eps c total n nt with
    | error e => simp
    | ok nf => simp [aUpd, covers, selActive, hr]
  · have hB : ¬ Blanks R eps c total n f p nt = true := fun h =>
      have ⟨_, h1, h2, _⟩ := (Blanks_iff ..).mp h
      hr ⟨h1.1, h1.2, h2⟩
    have hC : ¬ NoteCovers R eps c total n (selActive c) f p nt = true := fun h =>
      have ⟨h1, h2, _⟩ := (NoteCovers_active_iff ..).mp h
      hr ⟨h1.1, h1.2, h2⟩
    rw [noteA, if_neg hr, if_neg hB, if_neg hC]

/-- painting 1 / blanking 0 in sequence: the result is 1 exactly when an element that paints is
followed by no element that blanks (or the start value is 1 and nothing blanks); it is 0 otherwise -/
theorem foldl_blank_cover {α} (l : List α) (b c : α → Bool) (x : Rat) (hx : x = 0 ∨ x = 1) :
    (l.foldl (fun x a => if b a = true then 0 else if c a = true then 1 else x) x = 0 ∨
     l.foldl (fun x a => if b a = true then 0 else if c a = true then 1 else x) x = 1) ∧
    (l.foldl (fun x a => if b a = true then 0 else if c a = true then 1 else x) x = 1 ↔
      (∃ l1 a l2, l = l1 ++ a :: l2 ∧ c a = true ∧ b a = false ∧ ∀ o ∈ l2, b o = false) ∨
      (x = 1 ∧ ∀ o ∈ l, b o = false)) := by
  induction l generalizing x with
  | nil => exact ⟨hx, by simp⟩
  | cons a rest ih =>
    rw [List.foldl_cons]
    -- the value after `a` is 1 exactly when `a` does not blank and either paints or found 1
    have hF : ∀ y, y = (if b a = true then (0 : Rat) else if c a = true then 1 else x) →
        (y = 0 ∨ y = 1) ∧ (y = 1 ↔ b a = false ∧ (c a = true ∨ x = 1)) := by
      rintro _ rfl
      cases b a <;> cases c a <;> simp [hx]
    obtain ⟨h01, h1⟩ := hF _ rfl
    obtain ⟨hv, hiff⟩ := ih _ h01
    refine ⟨hv, hiff.trans ?_⟩
    rw [h1, List.forall_mem_cons]
    constructor
    · rintro (⟨l1, y, l2, rfl, h⟩ | ⟨⟨hb, hc | h1⟩, hall⟩)
      · exact .inl ⟨a :: l1, y, l2, rfl, h⟩
      · exact .inl ⟨[], a, rest, rfl, hc, hb, hall⟩
      · exact .inr ⟨h1, hb, hall⟩
    · rintro (⟨l1, y, l2, hl, h⟩ | ⟨h1, hb, hall⟩)
      · rcases List.cons_eq_append_iff.mp hl with ⟨rfl, h2⟩ | ⟨l1', rfl, h2⟩
        · cases h2; exact .inr ⟨⟨h.2.1, .inl h.1⟩, h.2.2⟩
        · exact .inl ⟨l1', y, l2, h2, h⟩
      · exact .inr ⟨⟨hb, .inr h1⟩, hall⟩

end NSV.C18

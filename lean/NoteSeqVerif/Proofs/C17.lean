import NoteSeqVerif.Proofs.C17Spec
import NoteSeqVerif.Proofs.Lib
/-! C17 — what `Props/C17.lean` needs to know about the definitions of `Model/C17.lean`, one
definition at a time (core Lean only). -/
namespace NSV.C17
open Gen
variable {α : Type}

theorem flatMap_length_const {β : Type} (l : List α) (f : α → List β) (k : Nat) (h : ∀ e, (f e).length = k) :
    (l.flatMap f).length = l.length * k := by
  induction l with
  | nil => simp
  | cons a l ih => simp [List.flatMap_cons, ih, h, Nat.succ_mul]; omega

theorem flatMap_getElem_mul {β : Type} (l : List α) (f : α → List β) (k : Nat) (hk : 0 < k)
    (h : ∀ e, (f e).length = k) (g : α → β) (hg : ∀ e, (f e)[0]? = some (g e)) (i : Nat) :
    (l.flatMap f)[i * k]? = (l[i]?).map g := by
  induction l generalizing i with
  | nil => simp
  | cons a l ih =>
    cases i with
    | zero =>
      simp [List.flatMap_cons]
      rw [List.getElem?_append_left (by rw [h]; exact hk)]
      exact hg a
    | succ i =>
      simp only [List.flatMap_cons, List.getElem?_cons_succ]
      rw [List.getElem?_append_right (by rw [h, Nat.succ_mul]; omega)]
      rw [h, Nat.succ_mul, Nat.add_sub_cancel]
      exact ih i

theorem filterMap_all_some {β : Type} (f : β → Option α) (xs : List β) (h : ∀ x ∈ xs, (f x).isSome = true) :
    (xs.filterMap f).length = xs.length ∧ ∀ m : Nat, (xs.filterMap f)[m]? = (xs[m]?).bind f := by
  induction xs with
  | nil => simp
  | cons x xs ih =>
    obtain ⟨a, ha⟩ := Option.isSome_iff_exists.1 (h x (by simp))
    obtain ⟨l, g⟩ := ih (fun y hy => h y (by simp [hy]))
    refine ⟨by simp [ha, l], ?_⟩
    intro m
    cases m with
    | zero => simp [ha]
    | succ m => simp [ha, g]

theorem clampIdx_le (len : Nat) (i : Int) : clampIdx len i ≤ len := by
  unfold clampIdx; split <;> omega

theorem clampIdx_of_nonneg (len : Nat) (i : Int) (h : 0 ≤ i) : clampIdx len i = min i.toNat len := by
  unfold clampIdx; split <;> omega

theorem sliceLo_le (len : Nat) (i : Option Int) : sliceLo len i ≤ len := by
  cases i <;> simp [sliceLo, clampIdx_le]

theorem sliceHi_le (len : Nat) (i : Option Int) : sliceHi len i ≤ len := by
  cases i <;> simp [sliceHi, clampIdx_le]

theorem pySlice_length (l : List α) (i j : Option Int) :
    (pySlice l i j).length = sliceHi l.length j - sliceLo l.length i := by
  have := sliceLo_le l.length i
  have := sliceHi_le l.length j
  simp [pySlice]; omega

theorem pySlice_getElem (l : List α) (i j : Option Int) (k : Nat) (h : k < (pySlice l i j).length) :
    (pySlice l i j)[k]? = l[sliceLo l.length i + k]? := by
  rw [pySlice_length] at h
  simp [pySlice, h]

theorem pySlice_mem (l : List α) (i j : Option Int) : ∀ e ∈ pySlice l i j, e ∈ l := by
  intro e he
  exact List.mem_of_mem_drop (List.mem_of_mem_take he)

theorem pyDelSlice_from (l : List α) (m : Nat) : pyDelSlice l (some (m : Int)) none = l.take m := by
  simp only [pyDelSlice, sliceLo, sliceHi, clampIdx_of_nonneg _ _ (Int.natCast_nonneg m), Int.toNat_natCast]
  rw [Nat.max_eq_right (Nat.min_le_right _ _), List.drop_length, List.append_nil, List.take_eq_take_iff,
    Nat.min_assoc, Nat.min_self]

theorem pyDelSlice_upto (l : List α) (m : Nat) : pyDelSlice l none (some (m : Int)) = l.drop m := by
  simp only [pyDelSlice, sliceLo, sliceHi, clampIdx_of_nonneg _ _ (Int.natCast_nonneg m), Int.toNat_natCast,
    List.take_zero, List.nil_append, Nat.zero_max]
  rw [List.drop_eq_drop_iff, Nat.min_assoc, Nat.min_self]

theorem pyIndex_zip {β : Type} (a : List α) (b : List β) (h : a.length = b.length) (i : Int) :
    (do let x ← pyIndex a i; let y ← pyIndex b i; pure (x, y)) = pyIndex (a.zip b) i := by
  unfold pyIndex
  simp only [List.length_zip, ← h, Nat.min_self]
  generalize (if i < 0 then i + (a.length : Int) else i) = k
  split
  · rfl
  · rw [List.zip_eq_zipWith, List.getElem?_zipWith]
    cases ha : a[k.toNat]? with
    | none => rfl
    | some x =>
      cases hb : b[k.toNat]? with
      | some y => rfl
      | none =>
        obtain ⟨hn, _⟩ := List.getElem?_eq_some_iff.1 ha
        rw [List.getElem?_eq_none_iff] at hb
        omega

theorem clampStep_pos (len : Nat) (i : Int) : clampStep len false i = (clampIdx len i : Int) := by
  simp only [clampStep, clampIdx, Bool.false_eq_true, if_false]
  split <;> split <;> omega

theorem clampStep_bounds (len : Nat) (k i : Int) :
    (0 < k → 0 ≤ clampStep len (decide (k < 0)) i ∧ clampStep len (decide (k < 0)) i ≤ len) ∧
    (k < 0 → -1 ≤ clampStep len (decide (k < 0)) i ∧ clampStep len (decide (k < 0)) i ≤ (len : Int) - 1) := by
  constructor <;> intro h
  · rw [decide_eq_false (by omega), clampStep_pos]
    exact ⟨Int.natCast_nonneg _, Int.ofNat_le.2 (clampIdx_le len i)⟩
  · rw [decide_eq_true h]
    simp only [clampStep, if_true]
    split <;> split <;> omega

theorem stepLo_bounds (len : Nat) (k : Int) (i : Option Int) :
    (0 < k → 0 ≤ stepLo len k i ∧ stepLo len k i ≤ len) ∧
    (k < 0 → -1 ≤ stepLo len k i ∧ stepLo len k i ≤ (len : Int) - 1) := by
  cases i with
  | none => simp only [stepLo]; constructor <;> intro h <;> split <;> omega
  | some i => exact clampStep_bounds len k i

theorem stepHi_bounds (len : Nat) (k : Int) (j : Option Int) :
    (0 < k → 0 ≤ stepHi len k j ∧ stepHi len k j ≤ len) ∧
    (k < 0 → -1 ≤ stepHi len k j ∧ stepHi len k j ≤ (len : Int) - 1) := by
  cases j with
  | none => simp only [stepHi]; constructor <;> intro h <;> split <;> omega
  | some j => exact clampStep_bounds len k j

theorem step_idx_pos (lo hi k : Int) (m : Nat) (hk : 0 < k) (hm : m < stepCount lo hi k) :
    lo ≤ lo + m * k ∧ lo + m * k < hi := by
  unfold stepCount at hm
  rw [if_neg (show ¬ k < 0 by omega)] at hm
  split at hm
  · have hmq : (m : Int) ≤ (hi - lo - 1) / k := by
      have := Int.ediv_nonneg (show 0 ≤ hi - lo - 1 by omega) (Int.le_of_lt hk)
      omega
    have h1 : (m : Int) * k ≤ (hi - lo - 1) / k * k := Int.mul_le_mul_of_nonneg_right hmq (Int.le_of_lt hk)
    have h2 : (hi - lo - 1) / k * k ≤ hi - lo - 1 := Int.ediv_mul_le _ (by omega)
    have h4 : 0 ≤ (m : Int) * k := Int.mul_nonneg (Int.natCast_nonneg m) (Int.le_of_lt hk)
    generalize (m : Int) * k = x at *
    omega
  · omega

theorem stepCount_neg (lo hi k : Int) (hk : k < 0) : stepCount lo hi k = stepCount (-lo) (-hi) (-k) := by
  unfold stepCount
  rw [if_pos hk, if_neg (show ¬ -k < 0 by omega), show -hi - -lo - 1 = lo - hi - 1 by omega]
  by_cases h : hi < lo
  · rw [if_pos h, if_pos (show -lo < -hi by omega)]
  · rw [if_neg h, if_neg (show ¬ -lo < -hi by omega)]

theorem step_idx_in_range (len : Nat) (i j : Option Int) (k : Int) (m : Nat) (hk : k ≠ 0)
    (hm : m < stepCount (stepLo len k i) (stepHi len k j) k) :
    0 ≤ stepLo len k i + m * k ∧ stepLo len k i + m * k < len := by
  by_cases hneg : k < 0
  · have := step_idx_pos _ _ (-k) m (by omega) (stepCount_neg _ _ k hneg ▸ hm)
    rw [Int.mul_neg] at this
    have := (stepLo_bounds len k i).2 hneg
    have := (stepHi_bounds len k j).2 hneg
    omega
  · have hpos : 0 < k := by omega
    have := step_idx_pos _ _ k m hpos hm
    have := (stepLo_bounds len k i).1 hpos
    have := (stepHi_bounds len k j).1 hpos
    omega

theorem pySliceStep_mem (l : List α) (i j : Option Int) (k : Int) : ∀ e ∈ pySliceStep l i j k, e ∈ l := by
  intro e he
  simp only [pySliceStep, List.mem_filterMap] at he
  obtain ⟨m, _, hm⟩ := he
  exact List.mem_of_getElem? hm

theorem stepLo_one (len : Nat) (i : Option Int) : stepLo len 1 i = (sliceLo len i : Int) := by
  cases i with
  | none => simp [stepLo, sliceLo]
  | some i => exact clampStep_pos len i

theorem stepHi_one (len : Nat) (j : Option Int) : stepHi len 1 j = (sliceHi len j : Int) := by
  cases j with
  | none => simp [stepHi, sliceHi]
  | some j => exact clampStep_pos len j

theorem stepCount_one (lo hi : Nat) : stepCount (lo : Int) (hi : Int) 1 = hi - lo := by
  unfold stepCount
  have : ¬ ((1 : Int) < 0) := by decide
  simp only [this, if_false, Int.ediv_one]
  split <;> omega

theorem stepSkip_cases (c : Cls α) (s : Seq α) (op : Op α) :
    stepSkip c s op = s ∨ step c s op = .ok (stepSkip c s op) := by
  unfold stepSkip; cases step c s op <;> simp

theorem fromEventList_ok (c : Cls α) (evs : List α) (st b q : Int) (s : Seq α)
    (h : fromEventList c evs st b q = .ok s) :
    (∀ e ∈ evs, c.valid e = true) ∧ s = ⟨c.clean evs, st, st + ((c.clean evs).length : Int), b, q⟩ := by
  unfold fromEventList at h
  split at h
  · rename_i hv
    exact ⟨by simpa using hv, (Except.ok.inj h).symm⟩
  · cases h

theorem fromEventList_of_valid (c : Cls α) (evs : List α) (st b q : Int) (hv : ∀ e ∈ evs, c.valid e = true) :
    fromEventList c evs st b q = .ok ⟨c.clean evs, st, st + ((c.clean evs).length : Int), b, q⟩ := by
  have : evs.all c.valid = true := by simpa using hv
  simp [fromEventList, this]

theorem fromEventList_map_abs (c : Cls α) (evs : List α) (st b q : Int) :
    (fromEventList c evs st b q).map Seq.abs =
      if evs.all c.valid then .ok (st, c.clean evs) else .error .valueError := by
  unfold fromEventList
  by_cases h : evs.all c.valid = true
  · rw [if_pos h, if_pos h]; rfl
  · rw [if_neg h, if_neg h]; rfl

theorem step_append_ok (c : Cls α) (s s' : Seq α) (e : α) (h : step c s (.append e) = .ok s') :
    c.valid e = true ∧ s' = { s with events := s.events ++ [e], stop := s.stop + 1 } := by
  simp only [step] at h
  split at h
  · rename_i hv; exact ⟨hv, (Except.ok.inj h).symm⟩
  · cases h

theorem step_slice_ok (c : Cls α) (s : Seq α) (i j : Option Int) (hv : ∀ e ∈ s.events, c.valid e = true) :
    step c s (.slice i j) = .ok ⟨c.clean (pySlice s.events i j), s.start + (sliceLo s.events.length i : Int),
      s.start + (sliceLo s.events.length i : Int) + ((c.clean (pySlice s.events i j)).length : Int), s.spb, s.spq⟩ :=
  fromEventList_of_valid c _ _ _ _ (fun e he => hv e (pySlice_mem _ _ _ e he))

theorem step_sliceStep_ok (c : Cls α) (s s' : Seq α) (i j : Option Int) (k : Int)
    (h : step c s (.sliceStep i j k) = .ok s') :
    k ≠ 0 ∧ fromEventList c (pySliceStep s.events i j k) (s.start + stepLo s.events.length k i) s.spb s.spq = .ok s' := by
  simp only [step] at h
  split at h
  · cases h
  · rename_i hk; exact ⟨hk, h⟩

theorem setLength_events_right (c : Cls α) (s : Seq α) (n : Int) (h : 0 ≤ n) :
    (setLength c s n false).events =
      if n.toNat ≤ s.events.length then s.events.take n.toNat
      else s.events ++ ((c.sustain s.events).getD c.pad :: List.replicate (n.toNat - s.events.length - 1) c.pad) := by
  obtain ⟨m, rfl⟩ := Int.eq_ofNat_of_zero_le h
  unfold setLength baseSetLength
  simp only [Int.toNat_natCast, gt_iff_lt, Int.ofNat_lt, Int.toNat_sub, pyRepeat, Bool.false_eq_true, if_false,
    and_true, pyDelSlice_from]
  by_cases hn : s.events.length < m
  · obtain ⟨d, hd⟩ : ∃ d, m - s.events.length = d + 1 := ⟨m - s.events.length - 1, by omega⟩
    simp only [hn, if_true, if_neg (Nat.not_le.2 hn), hd, List.replicate_succ, Nat.add_sub_cancel]
    cases c.sustain s.events <;> simp
  · simp only [hn, if_false, if_pos (Nat.not_lt.1 hn)]

theorem setLength_events_left (c : Cls α) (s : Seq α) (n : Int) (h : 0 ≤ n) :
    (setLength c s n true).events =
      if n.toNat ≤ s.events.length then s.events.drop (s.events.length - n.toNat)
      else List.replicate (n.toNat - s.events.length) c.pad ++ s.events := by
  obtain ⟨m, rfl⟩ := Int.eq_ofNat_of_zero_le h
  unfold setLength baseSetLength
  simp only [Int.toNat_natCast, gt_iff_lt, Int.ofNat_lt, Int.toNat_sub, pyRepeat, Bool.true_eq_false, and_false,
    if_false, if_true]
  by_cases hn : s.events.length < m
  · simp only [hn, if_true, if_neg (Nat.not_le.2 hn)]
  · rw [← Int.natCast_sub (Nat.not_lt.1 hn)]
    simp only [hn, if_false, if_pos (Nat.not_lt.1 hn), pyDelSlice_upto]

theorem setLength_fields_right (c : Cls α) (s : Seq α) (n : Int) :
    (setLength c s n false).start = s.start ∧ (setLength c s n false).stop = s.start + n ∧
    (setLength c s n false).spb = s.spb ∧ (setLength c s n false).spq = s.spq := by
  unfold setLength baseSetLength
  cases c.sustain s.events <;> by_cases h : n > (s.events.length : Int) <;> simp [h]

theorem setLength_fields_left (c : Cls α) (s : Seq α) (n : Int) :
    (setLength c s n true).start = s.stop - n ∧ (setLength c s n true).stop = s.stop ∧
    (setLength c s n true).spb = s.spb ∧ (setLength c s n true).spq = s.spq := by
  unfold setLength baseSetLength
  simp

theorem setLength_length (c : Cls α) (s : Seq α) (n : Int) (fl : Bool) (h : 0 ≤ n) :
    (setLength c s n fl).events.length = n.toNat := by
  cases fl
  · rw [setLength_events_right c s n h]
    split
    · rw [List.length_take]; omega
    · rw [List.length_append, List.length_cons, List.length_replicate]; omega
  · rw [setLength_events_left c s n h]
    split
    · rw [List.length_drop]; omega
    · rw [List.length_append, List.length_replicate]; omega

theorem setLength_valid (c : Cls α) (hc : Lawful c) (s : Seq α) (n : Int) (fl : Bool) (h : 0 ≤ n)
    (hv : ∀ e ∈ s.events, c.valid e = true) : ∀ e ∈ (setLength c s n fl).events, c.valid e = true := by
  have hpad : ∀ k, ∀ e ∈ List.replicate k c.pad, c.valid e = true :=
    fun k e he => List.eq_of_mem_replicate he ▸ hc.pad_valid
  cases fl
  · rw [setLength_events_right c s n h]
    split
    · exact fun e he => hv e (List.mem_of_mem_take he)
    · refine List.forall_mem_append.2 ⟨hv, List.forall_mem_cons.2 ⟨?_, hpad _⟩⟩
      cases hs : c.sustain s.events with
      | none => exact hc.pad_valid
      | some x => exact hc.sustain_valid _ _ hs
  · rw [setLength_events_left c s n h]
    split
    · exact fun e he => hv e (List.mem_of_mem_drop he)
    · exact List.forall_mem_append.2 ⟨hpad _, hv⟩

theorem setLength_span (c : Cls α) (s : Seq α) (n : Int) (fl : Bool) :
    (setLength c s n fl).stop - (setLength c s n fl).start = n := by
  cases fl
  · obtain ⟨a, b, _, _⟩ := setLength_fields_right c s n; rw [a, b]; omega
  · obtain ⟨a, b, _, _⟩ := setLength_fields_left c s n; rw [a, b]; omega

theorem setLength_inv (c : Cls α) (hc : Lawful c) (s : Seq α) (n : Int) (fl : Bool) (h : 0 ≤ n)
    (hi : Inv c s) : Inv c (setLength c s n fl) := by
  refine ⟨?_, setLength_valid c hc s n fl h hi.2⟩
  rw [setLength_length c s n fl h, setLength_span c s n fl]
  omega

theorem fillOf_length (f : Option α) (k : Int) (hk : 1 ≤ k) (e : α) : (fillOf f k e).length = k.toNat := by
  unfold fillOf pyRepeat
  cases f <;> simp <;> omega

theorem fillOf_head (f : Option α) (k : Int) (hk : 1 ≤ k) (e : α) : (fillOf f k e)[0]? = some e := by
  unfold fillOf pyRepeat
  cases f with
  | none =>
    have : k.toNat = (k.toNat - 1) + 1 := by omega
    rw [this]; simp [List.replicate_succ]
  | some x => simp

theorem fillOf_mem (f : Option α) (k : Int) (e x : α) (h : x ∈ fillOf f k e) : x = e ∨ f = some x := by
  unfold fillOf pyRepeat at h
  cases f with
  | none => exact .inl (List.eq_of_mem_replicate h)
  | some y =>
    rcases List.mem_cons.1 h with h | h
    · exact .inl h
    · exact .inr (congrArg some (List.eq_of_mem_replicate h).symm)

theorem incRes_length (c : Cls α) (s : Seq α) (k : Int) (fill : Option α) (hk : 1 ≤ k) :
    (incRes c s k fill).events.length = s.events.length * k.toNat := by
  unfold incRes
  exact flatMap_length_const _ _ _ (fillOf_length _ k hk)

theorem incRes_inv (c : Cls α) (hc : Lawful c) (s : Seq α) (k : Int) (fill : Option α)
    (hok : OpOk c (.incRes k fill)) (hi : Inv c s) : Inv c (incRes c s k fill) := by
  obtain ⟨hk, hf⟩ := hok
  constructor
  · rw [incRes_length c s k fill hk]
    simp only [incRes]
    rw [← Int.sub_mul, hi.1, Int.natCast_mul, Int.toNat_of_nonneg (by omega)]
  · intro x hx
    simp only [incRes, List.mem_flatMap] at hx
    obtain ⟨a, ha, hx⟩ := hx
    rcases fillOf_mem _ k a x hx with rfl | hx
    · exact hi.2 x ha
    · cases hff : c.fixedFill with
      | some y => rw [hff] at hx; exact hc.fill_valid x (hff.trans hx)
      | none => rw [hff] at hx; exact hf hff x hx

theorem melClean_length (l : List Int) : (melClean l).length = l.length := by
  induction l with
  | nil => rfl
  | cons e l ih => unfold melClean; split <;> simp [ih]

theorem melClean_mem (l : List Int) : ∀ e ∈ melClean l, e ∈ l ∨ e = MELODY_NO_EVENT := by
  induction l with
  | nil => simp [melClean]
  | cons a l ih =>
    unfold melClean
    split
    · intro e he
      simp only [List.mem_cons] at he ⊢
      rcases he with he | he
      · exact Or.inr he
      · rcases ih e he with h | h
        · exact Or.inl (Or.inr h)
        · exact Or.inr h
    · intro e he; exact Or.inl he

theorem melClean_getElem (l : List Int) (k : Nat) :
    (melClean l)[k]? = l[k]? ∨ ((melClean l)[k]? = some MELODY_NO_EVENT ∧ l[k]? = some MELODY_NOTE_OFF) := by
  induction l generalizing k with
  | nil => simp [melClean]
  | cons a l ih =>
    unfold melClean
    split
    · rename_i h
      cases k with
      | zero => simp; rcases h with h | h <;> simp [h]
      | succ k => simpa using ih k
    · exact Or.inl rfl

theorem melSustainRev_cases (rev : List Int) :
    melSustainRev rev = none ∨ melSustainRev rev = some MELODY_NOTE_OFF := by
  induction rev with
  | nil => simp [melSustainRev]
  | cons e rest ih =>
    unfold melSustainRev
    split
    · simp
    · split
      · simp
      · exact ih

theorem melSustainRev_skip (pre l : List Int) (h : ∀ x ∈ pre, x = MELODY_NO_EVENT) :
    melSustainRev (pre ++ l) = melSustainRev l := by
  induction pre with
  | nil => rfl
  | cons a pre ih =>
    obtain ⟨rfl, hp⟩ := List.forall_mem_cons.1 h
    rw [List.cons_append, melSustainRev, if_neg (by decide), if_neg (· rfl), ih hp]

theorem melSustainRev_iff (rev : List Int) :
    melSustainRev rev = some MELODY_NOTE_OFF ↔
      ∃ pre p post, rev = pre ++ p :: post ∧ (∀ x ∈ pre, x = MELODY_NO_EVENT) ∧
        p ≠ MELODY_NO_EVENT ∧ p ≠ MELODY_NOTE_OFF := by
  constructor
  · intro h
    induction rev with
    | nil => cases h
    | cons e rest ih =>
      unfold melSustainRev at h
      by_cases h1 : e = MELODY_NOTE_OFF
      · rw [if_pos h1] at h; cases h
      · by_cases h2 : e = MELODY_NO_EVENT
        · rw [if_neg h1, if_neg (fun hne => hne h2)] at h
          obtain ⟨pre, p, post, rfl, hpre, hp⟩ := ih h
          exact ⟨e :: pre, p, post, rfl, List.forall_mem_cons.2 ⟨h2, hpre⟩, hp⟩
        · exact ⟨[], e, rest, rfl, nofun, h2, h1⟩
  · rintro ⟨pre, p, post, rfl, hpre, hp1, hp2⟩
    rw [melSustainRev_skip pre _ hpre, melSustainRev, if_neg hp2, if_pos hp1]

theorem melSustain_iff (evs : List Int) : melSustain evs = some MELODY_NOTE_OFF ↔ Sounding evs := by
  unfold melSustain Sounding
  rw [melSustainRev_iff]
  constructor
  · rintro ⟨pre, p, post, heq, hpre, hp1, hp2⟩
    refine ⟨post.reverse, p, pre.reverse, ?_, hp1, hp2, ?_⟩
    · have := congrArg List.reverse heq
      simpa using this
    · intro x hx; exact hpre x (by simpa using hx)
  · rintro ⟨pre, p, post, heq, hp1, hp2, hpost⟩
    refine ⟨post.reverse, p, pre.reverse, ?_, ?_, hp1, hp2⟩
    · rw [heq]; simp
    · intro x hx; exact hpost x (by simpa using hx)

theorem melSustain_none_iff (evs : List Int) : melSustain evs = none ↔ ¬ Sounding evs := by
  rw [← melSustain_iff]
  rcases melSustainRev_cases evs.reverse with h | h <;> simp [melSustain, h]

theorem melody_lawful : Lawful melodyCls where
  clean_length := melClean_length
  clean_valid := by
    intro l hl e he
    rcases melClean_mem l e he with h | h
    · exact hl e h
    · rw [h]; decide
  pad_valid := by decide
  fill_valid := by intro f hf; simp [melodyCls] at hf; rw [← hf]; decide
  sustain_valid := by
    intro l x hx
    simp only [melodyCls] at hx
    rcases melSustainRev_cases l.reverse with h | h
    · simp [melSustain, h] at hx
    · simp [melSustain, h] at hx; rw [← hx]; decide

theorem drum_lawful : Lawful drumCls where
  clean_length := by intro l; rfl
  clean_valid := by intro l hl e he; exact hl e he
  pad_valid := by decide
  fill_valid := by intro f hf; simp [drumCls] at hf; rw [← hf]; decide
  sustain_valid := by intro l x hx; simp [drumCls] at hx

theorem simple_lawful (pad : α) : Lawful (simpleCls pad) where
  clean_length := by intro l; rfl
  clean_valid := by intro l hl e he; exact hl e he
  pad_valid := rfl
  fill_valid := by intro f hf; simp [simpleCls] at hf
  sustain_valid := by intro l x hx; simp [simpleCls] at hx

theorem chord_lawful : Lawful chordCls := simple_lawful _

theorem lstepSkip_cases (l : LeadSheet) (op : LOp) :
    lstepSkip l op = l ∨ lstep l op = .ok (lstepSkip l op) := by
  unfold lstepSkip; cases lstep l op <;> simp

theorem mkLeadSheet_ok (m : Seq Int) (c : Seq String) (l : LeadSheet) (h : mkLeadSheet m c = .ok l) :
    l = ⟨m, c⟩ ∧ m.events.length = c.events.length ∧ m.spb = c.spb ∧ m.spq = c.spq ∧ m.start = c.start ∧
      m.stop = c.stop := by
  unfold mkLeadSheet at h
  split at h
  · cases h
  · rename_i hn
    cases h
    simp only [not_or, Decidable.not_not] at hn
    exact ⟨rfl, hn.1, hn.2.1, hn.2.2.1, hn.2.2.2.1, hn.2.2.2.2⟩

theorem lead_bind_ok (x : Except Err (Seq Int)) (y : Except Err (Seq String)) (m : Seq Int) (c : Seq String)
    (hx : x = .ok m) (hy : y = .ok c) (h1 : m.events.length = c.events.length) (h2 : m.spb = c.spb)
    (h3 : m.spq = c.spq) (h4 : m.start = c.start) (h5 : m.stop = c.stop) :
    (do let m ← x; let c ← y; mkLeadSheet m c) = .ok ⟨m, c⟩ := by
  subst hx hy
  simp only [bind, Except.bind, mkLeadSheet, h1, h2, h3, h4, h5, ne_eq, not_true_eq_false, or_self, if_false]

/-- every LeadSheet call that returns a new lead sheet has this shape: the melody part, the chords
part, then the constructor's agreement checks -/
theorem lead_bind_inv (x : Except Err (Seq Int)) (y : Except Err (Seq String)) (l : LeadSheet)
    (hx : ∀ m, x = .ok m → Inv melodyCls m) (hy : ∀ c, y = .ok c → Inv chordCls c)
    (h : (do let m ← x; let c ← y; mkLeadSheet m c) = .ok l) : LInv l := by
  obtain ⟨m, hm, h⟩ := bind_ok h
  obtain ⟨c, hc, h⟩ := bind_ok h
  obtain ⟨rfl, a1, a2, a3, a4, a5⟩ := mkLeadSheet_ok _ _ _ h
  exact ⟨hx m hm, hy c hc, a1, a4, a5, a2, a3⟩

/-- the second clause of `PInv`, for a bare event list -/
def NonNeg (evs : List PEvent) : Prop := ∀ e ∈ evs, isShift e = true → 0 ≤ e.val

theorem numStepsOf_append (a b : List PEvent) : numStepsOf (a ++ b) = numStepsOf a + numStepsOf b := by
  induction a with
  | nil => simp [numStepsOf]
  | cons e a ih => simp [numStepsOf, ih]; omega

theorem numStepsOf_reverse (a : List PEvent) : numStepsOf a.reverse = numStepsOf a := by
  induction a with
  | nil => rfl
  | cons e a ih => simp [numStepsOf_append, numStepsOf, ih]; omega

theorem numStepsOf_nonneg (a : List PEvent) (h : NonNeg a) : 0 ≤ numStepsOf a := by
  induction a with
  | nil => simp [numStepsOf]
  | cons e a ih =>
    have h1 := ih (fun x hx => h x (by simp [hx]))
    have h2 := h e (by simp)
    simp only [numStepsOf]
    split
    · rename_i hs; have := h2 hs; omega
    · omega

theorem numStepsOf_replicate (k : Nat) (v : Int) :
    numStepsOf (List.replicate k ⟨TIME_SHIFT, v⟩) = k * v := by
  induction k with
  | zero => simp [numStepsOf]
  | succ k ih =>
    simp only [List.replicate_succ, numStepsOf, ih, isShift]
    simp
    rw [Int.add_mul]; omega

theorem mkEvent_shift (v : Int) (h : 0 ≤ v) : mkEvent TIME_SHIFT v = .ok ⟨TIME_SHIFT, v⟩ := by
  simp [mkEvent, TIME_SHIFT, NOTE_ON, NOTE_OFF, h]

theorem isShift_mk (v : Int) : isShift ⟨TIME_SHIFT, v⟩ = true := by simp [isShift]

theorem NonNeg_of_ShiftsOk (mx : Int) (evs : List PEvent) (h : ShiftsOk mx evs) : NonNeg evs :=
  fun e he hs => by have := h e he hs; omega

theorem NonNeg_reverse (evs : List PEvent) : NonNeg evs.reverse ↔ NonNeg evs := by
  simp [NonNeg]

theorem ShiftsOk_reverse (mx : Int) (evs : List PEvent) : ShiftsOk mx evs.reverse ↔ ShiftsOk mx evs := by
  simp [ShiftsOk]

theorem numStepsOf_shift (v : Int) (rest : List PEvent) : numStepsOf (⟨TIME_SHIFT, v⟩ :: rest) = v + numStepsOf rest := by
  simp only [numStepsOf, isShift_mk, if_true]

theorem appendTail_spec (mx n : Int) (hmx : 1 ≤ mx) (hn : 0 ≤ n) :
    ∃ tl, appendTail mx n = .ok tl ∧ numStepsOf tl = n ∧
      ShiftsOk mx tl := by
  have ok : ∀ v : Int, 1 ≤ v → v ≤ mx → isShift ⟨TIME_SHIFT, v⟩ = true →
      1 ≤ (PEvent.mk TIME_SHIFT v).val ∧ (PEvent.mk TIME_SHIFT v).val ≤ mx :=
    fun v h1 h2 _ => ⟨h1, h2⟩
  unfold appendTail
  by_cases h1 : n < mx
  · simp only [h1, if_true]
    by_cases h2 : n > 0
    · simp only [h2, if_true, mkEvent_shift n hn]
      exact ⟨_, rfl, by rw [numStepsOf_shift]; exact Int.add_zero n, List.forall_mem_singleton.2 (ok n h2 (by omega))⟩
    · simp only [h2, if_false]
      exact ⟨[], rfl, by simp only [numStepsOf]; omega, nofun⟩
  · have h3 : ¬ mx ≤ 0 := by omega
    simp only [h1, if_false, h3, mkEvent_shift mx (by omega)]
    have hq : 0 ≤ n / mx := Int.ediv_nonneg hn (by omega)
    have hr0 : 0 ≤ n % mx := Int.emod_nonneg n (by omega)
    have hr1 : n % mx < mx := Int.emod_lt_of_pos n (by omega)
    have hdm : n / mx * mx + n % mx = n := Int.ediv_mul_add_emod n mx
    have hqc : ((n / mx).toNat : Int) = n / mx := Int.toNat_of_nonneg hq
    have hfull : ∀ e ∈ List.replicate (n / mx).toNat (PEvent.mk TIME_SHIFT mx), _ :=
      fun e he => List.eq_of_mem_replicate he ▸ ok mx hmx (Int.le_refl _)
    rw [show n - n / mx * mx = n % mx by omega]
    by_cases h4 : n % mx > 0
    · simp only [h4, if_true, mkEvent_shift _ hr0]
      refine ⟨_, rfl, ?_, List.forall_mem_append.2 ⟨hfull, List.forall_mem_singleton.2 (ok _ h4 (by omega))⟩⟩
      rw [numStepsOf_append, numStepsOf_replicate, hqc, numStepsOf_shift]
      simp only [numStepsOf]
      omega
    · simp only [h4, if_false]
      exact ⟨_, rfl, by rw [numStepsOf_replicate, hqc]; omega, hfull⟩

/-- `rev` is the event list reversed, as `appendStepsRev` takes it.  `rev.reverse.dropLast ++ tl`: every old
event but the last is kept in front; the last one may have been lengthened, which is why it is not -/
theorem appendStepsRev_spec (mx : Int) (rev : List PEvent) (n : Int) (hmx : 1 ≤ mx) (hn : 0 ≤ n)
    (hnn : NonNeg rev) :
    ∃ out, appendStepsRev mx rev n = .ok out ∧ numStepsOf out = numStepsOf rev + n ∧ NonNeg out ∧
      (ShiftsOk mx rev → ShiftsOk mx out) ∧ (∃ tl, out = rev.reverse.dropLast ++ tl) ∧
      rev.length ≤ out.length := by
  cases rev with
  | nil =>
    obtain ⟨tl, h1, h2, h3⟩ := appendTail_spec mx n hmx hn
    exact ⟨tl, by simp [appendStepsRev, h1], by simp [numStepsOf, h2], NonNeg_of_ShiftsOk mx tl h3, fun _ => h3,
      ⟨tl, by simp⟩, by simp⟩
  | cons last before =>
    obtain ⟨hl, hb⟩ := List.forall_mem_cons.1 hnn
    by_cases hc : isShift last = true ∧ last.val < mx
    · have hl0 : 0 ≤ last.val := hl hc.1
      obtain ⟨tl, h1, h2, h3⟩ := appendTail_spec mx (n - min n (mx - last.val)) hmx (by omega)
      refine ⟨before.reverse ++ [⟨TIME_SHIFT, last.val + min n (mx - last.val)⟩] ++ tl, ?_, ?_, ?_, ?_,
        ⟨[⟨TIME_SHIFT, last.val + min n (mx - last.val)⟩] ++ tl, by simp⟩, by simp⟩
      · simp only [appendStepsRev, hc, and_self, if_true, mkEvent_shift _ (show 0 ≤ last.val + min n (mx - last.val) by omega), h1]
        rfl
      · simp only [numStepsOf_append, numStepsOf_reverse, numStepsOf, h2, isShift_mk, hc.1, if_true]
        omega
      · exact List.forall_mem_append.2 ⟨List.forall_mem_append.2 ⟨(NonNeg_reverse _).2 hb,
          List.forall_mem_singleton.2 (fun _ => by dsimp only; omega)⟩, NonNeg_of_ShiftsOk mx tl h3⟩
      · intro hok
        obtain ⟨ol, ob⟩ := List.forall_mem_cons.1 hok
        have := ol hc.1
        exact List.forall_mem_append.2 ⟨List.forall_mem_append.2 ⟨(ShiftsOk_reverse _ _).2 ob,
          List.forall_mem_singleton.2 (fun _ => by dsimp only; omega)⟩, h3⟩
    · obtain ⟨tl, h1, h2, h3⟩ := appendTail_spec mx n hmx hn
      refine ⟨(last :: before).reverse ++ tl, ?_, ?_, ?_, ?_, ⟨[last] ++ tl, by simp⟩, by simp⟩
      · simp only [appendStepsRev, hc, if_false, h1]; rfl
      · rw [numStepsOf_append, numStepsOf_reverse, h2]
      · exact List.forall_mem_append.2 ⟨(NonNeg_reverse _).2 hnn, NonNeg_of_ShiftsOk mx tl h3⟩
      · exact fun hok => List.forall_mem_append.2 ⟨(ShiftsOk_reverse _ _).2 hok, h3⟩

/-- `t` is the loop's `steps_trimmed` so far, so `n - t` steps are still to go; `out.tail <:+ rev` because the
head of `out` may be a shortened copy of a shift of `rev` -/
theorem trimRev_spec (mx n : Int) (rev : List PEvent) (t : Int) (ht : t ≤ n) (hnn : NonNeg rev) :
    ∃ out, trimRev rev t n = .ok out ∧
      numStepsOf out = numStepsOf rev - min (n - t) (numStepsOf rev) ∧ NonNeg out ∧
      (ShiftsOk mx rev → ShiftsOk mx out) ∧ out.tail <:+ rev ∧ out.length ≤ rev.length := by
  induction rev generalizing t with
  | nil => exact ⟨[], rfl, by simp [numStepsOf]; omega, hnn, fun h => h, by simp, by simp⟩
  | cons e rest ih =>
    obtain ⟨he0, hnr⟩ := List.forall_mem_cons.1 hnn
    have h0 := numStepsOf_nonneg rest hnr
    unfold trimRev
    by_cases h1 : t < n
    · simp only [h1, if_true]
      by_cases h2 : isShift e = true
      · simp only [h2, if_true]
        by_cases h3 : t + e.val > n
        · simp only [h3, if_true, mkEvent_shift (e.val - n + t) (by omega)]
          refine ⟨⟨TIME_SHIFT, e.val - n + t⟩ :: rest, rfl, ?_, ?_, ?_, by simp, by simp⟩
          · simp only [numStepsOf, isShift_mk, h2, if_true]; omega
          · exact List.forall_mem_cons.2 ⟨fun _ => by dsimp only; omega, hnr⟩
          · intro hok
            obtain ⟨a, b⟩ := List.forall_mem_cons.1 hok
            exact List.forall_mem_cons.2 ⟨fun _ => by have := a h2; dsimp only; omega, b⟩
        · simp only [h3, if_false]
          obtain ⟨out, a, b, c, d, f, g⟩ := ih (t + e.val) (by omega) hnr
          refine ⟨out, a, ?_, c, fun hok => d (List.forall_mem_cons.1 hok).2, f.trans (List.suffix_cons e rest),
            by simp; omega⟩
          simp only [numStepsOf, h2, if_true]; omega
      · simp only [h2]
        obtain ⟨out, a, b, c, d, f, g⟩ := ih t ht hnr
        refine ⟨out, by simpa using a, ?_, c, fun hok => d (List.forall_mem_cons.1 hok).2,
          f.trans (List.suffix_cons e rest), by simp; omega⟩
        simp only [numStepsOf, h2]; simp; omega
    · simp only [h1, if_false]
      have := numStepsOf_nonneg _ hnn
      exact ⟨e :: rest, rfl, by omega, hnn, fun h => h, by simp, by simp⟩

theorem mkEvent_ok (ty : Nat) (v : Int) (e : PEvent) (h : mkEvent ty v = .ok e) :
    e = ⟨ty, v⟩ ∧ (ty = TIME_SHIFT → 0 ≤ v) := by
  unfold mkEvent at h
  by_cases h1 : ty = NOTE_ON ∨ ty = NOTE_OFF
  · simp only [h1, if_true] at h
    split at h
    · cases h; refine ⟨rfl, ?_⟩; intro ht; rcases h1 with h1 | h1 <;> simp [ht, TIME_SHIFT, NOTE_ON, NOTE_OFF] at h1
    · cases h
  · simp only [h1, if_false] at h
    by_cases h2 : ty = TIME_SHIFT
    · simp only [h2, if_true] at h
      split at h
      · rename_i hv; cases h; exact ⟨by rw [h2], fun _ => hv⟩
      · cases h
    · simp only [h2, if_false] at h
      split at h
      · split at h
        · cases h; exact ⟨rfl, fun ht => absurd ht h2⟩
        · cases h
      · split at h
        · split at h
          · cases h; exact ⟨rfl, fun ht => absurd ht h2⟩
          · cases h
        · cases h

theorem perf_setLength_core (p p' : Perf) (n : Int) (h : pstep p (.setLength n false) = .ok p') :
    perfSetLengthCore p n = .ok p' := by
  simp only [pstep, Bool.false_eq_true, if_false] at h
  obtain ⟨q, hc, h⟩ := bind_ok h
  split at h
  · cases h; exact hc
  · cases h

theorem stepsFrom_length (st : Int) (evs : List PEvent) : (stepsFrom st evs).length = evs.length := by
  induction evs generalizing st with
  | nil => rfl
  | cons e evs ih => simp [stepsFrom, ih]

theorem stepsFrom_getElem (st : Int) (evs : List PEvent) (k : Nat) (hk : k < evs.length) :
    (stepsFrom st evs)[k]? = some (st + numStepsOf (evs.take k)) := by
  induction evs generalizing st k with
  | nil => simp at hk
  | cons e evs ih =>
    cases k with
    | zero => simp [stepsFrom, numStepsOf]
    | succ k =>
      simp only [stepsFrom, List.getElem?_cons_succ, List.take_succ_cons, numStepsOf]
      rw [ih _ k (by simpa using hk)]
      split <;> simp <;> omega

theorem stepsFrom_mono (st : Int) (evs : List PEvent) (h : NonNeg evs) :
    (∀ x ∈ stepsFrom st evs, st ≤ x) ∧ (stepsFrom st evs).Pairwise (· ≤ ·) := by
  induction evs generalizing st with
  | nil => simp [stepsFrom]
  | cons e evs ih =>
    obtain ⟨he, hnn⟩ := List.forall_mem_cons.1 h
    obtain ⟨a, b⟩ := ih (if isShift e then st + e.val else st) hnn
    have hd : st ≤ if isShift e then st + e.val else st := by
      split
      · rename_i hs; have := he hs; omega
      · exact Int.le_refl st
    have a' := fun x hx => Int.le_trans hd (a x hx)
    simp only [stepsFrom]
    exact ⟨List.forall_mem_cons.2 ⟨Int.le_refl st, a'⟩, List.pairwise_cons.2 ⟨a', b⟩⟩

theorem nstepsFrom_length (st : Int) (evs : List NEvent) : (nstepsFrom st evs).length = evs.length := by
  induction evs generalizing st with
  | nil => rfl
  | cons e rest ih => simp [nstepsFrom, ih]

theorem nstepsFrom_getElem (st : Int) (evs : List NEvent) (k : Nat) (hk : k < evs.length) :
    (nstepsFrom st evs)[k]? = some (st + shiftSum (evs.take (k + 1))) := by
  induction evs generalizing st k with
  | nil => simp at hk
  | cons e rest ih =>
    cases k with
    | zero => simp [nstepsFrom, shiftSum]
    | succ k =>
      simp only [nstepsFrom, List.getElem?_cons_succ, List.take_succ_cons, shiftSum]
      rw [ih (st + e.shift) k (by simpa using hk)]
      congr 1
      omega

theorem nstepsFrom_mono (st : Int) (evs : List NEvent) (h : ∀ e ∈ evs, 0 ≤ e.shift) :
    (∀ x ∈ nstepsFrom st evs, st ≤ x) ∧ (nstepsFrom st evs).Pairwise (· ≤ ·) := by
  induction evs generalizing st with
  | nil => simp [nstepsFrom]
  | cons e rest ih =>
    have he : 0 ≤ e.shift := h e (by simp)
    obtain ⟨a, b⟩ := ih (st + e.shift) (fun x hx => h x (by simp [hx]))
    constructor
    · intro x hx
      simp only [nstepsFrom, List.mem_cons] at hx
      rcases hx with hx | hx
      · omega
      · have := a x hx; omega
    · simp only [nstepsFrom, List.pairwise_cons]
      exact ⟨fun x hx => a x hx, b⟩

theorem rollSetLengthCore_events (r : Roll) (n : Int) (h : 0 ≤ n) :
    (rollSetLengthCore r n).events =
      if n.toNat ≤ r.events.length then r.events.take n.toNat
      else r.events ++ List.replicate (n.toNat - r.events.length) [] := by
  obtain ⟨m, rfl⟩ := Int.eq_ofNat_of_zero_le h
  unfold rollSetLengthCore
  simp only [Int.toNat_natCast, gt_iff_lt, Int.ofNat_lt, Int.toNat_sub, pyRepeat, pyDelSlice_from]
  by_cases h1 : r.events.length < m
  · simp only [h1, if_true, if_neg (Nat.not_le.2 h1)]
  · simp only [h1, if_false, if_pos (Nat.not_lt.1 h1)]
    split
    · rfl
    · rw [List.take_of_length_le (by omega)]

end NSV.C17

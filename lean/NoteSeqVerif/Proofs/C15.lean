import NoteSeqVerif.Model.C15
import NoteSeqVerif.Proofs.Lib
/-! C15 — why a symbol the namer writes is read back as the pitches it was made from (core Lean only).

A kind the namer reports is a longest kind of the table that is, name by name, part of the degree
interpretation it was found for (`largestKindIn_spec`, `largestKind_spec`).  So
`_degrees_to_modifications` writes nothing but one modification per name the kind lacks
(`degreesToMods_spec`), and the reader, starting from the kind's dict, appends exactly those names
(`applyMods_spec`); each name is read as the pitch of the `_SCALE_DEGREES` row it stands in
(`nameAt_pitch`).  What is needed of the tables is `decide`d over `Generated/C15.lean`.
The loops over interpretations and over candidate roots never raise and report only what they
found for one of their elements: both are instances of `foldE_total`.
A table lookup that cannot fail on its domain gets one equation with a pure right-hand side
(`scaleDegreesAt_eq`, `degreePitch_eq`); a `mapE` over such a body is a `map` (`mapE_eq_map`), so the
interpretations are a product of rows and the pitches of a symbol a `map` of its parsed degrees. -/
namespace NSV.C15
open Gen

-- not `NSV.bind_ok` of `Proofs/Lib` (the inversion `x >>= f = .ok b → …`), which is used below under its full name
@[simp] theorem bind_ok {α β} (a : α) (f : α → Except Err β) : (Except.ok a >>= f) = f a := rfl
@[simp] theorem bind_error {α β} (e : Err) (f : α → Except Err β) :
    ((Except.error e : Except Err α) >>= f) = .error e := rfl

inductive All2 {α β} (R : α → β → Prop) : List α → List β → Prop
  | nil : All2 R [] []
  | cons {a b l1 l2} : R a b → All2 R l1 l2 → All2 R (a :: l1) (b :: l2)

theorem All2.left {α β} {R : α → β → Prop} {l1 : List α} {l2 : List β} (h : All2 R l1 l2) :
    ∀ a ∈ l1, ∃ b ∈ l2, R a b := by
  induction h with
  | nil => intro a ha; cases ha
  | cons hab _ ih =>
    intro x hx
    rcases List.mem_cons.mp hx with rfl | hx
    · exact ⟨_, List.mem_cons_self .., hab⟩
    · obtain ⟨y, hy, hxy⟩ := ih x hx
      exact ⟨y, List.mem_cons_of_mem _ hy, hxy⟩

/-- a relation that determines its second argument makes the second list a `map` of the first -/
theorem All2.map_eq {α β} {R : α → β → Prop} {g : α → β} {l1 : List α} {l2 : List β}
    (h : All2 R l1 l2) (hg : ∀ a b, R a b → g a = b) : l1.map g = l2 := by
  induction h with
  | nil => rfl
  | cons hab _ ih => rw [List.map_cons, hg _ _ hab, ih]

theorem mapE_eq_map {α β} (f : α → Except Err β) (g : α → β) :
    ∀ l : List α, (∀ a ∈ l, f a = .ok (g a)) → mapE f l = .ok (l.map g) := by
  intro l
  induction l with
  | nil => intro _; rfl
  | cons a r ih =>
    intro h
    simp only [mapE, h a (List.mem_cons_self ..), bind_ok,
      ih (fun x hx => h x (List.mem_cons_of_mem _ hx)), List.map_cons]

/-- a loop whose every step returns, keeps `Inv`, and leaves the state in `N` exactly when it was
there and the element is in `B`: it returns, keeps `Inv`, and ends in `N` exactly when it started
there and every element is in `B` -/
theorem foldE_total {σ α} (f : σ → α → Except Err σ) (Inv N : σ → Prop) (B : α → Prop) :
    ∀ (L : List α) (s : σ), Inv s →
      (∀ a ∈ L, ∀ s, Inv s → ∃ s', f s a = .ok s' ∧ Inv s' ∧ (N s' ↔ N s ∧ B a)) →
      ∃ res, foldE f s L = .ok res ∧ Inv res ∧ (N res ↔ N s ∧ ∀ a ∈ L, B a) := by
  intro L
  induction L with
  | nil => intro s h _; exact ⟨s, rfl, h, by simp⟩
  | cons a r ih =>
    intro s h hstep
    obtain ⟨s', hs, h', hn⟩ := hstep a (List.mem_cons_self ..) s h
    obtain ⟨res, hr, hres, hnr⟩ := ih s' h' (fun b hb => hstep b (List.mem_cons_of_mem _ hb))
    refine ⟨res, by simp only [foldE, hs, bind_ok, hr], hres, ?_⟩
    rw [hnr, hn, List.forall_mem_cons, and_assoc]

theorem pymod12_cast (x : Int) : (pymod12 x : Int) = x % 12 :=
  Int.toNat_of_nonneg (Int.emod_nonneg x (by decide))

theorem pymod12_lt (x : Int) : pymod12 x < 12 :=
  Int.ofNat_lt.1 (pymod12_cast x ▸ Int.emod_lt_of_pos x (by decide))

theorem pymod12_natCast (n : Nat) : pymod12 (n : Int) = n % 12 :=
  Int.ofNat_inj.1 (by rw [pymod12_cast, Int.natCast_emod]; rfl)

theorem pymod12_natCast_add (r : Nat) (x : Int) : pymod12 ((r : Int) + x) = (r + pymod12 x) % 12 :=
  Int.ofNat_inj.1 (by
    rw [pymod12_cast, Int.natCast_emod, Int.natCast_add, pymod12_cast]
    exact (Int.add_emod_emod ..).symm)

theorem pymod12_add_mul (x k : Int) : pymod12 (x + 12 * k) = pymod12 x := by
  unfold pymod12; rw [Int.add_mul_emod_self_left]

/-- going up from `r` by the interval from `r` to `x` arrives at `x` -/
theorem add_pymod12_sub (r x : Nat) (hx : x < 12) : (r + pymod12 ((x : Int) - r)) % 12 = x := by
  rw [← pymod12_natCast_add, show (r : Int) + (x - r) = x by omega, pymod12_natCast, Nat.mod_eq_of_lt hx]

/-- pitch class, relative to the root, that the *reader* gives a degree name -/
def namePitch (d : Deg) : Option Nat :=
  (dget DEGREE_OFFSETS (normDegree d.num)).map (fun off => pymod12 (off + d.alter))

/-- the modification the namer writes for a degree that the kind lacks -/
def addModOf (d : Deg) : Mod :=
  let alter := if d.num = 7 then d.alter + 1 else d.alter
  if alter ≠ 0 ∧ d.num > 7 then ⟨.alt, alter, d.num⟩ else ⟨.add, alter, d.num⟩

/-- the reader maps that modification to "insert `d.num ↦ d.alter`" -/
def EmitOk (d : Deg) : Prop :=
  match lookupMod (addModOf d) with
  | some (.add, a) => (if d.num = 7 then a - 1 else a) = d.alter
  | some (.alt, a) => a = d.alter
  | _ => False

instance (d : Deg) : Decidable (EmitOk d) := by
  unfold EmitOk; split <;> exact inferInstance

/-- semitones above the root at which the reader puts the entry `n ↦ a` of the parsed degrees -/
def relPitch (n : Nat) (a : Int) : Nat :=
  pymod12 ((dget DEGREE_OFFSETS (normDegree n)).getD 0 + a)

theorem offsets_total : ∀ i ∈ List.range 7, (dget DEGREE_OFFSETS (i + 1)).isSome = true := by decide

/-- `(degree - 1) % 7 + 1` is one of `1..7`, all of them keys of `_DEGREE_OFFSETS`: the reader's
lookup cannot fail -/
theorem offset_some (n : Nat) : ∃ off, dget DEGREE_OFFSETS (normDegree n) = some off := by
  have h0 := Int.emod_nonneg ((n : Int) - 1) (by decide : (7 : Int) ≠ 0)
  have h7 := Int.emod_lt_of_pos ((n : Int) - 1) (by decide : (0 : Int) < 7)
  unfold normDegree
  rw [Int.toNat_add h0 (by decide)]
  exact Option.isSome_iff_exists.mp (offsets_total _ (List.mem_range.mpr ((Int.toNat_lt h0).mpr h7)))

theorem degreePitch_eq (rp : Nat) (e : Nat × Int) :
    degreePitch rp e = .ok ((rp + relPitch e.1 e.2) % 12) := by
  obtain ⟨off, h⟩ := offset_some e.1
  simp only [degreePitch, lookupK, relPitch, h, bind_ok, Option.getD_some, Int.add_assoc, pymod12_natCast_add]

theorem namePitch_eq (d : Deg) : namePitch d = some (relPitch d.num d.alter) := by
  obtain ⟨off, h⟩ := offset_some d.num
  simp only [namePitch, relPitch, h, Option.map_some, Option.getD_some]

theorem scale_rows_len : SCALE_DEGREES.length = 12 := by decide

theorem scale_rows_pitch :
    ∀ p ∈ List.range 12, ∀ d ∈ (SCALE_DEGREES[p]?).getD [], namePitch d = some p := by decide +kernel

theorem scale_rows_emit : ∀ row ∈ SCALE_DEGREES, ∀ d ∈ row, EmitOk d := by decide +kernel

theorem kinds_by_abbrev_nodup : ∀ kd ∈ KIND_DEGREES, (kd.map (·.num)).Nodup := by decide +kernel

theorem kinds_abbrev : ∀ k ∈ CHORD_KINDS, KIND_DEGREES[k.abbrev0]? = some k.degrees := by decide +kernel

theorem kinds_nodup (k : Kind) (hk : k ∈ CHORD_KINDS) : (k.degrees.map (·.num)).Nodup :=
  kinds_by_abbrev_nodup _ (List.mem_of_getElem? (kinds_abbrev k hk))

theorem row_zero : SCALE_DEGREES[0]? = some [⟨1, 0⟩] := by decide

theorem ped_kind : ∃ k ∈ CHORD_KINDS, k.degrees = [⟨1, 0⟩] := by decide +kernel

theorem spell_ok : ∀ r ∈ List.range 12, (spellFromC r >>= pitchClassToMidi) = .ok r := by decide +kernel

theorem spell_spec (r : Nat) (hr : r < 12) :
    ∃ sp, spellFromC r = .ok sp ∧ pitchClassToMidi sp = .ok r :=
  NSV.bind_ok (spell_ok r (List.mem_range.mpr hr))

def pair (d : Deg) : Nat × Int := (d.num, d.alter)

theorem dget_append (d e : Dict) (q : Nat) :
    dget (d ++ e) q = match dget d q with | some x => some x | none => dget e q := by
  induction d with
  | nil => simp [dget]
  | cons a r ih =>
    obtain ⟨k, v⟩ := a
    simp only [List.cons_append, dget]
    split
    · rfl
    · exact ih

theorem dset_of_none (d : Dict) (k : Nat) (v : Int) (h : dget d k = none) :
    dset d k v = d ++ [(k, v)] := by
  induction d with
  | nil => rfl
  | cons a r ih =>
    obtain ⟨k', v'⟩ := a
    simp only [dget] at h
    split at h
    · cases h
    · rename_i hne
      simp [dset, hne, ih h]

theorem dget_some_mem (d : Dict) (k : Nat) (v : Int) (h : dget d k = some v) : (k, v) ∈ d := by
  induction d with
  | nil => simp [dget] at h
  | cons a r ih =>
    obtain ⟨k', v'⟩ := a
    simp only [dget] at h
    split at h
    · rename_i he
      cases h; subst he; simp
    · exact List.mem_cons_of_mem _ (ih h)

theorem dget_map_pair_mem (l : List Deg) (d : Deg) (hn : (l.map (·.num)).Nodup) (hd : d ∈ l) :
    dget (l.map pair) d.num = some d.alter := by
  induction l with
  | nil => cases hd
  | cons a r ih =>
    simp only [List.map_cons, List.nodup_cons] at hn
    simp only [List.map_cons, pair, dget]
    rcases List.mem_cons.mp hd with h | h
    · subst h; simp
    · split
      · rename_i he
        exact absurd (List.mem_map.mpr ⟨d, h, he.symm⟩) hn.1
      · exact ih hn.2 h

theorem mem_map_pair (l : List Deg) (n : Nat) (a : Int) : (n, a) ∈ l.map pair ↔ (⟨n, a⟩ : Deg) ∈ l := by
  rw [List.mem_map]
  constructor
  · rintro ⟨d, hd, he⟩; cases he; exact hd
  · intro h; exact ⟨_, h, rfl⟩

theorem dget_map_pair_some (l : List Deg) (n : Nat) (a : Int) (h : dget (l.map pair) n = some a) :
    ⟨n, a⟩ ∈ l :=
  (mem_map_pair l n a).mp (dget_some_mem _ _ _ h)

theorem dget_map_pair_none (l : List Deg) (n : Nat) (h : n ∉ l.map (·.num)) :
    dget (l.map pair) n = none := by
  cases hd : dget (l.map pair) n with
  | none => rfl
  | some a => exact absurd (List.mem_map.mpr ⟨_, dget_map_pair_some l n a hd, rfl⟩) h

theorem dget_snoc_rest {a : Deg} {r : List Deg} {D : Dict} (hn : a.num ∉ r.map (·.num))
    (hD : ∀ d ∈ a :: r, dget D d.num = none) (d : Deg) (hd : d ∈ r) :
    dget (D ++ [pair a]) d.num = none := by
  have hne : ¬ a.num = d.num := fun h => hn (List.mem_map.mpr ⟨d, hd, h.symm⟩)
  rw [dget_append, hD d (List.mem_cons_of_mem _ hd)]
  simp [pair, dget, hne]

theorem dictOf_nodup (l : List Deg) (hn : (l.map (·.num)).Nodup) : dictOf l = l.map pair := by
  induction l using snoc_induction with
  | nil => rfl
  | snoc r a ih =>
    rw [List.map_append, List.nodup_append] at hn
    have ha : a.num ∉ r.map (·.num) := fun h => hn.2.2 _ h _ List.mem_cons_self rfl
    rw [dictOf, List.foldl_append, ← dictOf, ih hn.1, List.foldl_cons, List.foldl_nil,
      dset_of_none _ _ _ (dget_map_pair_none r a.num ha), List.map_append]
    rfl

/-- in a list without repeated degree numbers the number determines the name: both alterations
are what the list's dict gives for it -/
theorem nodup_num_inj (t : List Deg) (hn : (t.map (·.num)).Nodup) (a b : Deg) (ha : a ∈ t)
    (hb : b ∈ t) (h : a.num = b.num) : a = b := by
  have hab := dget_map_pair_mem t a hn ha
  rw [h, dget_map_pair_mem t b hn hb] at hab
  obtain ⟨n, x⟩ := a
  obtain ⟨m, y⟩ := b
  cases hab; cases h; rfl

/-- when the kind is part of a duplicate-free target, a target degree with a number of the kind's
is that degree of the kind -/
theorem mem_of_num_mem (kd t : List Deg) (htn : (t.map (·.num)).Nodup) (hsub : ∀ d ∈ kd, d ∈ t)
    (d : Deg) (hd : d ∈ t) (hm : d.num ∈ kd.map (·.num)) : d ∈ kd := by
  obtain ⟨k, hk, he⟩ := List.mem_map.mp hm
  exact nodup_num_inj t htn k d (hsub k hk) hd he ▸ hk

/-! ## `_degrees_to_modifications` when the kind is part of the target -/

theorem addModOf_degree (d : Deg) : (addModOf d).degree = d.num := by
  unfold addModOf; exact (apply_ite Mod.degree ..).trans (ite_self _)

theorem modFor_none (D : Dict) (d : Deg) (h : dget D d.num = none) :
    modFor D d.num d.alter = .ok [addModOf d] := by
  unfold modFor addModOf
  rw [h]
  exact (apply_ite (fun m => Except.ok [m]) ..).symm

theorem modFor_same (D : Dict) (d : Deg) (h : dget D d.num = some d.alter) :
    modFor D d.num d.alter = .ok [] := by
  unfold modFor
  simp [h]

/-- the degrees of the target that the kind lacks -/
def extras (kd t : List Deg) : List Deg := t.filter (fun d => decide (d.num ∉ kd.map (·.num)))

theorem mem_extras (kd t : List Deg) (d : Deg) :
    d ∈ extras kd t ↔ d ∈ t ∧ d.num ∉ kd.map (·.num) := by
  unfold extras; rw [List.mem_filter, decide_eq_true_iff]

theorem addMods_spec (kd : List Deg) (hkn : (kd.map (·.num)).Nodup) :
    ∀ t : List Deg, (∀ d ∈ t, d.num ∈ kd.map (·.num) → d ∈ kd) →
      addMods (kd.map pair) (t.map pair) = .ok ((extras kd t).map addModOf) := by
  intro t
  induction t with
  | nil => intro _; rfl
  | cons a r ih =>
    intro h
    have ihr := ih (fun d hd => h d (List.mem_cons_of_mem _ hd))
    rw [List.map_cons, pair, addMods, ihr]
    unfold extras
    rw [List.filter_cons]
    by_cases hm : a.num ∈ kd.map (·.num)
    · rw [modFor_same _ _ (dget_map_pair_mem kd a hkn (h a (List.mem_cons_self ..) hm)),
        if_neg (fun hd => absurd hm (of_decide_eq_true hd))]
      rfl
    · rw [modFor_none _ _ (dget_map_pair_none kd a.num hm), if_pos (decide_eq_true hm)]
      rfl

theorem subMods_nil (tD : Dict) : ∀ l : List Deg, (∀ d ∈ l, dget tD d.num ≠ none) →
    subMods tD (l.map pair) = [] := by
  intro l
  induction l with
  | nil => intro _; rfl
  | cons a r ih =>
    intro h
    simp only [List.map_cons, pair, subMods]
    have := h a (List.mem_cons_self ..)
    split
    · rename_i he; exact absurd he this
    · exact ih (fun d hd => h d (List.mem_cons_of_mem _ hd))

theorem degreesToMods_spec (kd t : List Deg) (hkn : (kd.map (·.num)).Nodup)
    (htn : (t.map (·.num)).Nodup) (hsub : ∀ d ∈ kd, d ∈ t) :
    degreesToMods kd t = .ok ((extras kd t).map addModOf) := by
  unfold degreesToMods
  rw [dictOf_nodup kd hkn, dictOf_nodup t htn]
  simp only [addMods_spec kd hkn t (mem_of_num_mem kd t htn hsub), bind_ok]
  rw [subMods_nil (t.map pair) kd]
  · simp
  · intro d hd
    rw [dget_map_pair_mem t d htn (hsub d hd)]
    simp

/-! ## the reader applied to `kind ++ added modifications` -/

theorem emit_step (D : Dict) (d : Deg) (he : EmitOk d) (hD : dget D d.num = none) :
    ∃ m, parseMod (addModOf d) = .ok m ∧
      ∀ rest, applyMods D (m :: rest) = applyMods (D ++ [pair d]) rest := by
  unfold EmitOk at he
  unfold parseMod
  split at he
  · rename_i a hl
    refine ⟨(.add, (addModOf d).degree, a), by simp [hl], ?_⟩
    intro rest
    rw [addModOf_degree]
    simp only [applyMods, applyMod, hD, bind_ok, he, dset_of_none _ _ _ hD, pair]
  · rename_i a hl
    refine ⟨(.alt, (addModOf d).degree, a), by simp [hl], ?_⟩
    intro rest
    rw [addModOf_degree]
    simp only [applyMods, applyMod, hD, bind_ok, he, dset_of_none _ _ _ hD, pair]
  · exact he.elim

theorem applyMods_spec : ∀ (tf : List Deg) (D : Dict), (∀ d ∈ tf, EmitOk d) →
    (tf.map (·.num)).Nodup → (∀ d ∈ tf, dget D d.num = none) →
    ∃ ms, mapE parseMod (tf.map addModOf) = .ok ms ∧ applyMods D ms = .ok (D ++ tf.map pair) := by
  intro tf
  induction tf with
  | nil => intro D _ _ _; exact ⟨[], rfl, by simp [applyMods]⟩
  | cons a r ih =>
    intro D he hn hD
    simp only [List.map_cons, List.nodup_cons] at hn
    obtain ⟨m, hm, hstep⟩ := emit_step D a (he a (List.mem_cons_self ..)) (hD a (List.mem_cons_self ..))
    obtain ⟨ms, hms, happ⟩ := ih (D ++ [pair a]) (fun d hd => he d (List.mem_cons_of_mem _ hd)) hn.2
      (dget_snoc_rest hn.1 hD)
    refine ⟨m :: ms, ?_, ?_⟩
    · simp only [List.map_cons, mapE, hm, hms, bind_ok]
    · rw [hstep, happ]; simp

/-! ## `_largest_chord_kind_from_degrees` -/

theorem kindStep_cases (degs : List Deg) (best : Option Nat × List Deg) (k : Kind) :
    (kindStep degs best k = best ∧
      (k.degrees.length ≤ best.2.length ∨ ¬ ∀ d ∈ k.degrees, d ∈ degs)) ∨
    (kindStep degs best k = (some k.abbrev0, k.degrees) ∧ best.2.length < k.degrees.length ∧
      ∀ d ∈ k.degrees, d ∈ degs) := by
  have hall : k.degrees.all (fun d => degs.contains d) = true ↔ ∀ d ∈ k.degrees, d ∈ degs := by simp
  unfold kindStep
  split
  · rename_i hle; exact .inl ⟨rfl, .inl hle⟩
  · split
    · rename_i hlt h; exact .inr ⟨rfl, Nat.not_le.mp hlt, hall.mp h⟩
    · rename_i h; exact .inl ⟨rfl, .inr (fun h' => h (hall.mpr h'))⟩

/-- after the kinds `tbl` the loop holds nothing, or a kind of `tbl` that lies inside `degs`, and what it
holds is as long as every kind of `tbl` inside `degs`.  The induction takes the kinds off the end of
the table, so that its hypothesis speaks of the kinds already met. -/
theorem largestKindIn_spec (degs : List Deg) (tbl : List Kind) :
    (∀ k ∈ tbl, (∀ d ∈ k.degrees, d ∈ degs) →
      k.degrees.length ≤ (tbl.foldl (kindStep degs) (none, [])).2.length) ∧
    (tbl.foldl (kindStep degs) (none, []) = (none, []) ∨
      ∃ k ∈ tbl, tbl.foldl (kindStep degs) (none, []) = (some k.abbrev0, k.degrees) ∧
        ∀ d ∈ k.degrees, d ∈ degs) := by
  induction tbl using snoc_induction with
  | nil => exact ⟨nofun, .inl rfl⟩
  | snoc r k ih =>
    obtain ⟨hmax, hres⟩ := ih
    rw [List.foldl_append, List.foldl_cons, List.foldl_nil]
    generalize r.foldl (kindStep degs) (none, []) = best at hmax hres ⊢
    rcases kindStep_cases degs best k with ⟨he, hno⟩ | ⟨he, hlt, hs⟩ <;> rw [he]
    · refine ⟨fun k' hk' hs' => ?_, hres.imp id fun ⟨k', hk', h⟩ => ⟨k', List.mem_append_left _ hk', h⟩⟩
      rcases List.mem_append.mp hk' with hk' | hk'
      · exact hmax k' hk' hs'
      · cases List.mem_singleton.mp hk'; exact hno.elim id (absurd hs')
    · refine ⟨fun k' hk' hs' => ?_, .inr ⟨k, List.mem_append_right _ List.mem_cons_self, rfl, hs⟩⟩
      rcases List.mem_append.mp hk' with hk' | hk'
      · exact Nat.le_trans (hmax k' hk' hs') (Nat.le_of_lt hlt)
      · cases List.mem_singleton.mp hk'; exact Nat.le_refl _

theorem largestKind_spec (degs : List Deg) (a : Nat) (h : largestKindFromDegrees degs = some a) :
    ∃ k ∈ CHORD_KINDS, a = k.abbrev0 ∧ ∀ d ∈ k.degrees, d ∈ degs := by
  unfold largestKindFromDegrees largestKindIn at h
  rcases (largestKindIn_spec degs CHORD_KINDS).2 with he | ⟨k, hk, he, hs⟩ <;> rw [he] at h
  · cases h
  · exact ⟨k, hk, (Option.some.inj h).symm, hs⟩

/-- when the unison is among `degs`, some kind is found: the loop ends with something as long as the
pedal point `['1']` -/
theorem largestKind_some (degs : List Deg) (h1 : (⟨1, 0⟩ : Deg) ∈ degs) :
    largestKindFromDegrees degs ≠ none := by
  obtain ⟨k, hk, hd⟩ := ped_kind
  obtain ⟨hmax, hres⟩ := largestKindIn_spec degs CHORD_KINDS
  have hlen := hmax k hk (by rw [hd]; exact fun d hdk => List.mem_singleton.mp hdk ▸ h1)
  unfold largestKindFromDegrees largestKindIn
  rcases hres with he | ⟨_, _, he, _⟩ <;> rw [he] at hlen ⊢
  · rw [hd] at hlen; cases hlen
  · nofun

/-! ## interpretations: `itertools.product` over the rows of `_SCALE_DEGREES` -/

/-- `d` is one of the names `_SCALE_DEGREES` lists for relative pitch `p` -/
def NameAt (d : Deg) (p : Nat) : Prop := ∃ row, SCALE_DEGREES[p]? = some row ∧ d ∈ row

/-- `_SCALE_DEGREES[p]`, empty beyond the table -/
def rowOf (p : Nat) : List Deg := (SCALE_DEGREES[p]?).getD []

theorem mem_rowOf {d : Deg} {p : Nat} : d ∈ rowOf p ↔ NameAt d p := by
  unfold rowOf NameAt
  cases SCALE_DEGREES[p]? <;> simp

theorem scaleDegreesAt_eq (p : Nat) (hp : p < 12) : scaleDegreesAt p = .ok (rowOf p) := by
  have : p < SCALE_DEGREES.length := by rw [scale_rows_len]; exact hp
  unfold scaleDegreesAt rowOf
  rw [List.getElem?_eq_getElem this]; rfl

/-- an element of the product takes one name from the row of each relative pitch -/
theorem mem_product_rows : ∀ (rel : List Nat) (degs : List Deg),
    degs ∈ product (rel.map rowOf) → All2 NameAt degs rel
  | [], degs, h => by
    simp only [List.map_nil, product, List.mem_singleton] at h
    subst h; exact .nil
  | p :: rel, degs, h => by
    simp only [List.map_cons, product, List.mem_flatMap, List.mem_map] at h
    obtain ⟨a, ha, y, hy, rfl⟩ := h
    exact .cons (mem_rowOf.mp ha) (mem_product_rows rel y hy)

theorem nameAt_lt {d : Deg} {p : Nat} (h : NameAt d p) : p < 12 := by
  obtain ⟨row, hr, _⟩ := h
  have := (List.getElem?_eq_some_iff.mp hr).1
  rw [scale_rows_len] at this; exact this

/-- a name stands in the row of the pitch the reader gives it (so in one row only) -/
theorem nameAt_pitch {d : Deg} {p : Nat} (h : NameAt d p) : relPitch d.num d.alter = p :=
  Option.some.inj ((namePitch_eq d).symm.trans
    (scale_rows_pitch p (List.mem_range.mpr (nameAt_lt h)) d (mem_rowOf.mpr h)))

theorem nameAt_emit {d : Deg} {p : Nat} (h : NameAt d p) : EmitOk d := by
  obtain ⟨row, hr, hd⟩ := h
  exact scale_rows_emit row (List.mem_of_getElem? hr) d hd

theorem nameAt_zero {d : Deg} (h : NameAt d 0) : d = ⟨1, 0⟩ := by
  obtain ⟨row, hr, hd⟩ := h
  rw [row_zero] at hr
  cases hr
  simpa using hd

/-- the relative pitches are those the reader gives the names of their interpretation -/
theorem interp_rel {degs : List Deg} {rel : List Nat} (h : All2 NameAt degs rel) :
    degs.map (fun d => relPitch d.num d.alter) = rel :=
  h.map_eq fun _ _ => nameAt_pitch

/-- some name of an interpretation of relative pitches with 0 among them is read as pitch 0; it stands
in the row of that pitch, so it is `'1'`, and a kind is found -/
theorem interp_kind {degs : List Deg} {rel : List Nat} (hi : All2 NameAt degs rel) (h0 : 0 ∈ rel) :
    largestKindFromDegrees degs ≠ none := by
  rw [← interp_rel hi] at h0
  obtain ⟨d, hdm, hd0⟩ := List.mem_map.mp h0
  obtain ⟨p, _, hp⟩ := hi.left d hdm
  exact largestKind_some degs (nameAt_zero ((nameAt_pitch hp).symm.trans hd0 ▸ hp) ▸ hdm)

/-! ## the loop over interpretations (`_largest_chord_kind_from_relative_pitches`) -/

/-- what a reported `(kind, interpretation)` satisfies for the relative pitches `rel` -/
def RelCand (rel : List Nat) (a : Nat) (degs : List Deg) : Prop :=
  All2 NameAt degs rel ∧ hasDup (degs.map (·.num)) = false ∧ largestKindFromDegrees degs = some a

/-- invariant: a reported kind comes with the interpretation it was found for -/
def InterpInv (rel : List Nat) (best : Option Nat × List Deg) : Prop :=
  ∀ a, best.1 = some a → RelCand rel a best.2

theorem kindLen_of_kind (k : Kind) (hk : k ∈ CHORD_KINDS) : kindLen k.abbrev0 = .ok k.degrees.length := by
  unfold kindLen kindDegrees
  rw [kinds_abbrev k hk]; rfl

/-- a reported kind is a kind of the table, so its length lookup cannot fail -/
theorem kindLen_of_largest {degs : List Deg} {a : Nat} (h : largestKindFromDegrees degs = some a) :
    ∃ n, kindLen a = .ok n := by
  obtain ⟨k, hk, rfl, _⟩ := largestKind_spec degs a h
  exact ⟨_, kindLen_of_kind k hk⟩

theorem interpStep_total (rel : List Nat) (degs : List Deg) (hd : All2 NameAt degs rel)
    (hk : largestKindFromDegrees degs ≠ none)
    (best : Option Nat × List Deg) (hb : InterpInv rel best) :
    ∃ best', interpStep best degs = .ok best' ∧ InterpInv rel best' ∧
      (best'.1 = none ↔ best.1 = none ∧ hasDup (degs.map (·.num)) = true) := by
  unfold interpStep
  cases hdup : hasDup (degs.map (·.num)) with
  | true => exact ⟨best, by simp, hb, by simp⟩
  | false =>
    obtain ⟨a, hka⟩ := Option.ne_none_iff_exists'.mp hk
    have hnew : InterpInv rel (some a, degs) := fun a' ha => ⟨hd, hdup, hka.trans ha⟩
    simp only [Bool.false_eq_true, ↓reduceIte, hka]
    cases hb1 : best.1 with
    | none => exact ⟨_, rfl, hnew, by simp⟩
    | some b =>
      obtain ⟨la, hla⟩ := kindLen_of_largest hka
      obtain ⟨lb, hlb⟩ := kindLen_of_largest (hb b hb1).2.2
      simp only [kindLenOpt, hla, hlb, bind_ok]
      split
      · exact ⟨_, rfl, hnew, by simp⟩
      · exact ⟨best, rfl, hb, by simp [hb1]⟩

/-- no interpretation of the relative pitches `rel` is free of repeated degree numbers -/
def Unnameable (rel : List Nat) : Prop :=
  ∀ rows, mapE scaleDegreesAt rel = .ok rows →
    ∀ degs ∈ product rows, hasDup (degs.map (·.num)) = true

theorem largestFromRel_spec (rel : List Nat) (hlt : ∀ p ∈ rel, p < 12) (h0 : 0 ∈ rel) :
    ∃ res, largestFromRel rel = .ok res ∧
      (res.1 = none ↔ Unnameable rel) ∧ (∀ a, res.1 = some a → RelCand rel a res.2) := by
  have hrows : mapE scaleDegreesAt rel = .ok (rel.map rowOf) :=
    mapE_eq_map _ _ rel (fun p hp => scaleDegreesAt_eq p (hlt p hp))
  obtain ⟨res, hres, hinv, hiff⟩ := foldE_total interpStep (InterpInv rel)
    (·.1 = none) (fun degs => hasDup (degs.map (·.num)) = true) (product (rel.map rowOf)) (none, [])
    (fun _ ha => by cases ha)
    (fun degs hd => have hi := mem_product_rows rel degs hd
      interpStep_total rel degs hi (interp_kind hi h0))
  refine ⟨res, ?_, ?_, hinv⟩
  · unfold largestFromRel
    simp only [hrows, bind_ok, hres]
  · rw [hiff]
    constructor
    · rintro ⟨_, h⟩ rows' hrows'
      rw [hrows] at hrows'; cases hrows'; exact h
    · intro h; exact ⟨rfl, h _ hrows⟩

/-! ## the loop over candidate roots -/

abbrev RootBest := Option (Nat × Nat × List Deg)

/-- invariant: a reported `(root, kind, interpretation)` was found for one of the candidates `C` -/
def RootInv (C : List (Nat × List Nat)) (best : RootBest) : Prop :=
  ∀ r a degs, best = some (r, a, degs) → ∃ c ∈ C, c.1 = r ∧ RelCand c.2 a degs

theorem rootStep_total (C : List (Nat × List Nat)) (c : Nat × List Nat) (hc : c ∈ C)
    (hlt : ∀ p ∈ c.2, p < 12) (h0 : 0 ∈ c.2) (best : RootBest) (hb : RootInv C best) :
    ∃ best', rootStep best c = .ok best' ∧ RootInv C best' ∧
      (best' = none ↔ best = none ∧ Unnameable c.2) := by
  obtain ⟨res, hres, hnone, hsome⟩ := largestFromRel_spec c.2 hlt h0
  unfold rootStep
  simp only [hres, bind_ok]
  cases ha : res.1 with
  | none => exact ⟨best, rfl, hb, by simp [hnone.mp ha]⟩
  | some a =>
    have hun : ¬ Unnameable c.2 := fun h => by rw [hnone.mpr h] at ha; cases ha
    have hcand := hsome _ ha
    have hnew : RootInv C (some (c.1, a, res.2)) := by
      intro r a' degs h; cases h; exact ⟨c, hc, rfl, hcand⟩
    obtain ⟨la, hla⟩ := kindLen_of_largest hcand.2.2
    cases hbest : best with
    | none => exact ⟨_, rfl, hnew, by simp [hun]⟩
    | some t =>
      obtain ⟨r0, b, dg0⟩ := t
      obtain ⟨_, _, _, hc0⟩ := hb r0 b dg0 hbest
      obtain ⟨lb, hlb⟩ := kindLen_of_largest hc0.2.2
      simp only [hla, hlb, bind_ok]
      split
      · exact ⟨_, rfl, hnew, by simp⟩
      · exact ⟨_, rfl, hbest ▸ hb, by simp⟩

theorem foldE_root_total (cands : List (Nat × List Nat))
    (hc : ∀ c ∈ cands, (∀ p ∈ c.2, p < 12) ∧ 0 ∈ c.2) :
    ∃ res, foldE rootStep none cands = .ok res ∧ RootInv cands res ∧
      (res = none ↔ ∀ c ∈ cands, Unnameable c.2) := by
  obtain ⟨res, hres, hinv, hiff⟩ := foldE_total rootStep (RootInv cands) (· = none)
    (fun c => Unnameable c.2) cands none (fun _ _ _ h => by cases h)
    (fun c hcm => rootStep_total cands c hcm (hc c hcm).1 (hc c hcm).2)
  exact ⟨res, hres, hinv, by rw [hiff]; simp⟩

/-! ## `len(l) > len(set(l))` -/

theorem mem_dedup (l : List Nat) (x : Nat) : x ∈ dedup l ↔ x ∈ l := by
  induction l with
  | nil => exact Iff.rfl
  | cons a r ih =>
    rw [dedup]
    split
    · rename_i h
      rw [ih, List.mem_cons]
      exact ⟨Or.inr, fun h' => h'.elim (fun e => ih.mp (e ▸ h)) id⟩
    · rw [List.mem_cons, List.mem_cons, ih]

theorem dedup_sublist : ∀ l : List Nat, (dedup l).Sublist l
  | [] => .slnil
  | a :: r => by
    rw [dedup]
    split
    · exact (dedup_sublist r).cons a
    · exact (dedup_sublist r).cons_cons a

theorem nodup_dedup : ∀ l : List Nat, (dedup l).Nodup
  | [] => List.nodup_nil
  | a :: r => by
    rw [dedup]
    split
    · exact nodup_dedup r
    · rename_i hm; exact List.nodup_cons.mpr ⟨hm, nodup_dedup r⟩

/-- `len(l) > len(set(l))` is false: the duplicate-free sublist `dedup l` is as long as `l`, so it is `l` -/
theorem nodup_of_hasDup_false (l : List Nat) (h : hasDup l = false) : l.Nodup :=
  (dedup_sublist l).eq_of_length (Nat.le_antisymm (dedup_sublist l).length_le
    (Nat.not_lt.mp (of_decide_eq_false h))) ▸ nodup_dedup l

/-! ## the readers through the parsed degrees -/

/-- the degrees `_parse_chord_symbol` computes; they depend on the kind and the modifications only -/
def symbolDegrees (s : Symbol) : Except Err Dict := do
  let ms ← splitMods s
  match KIND_DEGREES[s.kind]? with
  | some kd => applyMods (dictOf kd) ms
  | none => .error .chordSymbolError

theorem parseChordSymbol_eq (s : Symbol) :
    parseChordSymbol s = (symbolDegrees s >>= fun D =>
      .ok ((s.rootStep, s.rootAlter), D, s.bass.getD (s.rootStep, s.rootAlter))) := by
  unfold parseChordSymbol symbolDegrees
  cases splitMods s with
  | error e => rfl
  | ok ms =>
    simp only [bind_ok]
    cases KIND_DEGREES[s.kind]? with
    | none => rfl
    | some kd => simp only [pure, Except.pure, bind_ok]

/-- no lookup of the reader's fails: the pitches are a `map` of the parsed degrees -/
theorem chordSymbolPitches_eq (s : Symbol) :
    chordSymbolPitches s = (symbolDegrees s >>= fun D =>
      pitchClassToMidi (s.rootStep, s.rootAlter) >>= fun rp =>
        .ok (D.map fun e => (rp + relPitch e.1 e.2) % 12)) := by
  unfold chordSymbolPitches
  rw [parseChordSymbol_eq]
  cases symbolDegrees s with
  | error e => rfl
  | ok D =>
    cases h : pitchClassToMidi (s.rootStep, s.rootAlter) with
    | error e => simp only [bind_ok, h]; rfl
    | ok rp => simp only [bind_ok, h]; exact mapE_eq_map _ _ D (fun e _ => degreePitch_eq rp e)

theorem chordSymbolQuality_eq (s : Symbol) :
    chordSymbolQuality s = (symbolDegrees s >>= fun D => .ok (qualityOfDegrees D)) := by
  unfold chordSymbolQuality
  rw [parseChordSymbol_eq]
  cases symbolDegrees s <;> rfl

theorem chordSymbolRoot_eq {s : Symbol} {ms} (h : splitMods s = .ok ms) :
    chordSymbolRoot s = pitchClassToMidi (s.rootStep, s.rootAlter) := by
  unfold chordSymbolRoot; rw [h]; rfl

theorem chordSymbolBass_eq {s : Symbol} {ms} (h : splitMods s = .ok ms) :
    chordSymbolBass s = pitchClassToMidi (s.bass.getD (s.rootStep, s.rootAlter)) := by
  unfold chordSymbolBass; rw [h]; rfl

theorem splitMods_of_degrees {s : Symbol} {D : Dict} (h : symbolDegrees s = .ok D) :
    ∃ ms, splitMods s = .ok ms :=
  (NSV.bind_ok h).imp fun _ => And.left

theorem symbolDegrees_ok {s : Symbol} {kd : List Deg} {ms} {D : Dict}
    (hk : KIND_DEGREES[s.kind]? = some kd) (hm : mapE parseMod s.mods = .ok ms)
    (ha : applyMods (dictOf kd) ms = .ok D) : splitMods s = .ok ms ∧ symbolDegrees s = .ok D := by
  have hs : splitMods s = .ok ms := by unfold splitMods; rw [hk]; exact hm
  refine ⟨hs, ?_⟩
  unfold symbolDegrees
  rw [hs, hk]; exact ha

end NSV.C15

import NoteSeqVerif.Proofs.C06PEvents
/-! C06 (performance half) — what extraction itself produces is canonical (`canonical_emit_noteEvents`, for
`extract_canonical_Perf` in `Props/C06P.lean`): the FIFO annotator run on the extractor's own stream recovers the
extractor's note indices, provided no two selected notes of one pitch overlap. -/
namespace NSV.C06P
open NSV.C07

def sevOf (nb start : Int) (e : NEv) : SEv :=
  ⟨e.step - start, e.isOff, e.note.pitch, if e.isOff then 0 else binOf nb 0 e.note⟩

def aevOf (nb start : Int) (e : NEv) : AEv :=
  ⟨e.step - start, e.idx, e.isOff, e.note.pitch, e.note.qs - start, binOf nb 0 e.note⟩

def openEOf (nb start : Int) (e : NEv) : OpenE := ⟨e.note.pitch, e.idx, e.note.qs - start, binOf nb 0 e.note⟩

theorem sevOfNEv_eq_shift (nb start : Int) (e : NEv) : sevOfNEv nb e = (sevOf nb start e).shift start := by
  simp only [sevOf, sevOfNEv, SEv.shift, binOf, SEv.mk.injEq, and_true]
  omega

/-- the annotator after the prefix `P` of the extractor's `note_events`: it has accepted and recorded `P` with the
extractor's own note indices, and its open notes are `C07.openAt P` -/
structure MInv (nb start : Int) (P : List NEv) (st : AnState) : Prop where
  out : st.out = P.map (aevOf nb start)
  ok : st.ok = true
  non : st.nOn = (P.filter (fun e => !e.isOff)).length
  open_ : st.open_ = (C07.openAt P).map (openEOf nb start)

theorem filter_on_eq (l : List Note) (hqs : l.Pairwise (fun a b => a.qs ≤ b.qs)) :
    (noteEvents l).filter (fun e => !e.isOff) = onsets l := by
  obtain ⟨hstrict, _, _⟩ := noteEvents_facts l
  refine List.Perm.eq_of_pairwise (fun a b _ _ h1 h2 => absurd h2 h1.asymm) (hstrict.filter _) ?_
    (filter_on_noteEvents l)
  unfold onsets
  rw [List.pairwise_map]
  have h1 : (l.zipIdx).Pairwise (fun a b => a.1.qs ≤ b.1.qs ∧ a.2 < b.2) := by
    rw [List.pairwise_iff_getElem]
    intro i j hi hj hij
    simp only [List.getElem_zipIdx, Nat.zero_add]
    have hi' : i < l.length := by simpa using hi
    have hj' : j < l.length := by simpa using hj
    exact ⟨(List.pairwise_iff_getElem.mp hqs) i j hi' hj' hij, hij⟩
  refine h1.imp ?_
  rintro ⟨a, i⟩ ⟨b, j⟩ ⟨h, hij⟩
  unfold NevLt
  simp only at h hij ⊢
  omega

theorem getElem?_onsets (l : List Note) (k : Nat) :
    (onsets l)[k]? = l[k]?.map (fun n => ⟨n.qs, k, false, n⟩) := by
  simp only [onsets, List.getElem?_map, List.getElem?_zipIdx, Nat.zero_add, Option.map_map]
  rfl

/-- position of a NOTE_ON event among the NOTE_ONs = its note index -/
theorem on_count (l : List Note) (hqs : l.Pairwise (fun a b => a.qs ≤ b.qs))
    (P Q : List NEv) (e : NEv) (hes : noteEvents l = P ++ e :: Q) (hoff : e.isOff = false) :
    (P.filter (fun e => !e.isOff)).length = e.idx := by
  have h := filter_on_eq l hqs
  rw [hes, List.filter_append, List.filter_cons] at h
  simp only [hoff, Bool.not_false, ↓reduceIte] at h
  have hk : (onsets l)[(P.filter (fun e => !e.isOff)).length]? = some e := by
    rw [← h, List.getElem?_append_right (Nat.le_refl _), Nat.sub_self]
    rfl
  rw [getElem?_onsets] at hk
  cases hl : l[(P.filter (fun e => !e.isOff)).length]? with
  | none => rw [hl] at hk; cases hk
  | some n => rw [hl] at hk; rw [← Option.some.inj hk]

/-- one step of the annotator on the extractor's own stream keeps the invariant: a NOTE_ON gets the extractor's
note index (`on_count`), a NOTE_OFF finds exactly its own note (`C07.openAt_off`) -/
theorem minv_step (nb start : Int) (l : List Note) (hpos : ∀ n ∈ l, n.qs < n.qe)
    (hqs : l.Pairwise (fun a b => a.qs ≤ b.qs)) (hno : NoSamePitchOverlap l)
    (P : List NEv) (e : NEv) (Q : List NEv) (hes : noteEvents l = P ++ e :: Q)
    (st : AnState) (hinv : MInv nb start P st) :
    MInv nb start (P ++ [e]) (anStep st (sevOf nb start e)) := by
  have he_wf := mem_noteEvents_iff.mp (hes ▸ List.mem_append_right P (List.mem_cons_self ..))
  obtain ⟨hout, hok, hnon, hopen⟩ := hinv
  cases hoff : e.isOff with
  | false =>
    have hstep : e.step = e.note.qs := by rw [he_wf.2, hoff]; rfl
    have hidx : st.nOn = e.idx := by rw [hnon]; exact on_count l hqs P Q e hes hoff
    rw [anStep_on st _ (by exact hoff)]
    exact ⟨by simp [sevOf, aevOf, hoff, hout, hidx, hstep], hok, by simp [List.filter_append, hoff, hnon],
      by simp [openAt_on hpos hes hoff, hopen, sevOf, openEOf, hoff, hidx, hstep]⟩
  | true =>
    obtain ⟨hfind, herase⟩ := openAt_off hpos hno hes hoff
    have hf : st.open_.find? (fun o => o.pitch == (sevOf nb start e).pitch) = some (openEOf nb start (C07.onOf e)) := by
      rw [hopen, List.find?_map]; exact congrArg _ hfind
    rw [anStep_off_some st _ _ (by exact hoff) hf]
    exact ⟨by simp [sevOf, aevOf, openEOf, C07.onOf, hoff, hout], hok, by simp [List.filter_append, hoff, hnon],
      by rw [herase, hopen, List.eraseP_map]; rfl⟩

/-- **the extractor's layout of a note list, where the validator accepts it, is canonical**: notes (with MIDI
velocities, when bins are used) of positive length, at or after `start`, strictly `(start step, pitch)`-sorted, no two of
one pitch overlapping -/
theorem canonical_emit_noteEvents (nb ms start : Int) (hms : 1 ≤ ms) (hnb : 0 ≤ nb) (l : List Note)
    (hvel : ∀ n ∈ l, nb ≠ 0 → 1 ≤ n.velocity ∧ n.velocity ≤ 127)
    (hvalidEvs : ∀ x ∈ emit nb ms 0 0 ((noteEvents l).map (sevOf nb start)), x.valid = true)
    (hrange : ∀ n ∈ l, start ≤ n.qs ∧ n.qs < n.qe)
    (hstrictL : l.Pairwise (fun a b => a.qs < b.qs ∨ (a.qs = b.qs ∧ a.pitch < b.pitch)))
    (hnoL : NoSamePitchOverlap l) :
    CanonicalPerf nb ms (emit nb ms 0 0 ((noteEvents l).map (sevOf nb start))) := by
  have hposL : ∀ n ∈ l, n.qs < n.qe := fun n hn => (hrange n hn).2
  have hqsL : l.Pairwise (fun a b => a.qs ≤ b.qs) :=
    hstrictL.imp (fun h => by rcases h with h | ⟨h, _⟩ <;> omega)
  obtain ⟨hstrictE, hwfE, _⟩ := noteEvents_facts l
  have hstream := (emit_read nb ms hms ((noteEvents l).map (sevOf nb start)) 0 0
    (List.pairwise_map.mpr ((noteEvents_sorted l).imp fun h => by simp only [sevOf]; omega))
    (List.forall_mem_map.mpr fun e he => by
      obtain ⟨hm, hst⟩ := mem_noteEvents he
      have := hrange _ hm
      refine ⟨by simp only [sevOf]; rcases hst with h' | h' <;> omega, ?_⟩
      rintro (h | h) <;> simp only [sevOf] at h ⊢
      · rw [if_pos h]
      · simp [h, binOf]) (fun _ => rfl)).1
  generalize hevs : emit nb ms 0 0 ((noteEvents l).map (sevOf nb start)) = evs at hstream hvalidEvs ⊢
  -- the annotator recovers the extractor's indices
  have hminv := foldl_prefix_inv (Inv := MInv nb start) (step := anStep) (minv_step nb start l hposL hqsL hnoL) (noteEvents l) []
    ⟨0, [], [], true⟩ (by simp) ⟨rfl, rfl, rfl, rfl⟩
  simp only [List.nil_append] at hminv
  rw [← show annotate _ = List.foldl anStep _ _ from rfl, ← hstream] at hminv
  obtain ⟨mout, mok, _, mopen⟩ := hminv
  have hclosed : (annotate (stream 0 0 evs)).open_ = [] := by rw [mopen, openAt_noteEvents]; rfl
  refine (canonicalPerfB_iff nb ms true evs).mpr
    ⟨hms, hvalidEvs, by rw [hstream, hevs], mok, hclosed, ?_, ?_, ?_, ?_⟩
  · rw [mout, List.pairwise_map]
    refine hstrictE.imp ?_
    intro a b hab
    unfold NevLt at hab
    simp only [aevLt, aevOf, Bool.or_eq_true, Bool.and_eq_true, beq_iff_eq, Bool.not_eq_true']
    rcases hab with h' | ⟨h', h'' | ⟨h1, h2, h3⟩⟩
    · left; exact decide_eq_true (by omega)
    · right; exact ⟨by omega, Or.inl (decide_eq_true h'')⟩
    · right; exact ⟨by omega, Or.inr ⟨⟨h1, h2⟩, h3⟩⟩
  · rw [AnState.ons, mout, List.filter_map]
    have hf : (noteEvents l).filter ((fun a : AEv => !a.isOff) ∘ aevOf nb start) = onsets l :=
      filter_on_eq _ hqsL
    rw [hf]
    unfold onsets
    rw [List.map_map, List.pairwise_map]
    have hz : (l.zipIdx).Pairwise
        (fun a b => a.1.qs < b.1.qs ∨ (a.1.qs = b.1.qs ∧ a.1.pitch < b.1.pitch)) := by
      have := hstrictL
      rw [← List.zipIdx_map_fst 0 l, List.pairwise_map] at this
      exact this
    refine hz.imp ?_
    rintro ⟨a, i⟩ ⟨b, j⟩ hab
    simp only [Function.comp, ↓reduceIte, onLt, aevOf, Bool.or_eq_true, Bool.and_eq_true, beq_iff_eq]
    simp only at hab
    rcases hab with h' | ⟨h', h''⟩
    · left; exact decide_eq_true (by omega)
    · right; exact ⟨by omega, decide_eq_true h''⟩
  · intro a ha hoff
    rw [mout] at ha
    obtain ⟨e, he, rfl⟩ := List.mem_map.mp ha
    have hw := hwfE e he
    have hp := hposL _ (mem_noteEvents he).1
    simp only [aevOf] at hoff ⊢
    rw [hw.2, hoff]; simp only [↓reduceIte]; omega
  · intro h0 a ha hoff
    rw [mout] at ha
    obtain ⟨e, he, rfl⟩ := List.mem_map.mp ha
    simp only [aevOf, binOf, h0, ↓reduceIte]
    exact (velocityToBin_range (by omega) (hvel _ (mem_noteEvents he).1 h0).1 (hvel _ (mem_noteEvents he).1 h0).2).1

/-- selected notes the extractor can be given: in-range pitches (and velocities when bins are used), positive length,
start times that agree with the quantized start steps (true of every rendered / grid sequence), and no two notes of
one pitch overlapping -/
structure ExtractDomain (s : NoteSeq) (start nb : Int) (inst : Option Int) : Prop where
  valid : ∀ n ∈ selectNotes s start inst, 0 ≤ n.pitch ∧ n.pitch ≤ 127 ∧
    (nb ≠ 0 → 1 ≤ n.velocity ∧ n.velocity ≤ 127) ∧ n.qs < n.qe
  grid : ∀ a ∈ selectNotes s start inst, ∀ b ∈ selectNotes s start inst,
    (a.qs < b.qs → a.start < b.start) ∧ (a.qs = b.qs → a.start = b.start)
  noOverlap : NoSamePitchOverlap (selectNotes s start inst)

/-- on such a sequence the extractor's first sort (by time, then pitch) sorts strictly by `(start step, pitch)` -/
theorem ExtractDomain.sorted {s : NoteSeq} {start nb : Int} {inst : Option Int}
    (hd : ExtractDomain s start nb inst) :
    (∀ n ∈ sortedNotes s start inst, 0 ≤ n.pitch ∧ n.pitch ≤ 127 ∧ (nb ≠ 0 → 1 ≤ n.velocity ∧ n.velocity ≤ 127)) ∧
    (∀ n ∈ sortedNotes s start inst, start ≤ n.qs ∧ n.qs < n.qe) ∧
    (sortedNotes s start inst).Pairwise (fun a b => a.qs < b.qs ∨ (a.qs = b.qs ∧ a.pitch < b.pitch)) ∧
    NoSamePitchOverlap (sortedNotes s start inst) := by
  obtain ⟨hvalid, hgrid, hno⟩ := hd
  have hperm : (sortedNotes s start inst).Perm (selectNotes s start inst) := List.mergeSort_perm _ _
  have hmemL : ∀ n, n ∈ sortedNotes s start inst → n ∈ selectNotes s start inst := fun n hn => hperm.mem_iff.mp hn
  have hposL : ∀ n ∈ sortedNotes s start inst, n.qs < n.qe := fun n hn => (hvalid n (hmemL n hn)).2.2.2
  have hsortedL := timePitchLe_pre.sorted
    (selectNotes s start inst)
  have hnoL : NoSamePitchOverlap (sortedNotes s start inst) := by
    unfold NoSamePitchOverlap at hno ⊢
    refine (List.Perm.pairwise_iff ?_ hperm).mpr hno
    intro a b hab hp
    exact (hab hp.symm).symm
  refine ⟨fun n hn => let ⟨p0, p1, hv, _⟩ := hvalid n (hmemL n hn); ⟨p0, p1, hv⟩,
    fun n hn => ⟨(mem_sortedNotes.mp hn).2.1, hposL n hn⟩, ?_, hnoL⟩
  refine List.Pairwise.imp_of_mem ?_ (hsortedL.and hnoL)
  intro a b ha hb ⟨hle, hov⟩
  have hab := hgrid a (hmemL a ha) b (hmemL b hb)
  -- times and steps agree, so the time order is the step order
  rw [timePitchLe_iff hab.1 (hgrid b (hmemL b hb) a (hmemL a ha)).1 hab.2] at hle
  refine hle.imp_right fun ⟨heq, hp⟩ => ⟨heq, Int.lt_iff_le_and_ne.mpr ⟨hp, fun hp' => ?_⟩⟩
  -- same step, same pitch: two notes of positive length would overlap
  have := hov hp'
  have pa := hposL a ha
  have pb := hposL b hb
  omega

end NSV.C06P

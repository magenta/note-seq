import NoteSeqVerif.Proofs.C18Snap
import NoteSeqVerif.Proofs.Near
/-! C18 under floating point: the properties of the rounding operator the theorems assume, and the
consequences the round trip needs — a time the decoder writes is read back as its frame, and the
encoder allocates the right number of frames for the decoder's total time. -/
namespace NSV.C18

/-- unit roundoff of binary64 -/
def u53 : Rat := 1 / 2 ^ 53

theorem u53_pos : (0 : Rat) < u53 := by unfold u53; norm_num
theorem u53_lt_one : u53 < 1 := by unfold u53; norm_num

/-- what the theorems assume about the float64 rounding operator: monotone, exact on the integers up to
`2⁵³`, relative error at most `2⁻⁵³`.  It is weaker than `NSV.Rounding` (`RoundingP 53`, `Proofs/Rounding.lean`), whose
name it hides inside `NSV.C18`: monotonicity and the error bound are fields there, exactness holds there below `2⁵³`
and at `±2⁵³` by `exact_pow2_mul`.  `rne53`, the operator the driver runs, is proved to satisfy that one
(`NSV.rounding_rne53`); the implication itself is stated nowhere (no C18 file imports `Proofs/Rounding`), so no
theorem that assumes `Rounding R` is instantiated at `rne53` in Lean. -/
structure Rounding (R : Rat → Rat) : Prop where
  mono : ∀ x y : Rat, x ≤ y → R x ≤ R y
  exact_int : ∀ n : Int, -(2 ^ 53) ≤ n → n ≤ 2 ^ 53 → R (n : Rat) = (n : Rat)
  rel : ∀ x : Rat, |R x - x| ≤ |x| * u53

namespace Rounding
variable {R : Rat → Rat} (hR : Rounding R)
include hR

theorem zero : R 0 = 0 := by simpa using hR.exact_int 0 (by norm_num) (by norm_num)

theorem nonneg {x : Rat} (hx : 0 ≤ x) : 0 ≤ R x := by
  have := hR.mono 0 x hx; rwa [hR.zero] at this

theorem lo {x : Rat} (hx : 0 ≤ x) : x * (1 - u53) ≤ R x := by
  have h := hR.rel x
  rw [abs_of_nonneg hx, abs_le] at h
  linarith [h.1]

theorem hi {x : Rat} (hx : 0 ≤ x) : R x ≤ x * (1 + u53) := by
  have h := hR.rel x
  rw [abs_of_nonneg hx, abs_le] at h
  linarith [h.2]

theorem abs_le_abs (x : Rat) : |R x| ≤ |x| * (1 + u53) := by
  have h := abs_add_le (R x - x) x
  rw [sub_add_cancel] at h
  linarith [hR.rel x]

/-- what the error calculus of Proofs/Near.lean asks -/
theorem relErr : RelErr 53 R := fun _ ha => ⟨hR.lo ha, hR.hi ha⟩

end Rounding

theorem rounding_id : Rounding id := by
  refine ⟨fun _ _ h => h, fun _ _ _ => rfl, fun x => ?_⟩
  simp only [id, sub_self, abs_zero]
  exact mul_nonneg (abs_nonneg x) (by norm_num [u53])

/-- the product `R (R (k · R (1/fps)) · fps)` is within `4·2⁻⁵³` (relative) of `k`: three rounded
operations (`grid_chain`) -/
theorem grid_near {R : Rat → Rat} (hR : Rounding R) (fps : Rat) (hf : 0 < fps) (k : Nat) :
    |R (R ((k : Rat) * R (1 / fps)) * fps) - k| ≤ k * (4 * u53) :=
  ((grid_chain hR.relErr (by norm_num) (Nat.cast_nonneg k) hf).abs_le (by norm_num) (by norm_num)).trans_eq
    (by unfold u53; norm_num)

/-- below frame `2³¹` the enclosure of `grid_near` is narrower than half a frame -/
theorem grid_small {k : Nat} (hk : k < 2 ^ 31) : (k : Rat) * (4 * u53) < 1 / 2 :=
  (mul_le_mul_of_nonneg_right (by exact_mod_cast hk.le : (k : Rat) ≤ 2 ^ 31) (by norm_num [u53])).trans_lt
    (by norm_num [u53])

/-- a product `R (t · fps)` within `4·2⁻⁵³` (relative) of a frame index `k < 2³¹` rounds to `k`, and
the snap of `time_to_frames` accepts it once the tolerance is at least `2⁻³⁰`: the rounded distance
is at most `k·4·2⁻⁵³·(1 + 2⁻⁵³)`, the rounded tolerance at least `eps·k·(1 - 4·2⁻⁵³)·(1 - 2⁻⁵³)` -/
theorem timeToFrames_of_near {R : Rat → Rat} (hR : Rounding R) {eps fps t : Rat} (he : 1 / 2 ^ 30 ≤ eps)
    {k : Nat} (hk : k < 2 ^ 31) (hD : |R (t * fps) - k| ≤ k * (4 * u53)) : timeToFrames R eps fps t = (k : Rat) := by
  unfold timeToFrames
  simp only
  generalize R (t * fps) = x at hD ⊢
  have hk0 : (0 : Rat) ≤ k := Nat.cast_nonneg k
  have hm : (k : Rat) * (1 - 4 * u53) ≤ rmax 1 |x| :=
    (by linarith only [(abs_le.mp hD).1] : (k : Rat) * (1 - 4 * u53) ≤ x).trans
      ((le_abs_self x).trans (le_rmax_right 1 |x|))
  rw [roundHalfEven_eq_rnE, rnE_eq_of_near (by exact_mod_cast hD.trans_lt (grid_small hk)), Int.cast_natCast, if_pos]
  rw [rabs_eq_abs, rabs_eq_abs]
  have heps : 0 ≤ eps := le_trans (by norm_num) he
  calc |R (x - k)| ≤ |x - k| * (1 + u53) := hR.abs_le_abs _
    _ ≤ k * (4 * u53) * (1 + u53) := mul_le_mul_of_nonneg_right hD (by norm_num [u53])
    _ = k * (4 * u53 * (1 + u53)) := mul_assoc ..
    _ ≤ k * (1 / 2 ^ 30 * ((1 - 4 * u53) * (1 - u53))) :=
      mul_le_mul_of_nonneg_left (by norm_num [u53]) hk0
    _ ≤ k * (eps * ((1 - 4 * u53) * (1 - u53))) :=
      mul_le_mul_of_nonneg_left (mul_le_mul_of_nonneg_right he (by norm_num [u53])) hk0
    _ = eps * (k * (1 - 4 * u53)) * (1 - u53) := by ring
    _ ≤ eps * rmax 1 |x| * (1 - u53) :=
      mul_le_mul_of_nonneg_right (mul_le_mul_of_nonneg_left hm heps) (by norm_num [u53])
    _ ≤ R (eps * rmax 1 |x|) := hR.lo (mul_nonneg heps (zero_le_one.trans (le_rmax_left 1 |x|)))

/-- **No drift**: a time the decoder writes, `R (k · R (1/fps))`, is read back by `time_to_frames`
as exactly frame `k`, for every rounding operator with relative error `2⁻⁵³`, every positive frame
rate and every frame index below `2³¹`, provided the snap tolerance is at least `2⁻³⁰`. -/
theorem timeToFrames_grid {R : Rat → Rat} (hR : Rounding R) (eps fps : Rat) (he : 1 / 2 ^ 30 ≤ eps)
    (hf : 0 < fps) (k : Nat) (hk : k < 2 ^ 31) :
    timeToFrames R eps fps (R ((k : Rat) * R (1 / fps))) = (k : Rat) :=
  timeToFrames_of_near hR he hk (grid_near hR fps hf k)

/-- the roll the encoder allocates for the decoder's `total_time = R (k · R (1/fps))` has `k` or
`k + 1` frames -/
theorem numRows_grid {R : Rat → Rat} (hR : Rounding R) (fps : Rat) (hf : 0 < fps) (k : Nat)
    (hk : k < 2 ^ 31) :
    (k : Int) ≤ numRows R fps (R ((k : Rat) * R (1 / fps))) ∧
    numRows R fps (R ((k : Rat) * R (1 / fps))) ≤ (k : Int) + 1 := by
  obtain ⟨hlo, hhi⟩ := abs_le.mp (grid_near hR fps hf k)
  unfold numRows
  generalize R (R ((k : Rat) * R (1 / fps)) * fps) = x at hlo hhi ⊢
  have hsmall := grid_small hk
  have hk' : (k : Rat) ≤ 2 ^ 31 := by exact_mod_cast hk.le
  have hx1 : 0 ≤ x + 1 := by linarith only [hlo, hsmall, (Nat.cast_nonneg k : (0 : Rat) ≤ k)]
  unfold truncR
  rw [if_pos (hR.nonneg hx1)]
  constructor
  · rw [Rat.le_floor_iff, ← hR.exact_int k (by omega) (by omega)]
    exact hR.mono _ _ (by push_cast; linarith only [hlo, hsmall])
  · have hu : (x + 1) * u53 < 1 / 2 :=
      (mul_le_mul_of_nonneg_right (by linarith only [hhi, hsmall, hk'] : x + 1 ≤ 2 ^ 31 + 3 / 2) (by norm_num [u53])).trans_lt
        (by norm_num [u53])
    have : (R (x + 1)).floor < (k : Int) + 2 := by
      rw [Rat.floor_lt_iff]; push_cast
      linarith only [hR.hi hx1, hu, hhi, hsmall]
    omega

/-- a minimum duration that is not positive keeps every run: the tested duration is a rounded non-negative number -/
theorem keepR_of_nonpos {R : Rat → Rat} (hR : Rounding R) (fps minDur : Rat) (hf : 0 < fps)
    (hmin : minDur ≤ 0) (s e : Nat) (hse : s < e) : keepR R (R (1 / fps)) minDur s e = true := by
  unfold keepR
  simp only [decide_eq_true_eq]
  have hfls : 0 ≤ R (1 / fps) := hR.nonneg (by positivity)
  have hle : (s : Rat) * R (1 / fps) ≤ (e : Rat) * R (1 / fps) :=
    mul_le_mul_of_nonneg_right (by exact_mod_cast Nat.le_of_lt hse) hfls
  exact hmin.trans (hR.nonneg (mul_nonneg (hR.nonneg (sub_nonneg.mpr (hR.mono _ _ hle))) (by norm_num)))

end NSV.C18

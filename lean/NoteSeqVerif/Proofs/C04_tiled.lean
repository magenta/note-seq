import NoteSeqVerif.Proofs.C04_time
import NoteSeqVerif.Proofs.C04_repeats
import Mathlib.Tactic.Linarith
import Mathlib.Tactic.Ring
/-! C04 — `expand_section_groups` (notes), the FULL result: every section copy is the section's notes
shifted to zero and then by the accumulated duration of the copies before it (`placed`).  For sections
that are tiled by their notes (`parsed_sectioned`: those of a parsed ABC tune with positive durations and
broken-rhythm pairs inside a bar are) the onsets of the expansion are the
running sums of the durations in expansion order.  Exact arithmetic (`R = id`). -/
namespace NSV.C04

def dur (n : Note) : Rat := n.end_ - n.start

theorem pd_eq (n : Note) : pd n = (n.pitch, dur n) := rfl

theorem spans_shift (t c : Rat) (ds : List Rat) :
    (spans t ds).map (fun p => (p.1 + c, p.2 + c)) = spans (t + c) ds := by
  induction ds generalizing t with
  | nil => rfl
  | cons d r ih =>
    simp only [spans, List.map_cons, ih]
    congr 2 <;> ring

theorem spans_length (t : Rat) (ds : List Rat) : (spans t ds).length = ds.length := by
  induction ds generalizing t with
  | nil => rfl
  | cons d r ih => simp [spans, ih]

/-- a list of notes that follow each other without gap from `s` on -/
def Tiled (s : Rat) (ns : List Note) : Prop := ns.map span = spans s (ns.map dur)

theorem Tiled.nil (s : Rat) : Tiled s [] := rfl

theorem Tiled.cons {s : Rat} {n : Note} {r : List Note} (h : Tiled s (n :: r)) :
    n.start = s ∧ Tiled n.end_ r := by
  unfold Tiled at h ⊢
  simp only [List.map_cons, spans, List.cons.injEq, span, Prod.mk.injEq] at h
  obtain ⟨⟨h1, _⟩, h2⟩ := h
  refine ⟨h1, ?_⟩
  have : s + dur n = n.end_ := by rw [← h1]; unfold dur; ring
  rw [this] at h2
  exact h2

theorem Tiled.mk_cons {s : Rat} {n : Note} {r : List Note} (h1 : n.start = s) (h2 : Tiled n.end_ r) :
    Tiled s (n :: r) := by
  unfold Tiled at h2 ⊢
  have : s + dur n = n.end_ := by rw [← h1]; unfold dur; ring
  simp only [List.map_cons, spans, span, this, h2, h1]

theorem Tiled.append {s : Rat} {a b : List Note} (ha : Tiled s a) (hb : Tiled (s + (a.map dur).sum) b) :
    Tiled s (a ++ b) := by
  unfold Tiled at *
  rw [List.map_append, List.map_append, spans_append, ha, hb]

theorem Tiled.split : ∀ {s : Rat} {a b : List Note}, Tiled s (a ++ b) → Tiled s a ∧ Tiled (s + (a.map dur).sum) b
  | s, [], b, h => by simpa [Tiled.nil] using h
  | s, n :: r, b, h => by
    obtain ⟨h1, h2⟩ := Tiled.cons (r := r ++ b) h
    obtain ⟨i1, i2⟩ := Tiled.split h2
    refine ⟨Tiled.mk_cons h1 i1, ?_⟩
    have : s + ((n :: r).map dur).sum = n.end_ + (r.map dur).sum := by
      simp only [List.map_cons, List.sum_cons]; rw [← h1]; unfold dur; ring
    rw [this]; exact i2

theorem durs_sum_nonneg {ns : List Note} (hp : ∀ n ∈ ns, n.start < n.end_) : 0 ≤ (ns.map dur).sum := by
  induction ns with
  | nil => exact le_refl _
  | cons n r ih =>
    rw [List.map_cons, List.sum_cons]
    exact add_nonneg (sub_nonneg.mpr (le_of_lt (hp n List.mem_cons_self)))
      (ih fun m hm => hp m (List.mem_cons_of_mem _ hm))

theorem durs_sum_pos {ns : List Note} (hp : ∀ n ∈ ns, n.start < n.end_) (hne : ns ≠ []) :
    0 < (ns.map dur).sum := by
  cases ns with
  | nil => exact absurd rfl hne
  | cons n r =>
    rw [List.map_cons, List.sum_cons]
    exact add_pos_of_pos_of_nonneg (sub_pos.mpr (hp n List.mem_cons_self))
      (durs_sum_nonneg fun m hm => hp m (List.mem_cons_of_mem _ hm))

theorem Tiled.bounds : ∀ {s : Rat} {ns : List Note}, Tiled s ns → (∀ n ∈ ns, n.start < n.end_) →
    ∀ n ∈ ns, s ≤ n.start ∧ n.end_ ≤ s + (ns.map dur).sum
  | _, [], _, _ => by simp
  | s, n :: r, h, hp => by
    obtain ⟨h1, h2⟩ := h.cons
    have hn := hp n (by simp)
    have ih := Tiled.bounds h2 (fun m hm => hp m (by simp [hm]))
    have hsum : 0 ≤ (r.map dur).sum := durs_sum_nonneg fun m hm => hp m (List.mem_cons_of_mem _ hm)
    have he : s + ((n :: r).map dur).sum = n.end_ + (r.map dur).sum := by
      simp only [List.map_cons, List.sum_cons]; rw [← h1]; unfold dur; ring
    intro m hm
    rcases List.mem_cons.mp hm with rfl | hm
    · exact ⟨by rw [h1], by rw [he]; exact le_add_of_nonneg_right hsum⟩
    · obtain ⟨a, b⟩ := ih m hm
      exact ⟨by rw [← h1]; exact le_trans (le_of_lt hn) a, by rw [he]; exact b⟩

theorem Tiled.sorted : ∀ {s : Rat} {ns : List Note}, Tiled s ns → (∀ n ∈ ns, n.start < n.end_) →
    ns.Pairwise (fun a b => a.start ≤ b.start)
  | _, [], _, _ => List.Pairwise.nil
  | s, n :: r, h, hp => by
    obtain ⟨h1, h2⟩ := h.cons
    have hpr : ∀ m ∈ r, m.start < m.end_ := fun m hm => hp m (by simp [hm])
    refine List.Pairwise.cons ?_ (Tiled.sorted h2 hpr)
    intro m hm
    exact le_trans (by rw [h1]) (le_trans (le_of_lt (hp n List.mem_cons_self)) (Tiled.bounds h2 hpr m hm).1)

theorem Tiled.last {s : Rat} {ns : List Note} {n : Note} (h : Tiled s ns) (hl : ns.getLast? = some n) :
    n.end_ = s + (ns.map dur).sum := by
  induction ns generalizing s with
  | nil => simp at hl
  | cons m r ih =>
    obtain ⟨h1, h2⟩ := h.cons
    have he : s + ((m :: r).map dur).sum = m.end_ + (r.map dur).sum := by
      simp only [List.map_cons, List.sum_cons]; rw [← h1]; unfold dur; ring
    cases r with
    | nil =>
      simp only [List.getLast?_singleton, Option.some.injEq] at hl
      subst hl; rw [he]; simp
    | cons m' r' =>
      rw [List.getLast?_cons_cons] at hl
      rw [he]; exact ih h2 hl

theorem Tiled.shift {s c : Rat} {ns : List Note} (h : Tiled s ns) (f : Note → Note)
    (hs : ∀ n, (f n).start = n.start + c) (he : ∀ n, (f n).end_ = n.end_ + c) :
    Tiled (s + c) (ns.map f) ∧ (ns.map f).map dur = ns.map dur := by
  have hdur : (ns.map f).map dur = ns.map dur := by
    rw [List.map_map]
    exact List.map_congr_left fun n _ => by simp only [Function.comp, dur, hs, he]; ring
  refine ⟨?_, hdur⟩
  unfold Tiled at h ⊢
  rw [hdur, ← spans_shift, ← h, List.map_map, List.map_map]
  exact List.map_congr_left fun n _ => by simp only [Function.comp, span, hs, he]

/-- the onsets of notes that follow each other without gap from time 0, from their durations alone -/
theorem starts_of_spans {L : List Note} (h : L.map span = spans 0 (L.map dur)) :
    L.map (·.start) = (spans 0 ((L.map pd).map (·.2))).map (·.1) := by
  have hd : (L.map pd).map (·.2) = L.map dur := by rw [List.map_map]; rfl
  rw [hd, ← h, List.map_map]; rfl

/-- every section is tiled by its notes from its start to the start of the next one (`T` for the last) -/
def BlocksTiled : List Block → Rat → Prop
  | [], _ => True
  | (s, ns) :: rest, T => Tiled s ns ∧ s + (ns.map dur).sum = endOf rest T ∧ BlocksTiled rest T

theorem BlocksTiled_snoc {bs : List Block} {s T : Rat} {ns : List Note} (h : BlocksTiled bs s)
    (h1 : Tiled s ns) (h2 : s + (ns.map dur).sum = T) : BlocksTiled (bs ++ [(s, ns)]) T := by
  induction bs with
  | nil => exact ⟨h1, h2, trivial⟩
  | cons b r ih =>
    obtain ⟨s0, ns0⟩ := b
    obtain ⟨a1, a2, a3⟩ := h
    refine ⟨a1, ?_, ih a3⟩
    show s0 + (ns0.map dur).sum = endOf (r ++ [(s, ns)]) T
    rw [endOf_snoc]; exact a2

theorem BlocksTiled_get {bs : List Block} {T : Rat} (h : BlocksTiled bs T) {k : Nat} {s : Rat} {ns : List Note}
    (hk : bs[k]? = some (s, ns)) : Tiled s ns ∧ s + (ns.map dur).sum = endOf (bs.drop (k + 1)) T := by
  induction bs generalizing k with
  | nil => simp at hk
  | cons b r ih =>
    obtain ⟨s0, ns0⟩ := b
    cases k with
    | zero =>
      simp only [List.getElem?_cons_zero, Option.some.injEq, Prod.mk.injEq] at hk
      obtain ⟨rfl, rfl⟩ := hk
      exact ⟨h.1, by simpa using h.2.1⟩
    | succ k =>
      simp only [List.getElem?_cons_succ] at hk
      simpa using ih h.2.2 hk

theorem blockNotes_cons (b : Block) (rest : List Block) : blockNotes (b :: rest) = b.2 ++ blockNotes rest :=
  List.flatMap_cons

theorem blockNotes_sorted : ∀ {bs : List Block} {T : Rat}, BlocksWF bs T → BlocksTiled bs T →
    (∀ n ∈ blockNotes bs, n.start < n.end_) → (blockNotes bs).Pairwise (fun a b => a.start ≤ b.start)
  | [], _, _, _, _ => by simp [blockNotes]
  | (s, ns) :: rest, T, hwf, ht, hp => by
    rw [blockNotes_cons] at hp ⊢
    rw [List.pairwise_append]
    refine ⟨ht.1.sorted (fun n hn => hp n (List.mem_append_left _ hn)),
      blockNotes_sorted hwf.2.2 ht.2.2 (fun n hn => hp n (List.mem_append_right _ hn)), ?_⟩
    intro a ha b hb
    have h1 := (hwf.2.1 a ha).2.1
    have h2 := later_notes_ge hwf.2.2 b hb
    linarith

/-- a section of well-formed blocks has positive length, so if its notes tile it there is one -/
theorem block_ne_nil {bs : List Block} {T : Rat} (hwf : BlocksWF bs T) (ht : BlocksTiled bs T) :
    ∀ b ∈ bs, b.2 ≠ [] := by
  induction bs with
  | nil => simp
  | cons b rest ih =>
    obtain ⟨s, ns⟩ := b
    intro x hx
    rcases List.mem_cons.mp hx with rfl | hx
    · intro he
      have he : ns = [] := he
      subst he
      have h2 : s + 0 = endOf rest T := ht.2.1
      exact ne_of_lt hwf.1 (by rw [← h2, add_zero])
    · exact ih hwf.2.2 ht.2.2 x hx

theorem blockNotes_last_end : ∀ {bs : List Block} {T : Rat} {n : Note}, BlocksWF bs T → BlocksTiled bs T →
    (blockNotes bs).getLast? = some n → n.end_ = T
  | [], _, _, _, _, h => by simp [blockNotes] at h
  | (s, ns) :: rest, T, n, hwf, ht, h => by
    rw [blockNotes_cons, List.getLast?_append] at h
    cases rest with
    | nil =>
      simp only [blockNotes, List.flatMap_nil, List.getLast?_nil, Option.none_or] at h
      rw [ht.1.last h]; exact ht.2.1
    | cons b r =>
      cases hl : (blockNotes (b :: r)).getLast? with
      | none =>
        rw [List.getLast?_eq_none_iff, blockNotes_cons] at hl
        exact absurd (List.append_eq_nil_iff.mp hl).1 (block_ne_nil hwf.2.2 ht.2.2 b List.mem_cons_self)
      | some m =>
        rw [hl] at h
        simp only [Option.some_or, Option.some.injEq] at h
        subst h
        exact blockNotes_last_end hwf.2.2 ht.2.2 hl

/-- `concatenate_sequences` on (notes shifted to zero, total, duration): every piece shifted by the
durations of the pieces before it -/
def placed : Rat → List (List Note × Rat × Rat) → List Note
  | _, [] => []
  | c, (ns, _, d) :: r => ns.map (fun n => { n with start := n.start + c, end_ := n.end_ + c }) ++ placed (c + d) r

theorem concatNotes_full (es : List (List Note × Rat × Rat)) (cur : Rat) (hc : 0 ≤ cur)
    (h : ∀ e ∈ es, e.2.1 ≤ e.2.2) (hd : ∀ e ∈ es, 0 ≤ e.2.2) : concatNotes id es cur = .ok (placed cur es) := by
  induction es generalizing cur with
  | nil => rfl
  | cons e r ih =>
    obtain ⟨ns, tot, d⟩ := e
    have h1 : tot ≤ d := h (ns, tot, d) (by simp)
    have h2 : 0 ≤ d := hd (ns, tot, d) (by simp)
    simp only [concatNotes, id]
    rw [if_neg (by linarith), ih (cur + d) (by linarith) (fun e he => h e (by simp [he])) (fun e he => hd e (by simp [he]))]
    simp only [placed]
    congr 2
    split
    · rfl
    · have : cur = 0 := by linarith
      subst this
      simp

theorem block_at {bs : List Block} {i : Int} (h0 : 0 ≤ i) (h1 : i < bs.length) :
    ∃ s ns, bs[i.toNat]? = some (s, ns) :=
  ⟨_, _, List.getElem?_eq_getElem (by omega)⟩

theorem split_at {α : Type} {l : List α} {k : Nat} {b : α} (h : l[k]? = some b) :
    l = l.take k ++ b :: l.drop (k + 1) := by
  obtain ⟨hk, rfl⟩ := List.getElem?_eq_some_iff.mp h
  rw [← List.drop_eq_getElem_cons hk, List.take_append_drop]

theorem BlocksWF_at {bs : List Block} {T : Rat} (hwf : BlocksWF bs T) {k : Nat} {s : Rat} {ns : List Note}
    (hb : bs[k]? = some (s, ns)) : BlocksWF ((s, ns) :: bs.drop (k + 1)) T :=
  BlocksWF_suffix (pre := bs.take k) (split_at hb ▸ hwf)

/-- the table entry of section `i`: its notes shifted to zero, their largest end, its length -/
def blockEntry (bs : List Block) (T : Rat) (i : Int) : List Note × Rat × Rat :=
  match bs[i.toNat]? with
  | some (s, ns) => (shiftBlock s ns, maxEnd (shiftBlock s ns) 0, endOf (bs.drop (i.toNat + 1)) T - s)
  | none => ([], 0, 0)

/-- the sections in playing order: every group's section `num_times` times -/
abbrev playList (groups : List (Int × Nat)) : List Int := groups.flatMap (fun g => List.replicate g.2 g.1)

theorem forall_playList {P : Int → Prop} {groups : List (Int × Nat)} (h : ∀ g ∈ groups, P g.1) :
    ∀ i ∈ playList groups, P i := by
  intro i hi
  obtain ⟨g, hg, hi⟩ := List.mem_flatMap.mp hi
  exact List.eq_of_mem_replicate hi ▸ h g hg

/-- `expand_section_groups` (notes; exact arithmetic) on a sequence whose notes are partitioned by its
section annotations: the result is, copy by copy in playing order, the section's notes shifted to zero
and then by the summed lengths of the copies before it. -/
theorem expand_blocks_full (bs : List Block) (T : Rat) (groups : List (Int × Nat)) (base : Tune)
    (hwf : BlocksWF bs T) (hsorted : (blockNotes bs).Pairwise (fun a b => a.start ≤ b.start))
    (hne : groups ≠ []) (hids : ∀ g ∈ groups, 0 ≤ g.1 ∧ g.1 < bs.length) :
    expand id (tuneOfBlocks bs T groups base) = .ok (placed 0 ((playList groups).map (blockEntry bs T))) := by
  unfold expand
  simp only [tuneOfBlocks, hne, ↓reduceIte]
  rw [List.mergeSort_of_pairwise (by simpa using hsorted)]
  have hst := sectionTable_blocks [] bs T 0 [] (by simpa using hwf)
  simp only [List.nil_append] at hst
  rw [hst]
  simp only
  have hmem := forall_playList (P := fun i => 0 ≤ i ∧ i < bs.length) hids
  have hentry : ∀ i ∈ playList groups, lookup i (tableOf bs 0 T []) = some (blockEntry bs T i) := by
    intro i hi
    obtain ⟨s, ns, hb⟩ := block_at (hmem i hi).1 (hmem i hi).2
    have := lookup_tableOf bs 0 T [] i.toNat s ns hb
    simp only [zero_add, Int.toNat_of_nonneg (hmem i hi).1] at this
    rw [this]
    simp only [blockEntry, hb]
  rw [lookupAll_ok _ _ (blockEntry bs T) hentry]
  simp only
  -- every copy ends within the length of its section, which is positive
  have hcopy : ∀ e ∈ (playList groups).map (blockEntry bs T), e.2.1 ≤ e.2.2 ∧ 0 ≤ e.2.2 := by
    intro e he
    obtain ⟨i, hi, rfl⟩ := List.mem_map.mp he
    obtain ⟨s, ns, hb⟩ := block_at (hmem i hi).1 (hmem i hi).2
    have hsuf := BlocksWF_at hwf hb
    simp only [blockEntry, hb]
    have := hsuf.1
    refine ⟨maxEnd_le _ _ _ (by linarith) ?_, by linarith⟩
    intro n hn
    simp only [shiftBlock, List.mem_map] at hn
    obtain ⟨m, hm, rfl⟩ := hn
    have := (hsuf.2.1 m hm).2.2
    simp only
    linarith
  exact concatNotes_full _ 0 (le_refl _) (fun e he => (hcopy e he).1) (fun e he => (hcopy e he).2)

theorem placed_pd (es : List (List Note × Rat × Rat)) (c : Rat) :
    (placed c es).map pd = es.flatMap (fun e => e.1.map pd) := by
  induction es generalizing c with
  | nil => rfl
  | cons e r ih =>
    obtain ⟨ns, tot, d⟩ := e
    simp only [placed, List.map_append, List.flatMap_cons, ih, List.map_map]
    congr 1
    apply List.map_congr_left
    intro n _
    simp only [Function.comp, pd, Prod.mk.injEq, true_and]
    ring

theorem blockEntry_pd (bs : List Block) (T : Rat) (i : Int) : (blockEntry bs T i).1.map pd = blockPd bs i := by
  unfold blockEntry blockPd
  cases bs[i.toNat]? with
  | none => rfl
  | some b => exact pd_shiftBlock b.1 b.2

/-- pitches and durations of the expansion: group by group, the section's notes `num_times` times -/
theorem placed_blocks_pd (bs : List Block) (T : Rat) (groups : List (Int × Nat)) (c : Rat) :
    (placed c ((playList groups).map (blockEntry bs T))).map pd =
      groups.flatMap (fun g => (List.replicate g.2 (blockPd bs g.1)).flatten) := by
  rw [placed_pd, List.flatMap_map, List.flatMap_assoc]
  simp only [List.flatMap_replicate, blockEntry_pd]

/-- copies that are tiled from zero over exactly their length: the placed notes are tiled from the
offset on, i.e. every onset is the sum of the durations before it -/
theorem placed_tiled (es : List (List Note × Rat × Rat)) (c : Rat)
    (h : ∀ e ∈ es, Tiled 0 e.1 ∧ (e.1.map dur).sum = e.2.2) : Tiled c (placed c es) := by
  induction es generalizing c with
  | nil => exact Tiled.nil _
  | cons e r ih =>
    obtain ⟨ns, tot, d⟩ := e
    obtain ⟨h1, h2⟩ := h (ns, tot, d) (by simp)
    simp only at h1 h2
    simp only [placed]
    obtain ⟨ht, hdur⟩ := h1.shift (c := c) (fun n => { n with start := n.start + c, end_ := n.end_ + c })
      (fun _ => rfl) (fun _ => rfl)
    rw [zero_add] at ht
    refine ht.append ?_
    rw [hdur, h2]
    exact ih (c + d) (fun e he => h e (by simp [he]))

theorem shiftBlock_tiled {s : Rat} {ns : List Note} (h : Tiled s ns) :
    Tiled 0 (shiftBlock s ns) ∧ (shiftBlock s ns).map dur = ns.map dur := by
  have := h.shift (c := -s) (fun n => { n with start := n.start - s, end_ := n.end_ - s })
    (fun n => sub_eq_add_neg _ _) (fun n => sub_eq_add_neg _ _)
  rwa [add_neg_cancel] at this

/-- the full expansion of tiled blocks: pitches and durations in playing order, and the notes follow
each other without gap from time 0 — every onset is the running sum of the durations before it -/
theorem expand_blocks_tiled (bs : List Block) (T : Rat) (groups : List (Int × Nat)) (base : Tune)
    (hwf : BlocksWF bs T) (htile : BlocksTiled bs T) (hpos : ∀ n ∈ blockNotes bs, n.start < n.end_)
    (hne : groups ≠ []) (hids : ∀ g ∈ groups, 0 ≤ g.1 ∧ g.1 < bs.length) :
    ∃ L, expand id (tuneOfBlocks bs T groups base) = .ok L ∧
      L.map pd = groups.flatMap (fun g => (List.replicate g.2 (blockPd bs g.1)).flatten) ∧
      L.map span = spans 0 (L.map dur) := by
  have hsorted := blockNotes_sorted hwf htile hpos
  refine ⟨_, expand_blocks_full bs T groups base hwf hsorted hne hids, placed_blocks_pd bs T groups 0, ?_⟩
  apply placed_tiled
  intro e he
  obtain ⟨i, hi, rfl⟩ := List.mem_map.mp he
  have hr := forall_playList (P := fun i => 0 ≤ i ∧ i < bs.length) hids i hi
  obtain ⟨s, ns, hb⟩ := block_at hr.1 hr.2
  obtain ⟨t1, t2⟩ := BlocksTiled_get htile hb
  simp only [blockEntry, hb]
  exact ⟨(shiftBlock_tiled t1).1, by rw [(shiftBlock_tiled t1).2]; linarith⟩


/-! ## evaluating `expand` on a concrete tune (the merge sort does not reduce in the kernel) -/

/-- `expand` on notes that are already in onset order -/
def expandSorted (R : Rat → Rat) (t : Tune) : Except Err (List Note) :=
  if t.groups = [] then .ok t.notes
  else
    match sectionTable R t.notes t.totalTime t.sections [] with
    | .error e => .error e
    | .ok tbl =>
      match lookupAll tbl (t.groups.flatMap (fun g => List.replicate g.2 g.1)) with
      | .error e => .error e
      | .ok secs => concatNotes R secs 0

theorem expand_of_sorted (R : Rat → Rat) (t : Tune) (h : t.notes.Pairwise (fun a b => a.start ≤ b.start)) :
    expand R t = expandSorted R t := by
  unfold expand expandSorted
  rw [List.mergeSort_of_pairwise (by simpa using h)]
  rfl

end NSV.C04

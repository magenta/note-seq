import NoteSeqVerif.Proofs.C06Float
import NoteSeqVerif.Proofs.C06PGrid
/-! C06 (performance half) — the float half as a `Grid` (`Proofs/C06PGrid.lean`): `grid_abs` / `grid_metric` instantiate
it from the shared float lemma (`Proofs/C06Float.lean`) for `Performance` / `NotePerformance`
(`1.0 / steps_per_second`) and `MetricPerformance` (`60.0 / (steps_per_quarter * qpm)`) with the exact float operation
order of `performance_lib`. -/
namespace NSV.C06P
open NSV.C06 NSV.C01 NSV.C07

theorem stepTimeR_mono {R : ℚ → ℚ} (hR : Rounding R) {σ : ℚ} (hσ : 0 ≤ σ) (sst : ℚ) (k k' : Int)
    (h : k ≤ k') : stepTimeR R σ sst k ≤ stepTimeR R σ sst k' := by
  unfold stepTimeR
  apply hR.mono
  have : (k : ℚ) ≤ (k' : ℚ) := by exact_mod_cast h
  have := hR.mono _ _ (mul_le_mul_of_nonneg_right this hσ)
  linarith

/-- the time grid of `Performance.to_sequence` / `NotePerformance.to_sequence` against
`quantize_note_sequence_absolute` at the same `steps_per_second` -/
theorem grid_abs {R : ℚ → ℚ} (hR : Rounding R) (sps S B : Int) (hs : 0 < sps) (hS : 0 ≤ S)
    (hB : S + B ≤ 2 ^ 40) :
    Grid (stepTimeR R (secPerStepAbsR R sps) (seqStartR R (secPerStepAbsR R sps) S))
      (fun t => qstepR R C01.Gen.QUANTIZE_CUTOFF t (sps : Rat)) S B where
  mono := by
    have hsq : (0 : ℚ) < sps := by exact_mod_cast hs
    exact stepTimeR_mono hR (hR.nonneg (by positivity)) _
  inv := fun k h0 h1 => render_quantize_exact_abs hR sps S k hs hS h0 (by omega)

/-- the time grid of `MetricPerformance.to_sequence(qpm)` against `quantize_note_sequence` at the same
`steps_per_quarter` and that tempo -/
theorem grid_metric {R : ℚ → ℚ} (hR : Rounding R) (qpm : ℚ) (spq S B : Int) (hq : 0 < qpm) (hs : 0 < spq)
    (hS : 0 ≤ S) (hB : S + B ≤ 2 ^ 40) :
    Grid (stepTimeR R (secPerStepMetricR R qpm spq) (seqStartR R (secPerStepMetricR R qpm spq) S))
      (fun t => qstepR R C01.Gen.QUANTIZE_CUTOFF t (spsR R spq qpm)) S B where
  mono := by
    have hsq : (0 : ℚ) < spq := by exact_mod_cast hs
    exact stepTimeR_mono hR (hR.nonneg (div_nonneg (by norm_num) (hR.nonneg (by positivity)))) _
  inv := fun k h0 h1 => render_quantize_exact_metric hR qpm spq S k hq hs hS h0 (by omega)

end NSV.C06P

import NoteSeqVerif.Proofs.C06PSort
import NoteSeqVerif.Proofs.C06PStream
/-! C06 (performance half) — the second sort (`note_events`) and the assembly of the discrete half:
extracting from the rendered, re-quantized notes of a canonical event list gives the event list back. -/
namespace NSV.C06P
open NSV.C06 NSV.C07

/-- the note events the extractor must arrive at: the annotated stream itself, every event carrying its note -/
def expectedEvents (nb v0 : Int) (st : AnState) (qn : RNote → Note) (S : Int) : List NEv :=
  st.out.map (fun a => ⟨S + a.step, a.idx, a.isOff, qn (noteAt nb v0 st a.idx)⟩)

section accepted
variable {nb B v0 : Int} {strict : Bool} {st : AnState} (acc : Accepted nb B strict st)
include acc

/-- **second sort**: `sorted(onsets + offsets)` over the notes in NOTE_ON order is the annotated stream -/
theorem Accepted.noteEvents_eq {R : Rat → Rat} (c : RenderCfg) (S : Int) :
    noteEvents (((List.range st.nOn).map (noteAt nb v0 st)).map (qnote R c S)) =
      expectedEvents nb v0 st (qnote R c S) S := by
  have hstar : (expectedEvents nb v0 st (qnote R c S) S).Pairwise NevLt := by
    unfold expectedEvents
    rw [List.pairwise_map]
    refine acc.sorted.imp ?_
    intro a b hab
    simp only [aevLt, Bool.or_eq_true, decide_eq_true_eq, Bool.and_eq_true, beq_iff_eq, Bool.not_eq_true'] at hab
    unfold NevLt
    simp only
    rcases hab with h | ⟨h, h' | ⟨⟨h1, h2⟩, h3⟩⟩
    · left; omega
    · right; exact ⟨by omega, Or.inl h'⟩
    · right; exact ⟨by omega, Or.inr ⟨h1, h2, h3⟩⟩
  -- the step of an annotated event is the start / end step of the note it carries
  have hstep : ∀ a ∈ st.out, S + a.step =
      if a.isOff then (qnote R c S (noteAt nb v0 st a.idx)).qe else (qnote R c S (noteAt nb v0 st a.idx)).qs := by
    intro a ha
    cases hoff : a.isOff with
    | true => rw [acc.noteAt_off (v0 := v0) a (mem_offs.mpr ⟨ha, hoff⟩)]; rfl
    | false => simp only [qnote, (acc.noteAt_on (v0 := v0) a (mem_ons.mpr ⟨ha, hoff⟩)).2.1]; rfl
  refine noteEvents_unique hstar fun e => ?_
  have hL : (((List.range st.nOn).map (noteAt nb v0 st)).map (qnote R c S))[e.idx]? = some e.note ↔
      e.idx < st.nOn ∧ qnote R c S (noteAt nb v0 st e.idx) = e.note := by
    rw [List.getElem?_map, List.getElem?_map]
    by_cases hi : e.idx < st.nOn <;> simp [hi]
  rw [WFEv, hL]
  unfold expectedEvents
  rw [List.mem_map]
  constructor
  · rintro ⟨a, ha, rfl⟩
    exact ⟨⟨acc.idx_lt a ha, rfl⟩, hstep a ha⟩
  · rintro ⟨⟨hi, hn⟩, hs⟩
    -- the event of that number and kind
    obtain ⟨a, ha, hai, hao⟩ : ∃ a ∈ st.out, a.idx = e.idx ∧ a.isOff = e.isOff := by
      cases hoff : e.isOff with
      | true => obtain ⟨a, ha, hai⟩ := acc.off_of_idx e.idx hi; exact ⟨a, (mem_offs.mp ha).1, hai, (mem_offs.mp ha).2⟩
      | false => obtain ⟨a, ha, hai⟩ := acc.on_of_idx e.idx hi; exact ⟨a, (mem_ons.mp ha).1, hai, (mem_ons.mp ha).2⟩
    refine ⟨a, ha, ?_⟩
    have := hstep a ha
    rw [hai, hao, hn, ← hs] at this
    obtain ⟨s, i, o, n⟩ := e
    simp only at hai hao hn this ⊢
    rw [hai, hao, hn, this]

theorem Accepted.expected_note {R : Rat → Rat} (c : RenderCfg) (S : Int) (hnb : 0 ≤ nb) (a : AEv) (ha : a ∈ st.out) :
    (qnote R c S (noteAt nb v0 st a.idx)).pitch = a.pitch ∧
    (a.isOff = false → nb ≠ 0 →
      C07.Gen.velocityToBin (qnote R c S (noteAt nb v0 st a.idx)).velocity nb = a.bin) := by
  cases hoff : a.isOff with
  | true =>
    have := acc.noteAt_off (v0 := v0) a (mem_offs.mpr ⟨ha, hoff⟩)
    refine ⟨by rw [this]; rfl, fun h => by simp at h⟩
  | false =>
    obtain ⟨h1, _, h3⟩ := acc.noteAt_on (v0 := v0) a (mem_ons.mpr ⟨ha, hoff⟩)
    refine ⟨h1, fun _ h0 => ?_⟩
    have hv : (qnote R c S (noteAt nb v0 st a.idx)).velocity = velOf nb v0 a.bin := h3
    have hb := acc.bins h0 a ha hoff
    rw [hv]
    simp only [velOf, show ¬ a.bin = 0 by omega, ↓reduceIte]
    exact velocityToBin_binToVelocity nb a.bin (by omega)

/-- what the extractor's loop reads off the annotated stream is the stream itself, shifted by `start_step` -/
theorem Accepted.expected_sev {R : Rat → Rat} (c : RenderCfg) (S : Int) (hnb : 0 ≤ nb)
    (hb0 : nb = 0 → ∀ a ∈ st.out, a.isOff = false → a.bin = 0) :
    (expectedEvents nb v0 st (qnote R c S) S).map (sevOfNEv nb) = (st.out.map AEv.toS).map (SEv.shift S) := by
  unfold expectedEvents
  rw [List.map_map, List.map_map]
  apply List.map_congr_left
  intro a ha
  obtain ⟨hp, hv⟩ := acc.expected_note (v0 := v0) (R := R) c S hnb a ha
  simp only [Function.comp, sevOfNEv, AEv.toS, SEv.shift, hp, SEv.mk.injEq, true_and]
  refine ⟨by omega, ?_⟩
  cases hoff : a.isOff with
  | true => rfl
  | false =>
    by_cases h0 : nb = 0
    · simp only [h0, ↓reduceIte, Bool.false_eq_true]
      exact (hb0 h0 a ha hoff).symm
    · simp only [h0, ↓reduceIte, Bool.false_eq_true]
      exact hv hoff h0

end accepted

/-- `canonicalPerfB_iff` in the form the proofs use: `KindsOk` follows from the layout (`emit_kinds`), the step bound
`shiftSum evs + 1` from `stream_spec` -/
theorem accepted_of_canonicalB (nb ms : Int) (strict : Bool) (evs : List PEvent)
    (h : CanonicalPerfB nb ms strict evs = true) :
    1 ≤ ms ∧ KindsOk nb evs ∧
      emit nb ms 0 0 (stream 0 0 evs) = evs ∧
      (annotate (stream 0 0 evs)).out.map AEv.toS = stream 0 0 evs ∧
      Accepted nb (shiftSum evs + 1) strict (annotate (stream 0 0 evs)) := by
  obtain ⟨hms, hvalid, hlay, hok, hclosed, hsorted, hons, hpos, hbins⟩ := (canonicalPerfB_iff nb ms strict evs).mp h
  have hstream := annotate_stream (stream 0 0 evs) (fun e he => ((stream_spec evs 0 0 hvalid).2.2 e he).2.2.2.2.1) hok
  refine ⟨hms, fun x hx => ⟨hvalid x hx, emit_kinds nb ms hms _ 0 0 x (hlay.symm ▸ hx)⟩, hlay, hstream,
    annotate_inv _, hok, hclosed, hsorted, hons, hpos, hbins, ?_⟩
  intro a ha
  have hmem : a.toS ∈ stream 0 0 evs := by rw [← hstream]; exact List.mem_map_of_mem ha
  have := (stream_spec evs 0 0 hvalid).2.2 a.toS hmem
  simp only [AEv.toS] at this
  omega

theorem decodeEvents_canonicalB (nb ms v0 : Int) (strict : Bool) (evs : List PEvent)
    (hcanon : CanonicalPerfB nb ms strict evs = true) :
    decodeEvents nb v0 evs = .ok ((annotate (stream 0 0 evs)).offs.map (noteOfOff nb v0)) := by
  obtain ⟨_, hev, _, _, acc⟩ := accepted_of_canonicalB nb ms strict evs hcanon
  exact decodeEvents_annot nb v0 evs hev acc.closed acc.pos

/-- **discrete half, given the first sort**: if `sorted(notes)` of the quantized sequence is the list of rendered
notes in NOTE_ON order, extraction returns the event list -/
theorem perfEvents_of_sorted {R : Rat → Rat} {c : RenderCfg} {S : Int}
    (nb ms v0 : Int) (strict : Bool) (evs : List PEvent) (hcanon : CanonicalPerfB nb ms strict evs = true)
    (hnb0 : 0 ≤ nb) (filt : Option Int) (hfilt : filt = none ∨ filt = some c.instrument)
    (qs : NoteSeq)
    (hmem : ∀ n ∈ qs.notes, n ∈ ((annotate (stream 0 0 evs)).offs.map (noteOfOff nb v0)).map (qnote R c S))
    (hsort : qs.notes.mergeSort timePitchLe =
      ((List.range (annotate (stream 0 0 evs)).nOn).map (noteAt nb v0 (annotate (stream 0 0 evs)))).map (qnote R c S)) :
    perfEvents qs S nb ms filt = .ok evs := by
  obtain ⟨hms, hev, hlay, hstream, acc⟩ := accepted_of_canonicalB nb ms strict evs hcanon
  have hsel : selectNotes qs S filt = qs.notes := by
    refine selectNotes_qnote (R := R) (B := shiftSum evs + 1) qs filt hfilt fun n hn => ?_
    obtain ⟨r, hr, rfl⟩ := List.mem_map.mp (hmem n hn)
    obtain ⟨a, ha, rfl⟩ := List.mem_map.mp hr
    exact ⟨_, acc.inB a ha, rfl⟩
  have hsorted : sortedNotes qs S filt =
      ((List.range (annotate (stream 0 0 evs)).nOn).map (noteAt nb v0 (annotate (stream 0 0 evs)))).map (qnote R c S) := by
    unfold sortedNotes
    rw [hsel]
    exact hsort
  have hb0 : nb = 0 → ∀ a ∈ (annotate (stream 0 0 evs)).out, a.isOff = false → a.bin = 0 := by
    intro h0 a ha haoff
    have hmem : a.toS ∈ stream 0 0 evs := by rw [← hstream]; exact List.mem_map_of_mem ha
    have := stream_bins_const evs 0 0 (fun x hx => (hev x hx).2.2 h0) a.toS hmem (by simp [AEv.toS, haoff])
    simpa [AEv.toS, haoff] using this
  have hproj := acc.expected_sev (v0 := v0) (R := R) c S hnb0 hb0
  rw [hstream, ← acc.noteEvents_eq (v0 := v0) (R := R) c S, ← hsorted] at hproj
  -- the validator checks what the loop writes, and that is `evs`
  rw [perfEvents_emit qs S nb ms filt hms hnb0 (stream 0 0 evs) hproj, hlay,
    if_pos (List.all_eq_true.mpr fun x hx => (hev x hx).1)]

/-- the configuration `_to_sequence` renders `p` with, at `σ` seconds per step and without `max_note_duration` -/
abbrev renderCfg (R : Rat → Rat) (σ : Rat) (p : PerfObj) (a : SeqArgs) : RenderCfg :=
  ⟨σ, seqStartR R σ p.startStep, none, a.instrument, resolveProgram a.program p.program, resolveDrum p.isDrum⟩

/-- `p` renders to the same notes (as a multiset of pitch, start step, end step, velocity) as the event list `evs` -/
def SameNotes (p : PerfObj) (a : SeqArgs) (evs : List PEvent) : Prop :=
  ∃ D D', decodeEvents p.nb a.velocity evs = .ok D ∧ decodeEvents p.nb a.velocity p.events = .ok D' ∧ D'.Perm D

/-- the discrete half of the round trip of `p` to `evs` at `σ` seconds per step: whatever quantizer inverts the step
times (`Grid`), `p` renders notes on the grid, and extraction from exactly these notes, quantized, returns `evs` -/
def DiscreteHalf (R : Rat → Rat) (σ : Rat) (p : PerfObj) (a : SeqArgs) (filt : Option Int) (evs : List PEvent) : Prop :=
  ∀ q : Rat → Int, Grid (stepTimeR R σ (seqStartR R σ p.startStep)) q p.startStep (shiftSum evs + 1) →
    ∃ D, decodeEvents p.nb a.velocity p.events = .ok D ∧ (∀ r ∈ D, r.inB (shiftSum evs + 1)) ∧
      ∀ qs : NoteSeq, qs.notes = D.map (qnote R (renderCfg R σ p a) p.startStep) →
        perfEvents qs p.startStep p.nb p.maxShift filt = .ok evs

end NSV.C06P

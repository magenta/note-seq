import NoteSeqVerif.Model.C05Spec
import Mathlib.Data.Rat.Init
import NoteSeqVerif.Proofs.Basics
/-! C05 — the parser is read once, for an arbitrary rounding operator `R`: what `parseNote`, `parseAttr(s)`,
`parseSound(s)` and `parseEl` do to the state and to the measure, including that the state keeps
following the context in force (`InvF`; `Inv` is the case `R = id`) and that the cursor after a run is a
function of the elements read (`parseEl_cur`, `fcursor`).  Everything else about the parser, in exact
arithmetic and in floating point, is derived from these. -/
namespace NSV.C05

theorem specPc_cases {s : String} {pc : Int} (h : specPc s = some pc) :
    (s = "C" ∧ pc = 0) ∨ (s = "D" ∧ pc = 2) ∨ (s = "E" ∧ pc = 4) ∨ (s = "F" ∧ pc = 5) ∨
    (s = "G" ∧ pc = 7) ∨ (s = "A" ∧ pc = 9) ∨ (s = "B" ∧ pc = 11) := by
  unfold specPc at h
  split at h <;> simp_all

/-- the step table regenerated from `pitch_to_midi_pitch` is the standard one -/
theorem stepTable_spec (s : String) (pc : Int) (h : specPc s = some pc) :
    Gen.stepTable.lookup s = some pc := by
  rcases specPc_cases h with ⟨rfl, rfl⟩ | ⟨rfl, rfl⟩ | ⟨rfl, rfl⟩ | ⟨rfl, rfl⟩ | ⟨rfl, rfl⟩ | ⟨rfl, rfl⟩ | ⟨rfl, rfl⟩ <;> decide

theorem pitchToMidi_spec (s : String) (pc : Int) (h : specPc s = some pc) (alter octave : Int) :
    pitchToMidi s (alter : Rat) octave = .ok (specMidi pc alter octave 0) := by
  unfold pitchToMidi
  rw [stepTable_spec s pc h, truncR_intCast]
  simp only [specMidi]
  congr 1
  omega

/-- the parser state agrees with the context in force, in exact arithmetic (`InvF id`: `inv_iff`) -/
structure Inv (st : PState) (c : Ctx) : Prop where
  div : st.divisions = c.div
  qpm : st.qpm = c.qpm
  spq : st.spq = 60 / c.qpm

/-- the parser state agrees with the context in force, in floating point: `seconds_per_quarter` is the
ROUNDED `60 / qpm` (`Inv` is the case `R = id`) -/
structure InvF (R : ℚ → ℚ) (st : PState) (c : Ctx) : Prop where
  div : st.divisions = c.div
  qpm : st.qpm = c.qpm
  spq : st.spq = R (60 / c.qpm)

theorem inv_iff {st : PState} {c : Ctx} : Inv st c ↔ InvF id st c :=
  ⟨fun h => ⟨h.div, h.qpm, h.spq⟩, fun h => ⟨h.div, h.qpm, h.spq⟩⟩

theorem secs_zero (c : Ctx) : secs c 0 = 0 := by unfold secs; push_cast; grind

theorem secs_neg (c : Ctx) (d : Int) : secs c (-d) = - secs c d := by
  simp only [secs]; push_cast; grind

theorem secs_add (c : Ctx) (a b : Int) : secs c (a + b) = secs c a + secs c b := by
  simp only [secs]; push_cast; grind

/-- `parseNote` and time: a grace note leaves the state alone; a chord note copies onset and duration of
`previous_note`; any other note starts at the cursor and moves it by its own length -/
theorem parseNote_float {R : ℚ → ℚ} {st : PState} {n : NoteEl} {st' : PState} {pn : PNote}
    (h : parseNote R st n = .ok (st', pn)) :
    (n.duration = none → st' = st ∧ pn.time = 0 ∧ pn.seconds = 0 ∧ pn.duration = 0) ∧
    (∀ d, n.duration = some d → n.chord = true → ∃ pd pt, st.prev = some (pd, pt) ∧ st' = st ∧
        pn.time = pt ∧ pn.duration = pd ∧ secondsOf R st pd = .ok pn.seconds ∧ pn.grace = false) ∧
    (∀ d, n.duration = some d → n.chord = false → st' = { st with tp := R (st.tp + pn.seconds) } ∧
        pn.time = st.tp ∧ pn.duration = d ∧ secondsOf R st d = .ok pn.seconds ∧ pn.grace = false) := by
  unfold parseNote at h
  simp only [] at h
  split at h
  · contradiction
  · split at h
    · contradiction
    · rename_i st1 dur time sec grace hdur
      split at h
      · contradiction
      · split at h
        · contradiction
        · simp only [Except.ok.injEq, Prod.mk.injEq] at h
          obtain ⟨rfl, rfl⟩ := h
          cases hd : n.duration with
          | none =>
            simp only [hd, Except.ok.injEq, Prod.mk.injEq] at hdur
            obtain ⟨rfl, rfl, rfl, rfl, rfl⟩ := hdur
            exact ⟨fun _ => ⟨rfl, rfl, rfl, rfl⟩, fun d h2 => by simp at h2, fun d h2 => by simp at h2⟩
          | some d0 =>
            simp only [hd] at hdur
            cases hc : n.chord with
            | true =>
              simp only [hc, if_true] at hdur
              split at hdur
              · contradiction
              · rename_i pd pt hprev
                split at hdur
                · contradiction
                · rename_i sec' hsec
                  simp only [Except.ok.injEq, Prod.mk.injEq] at hdur
                  obtain ⟨rfl, rfl, rfl, rfl, rfl⟩ := hdur
                  exact ⟨fun h2 => by simp at h2, fun d _ _ => ⟨pd, pt, hprev, rfl, rfl, rfl, hsec, rfl⟩,
                    fun d _ h2 => by simp at h2⟩
            | false =>
              simp only [hc, Bool.false_eq_true, if_false] at hdur
              split at hdur
              · contradiction
              · rename_i sec' hsec
                simp only [Except.ok.injEq, Prod.mk.injEq] at hdur
                obtain ⟨rfl, rfl, rfl, rfl, rfl⟩ := hdur
                refine ⟨fun h2 => by simp at h2, fun d _ h2 => by simp at h2, fun d h2 _ => ?_⟩
                simp only [Option.some.injEq] at h2
                subst h2
                exact ⟨rfl, rfl, rfl, hsec, rfl⟩

theorem parseNote_state {R : ℚ → ℚ} {st : PState} {n : NoteEl} {st' : PState} {pn : PNote}
    (h : parseNote R st n = .ok (st', pn)) : ∃ t, st' = { st with tp := t } := by
  obtain ⟨g1, g2, g3⟩ := parseNote_float h
  cases hd : n.duration with
  | none => exact ⟨_, (g1 hd).1⟩
  | some d =>
    cases hc : n.chord with
    | true => obtain ⟨_, _, _, e, _⟩ := g2 d hd hc; exact ⟨_, e⟩
    | false => exact ⟨_, (g3 d hd hc).1⟩

theorem parseNote_attrs {R : Rat → Rat} {st : PState} {n : NoteEl} {st' : PState} {pn : PNote}
    (h : parseNote R st n = .ok (st', pn)) :
    pn.voice = n.voice.getD 1 ∧ pn.channel = st.channel ∧ pn.program = st.program ∧
    pn.velocity = st.velocity ∧ pn.isRest = (n.kind == .rest) ∧ pn.dots = n.dots ∧
    (∀ s a o, n.kind = .pitched s a o → ∃ p, pitchToMidi s a o = .ok p ∧ pn.pitch = p + st.transpose) ∧
    (match n.type with
     | none => pn.type = "quarter"
     | some t => pn.type = t ∧ (lookupType t).isSome) ∧
    (match n.tuplet with
     | none => pn.tuplet = 1
     | some (a, b) => b ≠ 0 ∧ pn.tuplet = pyFraction a b) := by
  unfold parseNote at h
  simp only [] at h
  split at h
  · contradiction
  · rename_i pitch hp
    split at h
    · contradiction
    · split at h
      · contradiction
      · rename_i ty hty
        split at h
        · contradiction
        · rename_i tup htup
          simp only [Except.ok.injEq, Prod.mk.injEq] at h
          obtain ⟨_, rfl⟩ := h
          refine ⟨rfl, rfl, rfl, rfl, rfl, rfl, ?_, ?_, ?_⟩
          · intro s a o hk
            simp only [hk] at hp
            split at hp
            · rename_i p hpm
              simp only [Except.ok.injEq] at hp
              exact ⟨p, hpm, hp.symm⟩
            · contradiction
          · cases hnt : n.type with
            | none => simp only [hnt, Except.ok.injEq] at hty; exact hty.symm
            | some t =>
              simp only [hnt] at hty
              split at hty
              · rename_i hl
                simp only [Except.ok.injEq] at hty
                exact ⟨hty.symm, hl⟩
              · contradiction
          · cases hnt : n.tuplet with
            | none => simp only [hnt, Except.ok.injEq] at htup; exact htup.symm
            | some ab =>
              obtain ⟨a, b⟩ := ab
              simp only [hnt] at htup
              split at htup
              · contradiction
              · rename_i hb
                simp only [Except.ok.injEq] at htup
                exact ⟨hb, htup.symm⟩

theorem parseAttr_ok {st : PState} {m : MState} {a : AttrChild} {st' : PState} {m' : MState}
    (h : parseAttr st m a = .ok (st', m')) :
    (∃ d tr ts, st' = { st with divisions := d, transpose := tr, ts := ts }) ∧
    (∃ ts ks, m' = { m with ts := ts, ks := ks }) ∧
    ∀ {R : ℚ → ℚ} {c : Ctx}, InvF R st c → InvF R st' (ctxAttr c a) := by
  cases a with
  | divisions d =>
    simp only [parseAttr, Except.ok.injEq, Prod.mk.injEq] at h
    obtain ⟨rfl, rfl⟩ := h
    exact ⟨⟨_, _, _, rfl⟩, ⟨_, _, rfl⟩, fun hi => ⟨rfl, hi.qpm, hi.spq⟩⟩
  | key f mode =>
    simp only [parseAttr] at h
    split at h
    · contradiction
    · simp only [Except.ok.injEq, Prod.mk.injEq] at h
      obtain ⟨rfl, rfl⟩ := h
      exact ⟨⟨_, _, _, rfl⟩, ⟨_, _, rfl⟩, fun hi => hi⟩
  | time b bt =>
    simp only [parseAttr] at h
    split at h
    · contradiction
    · split at h
      · contradiction
      · simp only [Except.ok.injEq, Prod.mk.injEq] at h
        obtain ⟨rfl, rfl⟩ := h
        exact ⟨⟨_, _, _, rfl⟩, ⟨_, _, rfl⟩, fun hi => ⟨hi.div, hi.qpm, hi.spq⟩⟩
  | transpose t =>
    simp only [parseAttr] at h
    split at h <;>
    · simp only [Except.ok.injEq, Prod.mk.injEq] at h
      obtain ⟨rfl, rfl⟩ := h
      exact ⟨⟨_, _, _, rfl⟩, ⟨_, _, rfl⟩, fun hi => ⟨hi.div, hi.qpm, hi.spq⟩⟩

theorem parseAttrs_ok {cs : List AttrChild} : ∀ {st : PState} {m : MState} {st' : PState} {m' : MState},
    parseAttrs st m cs = .ok (st', m') →
    (∃ d tr ts, st' = { st with divisions := d, transpose := tr, ts := ts }) ∧
    (∃ ts ks, m' = { m with ts := ts, ks := ks }) ∧
    ∀ {R : ℚ → ℚ} {c : Ctx}, InvF R st c → InvF R st' (cs.foldl ctxAttr c) := by
  induction cs with
  | nil =>
    intro st m st' m' h
    simp only [parseAttrs, Except.ok.injEq, Prod.mk.injEq] at h
    obtain ⟨rfl, rfl⟩ := h
    exact ⟨⟨_, _, _, rfl⟩, ⟨_, _, rfl⟩, fun hi => hi⟩
  | cons a cs ih =>
    intro st m st' m' h
    simp only [parseAttrs] at h
    split at h
    · contradiction
    · rename_i st1 m1 h1
      obtain ⟨⟨_, _, _, rfl⟩, ⟨_, _, rfl⟩, i1⟩ := parseAttr_ok h1
      obtain ⟨⟨_, _, _, rfl⟩, ⟨_, _, rfl⟩, i2⟩ := ih h
      exact ⟨⟨_, _, _, rfl⟩, ⟨_, _, rfl⟩, fun hi => i2 (i1 hi)⟩

theorem parseSound_ok (R : ℚ → ℚ) (st : PState) (m : MState) (s : Sound) :
    (∃ q sq v, (parseSound R st m s).1 = { st with qpm := q, spq := sq, velocity := v }) ∧
    (parseSound R st m s).2 = { m with tempos := (m.tempos ++
      (s.tempo.map fun q => (⟨st.tp, if q = 0 then Gen.DEFAULT_QPM else q⟩ : TempoMark)).toList) } ∧
    ∀ {c : Ctx}, InvF R st c → InvF R (parseSound R st m s).1 (ctxSound c s) := by
  unfold parseSound ctxSound
  cases s.tempo with
  | none => exact ⟨⟨_, _, _, rfl⟩, by simp, fun hi => hi⟩
  | some q => cases s.dynamics <;> exact ⟨⟨_, _, _, rfl⟩, rfl, fun hi => ⟨hi.div, rfl, rfl⟩⟩

theorem parseSounds_ok (R : ℚ → ℚ) (ss : List Sound) : ∀ (st : PState) (m : MState),
    (∃ q sq v, (parseSounds R st m ss).1 = { st with qpm := q, spq := sq, velocity := v }) ∧
    (parseSounds R st m ss).2 = { m with tempos := (m.tempos ++
      ss.filterMap (fun s => s.tempo.map (fun q => ⟨st.tp, if q = 0 then Gen.DEFAULT_QPM else q⟩))) } ∧
    ∀ {c : Ctx}, InvF R st c → InvF R (parseSounds R st m ss).1 (ss.foldl ctxSound c) := by
  induction ss with
  | nil => intro st m; exact ⟨⟨_, _, _, rfl⟩, by simp [parseSounds], fun hi => hi⟩
  | cons s ss ih =>
    intro st m
    obtain ⟨⟨q, sq, v, e1⟩, e2, i1⟩ := parseSound_ok R st m s
    obtain ⟨⟨q', sq', v', e3⟩, e4, i2⟩ := ih (parseSound R st m s).1 (parseSound R st m s).2
    simp only [parseSounds, List.foldl]
    refine ⟨⟨_, _, _, e3.trans (by rw [e1])⟩, ?_, fun hi => i2 (i1 hi)⟩
    rw [e4, e2, e1]
    cases ht : s.tempo <;> simp [ht]

/-- ONE ELEMENT, every `R`: channel and program are never touched, the state keeps following the context in force,
and cursor, `previous_note` and the note list of the measure change as the kind of element says -/
theorem parseEl_float {R : ℚ → ℚ} {st : PState} {m : MState} {e : El} {st' : PState} {m' : MState}
    (h : parseEl R st m e = .ok (st', m')) :
    st'.channel = st.channel ∧ st'.program = st.program ∧
    (∀ {c : Ctx}, InvF R st c → InvF R st' (ctxStep c e)) ∧
    match e with
    | .forward d => ∃ sec, secondsOf R st d = .ok sec ∧ st' = { st with tp := R (st.tp + sec) } ∧ m' = m
    | .backup d => ∃ sec, secondsOf R st d = .ok sec ∧ st' = { st with tp := R (st.tp - sec) } ∧ m' = m
    | .note n => ∃ st1 pn, parseNote R st n = .ok (st1, pn) ∧
        st' = { st1 with prev := some (pn.duration, pn.time) } ∧ m'.notes = m.notes ++ [pn]
    | .harmony _ | .other => st' = st ∧ m'.notes = m.notes
    | .attributes _ | .direction _ => st'.tp = st.tp ∧ st'.prev = st.prev ∧ m'.notes = m.notes := by
  cases e with
  | attributes cs =>
    simp only [parseEl] at h
    obtain ⟨⟨_, _, _, rfl⟩, ⟨_, _, rfl⟩, i⟩ := parseAttrs_ok h
    exact ⟨rfl, rfl, i, rfl, rfl, rfl⟩
  | backup d | forward d =>
    simp only [parseEl] at h
    split at h
    · contradiction
    · rename_i sec hsec
      simp only [Except.ok.injEq, Prod.mk.injEq] at h
      obtain ⟨rfl, rfl⟩ := h
      exact ⟨rfl, rfl, fun hi => ⟨hi.div, hi.qpm, hi.spq⟩, sec, hsec, rfl, rfl⟩
  | direction ss =>
    simp only [parseEl, Except.ok.injEq] at h
    obtain ⟨⟨_, _, _, e1⟩, e2, i⟩ := parseSounds_ok R ss st m
    rw [h] at e1 e2 i
    subst e1 e2
    exact ⟨rfl, rfl, i, rfl, rfl, rfl⟩
  | note n =>
    simp only [parseEl] at h
    split at h
    · contradiction
    · rename_i st1 pn hn
      simp only [Except.ok.injEq, Prod.mk.injEq] at h
      obtain ⟨rfl, rfl⟩ := h
      obtain ⟨t, rfl⟩ := parseNote_state hn
      exact ⟨rfl, rfl, fun hi => ⟨hi.div, hi.qpm, hi.spq⟩, _, pn, hn, rfl, rfl⟩
  | harmony cs =>
    simp only [parseEl] at h
    split at h
    · contradiction
    · simp only [Except.ok.injEq, Prod.mk.injEq] at h
      obtain ⟨rfl, rfl⟩ := h
      exact ⟨rfl, rfl, fun hi => hi, rfl, rfl⟩
  | other =>
    simp only [parseEl, Except.ok.injEq, Prod.mk.injEq] at h
    obtain ⟨rfl, rfl⟩ := h
    exact ⟨rfl, rfl, fun hi => hi, rfl, rfl⟩

theorem parseEl_invF {R : ℚ → ℚ} {st : PState} {m : MState} {e : El} {st' : PState} {m' : MState} {c : Ctx}
    (hinv : InvF R st c) (h : parseEl R st m e = .ok (st', m')) : InvF R st' (ctxStep c e) :=
  (parseEl_float h).2.2.1 hinv

theorem parseEl_still {R : ℚ → ℚ} {st : PState} {m : MState} {e : El} {st' : PState} {m' : MState}
    (h : parseEl R st m e = .ok (st', m')) (hs : still e = true) :
    st'.tp = st.tp ∧ st'.prev = st.prev ∧ m'.notes = m.notes := by
  obtain ⟨_, _, _, hf⟩ := parseEl_float h
  cases e with
  | attributes _ | direction _ => exact hf
  | harmony _ | other => obtain ⟨rfl, hn⟩ := hf; exact ⟨rfl, rfl, hn⟩
  | _ => exact absurd hs Bool.false_ne_true

theorem moveOf_of_still {e : El} (h : still e = true) : moveOf e = 0 := by
  cases e <;> first | rfl | exact absurd h Bool.false_ne_true

/-- a `<note>` appends the note `parseNote` built for it to the measure, anything else appends nothing and leaves
`previous_note` alone -/
theorem parseEl_notes {R : ℚ → ℚ} {st : PState} {m : MState} {e : El} {st' : PState} {m' : MState}
    (h : parseEl R st m e = .ok (st', m')) :
    ∃ new, m'.notes = m.notes ++ new ∧ new.length = ([e].filter isNote).length ∧
      (isNote e = false → st'.prev = st.prev) ∧
      ∀ pn ∈ new, ∃ n st1, e = .note n ∧ parseNote R st n = .ok (st1, pn) := by
  obtain ⟨_, _, _, hf⟩ := parseEl_float h
  cases e with
  | note n =>
    obtain ⟨st1, pn, hpn, _, hn⟩ := hf
    exact ⟨[pn], hn, rfl, fun h => Bool.noConfusion h, fun x hx => ⟨n, st1, rfl, by rwa [List.mem_singleton.mp hx]⟩⟩
  | backup d | forward d =>
    obtain ⟨_, _, rfl, rfl⟩ := hf
    exact ⟨[], by simp, rfl, fun _ => rfl, fun _ hx => absurd hx List.not_mem_nil⟩
  | _ =>
    obtain ⟨_, hp, hn⟩ := parseEl_still h rfl
    exact ⟨[], by simp [hn], rfl, fun _ => hp, fun _ hx => absurd hx List.not_mem_nil⟩

/-- the arithmetic of `secondsOf` on numbers -/
def secF (R : ℚ → ℚ) (ppq div spq d : ℚ) : ℚ := R (R (R (d * R (ppq / div)) / ppq) * spq)

/-- the seconds of `d` divisions as the parser computes them with `R` at the divisions and tempo of `c`: the computed
twin of the spec's `secs c d` -/
def fsecs (R : ℚ → ℚ) (c : Ctx) (d : Int) : ℚ :=
  secF R (Gen.STANDARD_PPQ : ℚ) (c.div : ℚ) (R (60 / c.qpm)) (d : ℚ)

theorem secondsOf_eq (R : ℚ → ℚ) (st : PState) (d : Int) (h : st.divisions ≠ 0) :
    secondsOf R st d = .ok (secF R (Gen.STANDARD_PPQ : ℚ) (st.divisions : ℚ) st.spq (d : ℚ)) := by
  unfold secondsOf secF
  rw [if_neg h]

theorem InvF.seconds {R : ℚ → ℚ} {st : PState} {c : Ctx} (hinv : InvF R st c) {d : Int} {sec : ℚ}
    (h : secondsOf R st d = .ok sec) :
    c.div ≠ 0 ∧ sec = fsecs R c d := by
  unfold secondsOf at h
  split at h
  · contradiction
  · rename_i hd
    rw [fsecs, ← hinv.div, ← hinv.spq]
    exact ⟨hd, (Except.ok.inj h).symm⟩

/-- the cursor move of an element: direction (`true` = forward) and length in divisions.  Unlike the signed
`moveOf` of the spec it tells "no move" (`none`: chord and grace notes, everything that is not a note, `<backup>`
or `<forward>`) from a move of 0 divisions, which still rounds the cursor; `mvOf_moveOf` relates the two -/
def mvOf : El → Option (Bool × Int)
  | .note n => if n.chord then none else n.duration.map (fun d => (true, d))
  | .backup d => some (false, d)
  | .forward d => some (true, d)
  | _ => none

def curStep (R : ℚ → ℚ) (c : Ctx) (tp : ℚ) (e : El) : ℚ :=
  match mvOf e with
  | none => tp
  | some (fwd, d) =>
      R (if fwd then tp + fsecs R c d else tp - fsecs R c d)

/-- the cursor after a run of elements, as the parser computes it with `R` from the cursor `tp` before the run: a
function of the elements and the context alone (`simCur` in `Proofs/C05Sim.lean` ties the parser to it) -/
def fcursor (R : ℚ → ℚ) : Ctx → ℚ → List El → ℚ
  | _, tp, [] => tp
  | c, tp, e :: es => fcursor R (ctxStep c e) (curStep R c tp e) es

theorem mvOf_moveOf (c : Ctx) (e : El) :
    match mvOf e with
    | none => moveOf e = 0
    | some (fwd, d) => moveOf e = (if fwd then d else -d) ∧ ctxStep c e = c := by
  cases e with
  | note n => cases hc : n.chord <;> cases hd : n.duration <;> simp [mvOf, moveOf, ctxStep, hc, hd]
  | _ => simp [mvOf, moveOf, ctxStep]

theorem mvOf_some {e : El} {fwd : Bool} {d : Int} (h : mvOf e = some (fwd, d)) :
    (e = .backup d ∧ fwd = false) ∨ (e = .forward d ∧ fwd = true) ∨
    ∃ n, e = .note n ∧ n.chord = false ∧ n.duration = some d ∧ fwd = true := by
  cases e with
  | backup _ =>
    simp only [mvOf, Option.some.injEq, Prod.mk.injEq] at h
    exact Or.inl ⟨by rw [h.2], h.1.symm⟩
  | forward _ =>
    simp only [mvOf, Option.some.injEq, Prod.mk.injEq] at h
    exact Or.inr (Or.inl ⟨by rw [h.2], h.1.symm⟩)
  | note n =>
    simp only [mvOf] at h
    split at h
    · contradiction
    · rename_i hc
      cases hd : n.duration with
      | none => simp [hd] at h
      | some d' =>
        simp only [hd, Option.map_some, Option.some.injEq, Prod.mk.injEq] at h
        exact Or.inr (Or.inr ⟨n, rfl, by simpa using hc, by rw [hd, h.2], h.1.symm⟩)
  | attributes _ | direction _ | harmony _ | other => simp [mvOf] at h

theorem curStep_none {R : ℚ → ℚ} {c : Ctx} {tp : ℚ} {e : El} (h : mvOf e = none) :
    curStep R c tp e = tp ∧ moveOf e = 0 := by
  have := mvOf_moveOf c e
  simp only [h] at this
  exact ⟨by simp [curStep, h], this⟩

theorem curStep_some {R : ℚ → ℚ} {c : Ctx} {tp : ℚ} {e : El} {fwd : Bool} {d : Int} (h : mvOf e = some (fwd, d)) :
    curStep R c tp e = R (if fwd then tp + fsecs R c d else tp - fsecs R c d) ∧
    moveOf e = (if fwd then d else -d) := by
  have := mvOf_moveOf c e
  simp only [h] at this
  exact ⟨by simp [curStep, h], this.1⟩

theorem parseEl_cur {R : ℚ → ℚ} {st : PState} {m : MState} {e : El} {st' : PState} {m' : MState} {c : Ctx}
    (hinv : InvF R st c) (h : parseEl R st m e = .ok (st', m')) : st'.tp = curStep R c st.tp e := by
  obtain ⟨_, _, _, hf⟩ := parseEl_float h
  cases e with
  | backup d | forward d =>
    obtain ⟨sec, hsec, rfl, _⟩ := hf
    obtain ⟨_, rfl⟩ := hinv.seconds hsec
    rfl
  | note n =>
    obtain ⟨st1, pn, hn, rfl, _⟩ := hf
    obtain ⟨g1, g2, g3⟩ := parseNote_float hn
    cases hd : n.duration with
    | none =>
      obtain ⟨rfl, _⟩ := g1 hd
      cases hc : n.chord <;> simp [curStep, mvOf, hc, hd]
    | some d =>
      cases hc : n.chord with
      | true =>
        obtain ⟨_, _, _, rfl, _⟩ := g2 d hd hc
        simp [curStep, mvOf, hc]
      | false =>
        obtain ⟨rfl, _, _, hsec, _⟩ := g3 d hd hc
        obtain ⟨_, hs⟩ := hinv.seconds hsec
        simp [curStep, mvOf, hc, hd, ← hs]
  | _ => exact (parseEl_still h rfl).1

/-- also when `c.div = 0`: both sides are then 0 -/
theorem fsecs_id (c : Ctx) (d : Int) : fsecs id c d = secs c d := by
  simp only [fsecs, secF, id, secs, Gen.STANDARD_PPQ]
  by_cases hd : (c.div : ℚ) = 0
  · simp [hd, Rat.div_def]
  · grind

theorem move_signed {c : Ctx} {e : El} {fwd : Bool} {d : Int} (tp : ℚ) (h : mvOf e = some (fwd, d)) :
    (if fwd = true then tp + secs c d else tp - secs c d) = tp + secs c (moveOf e) := by
  rw [(curStep_some (R := id) (c := c) (tp := tp) h).2]
  cases fwd
  · simp only [Bool.false_eq_true, if_false, secs_neg, Rat.sub_eq_add_neg]
  · simp only [if_true]

theorem curStep_id (c : Ctx) (tp : ℚ) (e : El) : curStep id c tp e = tp + secs c (moveOf e) := by
  cases hm : mvOf e with
  | none => obtain ⟨a, b⟩ := curStep_none (R := id) (c := c) (tp := tp) hm; rw [a, b, secs_zero, Rat.add_zero]
  | some x =>
    obtain ⟨fwd, d⟩ := x
    rw [(curStep_some hm).1, fsecs_id, id, move_signed tp hm]

theorem secondsOf_id {st : PState} {c : Ctx} (h : Inv st c) {d : Int} {sec : Rat}
    (hs : secondsOf id st d = .ok sec) : sec = secs c d := by
  obtain ⟨_, rfl⟩ := (inv_iff.1 h).seconds hs
  exact fsecs_id c d

theorem parseEls_nil {R : ℚ → ℚ} {st st' : PState} {m m' : MState} (h : parseEls R st m [] = .ok (st', m')) :
    st' = st ∧ m' = m := by
  simp only [parseEls, Except.ok.injEq, Prod.mk.injEq] at h
  exact ⟨h.1.symm, h.2.symm⟩

theorem parseEls_cons {R : ℚ → ℚ} {st : PState} {m : MState} {e : El} {es : List El} {r : PState × MState} :
    parseEls R st m (e :: es) = .ok r ↔
      ∃ st1 m1, parseEl R st m e = .ok (st1, m1) ∧ parseEls R st1 m1 es = .ok r := by
  constructor
  · intro h
    simp only [parseEls] at h
    split at h
    · contradiction
    · rename_i st1 m1 h1
      exact ⟨st1, m1, h1, h⟩
  · rintro ⟨st1, m1, h1, h2⟩
    simp only [parseEls, h1, h2]

theorem parseMeasures_nil {R : ℚ → ℚ} {st st' : PState} {ms : List MState}
    (h : parseMeasures R st [] = .ok (st', ms)) : st' = st ∧ ms = [] := by
  simp only [parseMeasures, Except.ok.injEq, Prod.mk.injEq] at h
  exact ⟨h.1.symm, h.2.symm⟩

theorem parseMeasures_cons {R : ℚ → ℚ} {st st' : PState} {els : List El} {rest : List (List El)}
    {ms : List MState} : parseMeasures R st (els :: rest) = .ok (st', ms) ↔
      ∃ st1 m1 ms', parseMeasure R st (repairMeasure els) = .ok (st1, m1) ∧
        parseMeasures R st1 rest = .ok (st', ms') ∧ ms = m1 :: ms' := by
  constructor
  · intro h
    simp only [parseMeasures] at h
    split at h
    · contradiction
    · rename_i st1 m1 h1
      split at h
      · contradiction
      · rename_i st2 ms' h2
        simp only [Except.ok.injEq, Prod.mk.injEq] at h
        obtain ⟨rfl, rfl⟩ := h
        exact ⟨st1, m1, ms', h1, h2, rfl⟩
  · rintro ⟨st1, m1, ms', h1, h2, rfl⟩
    simp only [parseMeasures, h1, h2]

theorem parseMeasure_ok {R : ℚ → ℚ} {st st' : PState} {els : List El} {m : MState}
    (h : parseMeasure R st els = .ok (st', m)) :
    ∃ st1 m1, parseEls R st {} els = .ok (st1, m1) ∧ fixTimeSignature st1 m1 st.tp = .ok (st', m) := by
  unfold parseMeasure at h
  split at h
  · contradiction
  · rename_i st1 m1 h1
    exact ⟨st1, m1, h1, h⟩

theorem parseEls_append {R : Rat → Rat} {a : List El} : ∀ {b : List El} {st : PState} {m : MState} {r : PState × MState},
    parseEls R st m (a ++ b) = .ok r →
    ∃ st1 m1, parseEls R st m a = .ok (st1, m1) ∧ parseEls R st1 m1 b = .ok r := by
  induction a with
  | nil => intro b st m r h; exact ⟨st, m, rfl, h⟩
  | cons e es ih =>
    intro b st m r h
    obtain ⟨st1, m1, h1, h2⟩ := parseEls_cons.1 h
    obtain ⟨st2, m2, h3, h4⟩ := ih h2
    exact ⟨st2, m2, parseEls_cons.2 ⟨st1, m1, h1, h3⟩, h4⟩

theorem parseEls_mid {R : ℚ → ℚ} {pre post : List El} {e : El} {st : PState} {m : MState} {r : PState × MState}
    (h : parseEls R st m (pre ++ e :: post) = .ok r) :
    ∃ sa ma sb mb, parseEls R st m pre = .ok (sa, ma) ∧ parseEl R sa ma e = .ok (sb, mb) ∧
      parseEls R sb mb post = .ok r := by
  obtain ⟨sa, ma, h1, h2⟩ := parseEls_append h
  obtain ⟨sb, mb, h3, h4⟩ := parseEls_cons.1 h2
  exact ⟨sa, ma, sb, mb, h1, h3, h4⟩

theorem parseMeasures_append {R : ℚ → ℚ} {a : List (List El)} : ∀ {b : List (List El)} {st st' : PState}
    {ms : List MState}, parseMeasures R st (a ++ b) = .ok (st', ms) →
    ∃ st1 ms1 ms2, parseMeasures R st a = .ok (st1, ms1) ∧ parseMeasures R st1 b = .ok (st', ms2) ∧
      ms = ms1 ++ ms2 ∧ ms1.length = a.length := by
  induction a with
  | nil => intro b st st' ms h; exact ⟨st, [], ms, rfl, h, rfl, rfl⟩
  | cons x xs ih =>
    intro b st st' ms h
    obtain ⟨st1, m1, ms', h1, h2, rfl⟩ := parseMeasures_cons.1 h
    obtain ⟨sa, msa, msb, ha, hb, rfl, l⟩ := ih h2
    exact ⟨sa, m1 :: msa, msb, parseMeasures_cons.2 ⟨st1, m1, msa, h1, ha, rfl⟩, hb, rfl, by simp [l]⟩

theorem parseParts_cons {R : ℚ → ℚ} {sps : List ScorePartEl} {p : PartEl} {after : List PartEl} {st : PState}
    {total : ℚ} {r : PState × ℚ × List (List MState)} (h : parseParts R sps st total (p :: after) = .ok r) :
    ∃ st1 ms r', parsePart R sps st p = .ok (st1, ms) ∧
      parseParts R sps st1 (if st1.tp > total then st1.tp else total) after = .ok r' ∧
      r.2.2 = ms :: r'.2.2 ∧ r.2.1 = r'.2.1 := by
  simp only [parseParts] at h
  split at h
  · contradiction
  · rename_i st1 ms h1
    split at h
    · contradiction
    · rename_i st2 t rest h2
      simp only [Except.ok.injEq] at h
      subst h
      exact ⟨st1, ms, _, h1, h2, rfl, rfl⟩

theorem parseParts_total_le {R : ℚ → ℚ} {sps : List ScorePartEl} : ∀ (ps : List PartEl) (st : PState) (total : ℚ)
    (r : PState × ℚ × List (List MState)), parseParts R sps st total ps = .ok r → total ≤ r.2.1 := by
  intro ps
  induction ps with
  | nil =>
    intro st total r h
    simp only [parseParts, Except.ok.injEq] at h
    subst h; exact Rat.le_refl
  | cons q qs ih =>
    intro st total r h
    obtain ⟨st1, _, r', _, h2, _, e⟩ := parseParts_cons h
    have := ih _ _ _ h2
    rw [e]
    split at this <;> rename_i hlt
    · exact Rat.le_trans (Rat.le_of_lt hlt) this
    · exact this

theorem specCursor_append (a : List El) : ∀ (c : Ctx) (b : List El),
    specCursor c (a ++ b) = specCursor c a + specCursor (ctxAfter c a) b := by
  induction a with
  | nil => intro c b; simp [specCursor, ctxAfter, Rat.zero_add]
  | cons e es ih =>
    intro c b
    simp only [List.cons_append, specCursor, ih, ctxAfter, List.foldl, Rat.add_assoc]

theorem ctxAfter_append (c : Ctx) (a b : List El) : ctxAfter c (a ++ b) = ctxAfter (ctxAfter c a) b := by
  simp [ctxAfter, List.foldl_append]

theorem parseEls_out {R : ℚ → ℚ} {els : List El} : ∀ {st : PState} {m : MState} {st' : PState} {m' : MState},
    parseEls R st m els = .ok (st', m') →
    (∃ ns, m'.notes = m.notes ++ ns ∧ ns.length = (els.filter isNote).length) ∧
    ((∀ e ∈ els, isNote e = false) → st'.prev = st.prev) := by
  induction els with
  | nil =>
    intro st m st' m' h
    obtain ⟨rfl, rfl⟩ := parseEls_nil h
    exact ⟨⟨[], by simp, rfl⟩, fun _ => rfl⟩
  | cons e es ih =>
    intro st m st' m' h
    obtain ⟨st1, m1, h1, h2⟩ := parseEls_cons.1 h
    obtain ⟨n1, a3, a4, a5, _⟩ := parseEl_notes h1
    obtain ⟨⟨n2, b3, b4⟩, b5⟩ := ih h2
    refine ⟨⟨n1 ++ n2, by rw [b3, a3, List.append_assoc], ?_⟩, fun hall => ?_⟩
    · rw [List.length_append, a4, b4, ← List.length_append, ← List.filter_append]; rfl
    · rw [b5 (fun x hx => hall x (by simp [hx])), a5 (hall e (by simp))]

theorem fixTimeSignature_frame {st : PState} {m : MState} {start : Rat} {st' : PState} {m' : MState}
    (h : fixTimeSignature st m start = .ok (st', m')) :
    (∃ x, st' = { st with ts := x }) ∧ ∃ y, m' = { m with ts := y } := by
  unfold fixTimeSignature at h
  simp only [] at h
  split at h
  · contradiction
  · split at h
    · simp only [Except.ok.injEq, Prod.mk.injEq] at h
      obtain ⟨rfl, rfl⟩ := h
      exact ⟨⟨_, rfl⟩, _, rfl⟩
    · contradiction
    · split at h
      · contradiction
      · split at h <;>
        · simp only [Except.ok.injEq, Prod.mk.injEq] at h
          obtain ⟨rfl, rfl⟩ := h
          exact ⟨⟨_, rfl⟩, _, rfl⟩

theorem flatEls_cons (els : List El) (mss : List (List El)) :
    flatEls (els :: mss) = repairMeasure els ++ flatEls mss := by simp [flatEls]

theorem flatEls_append (a b : List (List El)) : flatEls (a ++ b) = flatEls a ++ flatEls b := by
  simp [flatEls]

theorem PState.init_inv : Inv PState.init Ctx.init := ⟨rfl, rfl, by
  simp only [PState.init, Ctx.init, Gen.INIT_SPQ, Gen.INIT_QPM]; decide +kernel⟩

/-- a property of the context that every child of an `<attributes>` and every `<sound>` of a `<direction>`
preserves survives the element -/
theorem ctxStep_induct {P : Ctx → Prop} {c : Ctx} {e : El} (hc : P c)
    (ha : ∀ cs, e = .attributes cs → ∀ a ∈ cs, ∀ c, P c → P (ctxAttr c a))
    (hs : ∀ ss, e = .direction ss → ∀ s ∈ ss, ∀ c, P c → P (ctxSound c s)) : P (ctxStep c e) := by
  cases e with
  | attributes cs => exact foldl_inv _ P _ (fun c _ hc h => h c hc) cs c hc (ha cs rfl)
  | direction ss => exact foldl_inv _ P _ (fun c _ hc h => h c hc) ss c hc (hs ss rfl)
  | _ => exact hc

theorem ctxStep_qpm_of_tempoFree {c : Ctx} {e : El} (h : tempoFree e = true) : (ctxStep c e).qpm = c.qpm := by
  refine ctxStep_induct (P := fun c' => c'.qpm = c.qpm) rfl ?_ ?_
  · intro _ _ a _ c' h'
    cases a <;> exact h'
  · rintro ss rfl s hs c' h'
    simp only [tempoFree, List.all_eq_true, Option.isNone_iff_eq_none] at h
    simp [ctxSound, h s hs, h']

theorem ctxAfter_qpm_of_tempoFree {els : List El} {c : Ctx} (h : ∀ e ∈ els, tempoFree e = true) :
    (ctxAfter c els).qpm = c.qpm :=
  foldl_inv ctxStep (fun c' => c'.qpm = c.qpm) (fun e => tempoFree e = true)
    (fun _ _ hs he => (ctxStep_qpm_of_tempoFree he).trans hs) els c rfl h

theorem scoreCtx_qpm_of_tempoFree {parts : List PartEl} {c : Ctx}
    (h : ∀ q ∈ parts, ∀ e ∈ partEls q, tempoFree e = true) : (scoreCtx c parts).qpm = c.qpm :=
  foldl_inv _ (fun c' => c'.qpm = c.qpm) (fun q => ∀ e ∈ partEls q, tempoFree e = true)
    (fun _ _ hs hq => (ctxAfter_qpm_of_tempoFree hq).trans hs) parts c rfl h

/-- a score with one tempo: the first part's tempo marks all stand in `lead`, the rest of it and the parts `mid`
after it have none; the context they leave behind then has the tempo `lead` established -/
theorem scoreCtx_one_tempo {p0 : PartEl} {mid : List PartEl} {lead rest : List El} (h0 : partEls p0 = lead ++ rest)
    (hrest : ∀ e ∈ rest, tempoFree e = true) (hmid : ∀ q ∈ mid, ∀ e ∈ partEls q, tempoFree e = true) :
    scoreCtx Ctx.init (p0 :: mid) = ⟨(scoreCtx Ctx.init (p0 :: mid)).div, (ctxAfter Ctx.init lead).qpm⟩ := by
  have hq : (scoreCtx Ctx.init (p0 :: mid)).qpm = (ctxAfter Ctx.init lead).qpm := by
    simp only [scoreCtx, List.foldl]
    have := scoreCtx_qpm_of_tempoFree (c := ctxAfter Ctx.init (partEls p0)) hmid
    simp only [scoreCtx] at this
    rw [this, h0, ctxAfter_append, ctxAfter_qpm_of_tempoFree hrest]
  rw [← hq]

theorem specCursor_of_still {els : List El} : ∀ {c : Ctx}, (∀ e ∈ els, still e = true) → specCursor c els = 0 := by
  induction els with
  | nil => intro c _; rfl
  | cons e es ih =>
    intro c h
    rw [specCursor, moveOf_of_still (h e (by simp)), secs_zero, ih (fun x hx => h x (by simp [hx])), Rat.add_zero]

theorem offsetSeconds_id {st : PState} {c : Ctx} (h : Inv st c) {o : Int} {sec : Rat}
    (hs : offsetSeconds id st o = .ok sec) : sec = secs c o := by
  unfold offsetSeconds at hs
  split at hs
  · contradiction
  · rename_i hd
    injection hs with hs
    subst hs
    have hd' : (c.div : Rat) ≠ 0 := by rw [← h.div]; exact_mod_cast hd
    simp only [id, secs, h.div, h.spq, Gen.STANDARD_PPQ]
    push_cast
    grind

theorem parseHChildren_time {st : PState} {c : Ctx} (hinv : Inv st c) {cs : List HChild} :
    ∀ {h h' : HState}, parseHChildren id st h cs = .ok h' → h'.time = h.time + secs c (offsetSum cs) := by
  induction cs with
  | nil =>
    intro h h' hh
    simp only [parseHChildren, Except.ok.injEq] at hh
    subst hh; simp [offsetSum, secs_zero, Rat.add_zero]
  | cons x xs ih =>
    intro h h' hh
    simp only [parseHChildren] at hh
    split at hh
    · contradiction
    · rename_i h1 hx
      have := ih hh
      rw [this]
      cases x with
      | root _ _ | bass _ _ | degree _ _ _ =>
        simp only [parseHChild] at hx
        split at hx
        · contradiction
        · simp only [Except.ok.injEq] at hx; subst hx; simp [offsetSum]
      | kind t =>
        cases t with
        | none => simp only [parseHChild, Except.ok.injEq] at hx; subst hx; simp [offsetSum]
        | some t =>
          simp only [parseHChild] at hx
          split at hx
          · contradiction
          · simp only [Except.ok.injEq] at hx; subst hx; simp [offsetSum]
      | offset v =>
        cases v with
        | bad => simp [parseHChild] at hx
        | int o =>
          simp only [parseHChild] at hx
          split at hx
          · contradiction
          · rename_i sec hsec
            simp only [Except.ok.injEq] at hx; subst hx
            simp only [offsetSum, secs_add, id, offsetSeconds_id hinv hsec]; grind

theorem dotSum_closed (r : Rat) (k : Nat) : r + dotSum r k = r * (2 - (1 / 2 : Rat) ^ k) := by
  induction k with
  | zero => simp [dotSum]; grind
  | succ k ih =>
    simp only [dotSum]
    rw [← Rat.add_assoc, ih, Rat.pow_succ]
    grind

theorem durationRatio_spec (n : PNote) (tr : Rat) (ht : lookupType n.type = some tr) (htup : n.tuplet ≠ 0)
    (hg : n.grace = false) : durationRatio n = .ok (specRatio tr n.tuplet n.dots) := by
  unfold durationRatio
  simp only [ht, htup, hg, if_false, Bool.false_eq_true]
  rw [dotSum_closed]
  rfl

theorem readerNote_fields {R : Rat → Rat} {part : Nat} {n : PNote} {x : Note}
    (h : readerNote R part n = .ok x) :
    x.pitch = n.pitch ∧ x.velocity = n.velocity ∧ x.instrument = n.channel ∧ x.program = n.program ∧
    x.voice = n.voice ∧ x.part = part ∧ x.start = (if n.time < 0 then 0 else n.time) ∧
    x.end_ = R (x.start + n.seconds) ∧
    ∃ r, durationRatio n = .ok r ∧ x.numerator = r.num ∧ x.denominator = r.den := by
  unfold readerNote at h
  split at h
  · contradiction
  · rename_i r hr
    simp only [Except.ok.injEq] at h
    subst h
    exact ⟨rfl, rfl, rfl, rfl, rfl, rfl, rfl, rfl, r, hr, rfl, rfl⟩

theorem readerNote_times {R : Rat → Rat} {part : Nat} {n : PNote} {x : Note} (h : readerNote R part n = .ok x)
    (h0 : 0 ≤ n.time) : x.start = n.time ∧ x.end_ = R (n.time + n.seconds) := by
  obtain ⟨_, _, _, _, _, _, hs, he, _⟩ := readerNote_fields h
  rw [if_neg (Rat.not_lt.mpr h0)] at hs
  exact ⟨hs, by rw [he, hs]⟩

theorem pyFraction_eq {n₁ d₁ n₂ d₂ : Int} (h1 : 0 < d₁) (h2 : 0 < d₂) (h : n₁ * d₂ = n₂ * d₁) :
    pyFraction n₁ d₁ = pyFraction n₂ d₂ := by
  unfold pyFraction
  rw [if_neg (by omega), if_neg (by omega), Rat.mkRat_eq_iff (by omega) (by omega)]
  rw [Int.natAbs_of_nonneg (by omega), Int.natAbs_of_nonneg (by omega)]
  exact h

theorem mem_dedup {α} [DecidableEq α] (l : List α) : ∀ (acc : List α) (x : α),
    x ∈ dedup acc l ↔ x ∈ acc ∨ x ∈ l := by
  induction l with
  | nil => intro acc x; simp [dedup]
  | cons y ys ih =>
    intro acc x
    simp only [dedup]
    split
    · rename_i hy
      rw [ih]
      constructor
      · rintro (h | h)
        · exact Or.inl h
        · exact Or.inr (by simp [h])
      · rintro (h | h)
        · exact Or.inl h
        · rcases List.mem_cons.mp h with rfl | h
          · exact Or.inl hy
          · exact Or.inr h
    · rw [ih]
      simp only [List.mem_append, List.mem_cons]
      grind

theorem nodup_dedup {α} [DecidableEq α] (l : List α) : ∀ (acc : List α), acc.Nodup → (dedup acc l).Nodup := by
  induction l with
  | nil => intro acc h; simpa [dedup] using h
  | cons y ys ih =>
    intro acc h
    simp only [dedup]
    split
    · exact ih acc h
    · rename_i hy
      apply ih
      rw [List.nodup_append]
      refine ⟨h, by simp, ?_⟩
      intro a ha b hb
      simp only [List.mem_singleton] at hb
      subst hb
      intro hab; subst hab; exact hy ha

/-- side condition of `mxml_chord_onset_exact` (`Props/C05.lean`): an element that may stand between the first
note of a chord and one of its later notes without breaking the chain `previous_note`: anything that is not a
note, or a `<chord/>` note with a `<duration>` -/
def chordRun : El → Bool
  | .note n => n.chord && n.duration.isSome
  | _ => true

/-- additionally nothing that changes divisions or tempo (so the chord notes also LAST as long) -/
def noRetime : El → Bool
  | .attributes _ => false
  | .direction _ => false
  | _ => true

theorem secondsOf_congr (R : Rat → Rat) {a b : PState} (hd : a.divisions = b.divisions) (hs : a.spq = b.spq)
    (d : Int) : secondsOf R a d = secondsOf R b d := by
  unfold secondsOf
  rw [hd, hs]

theorem parseEl_noRetime {R : Rat → Rat} {st : PState} {m : MState} {e : El} {st' : PState} {m' : MState}
    (h : parseEl R st m e = .ok (st', m')) (hn : noRetime e = true) :
    st'.divisions = st.divisions ∧ st'.spq = st.spq := by
  obtain ⟨_, _, _, hf⟩ := parseEl_float h
  cases e with
  | attributes _ | direction _ => exact absurd hn Bool.false_ne_true
  | backup d | forward d => obtain ⟨_, _, rfl, _⟩ := hf; exact ⟨rfl, rfl⟩
  | harmony _ | other => obtain ⟨rfl, _⟩ := hf; exact ⟨rfl, rfl⟩
  | note n =>
    obtain ⟨st1, pn, hn1, rfl, _⟩ := hf
    obtain ⟨t, rfl⟩ := parseNote_state hn1
    exact ⟨rfl, rfl⟩

end NSV.C05

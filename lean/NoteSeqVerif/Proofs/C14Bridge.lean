import NoteSeqVerif.Proofs.C14Abs
/-! C14 — facts about the sorted event list the model builds, and the link between what layer 2
says on events (`PedAtEnd`, `FirstClosing`) and the declarative `pedalDown` / `heldEnd`. -/
namespace NSV.C14
open Gen

theorem evLe_pre {n} : TotalPre (evLe (n := n)) := .lex Ev.time (.ofKey Ev.typ)

section events
variable {n : Nat} (ctl : Int) (notes : Fin n → Note) (ccs : List CC)

/-- the event a control change of the pedal controller becomes -/
def ccEv (c : CC) : Ev n :=
  if 64 ≤ c.value then { time := c.time, typ := SUSTAIN_ON, obj := .cc c }
  else { time := c.time, typ := SUSTAIN_OFF, obj := .cc c }

theorem sorted_pairwise :
    (sortedEvents ctl notes ccs).Pairwise (fun a b => evLe a b = true) :=
  evLe_pre.sorted _

theorem mem_sorted (ev : Ev n) :
    ev ∈ sortedEvents ctl notes ccs ↔
      (∃ k, (notes k).isDrum = false ∧ (ev = onEv notes k ∨ ev = offEv notes k)) ∨
      (∃ c ∈ ccs, c.number = ctl ∧ ev = ccEv c) := by
  unfold sortedEvents
  rw [(List.mergeSort_perm _ _).mem_iff, List.mem_append]
  constructor
  · rintro (h | h)
    · left
      simp only [noteEvents, List.mem_append, List.mem_map, List.mem_filter, List.mem_finRange,
        true_and] at h
      rcases h with ⟨k, hk, rfl⟩ | ⟨k, hk, rfl⟩
      · exact ⟨k, by simpa using hk, Or.inl rfl⟩
      · exact ⟨k, by simpa using hk, Or.inr rfl⟩
    · right
      simp only [ccEvents, List.mem_map, List.mem_filter] at h
      obtain ⟨c, ⟨hc, hn⟩, rfl⟩ := h
      exact ⟨c, hc, by simpa using hn, rfl⟩
  · rintro (⟨k, hk, h | h⟩ | ⟨c, hc, hn, rfl⟩)
    · left
      simp only [noteEvents, List.mem_append, List.mem_map, List.mem_filter, List.mem_finRange,
        true_and]
      exact Or.inl ⟨k, by simpa using hk, h.symm⟩
    · left
      simp only [noteEvents, List.mem_append, List.mem_map, List.mem_filter, List.mem_finRange,
        true_and]
      exact Or.inr ⟨k, by simpa using hk, h.symm⟩
    · right
      simp only [ccEvents, List.mem_map, List.mem_filter]
      exact ⟨c, ⟨hc, by simpa using hn⟩, rfl⟩

theorem ccEv_time (c : CC) : (ccEv (n := n) c).time = c.time := by unfold ccEv; split <;> rfl
theorem ccEv_obj (c : CC) : (ccEv (n := n) c).obj = .cc c := by unfold ccEv; split <;> rfl

theorem mem_sorted_cc (x : Ev n) (c : CC) :
    (x ∈ sortedEvents ctl notes ccs ∧ x.obj = .cc c) ↔ (c ∈ ccs ∧ c.number = ctl ∧ x = ccEv c) := by
  constructor
  · rintro ⟨hx, hobj⟩
    rcases (mem_sorted ctl notes ccs x).mp hx with ⟨k, _, rfl | rfl⟩ | ⟨c', hc, hn, rfl⟩
    · cases hobj
    · cases hobj
    · rw [ccEv_obj] at hobj
      cases hobj
      exact ⟨hc, hn, rfl⟩
  · rintro ⟨hc, hn, rfl⟩
    exact ⟨(mem_sorted ctl notes ccs _).mpr (Or.inr ⟨c, hc, hn, rfl⟩), ccEv_obj c⟩

theorem sorted_ok : ∀ ev ∈ sortedEvents ctl notes ccs, EvOK notes ev := by
  intro ev hev
  rcases (mem_sorted ctl notes ccs ev).mp hev with ⟨k, hk, rfl | rfl⟩ | ⟨c, _, _, rfl⟩
  · simp [EvOK, onEv, hk]
  · simp [EvOK, offEv, hk]
  · unfold ccEv; split <;> simp [EvOK]

theorem onIds_unsorted :
    onIds (noteEvents notes ++ ccEvents ctl ccs) =
      (List.finRange n).filter (fun i => !(notes i).isDrum) := by
  have h1 : ∀ L : List (Fin n), onIds (L.map (fun i =>
      ({ time := (notes i).start, typ := NOTE_ON, obj := .note i } : Ev n))) = L := by
    intro L; induction L with
    | nil => rfl
    | cons a L ih => simp only [List.map_cons, onIds_cons_on, ih]
  have h2 : ∀ L : List (Fin n), onIds (L.map (fun i =>
      ({ time := (notes i).end_, typ := NOTE_OFF, obj := .note i } : Ev n))) = [] := by
    intro L; induction L with
    | nil => rfl
    | cons a L ih =>
      simp only [List.map_cons]
      rw [onIds_cons_other _ _ (Ne.symm t23)]; exact ih
  have h3 : onIds (ccEvents (n := n) ctl ccs) = [] := by
    unfold ccEvents
    generalize ccs.filter _ = L
    induction L with
    | nil => rfl
    | cons a L ih =>
      simp only [List.map_cons]
      rw [onIds_cons_other]
      · exact ih
      · split
        · exact t02
        · exact t12
  rw [onIds_append, noteEvents, onIds_append, h1, h2, h3]
  simp

theorem sorted_onIds_nodup : (onIds (sortedEvents ctl notes ccs)).Nodup := by
  have hp : (onIds (sortedEvents ctl notes ccs)).Perm (onIds (noteEvents notes ++ ccEvents ctl ccs)) :=
    List.Perm.filterMap _ (List.mergeSort_perm _ _)
  rw [hp.nodup_iff, onIds_unsorted]
  exact (List.nodup_finRange n).sublist List.filter_sublist

end events

/-! ### the loop variable `time` after a sorted loop is the largest event time -/
theorem lastTimeOf_cases {n} (t : Rat) (E : List (Ev n)) :
    (E = [] ∧ lastTimeOf t E = t) ∨ ∃ z ∈ E, lastTimeOf t E = z.time := by
  induction E generalizing t with
  | nil => exact Or.inl ⟨rfl, rfl⟩
  | cons x E ih =>
    right
    rcases ih x.time with ⟨h1, h2⟩ | ⟨z, hz, h⟩
    · exact ⟨x, by simp, by simp only [lastTimeOf, List.foldl_cons] at h2 ⊢; exact h2⟩
    · exact ⟨z, List.mem_cons_of_mem _ hz, by simp only [lastTimeOf, List.foldl_cons] at h ⊢; exact h⟩

theorem lastTimeOf_ge {n} (t : Rat) (E : List (Ev n))
    (hpw : E.Pairwise (fun a b => evLe a b = true)) : ∀ y ∈ E, y.time ≤ lastTimeOf t E := by
  induction E generalizing t with
  | nil => intro y hy; cases hy
  | cons x E ih =>
    intro y hy
    have hpw' := List.pairwise_cons.mp hpw
    have hstep : lastTimeOf t (x :: E) = lastTimeOf x.time E := by simp [lastTimeOf]
    rw [hstep]
    rcases List.mem_cons.mp hy with hy | hy
    · subst hy
      rcases lastTimeOf_cases y.time E with ⟨_, h⟩ | ⟨z, hz, h⟩
      · rw [h]; exact Rat.le_refl
      · rw [h]; exact evLe_time (hpw'.1 z hz)
    · exact ih x.time hpw'.2 y hy

/-! The events of the sorted list that are `IsPedOn` / `IsPedOff` / `IsStrike` for note `j`, read back as
the control changes and notes of the sequence they come from. -/
section spec
variable (ctl : Int) (s : NoteSeq)

/-- the note objects of the deep copy, by original position -/
def notesOf (s : NoteSeq) : Fin s.notes.length → Note := fun i => s.notes[i]

theorem notesOf_mem (i : Fin s.notes.length) : notesOf s i ∈ s.notes := List.getElem_mem _

theorem exists_notesOf {m : Note} (h : m ∈ s.notes) : ∃ k, notesOf s k = m := by
  obtain ⟨i, hi, rfl⟩ := List.getElem_of_mem h
  exact ⟨⟨i, hi⟩, rfl⟩

theorem mem_pedOn (j : Fin s.notes.length) (x : Ev s.notes.length) :
    (x ∈ sortedEvents ctl (notesOf s) s.ccs ∧ IsPedOn (notesOf s) j x) ↔
      ∃ c ∈ s.ccs, c.number = ctl ∧ c.instrument = (notesOf s j).instrument ∧ 64 ≤ c.value ∧
        x = ⟨c.time, SUSTAIN_ON, .cc c⟩ := by
  constructor
  · rintro ⟨hx, htyp, c, hobj, hi⟩
    obtain ⟨hc, hn, rfl⟩ := (mem_sorted_cc ctl _ _ x c).mp ⟨hx, hobj⟩
    unfold ccEv at htyp ⊢
    split at htyp
    · rename_i hv; exact ⟨c, hc, hn, hi, hv, by rw [if_pos hv]⟩
    · exact absurd htyp (Ne.symm t01)
  · rintro ⟨c, hc, hn, hi, hv, rfl⟩
    exact ⟨((mem_sorted_cc ctl _ _ _ c).mpr ⟨hc, hn, by rw [ccEv, if_pos hv]⟩).1, rfl, c, rfl, hi⟩

theorem mem_pedOff (j : Fin s.notes.length) (x : Ev s.notes.length) :
    (x ∈ sortedEvents ctl (notesOf s) s.ccs ∧ IsPedOff (notesOf s) j x) ↔
      ∃ c ∈ s.ccs, c.number = ctl ∧ c.instrument = (notesOf s j).instrument ∧ c.value < 64 ∧
        x = ⟨c.time, SUSTAIN_OFF, .cc c⟩ := by
  constructor
  · rintro ⟨hx, htyp, c, hobj, hi⟩
    obtain ⟨hc, hn, rfl⟩ := (mem_sorted_cc ctl _ _ x c).mp ⟨hx, hobj⟩
    unfold ccEv at htyp ⊢
    split at htyp
    · exact absurd htyp t01
    · rename_i hv; exact ⟨c, hc, hn, hi, Int.not_le.mp hv, by rw [if_neg hv]⟩
  · rintro ⟨c, hc, hn, hi, hv, rfl⟩
    exact ⟨((mem_sorted_cc ctl _ _ _ c).mpr
      ⟨hc, hn, by rw [ccEv, if_neg (Int.not_le.mpr hv)]⟩).1, rfl, c, rfl, hi⟩

theorem mem_strike (j : Fin s.notes.length) (x : Ev s.notes.length) :
    (x ∈ sortedEvents ctl (notesOf s) s.ccs ∧ IsStrike (notesOf s) j x) ↔
      ∃ k, k ≠ j ∧ (notesOf s k).isDrum = false ∧
        (notesOf s k).instrument = (notesOf s j).instrument ∧
        (notesOf s k).pitch = (notesOf s j).pitch ∧ x = onEv (notesOf s) k := by
  constructor
  · rintro ⟨hx, htyp, k', hobj, hkj, hi, hp⟩
    rcases (mem_sorted ctl _ _ x).mp hx with ⟨k, hk, rfl | rfl⟩ | ⟨c, hc, hn, rfl⟩
    · simp only [onEv, Obj.note.injEq] at hobj; subst hobj
      exact ⟨k, hkj, hk, hi, hp, rfl⟩
    · exact absurd htyp (Ne.symm t23)
    · rw [ccEv_obj] at hobj; cases hobj
  · rintro ⟨k, hkj, hk, hi, hp, rfl⟩
    exact ⟨(mem_sorted ctl _ _ _).mpr (Or.inl ⟨k, hk, Or.inl rfl⟩), rfl, k, rfl, hkj, hi, hp⟩

theorem idx_noov (ho : NoSamePitchOverlap s) (i k : Fin s.notes.length) (hik : i ≠ k)
    (hi : (notesOf s i).isDrum = false) (hk : (notesOf s k).isDrum = false)
    (h1 : (notesOf s i).instrument = (notesOf s k).instrument)
    (h2 : (notesOf s i).pitch = (notesOf s k).pitch) :
    (notesOf s i).start ≠ (notesOf s k).start ∧
      ((notesOf s i).start < (notesOf s k).start → (notesOf s i).end_ ≤ (notesOf s k).start) := by
  unfold NoSamePitchOverlap at ho
  rw [List.pairwise_iff_getElem] at ho
  have hne : i.val ≠ k.val := fun e => hik (Fin.ext e)
  rcases Nat.lt_or_gt_of_ne hne with hlt | hlt
  · have := ho i.val k.val i.isLt k.isLt hlt hi hk h1 h2
    exact ⟨this.1, this.2.1⟩
  · have := ho k.val i.val k.isLt i.isLt hlt hk hi h1.symm h2.symm
    exact ⟨fun e => this.1 e.symm, this.2.2⟩

theorem distinctStarts_of (ho : NoSamePitchOverlap s) : DistinctStarts (notesOf s) :=
  fun i k hik hi hk h1 h2 => (idx_noov s ho i k hik hi hk h1 h2).1

theorem time_mem_eventTimes (ev : Ev s.notes.length)
    (h : ev ∈ sortedEvents ctl (notesOf s) s.ccs) : ev.time ∈ eventTimes ctl s := by
  unfold eventTimes
  rcases (mem_sorted ctl _ _ ev).mp h with ⟨k, hk, rfl | rfl⟩ | ⟨c, hc, hn, rfl⟩
  · simp only [List.mem_append, List.mem_map, List.mem_filter]
    exact Or.inl (Or.inl ⟨notesOf s k, ⟨notesOf_mem s k, by simp [hk]⟩, rfl⟩)
  · simp only [List.mem_append, List.mem_map, List.mem_filter]
    exact Or.inl (Or.inr ⟨notesOf s k, ⟨notesOf_mem s k, by simp [hk]⟩, rfl⟩)
  · simp only [List.mem_append, List.mem_map, List.mem_filter]
    exact Or.inr ⟨c, ⟨hc, by simp [hn]⟩, (ccEv_time c).symm⟩

theorem eventTimes_mem_time (t : Rat) (h : t ∈ eventTimes ctl s) :
    ∃ ev ∈ sortedEvents ctl (notesOf s) s.ccs, ev.time = t := by
  unfold eventTimes at h
  simp only [List.mem_append, List.mem_map, List.mem_filter] at h
  rcases h with (⟨m, ⟨hm, hd⟩, rfl⟩ | ⟨m, ⟨hm, hd⟩, rfl⟩) | ⟨c, ⟨hc, hn⟩, rfl⟩
  · obtain ⟨k, rfl⟩ := exists_notesOf s hm
    exact ⟨onEv (notesOf s) k, (mem_sorted ctl _ _ _).mpr (Or.inl ⟨k, by simpa using hd, Or.inl rfl⟩), rfl⟩
  · obtain ⟨k, rfl⟩ := exists_notesOf s hm
    exact ⟨offEv (notesOf s) k, (mem_sorted ctl _ _ _).mpr (Or.inl ⟨k, by simpa using hd, Or.inr rfl⟩), rfl⟩
  · exact ⟨ccEv c, (mem_sorted ctl _ _ _).mpr (Or.inr ⟨c, hc, by simpa using hn, rfl⟩), ccEv_time c⟩

theorem lastEventTime_spec (t : Rat) (ht : t ∈ eventTimes ctl s) :
    t ≤ lastEventTime ctl s ∧ lastEventTime ctl s ∈ eventTimes ctl s := by
  unfold lastEventTime
  generalize eventTimes ctl s = L at ht
  match L, ht with
  | a :: l, ht =>
    show t ≤ l.foldl max a ∧ l.foldl max a ∈ a :: l
    constructor
    · rcases List.mem_cons.mp ht with h | h
      · rw [h]; exact (foldl_max_ge l a).1
      · exact (foldl_max_ge l a).2 t h
    · rcases foldl_max_mem l a with h | h
      · rw [h]; exact List.mem_cons_self ..
      · exact List.mem_cons_of_mem _ h

/-- the loop variable `time` after the loop is the specification's `lastEventTime` -/
theorem lastEventTime_eq :
    lastEventTime ctl s = lastTimeOf 0 (sortedEvents ctl (notesOf s) s.ccs) := by
  rcases lastTimeOf_cases 0 (sortedEvents ctl (notesOf s) s.ccs) with ⟨hE, h⟩ | ⟨z, hz, h⟩
  · have : eventTimes ctl s = [] := List.eq_nil_iff_forall_not_mem.mpr fun t ht => by
      obtain ⟨ev, hev, _⟩ := eventTimes_mem_time ctl s t ht
      rw [hE] at hev; cases hev
    rw [h]; unfold lastEventTime; rw [this]
  · obtain ⟨hle, hin⟩ := lastEventTime_spec ctl s _ (time_mem_eventTimes ctl s z hz)
    obtain ⟨ev, hev, he⟩ := eventTimes_mem_time ctl s _ hin
    exact Rat.le_antisymm
      (he ▸ lastTimeOf_ge 0 _ (sorted_pairwise ctl (notesOf s) s.ccs) ev hev) (h ▸ hle)

/-- the specification's release times of note `j` are the times of the pedal-up events after its
end -/
theorem pedOffAt_iff (j : Fin s.notes.length) (t : Rat) :
    (∃ y ∈ sortedEvents ctl (notesOf s) s.ccs, IsPedOff (notesOf s) j y ∧
        (notesOf s j).end_ < y.time ∧ y.time = t) ↔ t ∈ releaseTimes ctl s (notesOf s j) := by
  simp only [releaseTimes, List.mem_map, List.mem_filter, decide_eq_true_eq]
  constructor
  · rintro ⟨y, hy, hoff, hlt, hyt⟩
    obtain ⟨c, hc, hn, hi, hv, rfl⟩ := (mem_pedOff ctl s j y).mp ⟨hy, hoff⟩
    exact ⟨c, ⟨hc, hn, hi, hv, hlt⟩, hyt⟩
  · rintro ⟨c, ⟨hc, hn, hi, hv, hlt⟩, hct⟩
    have := (mem_pedOff ctl s j ⟨c.time, SUSTAIN_OFF, .cc c⟩).mpr ⟨c, hc, hn, hi, hv, rfl⟩
    exact ⟨_, this.1, this.2, hlt, hct⟩

/-- … and its re-strike times those of the re-strikes not before its end ("another note" is by
value in the specification; without same-pitch overlaps that is another position) -/
theorem strikeAt_iff (ho : NoSamePitchOverlap s) (j : Fin s.notes.length)
    (hj : (notesOf s j).isDrum = false) (t : Rat) :
    (∃ y ∈ sortedEvents ctl (notesOf s) s.ccs, IsStrike (notesOf s) j y ∧
        (notesOf s j).end_ ≤ y.time ∧ y.time = t) ↔ t ∈ restrikeTimes s (notesOf s j) := by
  simp only [restrikeTimes, List.mem_map, List.mem_filter, decide_eq_true_eq]
  constructor
  · rintro ⟨y, hy, hst, hle, hyt⟩
    obtain ⟨k, hkj, hkd, hki, hkp, rfl⟩ := (mem_strike ctl s j y).mp ⟨hy, hst⟩
    exact ⟨notesOf s k, ⟨notesOf_mem s k,
      fun e => (idx_noov s ho k j hkj hkd hj hki hkp).1 (by rw [e]), hkd, hki, hkp, hle⟩, hyt⟩
  · rintro ⟨m, ⟨hm, hne, hmd, hmi, hmp, hle⟩, hmt⟩
    obtain ⟨k, rfl⟩ := exists_notesOf s hm
    have := (mem_strike ctl s j (onEv (notesOf s) k)).mpr
      ⟨k, fun e => hne (by rw [e]), hmd, hmi, hmp, rfl⟩
    exact ⟨_, this.1, this.2, hle, hmt⟩

theorem closing_iff (ho : NoSamePitchOverlap s) (j : Fin s.notes.length)
    (hj : (notesOf s j).isDrum = false) (t : Rat) :
    (∃ y ∈ sortedEvents ctl (notesOf s) s.ccs, Closing (notesOf s) j y ∧ y.time = t) ↔
      t ∈ releaseTimes ctl s (notesOf s j) ++ restrikeTimes s (notesOf s j) := by
  rw [List.mem_append, ← pedOffAt_iff ctl s j t, ← strikeAt_iff ctl s ho j hj t]
  constructor
  · rintro ⟨y, hy, ⟨h1, h2⟩ | ⟨h1, h2⟩, h3⟩
    · exact Or.inl ⟨y, hy, h1, h2, h3⟩
    · exact Or.inr ⟨y, hy, h1, h2, h3⟩
  · rintro (⟨y, hy, h1, h2, h3⟩ | ⟨y, hy, h1, h2, h3⟩)
    · exact ⟨y, hy, Or.inl ⟨h1, h2⟩, h3⟩
    · exact ⟨y, hy, Or.inr ⟨h1, h2⟩, h3⟩

theorem noClosing_iff (ho : NoSamePitchOverlap s) (j : Fin s.notes.length)
    (hj : (notesOf s j).isDrum = false) :
    (∀ y ∈ sortedEvents ctl (notesOf s) s.ccs, ¬ Closing (notesOf s) j y) ↔
      (releaseTimes ctl s (notesOf s j) = [] ∧ restrikeTimes s (notesOf s j) = []) := by
  rw [← List.append_eq_nil_iff, List.eq_nil_iff_forall_not_mem]
  constructor
  · intro h t ht
    obtain ⟨x, hx, hcl, _⟩ := (closing_iff ctl s ho j hj t).mpr ht
    exact h x hx hcl
  · intro h y hy hcl
    exact h _ ((closing_iff ctl s ho j hj y.time).mp ⟨y, hy, hcl, rfl⟩)

theorem time_le_last (ev : Ev s.notes.length) (h : ev ∈ sortedEvents ctl (notesOf s) s.ccs) :
    ev.time ≤ lastEventTime ctl s :=
  (lastEventTime_spec ctl s _ (time_mem_eventTimes ctl s ev h)).1

/-- the event-level reading of "the pedal is down at `j`'s end" is the specification's -/
theorem pedAtEnd_iff (j : Fin s.notes.length) :
    PedAtEnd (notesOf s) j (sortedEvents ctl (notesOf s) s.ccs) ↔
      pedalDown ctl s.ccs (notesOf s j).instrument (notesOf s j).end_ := by
  unfold pedalDown
  constructor
  · rintro ⟨x, hx, hon, hxt, hall⟩
    obtain ⟨c, hc, hn, hi, hv, rfl⟩ := (mem_pedOn ctl s j x).mp ⟨hx, hon⟩
    refine ⟨c, hc, hn, hi, hv, hxt, ?_⟩
    intro c' hc' hn' hi' hv' ht'
    have := (mem_pedOff ctl s j ⟨c'.time, SUSTAIN_OFF, .cc c'⟩).mpr ⟨c', hc', hn', hi', hv', rfl⟩
    exact hall ⟨c'.time, SUSTAIN_OFF, .cc c'⟩ this.1 this.2 ht'
  · rintro ⟨c, hc, hn, hi, hv, ht, hall⟩
    have hon := (mem_pedOn ctl s j ⟨c.time, SUSTAIN_ON, .cc c⟩).mpr ⟨c, hc, hn, hi, hv, rfl⟩
    refine ⟨_, hon.1, hon.2, ht, ?_⟩
    intro y hy hoff hyt
    obtain ⟨c', hc', hn', hi', hv', rfl⟩ := (mem_pedOff ctl s j y).mp ⟨hy, hoff⟩
    exact hall c' hc' hn' hi' hv' hyt

theorem heldEnd_pedal (nt : Note) (hd : nt.isDrum = false)
    (hpd : pedalDown ctl s.ccs nt.instrument nt.end_) :
    heldEnd ctl s nt =
      (releaseTimes ctl s nt ++ restrikeTimes s nt).foldl min (lastEventTime ctl s) := by
  unfold heldEnd
  rw [if_neg]
  rw [hd]; simp [hpd]

/-- a first closing event is where the specification ends the pedal-held note `j` -/
theorem heldEnd_firstClosing (ho : NoSamePitchOverlap s) (j : Fin s.notes.length)
    (hj : (notesOf s j).isDrum = false)
    (hpd : pedalDown ctl s.ccs (notesOf s j).instrument (notesOf s j).end_) {x : Ev s.notes.length}
    (hx : FirstClosing (notesOf s) j (sortedEvents ctl (notesOf s) s.ccs) x) :
    heldEnd ctl s (notesOf s j) = x.time := by
  rw [heldEnd_pedal ctl s _ hj hpd]
  apply Rat.le_antisymm
  · exact (foldl_min_le _ _).2 x.time ((closing_iff ctl s ho j hj x.time).mp ⟨x, hx.1, hx.2.1, rfl⟩)
  · refine (le_foldl_min _ _ _).mpr ⟨time_le_last ctl s x hx.1, fun t ht => ?_⟩
    obtain ⟨y, hy, hcl, rfl⟩ := (closing_iff ctl s ho j hj t).mpr ht
    exact hx.2.2 y hy hcl

end spec

end NSV.C14

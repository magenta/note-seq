import NoteSeqVerif.Proofs.C12BSus
/-! C12 — the exact `total_time` after `apply_sustain_control_changes`.

C14's `sustain_spec` pins down the notes of the result but leaves `total_time` between bounds.  For the storage-order
theorem the exact value is needed; it is read off C14's `core_run`, which says that the new `total_time` is the greatest
of the old one and the held ends of the notes the pedal ends.  Result (`core_total`): `total_time` becomes the maximum of
the old value, of the held ends of the notes ended by a pedal release, and — if some note is still held when the events
run out — of the time of the last event. -/
namespace NSV.C12
open NSV.C14

/-- how the per-note automaton ends, exactly: still active iff the pedal is down at the note's end and nothing closes
it; ended by the pedal iff the pedal is down at its end and a first closing event is a release, and then it ends there -/
theorem abs_final_exact {n : Nat} {notes : Fin n → Note} {j : Fin n} {E : List (Ev n)}
    (hst : Static notes j E) (hpw : E.Pairwise (fun a b => evLe a b = true)) (hnd : (onIds E).Nodup) :
    let aF := E.foldl (astep notes j) (abs0 notes j)
    (aF.act = true ↔ PedAtEnd notes j E ∧ ∀ y ∈ E, ¬ Closing notes j y) ∧
    (aF.tag = .byPed → PedAtEnd notes j E ∧ ∃ y, FirstClosing notes j E y ∧ IsPedOff notes j y ∧ aF.e = y.time) := by
  intro aF
  rcases abs_final hst hpw hnd with h | h
  · exact ⟨⟨fun _ => ⟨h.pd, h.noClosing⟩, fun _ => h.act⟩, fun ht => by rw [h.tag] at ht; cases ht⟩
  · refine ⟨⟨fun ha => (by rw [h.act] at ha; cases ha), fun ⟨hpd, hno⟩ => ?_⟩, h.byPed⟩
    cases ht : aF.tag with
    | none => exact absurd hpd (h.none ht).2
    | byPed => obtain ⟨_, y, hy, _⟩ := h.byPed ht; exact absurd hy.2.1 (hno y hy.1)
    | byStrike => obtain ⟨_, y, hy, _⟩ := h.byStrike ht; exact absurd hy.2.1 (hno y hy.1)

section seq
variable (ctl : Int) (s : NoteSeq)

/-- the note is ended by a pedal release: the pedal is down at its end and its held end is the time of a later
release of its instrument's pedal (this is when the loop raises `total_time`) -/
def pedClosed (nt : Note) : Prop :=
  nt.isDrum = false ∧ pedalDown ctl s.ccs nt.instrument nt.end_ ∧ heldEnd ctl s nt ∈ releaseTimes ctl s nt

/-- the note is still held when the events run out: the pedal is down at its end and neither a later release nor a
later re-strike ends it (the close-out then ends it at the time of the last event) -/
def stillHeld (nt : Note) : Prop :=
  nt.isDrum = false ∧ pedalDown ctl s.ccs nt.instrument nt.end_ ∧
    releaseTimes ctl s nt = [] ∧ restrikeTimes s nt = []

instance (nt : Note) : Decidable (pedClosed ctl s nt) := by unfold pedClosed; infer_instance
instance (nt : Note) : Decidable (stillHeld ctl s nt) := by unfold stillHeld; infer_instance

/-- `total_time` after `apply_sustain_control_changes` -/
def totalSpec : Rat :=
  if s.notes.any (fun nt => decide (stillHeld ctl s nt)) then
    max (((s.notes.filter (fun nt => decide (pedClosed ctl s nt))).map (heldEnd ctl s)).foldl max s.totalTime)
      (lastEventTime ctl s)
  else ((s.notes.filter (fun nt => decide (pedClosed ctl s nt))).map (heldEnd ctl s)).foldl max s.totalTime

variable {ctl s}

theorem pedalEnds_iff (nt : Note) : PedalEnds ctl s nt ↔ pedClosed ctl s nt ∨ stillHeld ctl s nt :=
  ⟨fun ⟨h1, h2, h3⟩ => h3.imp (fun h => ⟨h1, h2, h⟩) (fun h => ⟨h1, h2, h⟩),
    fun h => h.elim (fun h => ⟨h.1, h.2.1, Or.inl h.2.2⟩) (fun h => ⟨h.1, h.2.1, Or.inr h.2.2⟩)⟩

theorem heldEnd_stillHeld {nt : Note} (h : stillHeld ctl s nt) : heldEnd ctl s nt = lastEventTime ctl s := by
  unfold heldEnd
  rw [if_neg (by rw [h.1]; simp [h.2.1]), h.2.2.1, h.2.2.2]; rfl

/-- `totalSpec` is the greatest of the old `total_time` and the held ends of the notes the pedal ends, which is
what `core_run` says of the new `total_time` -/
theorem core_total (hw : WellFormed s) (ho : NoSamePitchOverlap s) :
    applyCore ctl (notesOf s) s.ccs s.totalTime = .ok (specNotes ctl s, totalSpec ctl s) := by
  obtain ⟨T, hres, hge, hwit, hcov⟩ := core_run ctl s hw ho
  rw [hres]
  congr 2
  have hL : ∀ t, t ∈ (s.notes.filter (fun nt => decide (pedClosed ctl s nt))).map (heldEnd ctl s) ↔
      ∃ nt ∈ s.notes, pedClosed ctl s nt ∧ heldEnd ctl s nt = t := by
    intro t; simp only [List.mem_map, List.mem_filter, decide_eq_true_eq, and_assoc]
  have hM := foldl_max_ge ((s.notes.filter (fun nt => decide (pedClosed ctl s nt))).map (heldEnd ctl s))
    s.totalTime
  have hany : s.notes.any (fun nt => decide (stillHeld ctl s nt)) = true ↔
      ∃ nt ∈ s.notes, stillHeld ctl s nt := by simp
  unfold totalSpec
  apply Rat.le_antisymm
  · -- `T` is the old value or a held end that `totalSpec` counts
    rcases hwit with h | ⟨nt, hnt, hp, h⟩
    · rw [h]; split
      · exact Rat.le_trans hM.1 (Std.max_le_iff.mp Rat.le_refl).1
      · exact hM.1
    · rw [h]
      rcases (pedalEnds_iff nt).mp hp with hp | hp
      · have := hM.2 _ ((hL _).mpr ⟨nt, hnt, hp, rfl⟩)
        split
        · exact Rat.le_trans this (Std.max_le_iff.mp Rat.le_refl).1
        · exact this
      · rw [if_pos (hany.mpr ⟨nt, hnt, hp⟩), heldEnd_stillHeld hp]
        exact (Std.max_le_iff.mp Rat.le_refl).2
  · -- everything `totalSpec` counts is below `T`
    have h1 : ((s.notes.filter (fun nt => decide (pedClosed ctl s nt))).map (heldEnd ctl s)).foldl max
        s.totalTime ≤ T := (foldl_max_le _ _ _).mpr ⟨hge, fun y hy => by
      obtain ⟨nt, hnt, hp, rfl⟩ := (hL y).mp hy
      exact hcov nt hnt ((pedalEnds_iff nt).mpr (Or.inl hp))⟩
    split
    · rename_i h
      obtain ⟨nt, hnt, hp⟩ := hany.mp h
      exact Std.max_le_iff.mpr ⟨h1, by
        rw [← heldEnd_stillHeld hp]; exact hcov nt hnt ((pedalEnds_iff nt).mpr (Or.inr hp))⟩
    · exact h1

end seq

theorem pedClosed_perm (ctl : Int) {s s' : NoteSeq} (h : NSPerm s s') (nt : Note) :
    pedClosed ctl s nt ↔ pedClosed ctl s' nt := by
  unfold pedClosed
  rw [pedalDown_perm ctl h.ccs, heldEnd_perm ctl h, (releaseTimes_perm ctl h nt).mem_iff]

theorem stillHeld_perm (ctl : Int) {s s' : NoteSeq} (h : NSPerm s s') (nt : Note) :
    stillHeld ctl s nt ↔ stillHeld ctl s' nt := by
  unfold stillHeld
  rw [pedalDown_perm ctl h.ccs]
  have e1 : releaseTimes ctl s nt = [] ↔ releaseTimes ctl s' nt = [] :=
    ⟨fun e => (e ▸ releaseTimes_perm ctl h nt).symm.eq_nil, fun e => (e ▸ (releaseTimes_perm ctl h nt).symm).symm.eq_nil⟩
  have e2 : restrikeTimes s nt = [] ↔ restrikeTimes s' nt = [] :=
    ⟨fun e => (e ▸ restrikeTimes_perm h nt).symm.eq_nil, fun e => (e ▸ (restrikeTimes_perm h nt).symm).symm.eq_nil⟩
  rw [e1, e2]

theorem totalSpec_perm (ctl : Int) {s s' : NoteSeq} (h : NSPerm s s') : totalSpec ctl s = totalSpec ctl s' := by
  unfold totalSpec
  have f1 : (fun nt => decide (stillHeld ctl s nt)) = (fun nt => decide (stillHeld ctl s' nt)) := by
    funext nt; exact decide_eq_decide.mpr (stillHeld_perm ctl h nt)
  have f2 : (fun nt => decide (pedClosed ctl s nt)) = (fun nt => decide (pedClosed ctl s' nt)) := by
    funext nt; exact decide_eq_decide.mpr (pedClosed_perm ctl h nt)
  have f3 : heldEnd ctl s = heldEnd ctl s' := by funext nt; exact heldEnd_perm ctl h nt
  rw [f1, f2, f3, h.notes.any_eq, foldl_max_congr _ fun _ => ((h.notes.filter _).map _).mem_iff, ← h.totalTime,
    lastEventTime_perm ctl h]

end NSV.C12

import Mathlib.Tactic.SplitIfs
import NoteSeqVerif.Proofs.C18Enc
/-! C18, `sequence_to_pianoroll`: why the painting of one note cannot raise on well-formed input (`paintNote_defined`);
the weights roll (a note's weights program acts on a cell as `wUpd`, `noteW` per note; a weight that is written does not
depend on the one before, so the last toucher wins: `noteW_eq`); the control-change loop as a fold
of column programs of at most one cell assignment. -/
namespace NSV.C18
open NSV.C12 (colProg uPaint uSeq uCell outOfRange stepErr ccFn)

variable {R R32 : Rat → Rat} {eps : Rat} {c : Cfg} {total : Rat} {n : Nat}

/-- the painting of one note cannot raise once the velocity is accepted and the end frame is not
negative: the list of decaying weights always has the length of the (clipped) slice it is assigned
to, and the blanked frame always exists (the repairs of F-C18-3 / F-C18-4) -/
theorem paintNote_defined (R R32 : Rat → Rat) (c : Cfg) (n : Nat) (st : Rolls) (nt : PNote) (col : Nat) (f : NF)
    (hv : nt.velocity ≤ c.maxVelocity) (hm : c.maxVelocity ≠ 0) (hoe : 0 ≤ f.oe) (hef : 0 ≤ f.ef) :
    ∃ st', paintNote R R32 c n st nt col f = .ok st' := by
  have hlen : (min f.ef (n : Int) - f.oe).toNat = sliceLen n f.oe (min f.ef (n : Int)) := by
    obtain ⟨oe, h1⟩ := Int.eq_ofNat_of_zero_le hoe
    obtain ⟨ef, h2⟩ := Int.eq_ofNat_of_zero_le hef
    rw [h1, h2, show min (ef : Int) (n : Int) = ((min ef n : Nat) : Int) by omega, Int.toNat_sub, sliceLen,
      normIdx_natCast, normIdx_natCast]
    omega
  exact ⟨_, paintNote_ok_iff.mpr ⟨paintErr_none_iff.mpr ⟨hv, hm, .inl hlen⟩, rfl⟩⟩

theorem intIdx_of_nonneg {n : Nat} {i : Int} (h0 : 0 ≤ i) (h1 : i < (n : Int)) : intIdx n i = some i.toNat := by
  unfold intIdx
  rw [if_pos h0, if_pos h1]

/-- the weight a note gives to frame `fr` of its pitch column (`old` = the weight before the note):
1 in the blanked frame before the note; `onset_upweight / (j + 1)` in the `j`-th frame after the onset
frames, up to the end of the note; `onset_upweight` in the onset frames; unchanged elsewhere -/
def wUpd (R R32 : Rat → Rat) (c : Cfg) (nf : NF) (fr : Nat) (old : Rat) : Rat :=
  if c.blank = true ∧ (fr : Int) = nf.sf - 1 then 1
  else if nf.oe ≤ (fr : Int) ∧ (fr : Int) < nf.ef then
    R32 (R (c.upweight / ((fr - nf.oe.toNat + 1 : Nat) : Rat)))
  else if nf.os ≤ (fr : Int) ∧ (fr : Int) < nf.oe then R32 c.upweight
  else old

/-- the slice `[onset_end : min(end, rows)]` that receives the decaying weights, seen from a frame
`fr` of the roll.  A negative `end` would count from the end of the roll, but then the list of weights
is empty and numpy accepts the assignment (`hchk`) only if the slice is empty too.  The list is
indexed from the slice's first frame, or broadcast when it has one element. -/
theorem tail_slice {oe ef : Int} {fr : Nat} (hoe : 0 ≤ oe) (hfr : fr < n)
    (hchk : (min ef (n : Int) - oe).toNat = sliceLen n oe (min ef (n : Int)) ∨
      (min ef (n : Int) - oe).toNat = 1) :
    (inSlice n oe (min ef (n : Int)) fr = true ↔ oe ≤ (fr : Int) ∧ (fr : Int) < ef) ∧
    (oe ≤ (fr : Int) → (fr : Int) < ef →
      (if ((min ef (n : Int) - oe).toNat == 1) = true then 0 else fr - normIdx n oe) = fr - oe.toNat) := by
  obtain ⟨oe, rfl⟩ := Int.eq_ofNat_of_zero_le hoe
  unfold inSlice
  unfold sliceLen at hchk
  rw [normIdx_natCast] at hchk ⊢
  simp only [Bool.and_eq_true, decide_eq_true_eq, beq_iff_eq, Int.toNat_natCast]
  by_cases hef : 0 ≤ ef
  · obtain ⟨ef, rfl⟩ := Int.eq_ofNat_of_zero_le hef
    rw [show min (ef : Int) (n : Int) = ((min ef n : Nat) : Int) by omega, normIdx_natCast, Int.toNat_sub] at hchk ⊢
    refine ⟨by omega, fun _ _ => ?_⟩
    split_ifs <;> omega
  · unfold normIdx at hchk ⊢
    rw [if_pos (by omega)] at hchk ⊢
    exact ⟨by omega, by omega⟩

/-- the guard and the integer index of `roll[start_frame - 1] = …`, seen from a frame `fr` of the roll -/
theorem blankCell_iff (c : Cfg) (sf : Int) {fr : Nat} (hfr : fr < n) :
    ((c.blank = true ∧ 0 < sf ∧ sf ≤ (n : Int)) ∧ fr = (sf - 1).toNat) ↔ (c.blank = true ∧ (fr : Int) = sf - 1) :=
  ⟨fun ⟨⟨hb, _, _⟩, _⟩ => ⟨hb, by omega⟩, fun ⟨hb, _⟩ => ⟨⟨hb, by omega, by omega⟩, by omega⟩⟩

/-- the weights program of a note that passed the shape check acts on a cell as `wUpd` -/
theorem progWeights_cell {nf : NF} (nt : PNote) {fr : Nat} (hfr : fr < n) (hos : 0 ≤ nf.os) (hoe : 0 ≤ nf.oe)
    (hchk : (min nf.ef (n : Int) - nf.oe).toNat = sliceLen n nf.oe (min nf.ef (n : Int)) ∨
      (min nf.ef (n : Int) - nf.oe).toNat = 1) (x : Rat) :
    (progWeights R R32 c n nf nt).foldl (fun x u => (u n fr).getD x) x = wUpd R R32 c nf fr x := by
  obtain ⟨htail, hidx⟩ := tail_slice hoe hfr hchk
  have hb := blankCell_iff c nf.sf hfr
  simp only [progWeights, List.foldl_cons, List.foldl_nil, uPaint, uSeq, uCell, inSlice_def, htail, hb,
    inSlice_iff n _ _ fr hos hoe hfr, wUpd]
  by_cases h1 : c.blank = true ∧ (fr : Int) = nf.sf - 1
  · simp only [if_pos h1, Option.getD_some]
  · by_cases h2 : nf.oe ≤ (fr : Int) ∧ (fr : Int) < nf.ef
    · simp only [if_neg h1, if_pos h2, hidx h2.1 h2.2, Option.getD_some, Option.getD_none]
    · by_cases h3 : nf.os ≤ (fr : Int) ∧ (fr : Int) < nf.oe
      · simp only [if_neg h1, if_neg h2, if_pos h3, Option.getD_some, Option.getD_none]
      · simp only [if_neg h1, if_neg h2, if_neg h3, Option.getD_none]

theorem paintNote_weights_cell {R R32 : Rat → Rat} {c : Cfg} {n : Nat} {st st' : Rolls} {nt : PNote}
    {col : Nat} {f : NF} (h : paintNote R R32 c n st nt col f = .ok st') (hlen : st.weights.length = n)
    (hos : 0 ≤ f.os) (hoe : 0 ≤ f.oe) (fr p : Nat) (hfr : fr < n) :
    getCell st'.weights fr p =
      if p = col then (getCell st.weights fr p).map (wUpd R R32 c f fr) else getCell st.weights fr p := by
  obtain ⟨he, rfl⟩ := paintNote_ok_iff.mp h
  refine (getCell_colProg (progWeights R R32 c n f nt) st.weights col fr p).trans ?_
  rw [hlen, show (fun x => (progWeights R R32 c n f nt).foldl (fun x u => (u n fr).getD x) x) = wUpd R R32 c f fr from
    funext (progWeights_cell nt hfr hos hoe (paintErr_none_iff.mp he).2.2)]

/-- what note `nt` does to the weight `x` of cell `(fr, p)` -/
def noteW (R R32 : Rat → Rat) (eps : Rat) (c : Cfg) (total : Rat) (n fr p : Nat) (x : Rat) (nt : PNote) : Rat :=
  if c.minPitch ≤ nt.pitch ∧ nt.pitch ≤ c.maxPitch ∧ p = colOf c nt then
    match noteFrames R eps c total n nt with
    | .ok nf => wUpd R R32 c nf fr x
    | .error _ => x
  else x

theorem noteW_eq_prog {nt : PNote} (hok : stepErr R eps c total n nt = none) {fr : Nat} (hfr : fr < n) (p : Nat)
    (x : Rat) :
    (if p = colOf c nt then
      (noteProg R eps c total n (progWeights R R32 c n) nt).foldl (fun x u => (u n fr).getD x) x else x) =
      noteW R R32 eps c total n fr p x nt := by
  unfold noteW noteProg
  by_cases hr : outOfRange c nt
  · rw [if_pos hr, if_neg (show ¬ (c.minPitch ≤ nt.pitch ∧ nt.pitch ≤ c.maxPitch ∧ p = colOf c nt) by
      unfold outOfRange at hr; omega)]
    simp
  · have hin : InRange c nt := by unfold outOfRange at hr; unfold InRange; omega
    obtain ⟨nf, hnf, _, _, hchk⟩ := stepErr_none_iff.mp hok hin
    rw [if_neg hr, hnf]
    by_cases hp : p = colOf c nt
    · rw [if_pos hp, if_pos ⟨hin.1, hin.2, hp⟩]
      exact progWeights_cell nt hfr (noteFrames_ok hnf).2.1 (noteFrames_ok hnf).2.2.1 hchk x
    · rw [if_neg hp, if_neg fun h => hp h.2.2]

/-- note frames `nf` write the weight of frame `fr` (blank frame, decaying tail or onset frames) -/
def wTouches (c : Cfg) (nf : NF) (fr : Nat) : Bool :=
  (c.blank && decide ((fr : Int) = nf.sf - 1)) ||
    decide (nf.oe ≤ (fr : Int) ∧ (fr : Int) < nf.ef) || decide (nf.os ≤ (fr : Int) ∧ (fr : Int) < nf.oe)

/-- a weight that is written does not depend on the weight before -/
theorem wUpd_eq (R R32 : Rat → Rat) (c : Cfg) (nf : NF) (fr : Nat) (old : Rat) :
    wUpd R R32 c nf fr old = if wTouches c nf fr = true then wUpd R R32 c nf fr 0 else old := by
  unfold wUpd wTouches
  simp only [Bool.or_eq_true, Bool.and_eq_true, decide_eq_true_eq]
  by_cases h1 : c.blank = true ∧ (fr : Int) = nf.sf - 1
  · rw [if_pos h1, if_pos (.inl (.inl h1)), if_pos h1]
  · by_cases h2 : nf.oe ≤ (fr : Int) ∧ (fr : Int) < nf.ef
    · rw [if_neg h1, if_pos h2, if_pos (.inl (.inr h2)), if_neg h1, if_pos h2]
    · by_cases h3 : nf.os ≤ (fr : Int) ∧ (fr : Int) < nf.oe
      · rw [if_neg h1, if_neg h2, if_pos h3, if_pos (.inr h3), if_neg h1, if_neg h2, if_pos h3]
      · rw [if_neg h1, if_neg h2, if_neg h3, if_neg fun h => h.elim (·.elim h1 h2) h3]

/-- note `nt` writes the weight of cell `(f, p)` -/
def NoteTouchesW (R : Rat → Rat) (eps : Rat) (c : Cfg) (total : Rat) (n f p : Nat) (nt : PNote) : Bool :=
  decide (c.minPitch ≤ nt.pitch ∧ nt.pitch ≤ c.maxPitch ∧ p = colOf c nt) &&
    match noteFrames R eps c total n nt with
    | .ok nf => wTouches c nf f
    | .error _ => false

/-- the weight note `nt` writes into frame `f` of its column when it touches it (`wUpd` on any old value: `wUpd_eq`) -/
def noteWVal (R R32 : Rat → Rat) (eps : Rat) (c : Cfg) (total : Rat) (n f : Nat) (nt : PNote) : Rat :=
  match noteFrames R eps c total n nt with
  | .ok nf => wUpd R R32 c nf f 0
  | .error _ => 0

theorem noteW_eq (R R32 : Rat → Rat) (eps : Rat) (c : Cfg) (total : Rat) (n f p : Nat) (x : Rat) (nt : PNote) :
    noteW R R32 eps c total n f p x nt =
      if NoteTouchesW R eps c total n f p nt = true then noteWVal R R32 eps c total n f nt else x := by
  unfold noteW NoteTouchesW noteWVal
  by_cases hr : c.minPitch ≤ nt.pitch ∧ nt.pitch ≤ c.maxPitch ∧ p = colOf c nt
  · rw [if_pos hr]
    cases hnf : noteFrames R eps c total n nt with
    | error e => simp
    | ok nf =>
      simp only [hr, and_self, decide_true, Bool.true_and]
      exact wUpd_eq R R32 c nf f x
  · rw [if_neg hr]
    simp [hr]

/-- control change `cc` writes cell `(fr, k)` of the control-change roll (numpy integer indexing:
`intIdx`, a negative index counts from the end) -/
def ccHits (R : Rat → Rat) (eps : Rat) (c : Cfg) (n fr k : Nat) (cc : PCC) : Bool :=
  decide ((framesFromTimes R eps c.fps c.occ cc.time 0).1 < (n : Int)) &&
    (intIdx n (framesFromTimes R eps c.fps c.occ cc.time 0).1 == some fr) && (intIdx 128 cc.number == some k)

/-- one control change runs a column program of at most one cell assignment -/
def ccProg (R : Rat → Rat) (eps : Rat) (c : Cfg) (n : Nat) (cc : PCC) : List (Nat → Nat → Option Int) :=
  if (framesFromTimes R eps c.fps c.occ cc.time 0).1 < (n : Int) then
    match intIdx n (framesFromTimes R eps c.fps c.occ cc.time 0).1, intIdx 128 cc.number with
    | some r, some _ => [uCell True r (cc.value + 1)]
    | _, _ => []
  else []

theorem ccFn_eq (R : Rat → Rat) (eps : Rat) (c : Cfg) (n : Nat) :
    ccFn R eps c n = fun m cc => colProg m ((intIdx 128 cc.number).getD 0) (ccProg R eps c n cc) := by
  funext m cc
  unfold ccFn ccProg
  split
  · cases intIdx n (framesFromTimes R eps c.fps c.occ cc.time 0).1 <;> cases intIdx 128 cc.number <;>
      first | rfl | exact C12.setCell_eq_colUpd ..
  · rfl

/-- **the control-change roll** as the fold it is: the last control change that hits a cell wins -/
theorem ccFn_cell (R : Rat → Rat) (eps : Rat) (c : Cfg) {n : Nat} (l : List PCC) {f k : Nat} (hf : f < n)
    (hk : k < 128) :
    getCell (l.foldl (ccFn R eps c n) (List.replicate n (List.replicate 128 0))) f k =
      some (l.foldl (fun x cc => if ccHits R eps c n f k cc then cc.value + 1 else x) 0) := by
  rw [ccFn_eq, getCell_foldl_colProg, getCell_replicate _ _ 0 f k hf hk, List.length_replicate, Option.map_some]
  refine congrArg (fun g => some (l.foldl g 0)) (funext fun x => funext fun cc => ?_)
  unfold ccHits ccProg
  by_cases hlt : (framesFromTimes R eps c.fps c.occ cc.time 0).1 < (n : Int)
  · cases intIdx n (framesFromTimes R eps c.fps c.occ cc.time 0).1 <;> cases intIdx 128 cc.number <;>
      simp [hlt, uCell]
    rename_i r k'
    by_cases h1 : k = k' <;> by_cases h2 : f = r <;> simp [h1, h2, eq_comm]
  · simp [hlt]

end NSV.C18

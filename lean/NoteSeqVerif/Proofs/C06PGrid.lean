import NoteSeqVerif.Proofs.C07
import NoteSeqVerif.Model.C06P
import NoteSeqVerif.Proofs.C01
/-! C06 (performance half) — the interface between the float half and the discrete half (core Lean only).

`Grid T q S B`: `T` is the time the renderer computes for (relative) step `k`, `q` the quantizer applied
afterwards; `T` is monotone and `q (T k) = S + k` for `0 ≤ k < B`.  The discrete theorems only use this
interface (`Proofs/C06PFloat.lean` instantiates it).  Also: what the C01 quantizers do to a sequence whose note times
lie on such a grid, and what re-extraction then sees of the rendered notes (shared by all three performance types). -/
namespace NSV.C06P
open NSV.C06 NSV.C01 NSV.C07

structure Grid (T : Int → Rat) (q : Rat → Int) (S B : Int) : Prop where
  mono : ∀ k k' : Int, k ≤ k' → T k ≤ T k'
  inv : ∀ k : Int, 0 ≤ k → k < B → q (T k) = S + k

theorem Grid.inj {T q S B} (g : Grid T q S B) {k k' : Int} (h0 : 0 ≤ k) (h1 : k < B) (h0' : 0 ≤ k')
    (h1' : k' < B) (h : T k = T k') : k = k' := by
  have a := g.inv k h0 h1
  have b := g.inv k' h0' h1'
  rw [h] at a
  omega

theorem Grid.lt {T q S B} (g : Grid T q S B) {k k' : Int} (h0 : 0 ≤ k) (h1' : k' < B) (h : k < k') :
    T k < T k' := by
  refine Rat.lt_of_le_of_ne (g.mono k k' (Int.le_of_lt h)) fun h' => ?_
  have := g.inj h0 (by omega) (by omega) h1' h'
  omega

/-- a rendered note after quantization on the grid: `mkNote` with its two steps filled in -/
def qnote (R : Rat → Rat) (c : RenderCfg) (S : Int) (r : RNote) : Note :=
  { mkNote R c r with qs := S + r.s, qe := S + r.e }

def RNote.inB (B : Int) (r : RNote) : Prop := 0 ≤ r.s ∧ r.s < r.e ∧ r.e < B

theorem mkNote_start (R : Rat → Rat) (c : RenderCfg) (r : RNote) :
    (mkNote R c r).start = stepTimeR R c.sigma c.sst r.s := rfl

theorem mkNote_end (R : Rat → Rat) (c : RenderCfg) (hmd : c.maxDur = none) (r : RNote) :
    (mkNote R c r).end_ = stepTimeR R c.sigma c.sst r.e := by
  simp only [mkNote, hmd]

/-- `_quantize_notes` on a rendered sequence (notes on the grid, no control changes, no text annotations) -/
theorem quantizeNotes_grid {R : Rat → Rat} {c : RenderCfg} {q : Rat → Int} {S B : Int}
    (g : Grid (stepTimeR R c.sigma c.sst) q S B) (hS : 0 ≤ S) (hmd : c.maxDur = none) (s : NoteSeq)
    (rs : List RNote) (hn : s.notes = rs.map (mkNote R c)) (hcc : s.ccs = []) (htx : s.texts = [])
    (h : ∀ r ∈ rs, r.inB B) :
    ∃ qs, quantizeNotes q s = .ok qs ∧ qs.notes = rs.map (qnote R c S) ∧ qs.sps = s.sps ∧ qs.spq = s.spq := by
  have hq : ∀ r ∈ rs, q (mkNote R c r).start = S + r.s ∧ q (mkNote R c r).end_ = S + r.e := by
    intro r hr
    obtain ⟨h0, h1, h2⟩ := h r hr
    rw [mkNote_start, mkNote_end R c hmd]
    exact ⟨g.inv r.s h0 (by omega), g.inv r.e (by omega) h2⟩
  rw [quantizeNotes_spec, if_neg]
  · refine ⟨_, rfl, ?_, rfl, rfl⟩
    simp only [quantized, hn, List.map_map]
    refine List.map_congr_left fun r hr => ?_
    obtain ⟨h0, h1, h2⟩ := h r hr
    simp only [Function.comp, C01.qNote, fixEnd, qnote, (hq r hr).1, (hq r hr).2,
      if_neg (show ¬ S + r.e = S + r.s by omega)]
  · simp only [anyNeg, hn, hcc, htx, List.mem_map, noteNeg]
    rintro (⟨_, ⟨r, hr, rfl⟩, hneg⟩ | ⟨_, hc, _⟩ | ⟨_, hc, _⟩)
    · obtain ⟨h0, h1, h2⟩ := h r hr
      simp only [(hq r hr).1, (hq r hr).2, fixEnd] at hneg
      split at hneg <;> omega
    · cases hc
    · cases hc

theorem quantizeAbs_grid {R : Rat → Rat} {c : RenderCfg} {S B : Int} (cutoff : Rat) (sps : Int) (ns : NoteSeq)
    (rs : List RNote) (hn : ns.notes = rs.map (mkNote R c)) (hcc : ns.ccs = []) (htx : ns.texts = [])
    (g : Grid (stepTimeR R c.sigma c.sst) (fun t => qstepR R cutoff t (sps : Rat)) S B) (hS : 0 ≤ S)
    (hmd : c.maxDur = none) (h : ∀ r ∈ rs, r.inB B) :
    ∃ qs, quantizeAbsR R cutoff ns sps = .ok qs ∧ qs.notes = rs.map (qnote R c S) ∧ qs.sps = sps ∧
      qs.spq = 0 :=
  quantizeNotes_grid g hS hmd _ rs hn hcc htx h

/-- `quantize_note_sequence` on a rendered metric sequence (no time signature, the one tempo `to_sequence` adds) -/
theorem quantizeRel_grid {R : Rat → Rat} {c : RenderCfg} {S B : Int} (cutoff dq qpm : Rat) (spq : Int) (ns : NoteSeq)
    (rs : List RNote) (hn : ns.notes = rs.map (mkNote R c)) (hcc : ns.ccs = []) (htx : ns.texts = [])
    (hts : ns.timeSigs = []) (htp : ns.tempos = [⟨0, qpm⟩])
    (g : Grid (stepTimeR R c.sigma c.sst) (fun t => qstepR R cutoff t (spsR R spq qpm)) S B) (hS : 0 ≤ S)
    (hmd : c.maxDur = none) (h : ∀ r ∈ rs, r.inB B) :
    ∃ qs, quantizeRelR R cutoff dq ns spq = .ok qs ∧ qs.notes = rs.map (qnote R c S) ∧ qs.sps = 0 ∧
      qs.spq = spq := by
  have hk : keptTimeSig ns = ⟨0, 4, 4⟩ := by simp [keptTimeSig, hts]
  have hq : keptTempo dq ns = ⟨0, qpm⟩ := by simp [keptTempo, htp]
  rw [quantizeRelR_eq, if_neg (by simp [hts, tsChange, tsImplicit]), hk, if_neg (by decide),
    if_neg (by simp [htp, tpChange, tpImplicit]), hq]
  exact quantizeNotes_grid g hS hmd _ rs hn hcc htx h

def rnLe (a b : RNote) : Bool := decide (a.s < b.s) || (a.s == b.s && decide (a.pitch ≤ b.pitch))

theorem rnLe_pre : TotalPre rnLe := .lex RNote.s (.ofKey RNote.pitch)

theorem rnLe_iff {a b : RNote} : rnLe a b = true ↔ a.s < b.s ∨ (a.s = b.s ∧ a.pitch ≤ b.pitch) := by
  simp only [rnLe, Bool.or_eq_true, decide_eq_true_eq, Bool.and_eq_true, beq_iff_eq]

/-- between two notes whose start times compare as their start steps do, the extractor's sort key
`(start_time, pitch)` is `(start step, pitch)` -/
theorem timePitchLe_iff {a b : Note} (hlt : a.qs < b.qs → a.start < b.start) (hgt : b.qs < a.qs → b.start < a.start)
    (heq : a.qs = b.qs → a.start = b.start) :
    timePitchLe a b = true ↔ a.qs < b.qs ∨ (a.qs = b.qs ∧ a.pitch ≤ b.pitch) := by
  simp only [timePitchLe, Bool.or_eq_true, decide_eq_true_eq, Bool.and_eq_true, beq_iff_eq]
  rcases Int.lt_trichotomy a.qs b.qs with h | h | h
  · exact ⟨fun _ => .inl h, fun _ => .inl (hlt h)⟩
  · simp only [heq h, h, Rat.lt_irrefl, Int.lt_irrefl, true_and, false_or]
  · have := hgt h
    refine ⟨fun h' => ?_, fun h' => by omega⟩
    rcases h' with h' | ⟨h', _⟩
    · exact (Std.lt_irrefl (Std.lt_trans this h')).elim
    · rw [h'] at this; exact (Rat.lt_irrefl this).elim

/-- on the grid, the extractor's sort key orders the rendered notes as `(start step, pitch)` does -/
theorem timePitchLe_qnote {R : Rat → Rat} {c : RenderCfg} {q : Rat → Int} {S B : Int}
    (g : Grid (stepTimeR R c.sigma c.sst) q S B) (a b : RNote) (ha : a.inB B) (hb : b.inB B) :
    timePitchLe (qnote R c S a) (qnote R c S b) = rnLe a b := by
  obtain ⟨a0, a1, a2⟩ := ha
  obtain ⟨b0, b1, b2⟩ := hb
  rw [Bool.eq_iff_iff, rnLe_iff, timePitchLe_iff (a := qnote R c S a) (b := qnote R c S b)
    (fun h => g.lt a0 (by omega) (Int.lt_of_add_lt_add_left h)) (fun h => g.lt b0 (by omega) (Int.lt_of_add_lt_add_left h))
    (fun h => congrArg (stepTimeR R c.sigma c.sst) (Int.add_left_cancel h))]
  exact or_congr (Int.add_lt_add_iff_left S) (and_congr_left' (Int.add_right_inj S))

/-- re-extraction selects every rendered note: all start at or after `start_step`, all carry the rendered instrument -/
theorem selectNotes_qnote {R : Rat → Rat} {c : RenderCfg} {S B : Int} (qs : NoteSeq) (filt : Option Int)
    (hfilt : filt = none ∨ filt = some c.instrument)
    (h : ∀ n ∈ qs.notes, ∃ r : RNote, r.inB B ∧ n = qnote R c S r) : selectNotes qs S filt = qs.notes := by
  unfold selectNotes
  rw [List.filter_eq_self]
  intro n hn
  obtain ⟨r, hr, rfl⟩ := h n hn
  have hi : instOk filt (qnote R c S r) = true := by
    rcases hfilt with rfl | rfl
    · rfl
    · simp [instOk, qnote, mkNote]
  simp only [Bool.and_eq_true, decide_eq_true_eq, hi, and_true]
  show S ≤ S + r.s
  have := hr.1
  omega

end NSV.C06P

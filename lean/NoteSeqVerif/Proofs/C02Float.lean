import NoteSeqVerif.Proofs.RoundingApps
import NoteSeqVerif.Proofs.C02Split
/-! C02 — floating point: what holds for EVERY rounding operator `R` with the `Rounding` facts
(`rounding_rne53 : Rounding rne53`), beyond what `C02State` / `C02Split` get from monotonicity and `R 0 = 0` alone:
order facts of a shifted time `R (t - a)`; the hop candidates `R (h + R (i * h))` of `numpy.arange(h, total, h)`
against each other and against `total`; which instants of a float piece correspond to which instants of the original
(`corr_exists`).  What fails in float64 stands next to what holds, as kernel-checked instances (`…_rne53`); the
header of `Props/C02_float.lean` has the overview.

Trap: this file and `Props/C02_float.lean` are the only C02 files that see Mathlib (through
`RoundingApps`); `C02`, `C02Extract`, `C02State`, `C02Split` and `Props/C02.lean` are built on core
`Rat` only, so `linarith` / `norm_num` / `abs_le` are not available there (they use `grind`). -/
namespace NSV.C02


variable {p : ℕ} {R : ℚ → ℚ}

theorem shift_nonneg (hR : RoundingP p R) {a t : ℚ} (h : a ≤ t) : 0 ≤ R (t - a) :=
  hR.nonneg (by linarith)

theorem shift_mono (hR : RoundingP p R) (a : ℚ) {t t' : ℚ} (h : t ≤ t') : R (t - a) ≤ R (t' - a) :=
  hR.mono _ _ (by linarith)

theorem shift_eq_zero_iff (hR : RoundingP p R) (hp : 1 ≤ p) (a t : ℚ) : R (t - a) = 0 ↔ t = a := by
  rw [hR.eq_zero_iff hp]; constructor <;> intro h <;> linarith

theorem shift_pos_iff (hR : RoundingP p R) (hp : 1 ≤ p) (a t : ℚ) : 0 < R (t - a) ↔ a < t := by
  rw [hR.pos_iff hp]; constructor <;> intro h <;> linarith

theorem shift_lt_reflect (hR : RoundingP p R) (a : ℚ) {t t' : ℚ} (h : R (t - a) < R (t' - a)) :
    t < t' := by
  by_contra hn
  have := shift_mono hR a (not_lt.mp hn)
  linarith

/-- `y` at most two roundings (unit roundoff `u ≤ 1/2`) above `x ≥ 0` exceeds it by at most `4·u·x`:
`(1 - u)·(4·u·x - (y - x)) = (x·(1 + u) - y·(1 - u)) + 2·u·x·(1 - 2·u)` -/
theorem close_of_bounds {u x y : ℚ} (hu : 0 ≤ u) (hu2 : 2 * u ≤ 1) (hx : 0 ≤ x)
    (h : y * (1 - u) ≤ x * (1 + u)) : y - x ≤ x * (4 * u) := by
  have key : (1 - u) * (x * (4 * u) - (y - x)) =
      (x * (1 + u) - y * (1 - u)) + 2 * u * x * (1 - 2 * u) := by ring
  have h2 : 0 ≤ 2 * u * x * (1 - 2 * u) :=
    mul_nonneg (mul_nonneg (by linarith) hx) (by linarith)
  have h3 : 0 ≤ (1 - u) * (x * (4 * u) - (y - x)) := by linarith
  exact sub_nonneg.mp ((mul_nonneg_iff_of_pos_left (by linarith)).mp h3)


/-- strict order of times is NOT preserved by the float shift: `t = 1 + 2^-51`, `t' = t + 2^-52`
(adjacent float64 values) and the cut `a = 2^-53` give the same shifted time (two ties to even) -/
theorem shift_collapse_rne53 :
    let a : ℚ := 1 / 2 ^ 53; let t : ℚ := 1 + 1 / 2 ^ 51; let t' : ℚ := 1 + 1 / 2 ^ 51 + 1 / 2 ^ 52
    rne53 a = a ∧ rne53 t = t ∧ rne53 t' = t' ∧ t < t' ∧ rne53 (t - a) = rne53 (t' - a) := by
  decide +kernel

/-! ## the float hop candidate vector

### arithmetic of two roundings

`u` is the unit roundoff and `N = 1 / (4·u)` the number of candidates up to which consecutive ones stay
apart (`u = 2^-53`, `N = 2^51` in float64).  Candidate `k` is `R (h + R (k·h))`, so it lies between
`(h + k·h·(1-u))·(1-u)` and `(h + k·h·(1+u))·(1+u)` (`hopCand_bounds`); the lemmas of this section
compare these bounds. -/
section arith
variable {u N h k d : ℚ}

/-- the upper bound of candidate `k` is below the lower bound of candidate `k + 1` -/
theorem two_round_step (hu : 0 < u) (hN : 4 * u * N = 1) (hh : 0 < h) (hk : k + 1 ≤ N) :
    (h + k * h * (1 + u)) * (1 + u) < (h + (k + 1) * h * (1 - u)) * (1 - u) := by
  have e : (h + (k + 1) * h * (1 - u)) * (1 - u) - (h + k * h * (1 + u)) * (1 + u) =
      h * (u * u + (1 - 4 * u * (k + 1))) := by ring
  have h1 := mul_le_mul_of_nonneg_left hk (by linarith : 0 ≤ 4 * u)
  have : 0 < h * (u * u + (1 - 4 * u * (k + 1))) :=
    mul_pos hh (add_pos_of_pos_of_nonneg (mul_pos hu hu) (by linarith))
  linarith

/-- `(k + 1)·h` below the rounded `d`: the lower bound of candidate `k + 1` is below `h + d` -/
theorem two_round_lt_total (hu : 0 < u) (hu1 : u < 1) (hh : 0 < h) (hk : 0 ≤ k) (hd0 : 0 < d)
    (hd : (k + 1) * h < d * (1 + u)) : (h + (k + 1) * h * (1 - u)) * (1 - u) < h + d := by
  have h1 := mul_lt_mul_of_pos_right hd (sub_pos.mpr hu1)
  have h2 := mul_pos hd0 (mul_pos hu hu)
  have hA : 0 < h + (k + 1) * h * (1 - u) :=
    add_pos_of_pos_of_nonneg hh (mul_nonneg (mul_nonneg (by linarith) hh.le) (by linarith))
  have h3 := mul_pos hA hu
  linarith

theorem two_round_bounds {R : ℚ → ℚ} (hu : 0 ≤ u) (hu1 : u ≤ 1)
    (hb : ∀ a, 0 ≤ a → a * (1 - u) ≤ R a ∧ R a ≤ a * (1 + u)) (hh : 0 ≤ h) (hk : 0 ≤ k) :
    (h + k * h * (1 - u)) * (1 - u) ≤ R (h + R (k * h)) ∧
    R (h + R (k * h)) ≤ (h + k * h * (1 + u)) * (1 + u) := by
  have hx0 : 0 ≤ k * h := mul_nonneg hk hh
  obtain ⟨xl, xu⟩ := hb _ hx0
  obtain ⟨Al, Au⟩ := hb _ (add_nonneg hh (le_trans (mul_nonneg hx0 (by linarith)) xl))
  exact ⟨le_trans (mul_le_mul_of_nonneg_right (by linarith only [xl]) (by linarith)) Al,
    Au.trans (mul_le_mul_of_nonneg_right (by linarith only [xu]) (by linarith))⟩

end arith

theorem u53_quarter : 4 * ((1 : ℚ) / 2 ^ 53) * 2 ^ 51 = 1 := by norm_num

theorem hopCand_bounds {R : ℚ → ℚ} (hR : Rounding R) {h k : ℚ} (hh : 0 < h) (hk : 0 ≤ k) :
    (h + k * h * (1 - 1 / 2 ^ 53)) * (1 - 1 / 2 ^ 53) ≤ R (h + R (k * h)) ∧
    R (h + R (k * h)) ≤ (h + k * h * (1 + 1 / 2 ^ 53)) * (1 + 1 / 2 ^ 53) :=
  two_round_bounds (by norm_num) (by norm_num) hR.relErr hh.le hk

/-- consecutive candidates are different as long as the index stays below `2^51` -/
theorem hopCand_step_lt {R : ℚ → ℚ} (hR : Rounding R) {h : ℚ} (hh : 0 < h) {i : ℕ}
    (hi : i + 1 ≤ 2 ^ 51) : R (h + R ((i : ℚ) * h)) < R (h + R (((i + 1 : ℕ) : ℚ) * h)) := by
  have hk : (i : ℚ) + 1 ≤ 2 ^ 51 := by exact_mod_cast hi
  rw [Nat.cast_add_one]
  exact (hopCand_bounds hR hh i.cast_nonneg).2.trans_lt
    ((two_round_step (by norm_num) u53_quarter hh hk).trans_le
      (hopCand_bounds hR hh (by linarith)).1)

theorem hopCand_strict {R : ℚ → ℚ} (hR : Rounding R) {h : ℚ} (hh : 0 < h) {i j : ℕ} (hij : i < j)
    (hj : j ≤ 2 ^ 51) : R (h + R ((i : ℚ) * h)) < R (h + R ((j : ℚ) * h)) :=
  lt_of_lt_of_le (hopCand_step_lt hR hh (by omega)) (hopCand_mono hR.mono hh.le hij)

theorem hopTimesR_strict {R : ℚ → ℚ} (hR : Rounding R) (h total : ℚ) (hh : 0 < h)
    (hlen : (hopTimesR R h total).length ≤ 2 ^ 51 + 1) :
    (hopTimesR R h total).Pairwise (fun a b => a < b) := by
  rw [hopTimesR_length] at hlen
  exact List.pairwise_map.mpr (List.pairwise_lt_range.imp_of_mem fun {i j} _ hj hij =>
    hopCand_strict hR hh hij (by have := List.mem_range.mp hj; omega))

/-- strictness really stops: with `h = 3/2` the candidates number `i = 3002771347236897 < 2^52`
and `i + 1` are equal in float64 (also `h = 1`, `i = 2^53 - 1`) -/
theorem hop_not_strict_rne53 :
    rne53 (3 / 2 + rne53 ((3002771347236897 : ℕ) * (3 / 2))) =
      rne53 (3 / 2 + rne53 ((3002771347236898 : ℕ) * (3 / 2))) ∧
    rne53 (1 + rne53 ((2 ^ 53 - 1 : ℕ) * 1)) = rne53 (1 + rne53 ((2 ^ 53 : ℕ) * 1)) := by
  decide +kernel

/-- a candidate is the hop multiple up to two roundings (enough wherever the index bound `2^51` is not
at stake; `hopCand_step_lt` and `hopCand_lt_total` need the finer `hopCand_bounds`) -/
theorem hopCand_nearN {R : ℚ → ℚ} (hR : Rounding R) {h : ℚ} (hh : 0 < h) (i : ℕ) :
    NearN 53 2 (R (h + R ((i : ℚ) * h))) (((i : ℚ) + 1) * h) := by
  have := ((NearN.lit (p := 53) hh.le).add
    (((NearN.lit i.cast_nonneg).mul (.lit hh.le)).rnd hR.relErr)).rnd hR.relErr
  rwa [show h + (i : ℚ) * h = ((i : ℚ) + 1) * h by ring] at this

theorem hopCand_near {R : ℚ → ℚ} (hR : Rounding R) {h : ℚ} (hh : 0 < h) (i : ℕ) :
    |R (h + R ((i : ℚ) * h)) - ((i : ℚ) + 1) * h| ≤ ((i : ℚ) + 1) * h * (1 / 2 ^ 51) :=
  ((hopCand_nearN hR hh i).abs_le (by norm_num) (by norm_num)).trans
    (mul_le_mul_of_nonneg_left (by norm_num) (by positivity))

theorem hopCand_pos {R : ℚ → ℚ} (hR : Rounding R) {h : ℚ} (hh : 0 < h) (i : ℕ) :
    0 < R (h + R ((i : ℚ) * h)) :=
  hR.relErr.pos (by norm_num) (add_pos_of_pos_of_nonneg hh (hR.nonneg (mul_nonneg i.cast_nonneg hh.le)))


theorem round_natCast {R : ℚ → ℚ} (hR : Rounding R) (n : ℕ) (hn : n ≤ 2 ^ 53) : R (n : ℚ) = n := by
  have := hR.exact_int_le (by norm_num) (n : ℤ) (by simpa using hn)
  simpa using this

/-- an index `n` below the float quotient `R (R (total - h) / h)`: `h < total`, and `n·h` is below the
rounded difference -/
theorem lt_hopQuot {R : ℚ → ℚ} (hR : Rounding R) {h total : ℚ} (hh : 0 < h) {n : ℕ}
    (hn : n ≤ 2 ^ 53) (hq : (n : ℚ) < R (R (total - h) / h)) :
    0 < total - h ∧ (n : ℚ) * h < (total - h) * (1 + 1 / 2 ^ 53) := by
  have h1 : (n : ℚ) < R (total - h) / h := by
    by_contra hx
    have := hR.mono _ _ (not_lt.mp hx)
    rw [round_natCast hR n hn] at this
    linarith
  rw [lt_div_iff₀ hh] at h1
  have hth : 0 < total - h := (hR.pos_iff (by norm_num) _).mp
    (lt_of_le_of_lt (mul_nonneg n.cast_nonneg hh.le) h1)
  exact ⟨hth, h1.trans_le (hR.bounds hth.le).2⟩

/-- every candidate but the last is strictly below `total` (index `i` with `i + 1` still in
range, `i + 1 ≤ 2^51`): it is below the lower bound of candidate `i + 1`, and `(i + 1)·h` is below
the rounded `total - h` -/
theorem hopCand_lt_total {R : ℚ → ℚ} (hR : Rounding R) {h total : ℚ} (hh : 0 < h) {i : ℕ}
    (hi : i + 1 ≤ 2 ^ 51) (hq : ((i + 1 : ℕ) : ℚ) < R (R (total - h) / h)) :
    R (h + R ((i : ℚ) * h)) < total := by
  have hk : (i : ℚ) + 1 ≤ 2 ^ 51 := by exact_mod_cast hi
  obtain ⟨hth, h1⟩ := lt_hopQuot hR hh (by omega) hq
  rw [Nat.cast_add_one] at h1
  have h2 := two_round_lt_total (by norm_num) (by norm_num) hh i.cast_nonneg hth h1
  rw [add_sub_cancel] at h2
  exact ((hopCand_bounds hR hh i.cast_nonneg).2.trans_lt
    (two_round_step (by norm_num) u53_quarter hh hk)).trans h2

/-- the last candidate may reach or pass `total`, but by less than `2^-51` relative -/
theorem hopCand_lt_total_near {R : ℚ → ℚ} (hR : Rounding R) {h total : ℚ} (hh : 0 < h) {i : ℕ}
    (hi : i ≤ 2 ^ 53) (hq : (i : ℚ) < R (R (total - h) / h)) :
    h < total ∧ R (h + R ((i : ℚ) * h)) < total * (1 + 1 / 2 ^ 51) := by
  obtain ⟨hth, h1⟩ := lt_hopQuot hR hh hi hq
  have hc := (hopCand_nearN hR hh i).2.2
  -- `c·w² ≤ (i+1)·h < total·(1+u) ≤ total·(1+4u)·w²` with `w = 1 - u`
  have hw : total * (1 + 1 / 2 ^ 53) ≤ total * (1 + 1 / 2 ^ 51) * (1 - 1 / 2 ^ 53) ^ 2 := by
    rw [mul_assoc]; exact mul_le_mul_of_nonneg_left (by norm_num) (by linarith)
  refine ⟨sub_pos.mp hth, lt_of_mul_lt_mul_right (hc.trans_lt (lt_of_lt_of_le ?_ hw)) (by norm_num)⟩
  linarith [mul_pos hh (show (0 : ℚ) < 1 / 2 ^ 53 by norm_num)]

/-- `numpy.arange(0.1, 0.30000000000000004, 0.1)` ends with `0.30000000000000004` itself: the last
candidate is NOT below `total` (while the exact multiple `3 * 0.1` is) -/
theorem hop_last_eq_total_rne53 :
    let h : ℚ := 3602879701896397 / 2 ^ 55; let total : ℚ := 1351079888211149 / 2 ^ 52
    rne53 h = h ∧ rne53 total = total ∧ (hopTimesR rne53 h total).length = 3 ∧
      (hopTimesR rne53 h total).getLast? = some total ∧ 3 * h < total := by
  decide +kernel

/-- `numpy.arange(h, total, h)` for `h = 1.6853881081977304`, `total = 10.112328649186383` ends with
`10.112328649186384 > total` -/
theorem hop_last_gt_total_rne53 :
    let h : ℚ := 1897578314013491 / 2 ^ 50; let total : ℚ := 5692734942040473 / 2 ^ 49
    rne53 h = h ∧ rne53 total = total ∧ (hopTimesR rne53 h total).length = 6 ∧
      (hopTimesR rne53 h total).getLast? = some (total + 1 / 2 ^ 49) := by
  decide +kernel


/-- the split-time vector `splitWith` builds from the accepted candidates `vs` -/
def splitVector (s : NoteSeq) (vs : List ℚ) : List ℚ :=
  if s.totalTime > (0 :: vs).getLast (List.cons_ne_nil _ _) then (0 :: vs) ++ [s.totalTime] else 0 :: vs

/-- whenever `0` followed by the accepted candidates is sorted with every entry that has another
after it below `total_time`, `_extract_subsequences` accepts the vector: the result is the list of
closed-form pieces of `splitVector` (`[]` when it is `[0]`) -/
theorem splitWith_ok (R : ℚ → ℚ) (preserve : List Int) (s : NoteSeq) (vs : List ℚ)
    (hq : s.isQuantized = false) (hs : SortedLE (0 :: vs))
    (hins : (0 :: vs).Pairwise (fun t _ => t < s.totalTime)) :
    splitWith R preserve s vs = .ok ((pairs (splitVector s vs)).map (specPiece R preserve s)) := by
  unfold splitWith
  show (if (splitVector s vs).length > 1 then extractSubsequencesR R preserve s (splitVector s vs)
    else .ok []) = _
  by_cases hc : s.totalTime > (0 :: vs).getLast (List.cons_ne_nil _ _)
  · have hv : splitVector s vs = (0 :: vs) ++ [s.totalTime] := by simp [splitVector, hc]
    have hle := le_getLast_of_sorted (0 :: vs) (List.cons_ne_nil _ _) hs
    have hvalid : Valid s ((0 :: vs) ++ [s.totalTime]) := by
      refine ⟨hq, by simp, ?_, ?_⟩
      · refine List.pairwise_append.mpr ⟨hs, by simp, ?_⟩
        intro x hx y hy
        simp at hy; rw [hy]
        exact (lt_of_le_of_lt (hle x hx) hc).le
      · intro t ht
        rw [List.dropLast_concat] at ht
        exact lt_of_le_of_lt (hle t ht) hc
    rw [hv, if_pos (by simp), extract_eq_spec R preserve s _ hvalid]
  · have hv : splitVector s vs = 0 :: vs := by simp [splitVector, hc]
    rw [hv]
    cases vs with
    | nil => simp [pairs]
    | cons v r =>
      rw [if_pos (by simp), extract_eq_spec R preserve s _
        ⟨hq, by simp, hs, forall_dropLast_of_pairwise hins⟩]

/-- the float hop candidates (after the `skip_splits_inside_notes` filter) satisfy the hypotheses of
`splitWith_ok`, provided there are at most `2^51 + 1` of them -/
theorem hop_vector_ok {R : ℚ → ℚ} (hR : Rounding R) (s : NoteSeq) (h : ℚ) (hh : 0 < h)
    (p : ℚ → Bool) (hlen : (hopTimesR R h s.totalTime).length ≤ 2 ^ 51 + 1) :
    SortedLE (0 :: (hopTimesR R h s.totalTime).filter p) ∧
    (0 :: (hopTimesR R h s.totalTime).filter p).Pairwise (fun t _ => t < s.totalTime) := by
  have hmem : ∀ t ∈ (hopTimesR R h s.totalTime).filter p, 0 ≤ t ∧ 0 < s.totalTime := by
    intro t ht
    obtain ⟨i, hi, rfl⟩ := (mem_hopTimesR R h _ t).mp (List.mem_filter.mp ht).1
    have hil : i < (hopTimesR R h s.totalTime).length := by
      rw [hopTimesR_length]; exact (lt_hopLen_iff R h _ i).mpr hi
    have := (hopCand_lt_total_near hR hh (i := i) (by omega) hi).1
    exact ⟨(hopCand_pos hR hh i).le, by linarith⟩
  refine ⟨List.pairwise_cons.mpr ⟨fun t ht => (hmem t ht).1, (hopTimesR_sorted hR.mono h _ hh.le).filter _⟩,
    List.pairwise_cons.mpr ⟨fun t ht => (hmem t ht).2, List.Pairwise.filter p ?_⟩⟩
  -- candidate `i` has a successor `j` in the vector, so `i + 1` is an index too
  rw [hopTimesR_length] at hlen
  refine List.pairwise_map.mpr (List.pairwise_lt_range.imp_of_mem fun {i j} _ hj hij => ?_)
  have hj' := List.mem_range.mp hj
  exact hopCand_lt_total hR hh (by omega) ((lt_hopLen_iff R h _ (i + 1)).mp (by omega))



/-- the start of a piece corresponds to the cut: no event inside the piece lands on time 0 -/
theorem corr_start (hR : RoundingP p R) (hp : 1 ≤ p) (a t : ℚ) (ht : a < t) :
    R (t - a) ≤ 0 ↔ t ≤ a := by
  have := (shift_pos_iff hR hp a t).mpr ht
  constructor <;> intro h <;> linarith

/-- `R (T - a)` corresponds to `T` when no later event inside the piece collapses onto it -/
theorem corr_rounded (hR : RoundingP p R) (a b T t : ℚ)
    (hnc : T < t → t < b → R (T - a) < R (t - a)) (htb : t < b) :
    R (t - a) ≤ R (T - a) ↔ t ≤ T := by
  constructor
  · intro h
    by_contra hn
    have := hnc (not_le.mp hn) htb
    linarith
  · intro h; exact shift_mono hR a h

/-- for every instant `T` of `[a, b)` and every finite set of event times there is an instant
`T' ∈ [T, b)` that the shift cannot tell from `T` (`R (T' - a) = R (T - a)`) such that `R (T - a)`
corresponds to `T'` -/
theorem corr_exists (hR : RoundingP p R) (times : List ℚ) (a b T : ℚ) (hTb : T < b) :
    ∃ T', T ≤ T' ∧ T' < b ∧ R (T' - a) = R (T - a) ∧
      ∀ t ∈ times, a < t → t < b → (R (t - a) ≤ R (T - a) ↔ t ≤ T') := by
  induction times with
  | nil => exact ⟨T, le_refl _, hTb, rfl, by simp⟩
  | cons t ts ih =>
    obtain ⟨T₁, h1, h2, h3, h4⟩ := ih
    by_cases hc : (a < t ∧ t < b ∧ R (t - a) ≤ R (T - a)) ∧ T₁ < t
    · obtain ⟨⟨c1, c2, c3⟩, c4⟩ := hc
      have hTt : T ≤ t := by linarith
      refine ⟨t, hTt, c2, le_antisymm c3 (shift_mono hR a hTt), ?_⟩
      intro x hx hax hxb
      rcases List.mem_cons.mp hx with rfl | hx
      · exact ⟨fun _ => le_refl _, fun _ => c3⟩
      · constructor
        · intro h; have := (h4 x hx hax hxb).mp h; linarith
        · intro h; exact (shift_mono hR a h).trans c3
    · refine ⟨T₁, h1, h2, h3, ?_⟩
      intro x hx hax hxb
      rcases List.mem_cons.mp hx with rfl | hx
      · constructor
        · intro h
          by_contra hn
          exact hc ⟨⟨hax, hxb, h⟩, not_le.mp hn⟩
        · intro h; rw [← h3]; exact shift_mono hR a h
      · exact h4 x hx hax hxb


end NSV.C02

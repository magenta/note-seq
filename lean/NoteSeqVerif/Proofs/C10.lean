import NoteSeqVerif.Model.C10
import NoteSeqVerif.Proofs.Basics
/-! C10 — the generated pitch-class tables agree with each other, and the accumulator loops of
`Model/C10.lean` in closed form (filter / map / running maximum).  Core Lean only, no Mathlib. -/
namespace NSV.C10
open Gen

theorem fmod12 (a : Int) : Int.fmod a 12 = a % 12 := Int.fmod_eq_emod_of_nonneg a (by decide)

/-- going one scale step up adds `_STEPS_ABOVE[step]` semitones to `_STEPS_MIDI[step]` (mod 12) -/
theorem stepsMidi_next (s : Step) : (stepsMidi s.next - (stepsMidi s + stepsAbove s)) % 12 = 0 := by
  cases s <;> decide

theorem stepsAbove_le_two (s : Step) : stepsAbove s ≤ 2 := by cases s <;> decide

/-- a sum of two multiples of `n` is a multiple of `n`: how the congruences below are composed -/
theorem emod_eq_zero_of_eq_add {a b c n : Int} (hb : b % n = 0) (hc : c % n = 0) (h : a = b + c) :
    a % n = 0 := by
  rw [h, Int.add_emod, hb, hc]; rfl

/-- invariant of the step walk of `_transpose_pitch_class` (termination is part of the definition
of `walk`: well-founded recursion on the remaining amount, using `stepsAbove_pos`) -/
theorem walk_spec (s : Step) (k : Int) (hk : 0 ≤ k) :
    0 ≤ (walk s k).2 ∧ (walk s k).2 < stepsAbove (walk s k).1 ∧
    (stepsMidi (walk s k).1 + (walk s k).2 - (stepsMidi s + k)) % 12 = 0 := by
  induction s, k using walk.induct with
  | case1 s k h ih =>
    rw [walk, if_pos h]
    have := stepsAbove_pos s
    obtain ⟨a, b, c⟩ := ih (by omega)
    exact ⟨a, b, emod_eq_zero_of_eq_add c (stepsMidi_next s) (by omega)⟩
  | case2 s k h =>
    rw [walk, if_neg h]
    exact ⟨hk, Int.not_le.mp h, by simp⟩

theorem walk_zero (s : Step) : walk s 0 = (s, 0) := by
  rw [walk, if_neg (by have := stepsAbove_pos s; omega)]

/-- `end_time = max(end_time, note.end_time)`, the third accumulator of `noteLoop` -/
def maxEnd (e : Rat) (n : Note) : Rat := if e < n.end_ then n.end_ else e

theorem noteLoop_eq (k mn mx : Int) (ns acc : List Note) (del : Nat) (e : Rat) :
    noteLoop k mn mx ns acc del e =
      (acc ++ (ns.filter (keepNote k mn mx)).map (moveNote k),
       del + (ns.filter (fun n => !keepNote k mn mx n)).length,
       (ns.filter (keepNote k mn mx)).foldl maxEnd e) := by
  induction ns generalizing acc del e with
  | nil => simp [noteLoop]
  | cons n ns ih =>
    by_cases h : keepNote k mn mx n
    · simp [noteLoop, h, ih, maxEnd]
    · simp [noteLoop, h, ih]; omega

theorem moveNote_end (k : Int) (n : Note) : (moveNote k n).end_ = n.end_ := by
  unfold moveNote; split <;> rfl

/-- Mathlib's `List.Forall₂` (core has none): relates a list before and after a loop that rewrites
its entries in place; also used outside C10 (`Props/C11_transpose.lean`; C12's relations between lists of
sequences, `Proofs/C12A.lean`, `C12AConcat.lean`, `C12CMidi.lean`) -/
def Pointwise {α β : Type} (R : α → β → Prop) : List α → List β → Prop
  | [], [] => True
  | a :: as, b :: bs => R a b ∧ Pointwise R as bs
  | _, _ => False

theorem Pointwise.length_eq {α β : Type} {R : α → β → Prop} :
    ∀ {l : List α} {r : List β}, Pointwise R l r → l.length = r.length
  | [], [], _ => rfl
  | _ :: _, _ :: _, h => by simp [Pointwise.length_eq h.2]
  | [], _ :: _, h => False.elim h
  | _ :: _, [], h => False.elim h

theorem Pointwise.get {α β : Type} {R : α → β → Prop} :
    ∀ {l : List α} {r : List β}, Pointwise R l r → ∀ (i : Nat) (h1 : i < l.length) (h2 : i < r.length),
      R l[i] r[i]
  | [], [], _, i, h1, _ => by simp at h1
  | _ :: _, _ :: _, h, 0, _, _ => h.1
  | _ :: _, _ :: _, h, i + 1, h1, h2 => by
      simpa using Pointwise.get h.2 i (by simpa using h1) (by simpa using h2)
  | [], _ :: _, h, _, _, _ => False.elim h
  | _ :: _, [], h, _, _, _ => False.elim h

theorem Pointwise.refl {α : Type} {R : α → α → Prop} (hR : ∀ a, R a a) :
    ∀ l : List α, Pointwise R l l
  | [] => trivial
  | a :: l => ⟨hR a, Pointwise.refl hR l⟩

theorem Pointwise.get? {α β : Type} {R : α → β → Prop} :
    ∀ {l : List α} {r : List β}, Pointwise R l r → ∀ (i : Nat) (a : α) (b : β),
      l[i]? = some a → r[i]? = some b → R a b
  | [], [], _, _, _, _, ha, _ => by cases ha
  | _ :: _, _ :: _, h, 0, _, _, ha, hb => by cases ha; cases hb; exact h.1
  | _ :: _, _ :: _, h, i + 1, a, b, ha, hb => Pointwise.get? h.2 i a b ha hb
  | [], _ :: _, h, _, _, _, _, _ => h.elim
  | _ :: _, [], h, _, _, _, _, _ => h.elim

theorem Pointwise.map {α β : Type} (R : α → β → Prop) (f : α → β) (l : List α) (h : ∀ a ∈ l, R a (f a)) :
    Pointwise R l (l.map f) := by
  induction l with
  | nil => simp [Pointwise]
  | cons a l ih => exact ⟨h a (by simp), ih (fun x hx => h x (by simp [hx]))⟩

/-- `min(n.pitch for n in notes)` as the loop computes it is the running minimum of the pitches -/
theorem minPitch_eq (ns : List Note) (m : Int) : minPitch ns m = (ns.map (·.pitch)).foldl min m := by
  induction ns generalizing m with
  | nil => rfl
  | cons a ns ih => rw [minPitch, ih, List.map_cons, List.foldl_cons]; congr 1; omega

theorem maxPitch_eq (ns : List Note) (m : Int) : maxPitch ns m = (ns.map (·.pitch)).foldl max m := by
  induction ns generalizing m with
  | nil => rfl
  | cons a ns ih => rw [maxPitch, ih, List.map_cons, List.foldl_cons]; congr 1; omega

/-- the lowest pitch of a non-empty sequence, as `augment_note_sequence` computes it, is the greatest lower bound
of the pitches (and the highest the least upper bound) -/
theorem le_minPitch (n : Note) (ns : List Note) (b : Int) : b ≤ minPitch ns n.pitch ↔ ∀ x ∈ n :: ns, b ≤ x.pitch := by
  rw [minPitch_eq, le_foldl_min, List.forall_mem_map, List.forall_mem_cons]

theorem maxPitch_le (n : Note) (ns : List Note) (b : Int) : maxPitch ns n.pitch ≤ b ↔ ∀ x ∈ n :: ns, x.pitch ≤ b := by
  rw [maxPitch_eq, foldl_max_le, List.forall_mem_map, List.forall_mem_cons]

theorem argmaxFrom_spec (xs : List Nat) (i best bestv : Nat) :
    let r := argmaxFrom xs i best bestv
    (r = best ∨ (i ≤ r ∧ r < i + xs.length)) := by
  induction xs generalizing i best bestv with
  | nil => simp [argmaxFrom]
  | cons x xs ih =>
    simp only [argmaxFrom]
    split
    · have := ih (i + 1) i x
      simp only [List.length_cons] at *
      omega
    · have := ih (i + 1) best bestv
      simp only [List.length_cons] at *
      omega

theorem argmax_lt (xs : List Nat) (h : 0 < xs.length) : argmax xs < xs.length := by
  cases xs with
  | nil => simp at h
  | cons x xs =>
    have := argmaxFrom_spec xs 1 0 x
    simp only [argmax, List.length_cons] at *
    omega

end NSV.C10

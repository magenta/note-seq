import NoteSeqVerif.Proofs.C05
-- not unused: with this module `List.sum` on `Nat` (in `moves`) finds its zero through `Nat.instMulZeroClass`, as it does in the
-- modules downstream that import Mathlib; without it `moves` elaborates to another (definitionally equal) term
import Mathlib.Algebra.GroupWithZero.Nat
/-! C05 — an invariant of the parser state, carried along a part, for an arbitrary `R`.

* `Sim`: an invariant indexed by a ghost state that follows the element list is lifted from `parseEl` to `parseEls`,
  `parseMeasure`, `parseMeasures`, to the end of a part (`Sim.whole`) and to the state in which the element at a
  given position of a part is read (`Sim.upto`, `NoteAt`);
* the computed cursor (`simCur`, on `parseEl_cur`): the ghost state is the context in force and the cursor AS
  COMPUTED with `R`, the function `fcursor` of the elements read; the parser meets it for every `R` and every score
  (`parsePart_cur`, `note_cur`, `note_time_fun`).  How that function relates to the exact `specCursor` is then a
  matter of lists (`cursors_rel`; for `R = id` they are equal, `fcursor_id`; the float instances are in
  `Proofs/C05Float.lean`);
* two more instances, on `parseEl_float`: notes carry the channel and program of the state (`simChan`), chord notes
  copy `previous_note` (`simChord`). -/
namespace NSV.C05

/-- the run of `parseMeasures` over `before ++ l :: after`, cut at the `<note>` `n` that stands after the elements
`pre` in the (repaired) measure `l`: the states and measures in between, and where the parser's note for `n`
ends up -/
structure NoteAt (R : ℚ → ℚ) (st st' : PState) (ms : List MState) (before after : List (List El))
    (pre post : List El) (n : NoteEl) where
  /-- after the measures `before` -/
  stb : PState
  msb : List MState
  /-- after the elements `pre` of the measure -/
  sa : PState
  ma : MState
  /-- what `parseNote` makes of `n` -/
  st1 : PState
  pn : PNote
  /-- the measure after `n`, state and measure after `post` -/
  mb : MState
  sc : PState
  mc : MState
  /-- the time signature `_fix_time_signature` leaves in the state -/
  ts : Option TSig
  /-- the finished measure, the measures of `after`, the notes `post` appended -/
  mi : MState
  msa : List MState
  later : List PNote
  before_ok : parseMeasures R st before = .ok (stb, msb)
  pre_ok : parseEls R stb {} pre = .ok (sa, ma)
  note_ok : parseNote R sa n = .ok (st1, pn)
  el_ok : parseEl R sa ma (.note n) = .ok ({ st1 with prev := some (pn.duration, pn.time) }, mb)
  post_ok : parseEls R { st1 with prev := some (pn.duration, pn.time) } mb post = .ok (sc, mc)
  after_ok : parseMeasures R { sc with ts := ts } after = .ok (st', msa)
  ms_eq : ms = msb ++ mi :: msa
  msb_len : msb.length = before.length
  ma_len : ma.notes.length = (pre.filter isNote).length
  mc_notes : mc.notes = mb.notes ++ later
  mi_notes : mi.notes = ma.notes ++ pn :: later
  mi_at : ms[before.length]? = some mi
  pn_at : mi.notes[(pre.filter isNote).length]? = some pn

theorem note_at {R : ℚ → ℚ} {st st' : PState} {ms : List MState} {before after : List (List El)}
    {l pre post : List El} {n : NoteEl} (h : parseMeasures R st (before ++ l :: after) = .ok (st', ms))
    (hs : repairMeasure l = pre ++ .note n :: post) : Nonempty (NoteAt R st st' ms before after pre post n) := by
  obtain ⟨stb, msb, ms2, h1, h2', rfl, l1⟩ := parseMeasures_append h
  obtain ⟨stm, mi, msa, hm, h7, rfl⟩ := parseMeasures_cons.1 h2'
  obtain ⟨sc, mc, hc, hfix⟩ := parseMeasure_ok hm
  rw [hs] at hc
  obtain ⟨sa, ma, sb, mb, h2, h3, h4⟩ := parseEls_mid hc
  obtain ⟨⟨x, rfl⟩, y, rfl⟩ := fixTimeSignature_frame hfix
  obtain ⟨⟨ns, ens, lns⟩, _⟩ := parseEls_out h2
  obtain ⟨_, _, _, st1, pn, k1, rfl, k3⟩ := parseEl_float h3
  obtain ⟨⟨later, k4, _⟩, _⟩ := parseEls_out h4
  have hlen : ma.notes.length = (pre.filter isNote).length := by rw [ens]; simpa using lns
  have hmi : ({ mc with ts := y } : MState).notes = ma.notes ++ pn :: later := by
    show mc.notes = _
    rw [k4, k3]; simp
  exact ⟨{
    stb := stb, msb := msb, sa := sa, ma := ma, st1 := st1, pn := pn, mb := mb, sc := sc, mc := mc, ts := x,
    mi := { mc with ts := y }, msa := msa, later := later
    before_ok := h1, pre_ok := h2, note_ok := k1, el_ok := h3, post_ok := h4, after_ok := h7
    ms_eq := rfl, msb_len := l1, ma_len := hlen, mc_notes := k4, mi_notes := hmi
    mi_at := idx_mid _ _ _ _ l1.symm
    pn_at := by rw [hmi]; exact idx_mid _ _ _ _ hlen.symm }⟩

/-- a condition on the real parser state at every element of a run (e.g. "this `<backup>` fits") -/
def elsFit (R : ℚ → ℚ) (oks : PState → El → Prop) : PState → MState → List El → Prop
  | _, _, [] => True
  | st, m, e :: es => oks st e ∧ ∀ st' m', parseEl R st m e = .ok (st', m') → elsFit R oks st' m' es

def measuresFit (R : ℚ → ℚ) (oks : PState → El → Prop) : PState → List (List El) → Prop
  | _, [] => True
  | st, els :: rest => elsFit R oks st {} (repairMeasure els) ∧
      ∀ st' mi, parseMeasure R st (repairMeasure els) = .ok (st', mi) → measuresFit R oks st' rest

theorem elsFit_of_forall {R : ℚ → ℚ} {oks : PState → El → Prop} {okp : El → Prop}
    (hk : ∀ st e, okp e → oks st e) : ∀ (els : List El) (st : PState) (m : MState), (∀ e ∈ els, okp e) →
    elsFit R oks st m els := by
  intro els
  induction els with
  | nil => intro st m _; trivial
  | cons e es ih =>
    intro st m h
    exact ⟨hk st e (h e (by simp)), fun st' m' _ => ih st' m' (fun x hx => h x (by simp [hx]))⟩

theorem measuresFit_of_forall {R : ℚ → ℚ} {oks : PState → El → Prop} {okp : El → Prop}
    (hk : ∀ st e, okp e → oks st e) : ∀ (mss : List (List El)) (st : PState), (∀ e ∈ flatEls mss, okp e) →
    measuresFit R oks st mss := by
  intro mss
  induction mss with
  | nil => intro st _; trivial
  | cons l rest ih =>
    intro st h
    rw [flatEls_cons] at h
    exact ⟨elsFit_of_forall hk _ _ _ (fun e he => h e (List.mem_append_left _ he)),
      fun st' _ _ => ih st' (fun e he => h e (List.mem_append_right _ he))⟩

theorem elsFit_true (R : ℚ → ℚ) (els : List El) (st : PState) (m : MState) : elsFit R (fun _ _ => True) st m els :=
  elsFit_of_forall (fun _ _ _ => trivial) els st m (fun _ _ => trivial)

theorem measuresFit_true (R : ℚ → ℚ) (mss : List (List El)) (st : PState) :
    measuresFit R (fun _ _ => True) st mss :=
  measuresFit_of_forall (fun _ _ _ => trivial) mss st (fun _ _ => trivial)

structure Sim (R : ℚ → ℚ) (G : Type) where
  /-- how the ghost state follows the elements -/
  gs : G → El → G
  P : G → PState → Prop
  /-- what is required of an element when it is read -/
  ok : G → PState → El → Prop
  /-- what holds of every note the run produces -/
  Q : PNote → Prop
  step : ∀ {g : G} {st : PState} {m : MState} {e : El} {st' : PState} {m' : MState}, P g st → ok g st e →
    parseEl R st m e = .ok (st', m') →
    P (gs g e) st' ∧ ∃ new, m'.notes = m.notes ++ new ∧ ∀ pn ∈ new, Q pn
  /-- the invariant does not look at the time-signature register -/
  ts : ∀ {g : G} {st : PState} (x : Option TSig), P g st → P g { st with ts := x }

namespace Sim
variable {R : ℚ → ℚ} {G : Type} (S : Sim R G)

def run (g : G) (els : List El) : G := els.foldl S.gs g

theorem run_append (g : G) (a b : List El) : S.run g (a ++ b) = S.run (S.run g a) b := by
  simp [run, List.foldl_append]

/-- `S.ok` at every element of a run, along the states the parser actually goes through.  In the applications it
comes from a condition on the elements alone and one on the parser state alone (`elsFit`), joined by `elsOK_of` -/
def elsOK (S : Sim R G) : G → PState → MState → List El → Prop
  | _, _, _, [] => True
  | g, st, m, e :: es => S.ok g st e ∧ ∀ st' m', parseEl R st m e = .ok (st', m') → elsOK S (S.gs g e) st' m' es

def measuresOK (S : Sim R G) : G → PState → List (List El) → Prop
  | _, _, [] => True
  | g, st, els :: rest => S.elsOK g st {} (repairMeasure els) ∧
      ∀ st' mi, parseMeasure R st (repairMeasure els) = .ok (st', mi) →
        measuresOK S (S.run g (repairMeasure els)) st' rest

theorem elsOK_prefix : ∀ (a : List El) {b : List El} {g : G} {st : PState} {m : MState},
    S.elsOK g st m (a ++ b) → S.elsOK g st m a := by
  intro a
  induction a with
  | nil => intro b g st m _; trivial
  | cons e es ih => intro b g st m hok; exact ⟨hok.1, fun st' m' hp => ih (hok.2 st' m' hp)⟩

theorem measuresOK_prefix : ∀ (a : List (List El)) {b : List (List El)} {g : G} {st : PState},
    S.measuresOK g st (a ++ b) → S.measuresOK g st a := by
  intro a
  induction a with
  | nil => intro b g st _; trivial
  | cons e es ih => intro b g st hok; exact ⟨hok.1, fun st' m' hp => ih (hok.2 st' m' hp)⟩

theorem elsOK_of {okp : El → Prop} {oks : PState → El → Prop}
    (h : ∀ g st e, okp e → oks st e → S.ok g st e) : ∀ (els : List El) (g : G) (st : PState) (m : MState),
    (∀ e ∈ els, okp e) → elsFit R oks st m els → S.elsOK g st m els := by
  intro els
  induction els with
  | nil => intro g st m _ _; trivial
  | cons e es ih =>
    intro g st m h1 h2
    exact ⟨h g st e (h1 e (by simp)) h2.1, fun st' m' hp => ih _ _ _ (fun x hx => h1 x (by simp [hx])) (h2.2 st' m' hp)⟩

theorem measuresOK_of {okp : El → Prop} {oks : PState → El → Prop}
    (h : ∀ g st e, okp e → oks st e → S.ok g st e) : ∀ (mss : List (List El)) (g : G) (st : PState),
    (∀ e ∈ flatEls mss, okp e) → measuresFit R oks st mss → S.measuresOK g st mss := by
  intro mss
  induction mss with
  | nil => intro g st _ _; trivial
  | cons els rest ih =>
    intro g st h1 h2
    rw [flatEls_cons, List.forall_mem_append] at h1
    exact ⟨S.elsOK_of h _ _ _ _ h1.1 h2.1, fun st' mi hp => ih _ _ h1.2 (h2.2 st' mi hp)⟩

theorem els : ∀ (l : List El) {g : G} {st : PState} {m : MState} {st' : PState} {m' : MState}, S.P g st →
    S.elsOK g st m l → parseEls R st m l = .ok (st', m') →
    S.P (S.run g l) st' ∧ ∃ new, m'.notes = m.notes ++ new ∧ ∀ pn ∈ new, S.Q pn := by
  intro l
  induction l with
  | nil =>
    intro g st m st' m' hP _ h
    obtain ⟨rfl, rfl⟩ := parseEls_nil h
    exact ⟨hP, [], by simp, by simp⟩
  | cons e es ih =>
    intro g st m st' m' hP hok h
    obtain ⟨st1, m1, h1, h2⟩ := parseEls_cons.1 h
    obtain ⟨hP1, n1, e1, q1⟩ := S.step hP hok.1 h1
    obtain ⟨hP2, n2, e2, q2⟩ := ih hP1 (hok.2 st1 m1 h1) h2
    refine ⟨hP2, n1 ++ n2, by rw [e2, e1, List.append_assoc], ?_⟩
    intro pn hpn
    rcases List.mem_append.mp hpn with hx | hx
    · exact q1 pn hx
    · exact q2 pn hx

theorem elsOK_append : ∀ (a : List El) {b : List El} {g : G} {st : PState} {m : MState} {st1 : PState} {m1 : MState},
    S.elsOK g st m (a ++ b) → parseEls R st m a = .ok (st1, m1) → S.elsOK (S.run g a) st1 m1 b := by
  intro a
  induction a with
  | nil =>
    intro b g st m st1 m1 hok h
    obtain ⟨rfl, rfl⟩ := parseEls_nil h
    exact hok
  | cons e es ih =>
    intro b g st m st1 m1 hok h
    obtain ⟨st2, m2, h2, h3⟩ := parseEls_cons.1 h
    exact ih (hok.2 st2 m2 h2) h3

theorem measure {g : G} {st : PState} {l : List El} {st' : PState} {mi : MState} (hP : S.P g st)
    (hok : S.elsOK g st {} l) (h : parseMeasure R st l = .ok (st', mi)) :
    S.P (S.run g l) st' ∧ ∀ pn ∈ mi.notes, S.Q pn := by
  obtain ⟨st1, m1, h1, hfix⟩ := parseMeasure_ok h
  obtain ⟨hP1, new, e1, q1⟩ := S.els l hP hok h1
  obtain ⟨⟨x, rfl⟩, y, rfl⟩ := fixTimeSignature_frame hfix
  refine ⟨S.ts x hP1, ?_⟩
  show ∀ pn ∈ m1.notes, S.Q pn
  rw [e1]
  simpa using q1

theorem measures : ∀ (mss : List (List El)) {g : G} {st : PState} {st' : PState} {ms : List MState}, S.P g st →
    S.measuresOK g st mss → parseMeasures R st mss = .ok (st', ms) →
    S.P (S.run g (flatEls mss)) st' ∧ ∀ mi ∈ ms, ∀ pn ∈ mi.notes, S.Q pn := by
  intro mss
  induction mss with
  | nil =>
    intro g st st' ms hP _ h
    obtain ⟨rfl, rfl⟩ := parseMeasures_nil h
    exact ⟨hP, by simp⟩
  | cons l rest ih =>
    intro g st st' ms hP hok h
    obtain ⟨st1, m1, ms2, h1, h2, rfl⟩ := parseMeasures_cons.1 h
    obtain ⟨hP1, q1⟩ := S.measure hP hok.1 h1
    obtain ⟨hP2, q2⟩ := ih hP1 (hok.2 st1 m1 h1) h2
    rw [flatEls_cons, run_append]
    refine ⟨hP2, ?_⟩
    intro mi hmi
    rcases List.mem_cons.mp hmi with rfl | hx
    · exact q1
    · exact q2 mi hx

theorem measuresOK_append : ∀ (a : List (List El)) {b : List (List El)} {g : G} {st : PState} {st1 : PState}
    {ms1 : List MState}, S.measuresOK g st (a ++ b) → parseMeasures R st a = .ok (st1, ms1) →
    S.measuresOK (S.run g (flatEls a)) st1 b := by
  intro a
  induction a with
  | nil =>
    intro b g st st1 ms1 hok h
    obtain ⟨rfl, rfl⟩ := parseMeasures_nil h
    exact hok
  | cons l rest ih =>
    intro b g st st1 ms1 hok h
    obtain ⟨st2, m2, ms3, h2, h3, rfl⟩ := parseMeasures_cons.1 h
    rw [flatEls_cons, run_append]
    exact ih (hok.2 st2 m2 h2) h3

/-- the invariant after a run of elements all of which are acceptable in every state -/
theorem elems {g : G} {st st' : PState} {m m' : MState} {l : List El} (hP : S.P g st)
    (hl : ∀ e ∈ l, ∀ g s, S.ok g s e) (h : parseEls R st m l = .ok (st', m')) :
    S.P (S.run g l) st' ∧ ∃ new, m'.notes = m.notes ++ new ∧ ∀ pn ∈ new, S.Q pn :=
  S.els l hP (S.elsOK_of (fun g s _ h _ => h g s) l _ _ _ hl (elsFit_true R _ _ _)) h

/-- the invariant after a run of whole measures whose elements are acceptable in every state -/
theorem whole {g : G} {st st' : PState} {ms : List MState} {mss : List (List El)} (hP : S.P g st)
    (hl : ∀ e ∈ flatEls mss, ∀ g s, S.ok g s e) (h : parseMeasures R st mss = .ok (st', ms)) :
    S.P (S.run g (flatEls mss)) st' ∧ ∀ mi ∈ ms, ∀ pn ∈ mi.notes, S.Q pn :=
  S.measures mss hP (S.measuresOK_of (fun g s _ h _ => h g s) mss _ _ hl (measuresFit_true R _ _)) h

/-- the invariant in the state in which the element after `before` (whole measures) and `pre` is read, when the
elements of that prefix are acceptable in every state -/
theorem upto {g : G} {st stb sa : PState} {msb : List MState} {ma : MState} {before : List (List El)}
    {pre : List El} (hP : S.P g st) (hl : ∀ e ∈ flatEls before ++ pre, ∀ g s, S.ok g s e)
    (h1 : parseMeasures R st before = .ok (stb, msb)) (h2 : parseEls R stb {} pre = .ok (sa, ma)) :
    S.P (S.run g (flatEls before ++ pre)) sa := by
  rw [List.forall_mem_append] at hl
  have hPa := (S.elems (S.whole hP hl.1 h1).1 hl.2 h2).1
  rwa [← S.run_append] at hPa

end Sim

/-! ## the computed cursor: the parser meets the function `fcursor` once, for every `R` and every score -/

/-- the ghost state is the context in force and the COMPUTED cursor: the parser's cursor is `fcursor`, whatever
the elements -/
def simCur (R : ℚ → ℚ) : Sim R (Ctx × ℚ) where
  gs g e := (ctxStep g.1 e, curStep R g.1 g.2 e)
  P g st := InvF R st g.1 ∧ st.tp = g.2
  ok _ _ _ := True
  Q _ := True
  ts _ h := ⟨⟨h.1.div, h.1.qpm, h.1.spq⟩, h.2⟩
  step := by
    intro g st m e st' m' ⟨hi, ht⟩ _ h
    obtain ⟨new, hn, _⟩ := parseEl_notes h
    exact ⟨⟨parseEl_invF hi h, by rw [parseEl_cur hi h, ht]⟩, new, hn, fun _ _ => trivial⟩

theorem simCur_run (R : ℚ → ℚ) (els : List El) : ∀ (c : Ctx) (tp : ℚ),
    (simCur R).run (c, tp) els = (ctxAfter c els, fcursor R c tp els) := by
  induction els with
  | nil => intro c tp; rfl
  | cons e es ih => intro c tp; exact ih _ _

theorem parsePart_cur {R : ℚ → ℚ} {sps : List ScorePartEl} {st st' : PState} {p : PartEl} {ms : List MState}
    {c : Ctx} (hinv : InvF R st c) (h : parsePart R sps st p = .ok (st', ms)) :
    InvF R st' (ctxAfter c (partEls p)) ∧ st'.tp = fcursor R c 0 (partEls p) := by
  have hP := ((simCur R).whole (g := (c, 0)) (st := partStart sps st p)
    ⟨⟨hinv.div, hinv.qpm, hinv.spq⟩, rfl⟩ (fun _ _ _ _ => trivial) h).1
  rwa [simCur_run] at hP

/-- the part loop for every `R`: each part is parsed from a state that follows the context the parts before it
left behind (divisions AND tempo: the tempo half is the open finding F-C05-4); its final cursor is at most
`total_time` -/
theorem parseParts_float {R : ℚ → ℚ} {sps : List ScorePartEl} {before : List PartEl} : ∀ {p : PartEl}
    {after : List PartEl} {st : PState} {total : ℚ} {r : PState × ℚ × List (List MState)} {c : Ctx},
    InvF R st c → parseParts R sps st total (before ++ p :: after) = .ok r →
    ∃ stb st1 msb ms msa, InvF R stb (scoreCtx c before) ∧ parsePart R sps stb p = .ok (st1, ms) ∧
      r.2.2 = msb ++ ms :: msa ∧ msb.length = before.length ∧ st1.tp ≤ r.2.1 ∧ total ≤ r.2.1 := by
  induction before with
  | nil =>
    intro p after st total r c hinv h
    obtain ⟨st1, ms, r', h1, h2, e1, e2⟩ := parseParts_cons h
    have := parseParts_total_le _ _ _ _ h2
    refine ⟨st, st1, [], ms, r'.2.2, hinv, h1, e1, rfl, ?_, ?_⟩ <;> rw [e2] <;> split at this <;> rename_i hlt
    · exact this
    · exact Rat.le_trans (Rat.not_lt.mp hlt) this
    · exact Rat.le_trans (Rat.le_of_lt hlt) this
    · exact this
  | cons b bs ih =>
    intro p after st total r c hinv h
    obtain ⟨st1, msb1, r', h1, h2, e1, e2⟩ := parseParts_cons h
    obtain ⟨stb, st', msb, ms, msa, i, hp, e, l, t1, t2⟩ := ih (parsePart_cur hinv h1).1 h2
    refine ⟨stb, st', msb1 :: msb, ms, msa, i, hp, by rw [e1, e]; rfl, by simp [l], by rw [e2]; exact t1, ?_⟩
    rw [e2]
    split at t2 <;> rename_i hlt
    · exact Rat.le_trans (Rat.le_of_lt hlt) t2
    · exact t2

/-- the `<note>` after `before` and `pre`: it is read in a state that follows the context in force there, with
the cursor `fcursor` of what stands before it -/
theorem note_cur {R : ℚ → ℚ} {sps : List ScorePartEl} {st st' : PState} {p : PartEl} {ms : List MState}
    {c : Ctx} (hinv : InvF R st c) (h : parsePart R sps st p = .ok (st', ms))
    {before after : List (List El)} {els pre post : List El} {n : NoteEl}
    (hp : p.measures = before ++ els :: after) (hsplit : repairMeasure els = pre ++ .note n :: post) :
    ∃ s : NoteAt R (partStart sps st p) st' ms before after pre post n,
      InvF R s.sa (ctxAfter c (flatEls before ++ pre)) ∧ s.sa.tp = fcursor R c 0 (flatEls before ++ pre) := by
  unfold parsePart at h
  rw [hp] at h
  obtain ⟨s⟩ := note_at h hsplit
  have hP := (simCur R).upto (g := (c, 0)) (st := partStart sps st p)
    ⟨⟨hinv.div, hinv.qpm, hinv.spq⟩, rfl⟩ (fun _ _ _ _ => trivial) s.before_ok s.pre_ok
  rw [simCur_run] at hP
  exact ⟨s, hP⟩

/-- THE TIMING CLAUSE AS THE CODE COMPUTES IT, every `R`, no condition on the score: the note that is not a chord
note and declares `<duration> d` starts at `fcursor` of what stands before it in its part and lasts `fsecs` of `d` at
the divisions and tempo in force there.  `mxml_time_float`, `mxml_time_float_backup` and
`mxml_time_float_exact_dyadic` compare this with `specCursor` / `secs` -/
theorem note_time_fun {R : ℚ → ℚ} {sps : List ScorePartEl} {st st' : PState} {p : PartEl} {ms : List MState}
    {c : Ctx} (hinv : InvF R st c) (h : parsePart R sps st p = .ok (st', ms))
    {before after : List (List El)} {els pre post : List El} {n : NoteEl}
    (hp : p.measures = before ++ els :: after) (hsplit : repairMeasure els = pre ++ .note n :: post) :
    ∃ mi pn, ms[before.length]? = some mi ∧ mi.notes[(pre.filter isNote).length]? = some pn ∧
      ∀ d, n.chord = false → n.duration = some d →
        pn.time = fcursor R c 0 (flatEls before ++ pre) ∧
        pn.seconds = fsecs R (ctxAfter c (flatEls before ++ pre)) d := by
  obtain ⟨s, hia, hta⟩ := note_cur hinv h hp hsplit
  refine ⟨s.mi, s.pn, s.mi_at, s.pn_at, fun d hc hd => ?_⟩
  obtain ⟨_, t0, _, hsec, _⟩ := (parseNote_float s.note_ok).2.2 d hd hc
  exact ⟨t0.trans hta, (hia.seconds hsec).2⟩

/-! ## the computed cursor against the exact one: a matter of lists, with no parser state -/

def mvCount (e : El) : Nat := if (mvOf e).isSome then 1 else 0

/-- number of cursor moves in a run: notes that are not chord or grace notes, `<forward>`s, `<backup>`s -/
def moves (els : List El) : Nat := (els.map mvCount).sum

theorem moves_append (a b : List El) : moves (a ++ b) = moves a + moves b := by simp [moves]

theorem mvCount_none {e : El} (h : mvOf e = none) : mvCount e = 0 := by simp [mvCount, h]

theorem mvCount_some {e : El} {x : Bool × Int} (h : mvOf e = some x) : mvCount e = 1 := by simp [mvCount, h]

/-- `Rel k tp t` relates the computed cursor `tp` to the exact cursor `t` after `k` moves.  If one MOVE keeps it
(`hstep`), given what is required of the context (`okc`), of the element (`oke`) and of the exact cursor reached
(`Qt`), a run keeps it (an element that makes no move changes neither cursor nor the count) -/
theorem cursors_rel {R : ℚ → ℚ} {Rel : ℕ → ℚ → ℚ → Prop} {okc : Ctx → Prop} {oke : El → Prop} {Qt : ℚ → Prop}
    (hctx : ∀ c e, okc c → oke e → okc (ctxStep c e))
    (hstep : ∀ c e fwd d k tp t, mvOf e = some (fwd, d) → okc c → oke e → Rel k tp t →
      Qt (t + secs c (moveOf e)) → Rel (k + 1) (curStep R c tp e) (t + secs c (moveOf e))) :
    ∀ (l : List El) (c : Ctx) (k : ℕ) (tp t : ℚ), okc c → (∀ e ∈ l, oke e) →
      (∀ a b, l = a ++ b → Qt (t + specCursor c a)) → Rel k tp t →
      okc (ctxAfter c l) ∧ Rel (k + moves l) (fcursor R c tp l) (t + specCursor c l) := by
  intro l
  induction l with
  | nil => intro c k tp t hc _ _ h; exact ⟨hc, by simpa [moves, specCursor, fcursor, Rat.add_zero] using h⟩
  | cons e es ih =>
    intro c k tp t hc he hQ h
    have h1 := hQ [e] es rfl
    simp only [specCursor, Rat.add_zero] at h1
    have h2 : Rel (k + mvCount e) (curStep R c tp e) (t + secs c (moveOf e)) := by
      cases hm : mvOf e with
      | none =>
        rw [(curStep_none hm).1, (curStep_none (R := R) (c := c) (tp := tp) hm).2, mvCount_none hm, secs_zero]
        simpa [Rat.add_zero] using h
      | some x => rw [mvCount_some hm]; exact hstep c e x.1 x.2 k tp t hm hc (he e (by simp)) h h1
    have := ih (ctxStep c e) _ _ _ (hctx c e hc (he e (by simp))) (fun x hx => he x (by simp [hx]))
      (fun a b hab => by simpa only [specCursor, Rat.add_assoc] using hQ (e :: a) b (by rw [hab]; rfl)) h2
    simpa only [moves, List.map_cons, List.sum_cons, specCursor, fcursor, Rat.add_assoc, Nat.add_assoc, ctxAfter, List.foldl] using this

theorem fcursor_id (l : List El) (c : Ctx) (tp : ℚ) : fcursor id c tp l = tp + specCursor c l :=
  (cursors_rel (R := id) (Rel := fun _ tp t => tp = t) (okc := fun _ => True) (oke := fun _ => True)
    (Qt := fun _ => True) (fun _ _ _ _ => trivial) (fun c e _ _ _ tp t _ _ _ h _ => by rw [curStep_id, h])
    l c 0 tp tp trivial (fun _ _ => trivial) (fun _ _ _ => trivial) rfl).2

theorem parsePart_id {sps : List ScorePartEl} {st : PState} {p : PartEl} {st' : PState} {ms : List MState}
    {c : Ctx} (hinv : Inv st c) (h : parsePart id sps st p = .ok (st', ms)) :
    st'.tp = specCursor c (partEls p) ∧ Inv st' (ctxAfter c (partEls p)) := by
  obtain ⟨a, b⟩ := parsePart_cur (inv_iff.1 hinv) h
  exact ⟨by rw [b, fcursor_id, Rat.zero_add], inv_iff.2 a⟩

theorem parseParts_total {sps : List ScorePartEl} {parts : List PartEl} : ∀ {st : PState} {total : ℚ}
    {r : PState × ℚ × List (List MState)} {c : Ctx}, Inv st c → parseParts id sps st total parts = .ok r →
    r.2.1 = specTotal c total parts ∧ r.2.2.length = parts.length := by
  induction parts with
  | nil =>
    intro st total r c _ h
    simp only [parseParts, Except.ok.injEq] at h
    subst h
    exact ⟨rfl, rfl⟩
  | cons p ps ih =>
    intro st total r c hinv h
    obtain ⟨st1, ms, r', h1, h2, e1, e2⟩ := parseParts_cons h
    obtain ⟨a1, a2⟩ := parsePart_id hinv h1
    obtain ⟨b1, b2⟩ := ih a2 h2
    exact ⟨by rw [e2, b1, a1]; rfl, by rw [e1, List.length_cons, b2, List.length_cons]⟩

/-- every note carries the channel and program the state has, and no element changes those -/
def simChan (R : ℚ → ℚ) (ch pr : Int) : Sim R Unit where
  gs _ _ := ()
  P _ st := st.channel = ch ∧ st.program = pr
  ok _ _ _ := True
  Q pn := pn.channel = ch ∧ pn.program = pr
  ts _ h := h
  step := by
    intro _ st m e st' m' ⟨hc, hp⟩ _ h
    obtain ⟨a1, a2, _⟩ := parseEl_float h
    obtain ⟨new, hn, _, _, hq⟩ := parseEl_notes h
    refine ⟨⟨a1.trans hc, a2.trans hp⟩, new, hn, fun pn hpn => ?_⟩
    obtain ⟨n, st1, _, hpn'⟩ := hq pn hpn
    obtain ⟨_, b2, b3, _⟩ := parseNote_attrs hpn'
    exact ⟨b2.trans hc, b3.trans hp⟩

/-- along a run in which every `<note>` is a `<chord/>` note with a `<duration>`, `previous_note` keeps the onset
`pt` and the duration `pd` it holds and every note of the run carries them, literally, for every `R`; if moreover
(`b`) nothing in the run changes divisions or tempo, every note of the run lasts what `secondsOf` gives `pd` in
the state `st0` the run started in -/
def simChord (R : ℚ → ℚ) (st0 : PState) (pd : Int) (pt : ℚ) (b : Prop) : Sim R Unit where
  gs _ _ := ()
  P _ st := st.prev = some (pd, pt) ∧ (b → st.divisions = st0.divisions ∧ st.spq = st0.spq)
  ok _ _ e := chordRun e = true ∧ (b → noRetime e = true)
  Q pn := pn.time = pt ∧ pn.duration = pd ∧ (b → secondsOf R st0 pd = .ok pn.seconds)
  ts _ h := h
  step := by
    intro _ st m e st' m' ⟨hp, hds⟩ ⟨he, hnr⟩ h
    have hds' : b → st'.divisions = st0.divisions ∧ st'.spq = st0.spq := fun hb => by
      obtain ⟨d1, d2⟩ := parseEl_noRetime h (hnr hb)
      exact ⟨d1.trans (hds hb).1, d2.trans (hds hb).2⟩
    cases e with
    | note n =>
      simp only [chordRun, Bool.and_eq_true] at he
      obtain ⟨d, hd⟩ := Option.isSome_iff_exists.mp he.2
      obtain ⟨_, _, _, st2, pn, hn, rfl, e1⟩ := parseEl_float h
      obtain ⟨pd', pt', hp', _, a, b', hs, _⟩ := (parseNote_float hn).2.1 d hd he.1
      rw [hp] at hp'
      simp only [Option.some.injEq, Prod.mk.injEq] at hp'
      obtain ⟨rfl, rfl⟩ := hp'
      refine ⟨⟨by rw [← a, ← b'], hds'⟩, [pn], e1, fun x hx => ?_⟩
      obtain rfl := List.mem_singleton.mp hx
      exact ⟨a, b', fun hb => by rw [← secondsOf_congr R (hds hb).1 (hds hb).2]; exact hs⟩
    | _ =>
      obtain ⟨new, k1, k2, k3, _⟩ := parseEl_notes h
      obtain rfl := List.eq_nil_of_length_eq_zero k2
      exact ⟨⟨by rw [k3 rfl, hp], hds'⟩, [], k1, by simp⟩

end NSV.C05

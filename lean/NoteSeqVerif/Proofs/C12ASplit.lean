import NoteSeqVerif.Proofs.C12AExtract
/-! C12 — the split vectors of `split_note_sequence_on_time_changes` and
`split_note_sequence_on_silence` do not depend on the storage order. -/
namespace NSV.C12
open NSV.C02

/-- with no two time signatures and no two tempos at one time, the merged event list of
`split_note_sequence_on_time_changes` is the same for every storage order: the events of one time are at most one
time signature followed by at most one tempo, whatever the storage order, and a stable sort keeps them so -/
theorem timeChanges_eq {s s' : NoteSeq} (h : NSPerm s s') (h1 : DistinctKeys (·.time) s.timeSigs)
    (h2 : DistinctKeys (·.time) s.tempos) : timeChanges s = timeChanges s' := by
  unfold timeChanges
  rw [← h.totalTime]
  congr 1
  refine sortByRat_eq_of_classes TC.time fun k => ?_
  have hts := filter_class_eq_of_perm TimeSig.time h.timeSigs h1 k
  have htp := filter_class_eq_of_perm Tempo.time h.tempos h2 k
  simp only [List.filter_append, List.filter_map]
  exact congr (congrArg _ (congrArg _ hts)) (congrArg _ htp)

/-- what the silence splitter needs of the notes, the gap and the rounding: a note never starts after
it ends, and adding the gap to a time at or after a note's end does not round below that end
(true for every `gap ≥ 0` in exact arithmetic, and in float64 since note ends are floats) -/
def SilenceOK (R : Rat → Rat) (gap : Rat) (notes : List Note) : Prop :=
  (∀ n ∈ notes, n.start ≤ n.end_) ∧ (∀ n ∈ notes, ∀ x, n.end_ ≤ x → n.end_ ≤ R (x + gap))

theorem SilenceOK.perm {R : Rat → Rat} {gap : Rat} {l l' : List Note} (h : l.Perm l')
    (hk : SilenceOK R gap l) : SilenceOK R gap l' :=
  ⟨fun n hn => hk.1 n (h.mem_iff.mpr hn), fun n hn => hk.2 n (h.mem_iff.mpr hn)⟩

/-- one round of the silence loop on the state (`last_active_time`, onsets so far) -/
def silStep (R : Rat → Rat) (gap : Rat) (st : Rat × List Rat) (n : Note) : Rat × List Rat :=
  (max st.1 n.end_, if n.start > R (st.1 + gap) then st.2 ++ [n.start] else st.2)

theorem silLoop_foldl (R : Rat → Rat) (gap : Rat) : ∀ (l : List Note) (la : Rat) (vs : List Rat),
    silLoop R gap l la vs = (l.foldl (silStep R gap) (la, vs)).2
  | [], _, _ => rfl
  | n :: l, la, vs => by rw [silLoop, List.foldl_cons]; exact silLoop_foldl R gap l _ _

theorem max_right_comm (x a b : Rat) : max (max x a) b = max (max x b) a := by grind

/-- the rounds of two notes that start together commute: whichever comes second starts before the end of the
first, so it is never an onset -/
theorem silStep_comm {R : Rat → Rat} {gap : Rat} {a b : Note} (hab : a.start = b.start)
    (ha : a.start ≤ a.end_) (ha' : ∀ x, a.end_ ≤ x → a.end_ ≤ R (x + gap))
    (hb : b.start ≤ b.end_) (hb' : ∀ x, b.end_ ≤ x → b.end_ ≤ R (x + gap)) (st : Rat × List Rat) :
    silStep R gap (silStep R gap st a) b = silStep R gap (silStep R gap st b) a := by
  have h1 : ¬ b.start > R (max st.1 a.end_ + gap) :=
    Rat.not_lt.mpr (Rat.le_trans (hab ▸ ha) (ha' _ Std.right_le_max))
  have h2 : ¬ b.start > R (max st.1 b.end_ + gap) :=
    Rat.not_lt.mpr (Rat.le_trans hb (hb' _ Std.right_le_max))
  simp only [silStep, hab, if_neg h1, if_neg h2, max_right_comm st.1 a.end_ b.end_]

theorem silenceOnsets_perm (R : Rat → Rat) (gap : Rat) {S S' : List Note} (h : S.Perm S')
    (hs : S.Pairwise (fun x y => x.start ≤ y.start)) (hs' : S'.Pairwise (fun x y => x.start ≤ y.start))
    (hk : SilenceOK R gap S) :
    silenceOnsets R gap [] S = silenceOnsets R gap [] S' := by
  rw [← silLoop_eq, ← silLoop_eq, silLoop_foldl, silLoop_foldl]
  refine congrArg Prod.snd (foldl_sorted_perm (silStep R gap) (fun x y => x.start ≤ y.start)
    (fun a b => a.start = b.start ∧ (a.start ≤ a.end_ ∧ ∀ x, a.end_ ≤ x → a.end_ ≤ R (x + gap)) ∧
      b.start ≤ b.end_ ∧ ∀ x, b.end_ ≤ x → b.end_ ≤ R (x + gap))
    (fun a b hC st => silStep_comm hC.1 hC.2.1.1 hC.2.1.2 hC.2.2.1 hC.2.2.2 st) S S' h hs hs' ?_ (0, []))
  exact List.pairwise_of_forall_mem_list fun a ha b hb e e' =>
    ⟨Rat.le_antisymm e e', ⟨hk.1 a ha, hk.2 a ha⟩, hk.1 b hb, hk.2 b hb⟩

end NSV.C12

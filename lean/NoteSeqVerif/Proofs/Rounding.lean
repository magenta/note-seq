import Mathlib.Tactic.FieldSimp
import NoteSeqVerif.Proofs.RoundingLog
/-! Algebraic facts about the executable IEEE round-to-nearest-even model `NSV.rne p`
(`Common/Float.lean`), for every precision `p ≥ 1`, packaged as `RoundingP p (rne p)`;
`Rounding R := RoundingP 53 R` (float64), `Rounding24 R := RoundingP 24 R` (float32).

Route: `rne p x = ± rpos p |x|` with `rpos p x = rq (⌊log₂ x⌋ - (p-1)) x` and
`rq s x = rnE (x / 2^s) * 2^s` (round to a multiple of the quantum `2^s`). -/
namespace NSV

/-- what the model's theorems may assume about a rounding operator of precision `p` -/
structure RoundingP (p : ℕ) (R : ℚ → ℚ) : Prop where
  mono : ∀ a b, a ≤ b → R a ≤ R b
  zero : R 0 = 0
  neg : ∀ a, R (-a) = - R a
  exact_int : ∀ n : ℤ, n.natAbs < 2 ^ p → R n = n
  /-- scaling by powers of two commutes with rounding (the exponent is unbounded) -/
  exact_pow2_mul : ∀ x (k : ℤ), R (x * 2 ^ k) = R x * 2 ^ k
  idem : ∀ a, R (R a) = R a
  rel_err : ∀ a, |R a - a| ≤ |a| * (1 / 2 ^ p)

abbrev Rounding (R : ℚ → ℚ) : Prop := RoundingP 53 R
abbrev Rounding24 (R : ℚ → ℚ) : Prop := RoundingP 24 R

/-- nearest multiple of `2^s`, ties to even multiple -/
def rq (s : ℤ) (x : ℚ) : ℚ := (rnE (x / 2 ^ s) : ℚ) * 2 ^ s

theorem rq_mono (s : ℤ) {a b : ℚ} (h : a ≤ b) : rq s a ≤ rq s b := by
  have hs := two_zpow_pos s
  unfold rq
  apply mul_le_mul_of_nonneg_right _ hs.le
  exact_mod_cast rnE_mono (div_le_div_of_nonneg_right h hs.le)

theorem rq_eq_of_near {s : ℤ} {y : ℚ} {m : ℤ} (h : |y - m * 2 ^ s| < 2 ^ s / 2) :
    rq s y = m * 2 ^ s := by
  have hs := two_zpow_pos s
  have e : y / 2 ^ s - m = (y - m * 2 ^ s) / 2 ^ s := by field_simp
  have : |y / 2 ^ s - m| < 1 / 2 := by
    rw [e, abs_div, abs_of_pos hs, div_lt_iff₀ hs]; linarith
  unfold rq
  rw [rnE_eq_of_near this]

theorem rq_exact (s : ℤ) (m : ℤ) : rq s (m * 2 ^ s) = m * 2 ^ s :=
  rq_eq_of_near (by rw [sub_self, abs_zero]; exact half_pos (two_zpow_pos s))

theorem rq_err (s : ℤ) (x : ℚ) : |rq s x - x| ≤ 2 ^ s / 2 := by
  have hs := two_zpow_pos s
  have h := rnE_abs_sub_le (x / 2 ^ s)
  have e : rq s x - x = ((rnE (x / 2 ^ s) : ℚ) - x / 2 ^ s) * 2 ^ s := by
    unfold rq; field_simp
  rw [e, abs_mul, abs_of_pos hs]
  calc |(rnE (x / 2 ^ s) : ℚ) - x / 2 ^ s| * 2 ^ s ≤ 1 / 2 * 2 ^ s :=
        mul_le_mul_of_nonneg_right h hs.le
    _ = 2 ^ s / 2 := by ring

theorem rq_scale (s k : ℤ) (x : ℚ) : rq (s + k) (x * 2 ^ k) = rq s x * 2 ^ k := by
  have hs := two_zpow_pos s
  have hk := two_zpow_pos k
  unfold rq
  rw [zpow_add₀ (by norm_num : (2 : ℚ) ≠ 0)]
  have : x * 2 ^ k / (2 ^ s * 2 ^ k) = x / 2 ^ s := by field_simp
  rw [this]; ring

/-- the rounding of a positive rational to `p` significant bits -/
def rpos (p : ℕ) (x : ℚ) : ℚ := rq (Int.log 2 x - ((p : ℤ) - 1)) x

theorem rnePos_eq (p n d : ℕ) (hn : 0 < n) (hd : 0 < d) :
    rnePos p n d = rpos p ((n : ℚ) / d) := by
  have hdq : (0 : ℚ) < d := by exact_mod_cast hd
  unfold rnePos rpos rq
  simp only
  rw [floorLog2_eq n d hn hd]
  generalize Int.log 2 ((n : ℚ) / d) - ((p : ℤ) - 1) = s
  by_cases h0 : 0 ≤ s
  · rw [if_pos h0]
    obtain ⟨k, rfl⟩ := Int.eq_ofNat_of_zero_le h0
    have hpos : 0 < d * 2 ^ k := Nat.mul_pos hd (Nat.pow_pos (by norm_num))
    have := rneDiv_eq n (d * 2 ^ k) hpos
    rw [Int.toNat_natCast, zpow_natCast, Nat.cast_mul, ← Int.cast_natCast (rneDiv _ _), this]
    push_cast
    rw [div_div]
  · rw [if_neg h0]
    obtain ⟨k, hk⟩ := Int.eq_ofNat_of_zero_le (show 0 ≤ -s by omega)
    have := rneDiv_eq (n * 2 ^ k) d hd
    rw [hk, Int.toNat_natCast, Rat.mkRat_eq_div, this, show s = -(k : ℤ) by omega, zpow_neg,
      zpow_natCast]
    push_cast
    have h2 : (0 : ℚ) < 2 ^ k := by positivity
    congr 2
    field_simp

theorem rne_of_pos (p : ℕ) {x : ℚ} (hx : 0 < x) : rne p x = rpos p x := by
  have hnum : 0 < x.num := Rat.num_pos.mpr hx
  unfold rne
  rw [if_neg (by omega), if_pos hnum, rnePos_eq p _ _ (by omega) x.den_pos]
  congr 1
  rw [Nat.cast_natAbs, abs_of_pos hnum]
  exact Rat.num_div_den x

theorem rne_neg (p : ℕ) (x : ℚ) : rne p (-x) = - rne p x := by
  unfold rne
  rw [Rat.neg_num, Rat.neg_den, Int.natAbs_neg]
  rcases lt_trichotomy x.num 0 with h | h | h
  · rw [if_neg (by omega), if_pos (by omega), if_neg (by omega), if_neg (by omega), neg_neg]
  · simp [h]
  · rw [if_neg (by omega), if_neg (by omega), if_neg (by omega), if_pos h]

theorem rne_of_neg (p : ℕ) {x : ℚ} (hx : x < 0) : rne p x = - rpos p (-x) := by
  rw [← rne_of_pos p (by linarith : 0 < -x), rne_neg, neg_neg]

theorem rq_mul_two_zpow {s k : ℤ} (h : s ≤ k) (m : ℤ) : rq s ((m : ℚ) * 2 ^ k) = m * 2 ^ k := by
  obtain ⟨n, hn⟩ := Int.eq_ofNat_of_zero_le (sub_nonneg.mpr h)
  have e : (m : ℚ) * 2 ^ k = ((m * 2 ^ n : ℤ) : ℚ) * 2 ^ s := by
    rw [Int.cast_mul, Int.cast_pow, Int.cast_ofNat, ← zpow_natCast, mul_assoc,
      ← zpow_add₀ (by norm_num : (2 : ℚ) ≠ 0), ← hn, sub_add_cancel]
  rw [e, rq_exact]

theorem rq_two_zpow {s k : ℤ} (h : s ≤ k) : rq s ((2 : ℚ) ^ k) = 2 ^ k := by
  simpa using rq_mul_two_zpow h 1

theorem rpos_ge (p : ℕ) (hp : 1 ≤ p) {x : ℚ} (hx : 0 < x) : (2 : ℚ) ^ Int.log 2 x ≤ rpos p x := by
  have h := rq_mono (Int.log 2 x - ((p : ℤ) - 1)) (ilog2_le hx)
  rwa [rq_two_zpow (by omega)] at h

theorem rpos_le (p : ℕ) (x : ℚ) : rpos p x ≤ (2 : ℚ) ^ (Int.log 2 x + 1) := by
  have h := rq_mono (Int.log 2 x - ((p : ℤ) - 1)) (ilog2_lt x).le
  rwa [rq_two_zpow (by omega)] at h

theorem rpos_pos (p : ℕ) (hp : 1 ≤ p) {x : ℚ} (hx : 0 < x) : 0 < rpos p x :=
  lt_of_lt_of_le (two_zpow_pos _) (rpos_ge p hp hx)

/-- monotonicity on positives: the exponent-bucket argument -/
theorem rpos_mono (p : ℕ) (hp : 1 ≤ p) {a b : ℚ} (ha : 0 < a) (h : a ≤ b) :
    rpos p a ≤ rpos p b := by
  have hb : 0 < b := lt_of_lt_of_le ha h
  rcases (Int.log_mono_right (b := 2) ha h).lt_or_eq with hlt | heq
  · calc rpos p a ≤ (2 : ℚ) ^ (Int.log 2 a + 1) := rpos_le p a
      _ ≤ (2 : ℚ) ^ Int.log 2 b := zpow_le_zpow_right₀ (by norm_num) (by omega)
      _ ≤ rpos p b := rpos_ge p hp hb
  · unfold rpos; rw [heq]; exact rq_mono _ h

theorem rpos_scale (p : ℕ) {x : ℚ} (hx : 0 < x) (k : ℤ) :
    rpos p (x * 2 ^ k) = rpos p x * 2 ^ k := by
  unfold rpos
  rw [ilog2_mul_zpow hx, ← rq_scale]; congr 1; ring

/-- half an ulp of the binade of `x` -/
theorem rpos_err_ulp (p : ℕ) (x : ℚ) : |rpos p x - x| ≤ 2 ^ (Int.log 2 x - p) := by
  have h := rq_err (Int.log 2 x - p + 1) x
  rw [zpow_add_one₀ (by norm_num), mul_div_assoc, div_self (by norm_num), mul_one] at h
  rwa [rpos, show Int.log 2 x - ((p : ℤ) - 1) = Int.log 2 x - p + 1 by ring]

theorem rpos_err (p : ℕ) {x : ℚ} (hx : 0 < x) : |rpos p x - x| ≤ x * (1 / 2 ^ p) := by
  refine (rpos_err_ulp p x).trans ?_
  rw [zpow_sub₀ (by norm_num), zpow_natCast, div_eq_mul_one_div]
  exact mul_le_mul_of_nonneg_right (ilog2_le hx) (by positivity)

theorem rpos_natCast (p : ℕ) {n : ℕ} (hn : 0 < n) (hlt : n < 2 ^ p) : rpos p (n : ℚ) = n := by
  have hnq : (0 : ℚ) < n := by exact_mod_cast hn
  have hlog : Int.log 2 (n : ℚ) < p := by
    have : (n : ℚ) < ((2 : ℕ) : ℚ) ^ (p : ℤ) := by
      rw [zpow_natCast]; exact_mod_cast hlt
    exact (Int.lt_zpow_iff_log_lt (by norm_num) hnq).mp this
  have := rq_mul_two_zpow (s := Int.log 2 (n : ℚ) - ((p : ℤ) - 1)) (k := 0) (by omega) n
  rwa [zpow_zero, mul_one, Int.cast_natCast] at this

theorem rpos_two_zpow (p : ℕ) (hp : 1 ≤ p) (k : ℤ) : rpos p ((2 : ℚ) ^ k) = 2 ^ k := by
  have hl : Int.log 2 ((2 : ℚ) ^ k) = k :=
    ilog2_unique (two_zpow_pos k) le_rfl (zpow_lt_zpow_right₀ (by norm_num) (by omega))
  unfold rpos
  rw [hl]
  exact rq_two_zpow (by omega)

theorem rpos_idem (p : ℕ) (hp : 1 ≤ p) {x : ℚ} (hx : 0 < x) : rpos p (rpos p x) = rpos p x := by
  rcases (rpos_le p x).lt_or_eq with hlt | heq
  · -- still in the binade of `x`: a multiple of the quantum it was rounded to
    have hl : Int.log 2 (rpos p x) = Int.log 2 x :=
      ilog2_unique (rpos_pos p hp hx) (rpos_ge p hp hx) hlt
    show rq (Int.log 2 (rpos p x) - ((p : ℤ) - 1)) (rpos p x) = rpos p x
    rw [hl]
    exact rq_exact _ (rnE (x / 2 ^ (Int.log 2 x - ((p : ℤ) - 1))))
  · -- rounded up to the next power of two
    rw [heq, rpos_two_zpow p hp]

/-- proving an odd-symmetric predicate: zero, positives, closed under negation -/
theorem rat_odd_cases {Q : ℚ → Prop} (h0 : Q 0) (hpos : ∀ x, 0 < x → Q x)
    (hneg : ∀ x, 0 < x → Q x → Q (-x)) : ∀ x, Q x := by
  intro x
  rcases lt_trichotomy x 0 with h | h | h
  · have := hneg (-x) (by linarith) (hpos (-x) (by linarith)); rwa [neg_neg] at this
  · exact h ▸ h0
  · exact hpos x h

theorem rne_mono (p : ℕ) (hp : 1 ≤ p) {a b : ℚ} (h : a ≤ b) : rne p a ≤ rne p b := by
  rcases lt_or_ge 0 a with ha | ha
  · rw [rne_of_pos p ha, rne_of_pos p (lt_of_lt_of_le ha h)]
    exact rpos_mono p hp ha h
  · rcases lt_or_ge b 0 with hb | hb
    · rw [rne_of_neg p hb, rne_of_neg p (lt_of_le_of_lt h hb)]
      exact neg_le_neg (rpos_mono p hp (neg_pos.mpr hb) (neg_le_neg h))
    · have h1 := rne_nonneg p hp _ (neg_nonneg.mpr ha)
      rw [rne_neg] at h1
      exact (neg_nonneg.mp h1).trans (rne_nonneg p hp _ hb)

theorem rne_natCast (p : ℕ) {n : ℕ} (h : n < 2 ^ p) : rne p (n : ℚ) = n := by
  rcases n.eq_zero_or_pos with rfl | hn
  · simpa using rne_zero p
  · rw [rne_of_pos p (by exact_mod_cast hn), rpos_natCast p hn h]

theorem rne_exact_int (p : ℕ) (n : ℤ) (h : n.natAbs < 2 ^ p) : rne p (n : ℚ) = n := by
  rcases Int.natAbs_eq n with e | e <;> rw [e]
  · rw [Int.cast_natCast]; exact rne_natCast p h
  · rw [Int.cast_neg, Int.cast_natCast, rne_neg, rne_natCast p h]

theorem rne_scale (p : ℕ) (x : ℚ) (k : ℤ) : rne p (x * 2 ^ k) = rne p x * 2 ^ k := by
  have hk := two_zpow_pos k
  refine rat_odd_cases (Q := fun x => rne p (x * 2 ^ k) = rne p x * 2 ^ k) ?_ ?_ ?_ x
  · simp [rne_zero]
  · intro x hx
    rw [rne_of_pos p hx, rne_of_pos p (mul_pos hx hk), rpos_scale p hx]
  · intro x _ ih
    rw [neg_mul, rne_neg, rne_neg, ih, neg_mul]

theorem rne_idem (p : ℕ) (hp : 1 ≤ p) (x : ℚ) : rne p (rne p x) = rne p x := by
  refine rat_odd_cases (Q := fun x => rne p (rne p x) = rne p x) ?_ ?_ ?_ x
  · rw [rne_zero, rne_zero]
  · intro x hx
    rw [rne_of_pos p hx, rne_of_pos p (rpos_pos p hp hx), rpos_idem p hp hx]
  · intro x _ ih
    rw [rne_neg, rne_neg, ih]

theorem rne_rel_err (p : ℕ) (x : ℚ) : |rne p x - x| ≤ |x| * (1 / 2 ^ p) := by
  refine rat_odd_cases (Q := fun x => |rne p x - x| ≤ |x| * (1 / 2 ^ p)) ?_ ?_ ?_ x
  · simp [rne_zero]
  · intro x hx
    rw [rne_of_pos p hx, abs_of_pos hx]; exact rpos_err p hx
  · intro x _ ih
    rw [rne_neg, abs_neg, show -rne p x - -x = -(rne p x - x) by ring, abs_neg]; exact ih

theorem rounding_rne (p : ℕ) (hp : 1 ≤ p) : RoundingP p (rne p) where
  mono _ _ h := rne_mono p hp h
  zero := rne_zero p
  neg := rne_neg p
  exact_int := rne_exact_int p
  exact_pow2_mul := rne_scale p
  idem := rne_idem p hp
  rel_err := rne_rel_err p

theorem rounding_rne53 : Rounding rne53 := rounding_rne 53 (by norm_num)
theorem rounding_rne24 : Rounding24 rne24 := rounding_rne 24 (by norm_num)

theorem rne53_mono {a b : ℚ} (h : a ≤ b) : rne53 a ≤ rne53 b := rounding_rne53.mono a b h
theorem rne24_mono {a b : ℚ} (h : a ≤ b) : rne24 a ≤ rne24 b := rounding_rne24.mono a b h

/-! concrete validation of the definitions the theorems are about (kernel-evaluated):
`0.1` in float64 / float32, and the two kinds of tie at `2^53` (down to even, up to even) -/
example : rne53 (1 / 10) = 3602879701896397 / 36028797018963968 := by decide +kernel
example : rne24 (1 / 10) = 13421773 / 134217728 := by decide +kernel
example : rne53 (2 ^ 53 + 1) = 2 ^ 53 := by decide +kernel
example : rne53 (2 ^ 53 + 3) = 2 ^ 53 + 4 := by decide +kernel
example : rne53 (-(2 ^ 53 + 3)) = -(2 ^ 53 + 4) := by decide +kernel
example : rne53 (1 / 3) * 2 ^ 200 = rne53 (2 ^ 200 / 3) := by decide +kernel
/-- `id` (exact arithmetic) is a rounding of every precision: what is proved for every `RoundingP p R` covers the
exact reading `R = id` -/
example (p : ℕ) : RoundingP p id :=
  ⟨fun _ _ h => h, rfl, fun _ => rfl, fun _ _ => rfl, fun _ _ => rfl, fun _ => rfl,
   fun a => by simp only [id, sub_self, abs_zero]; positivity⟩

end NSV

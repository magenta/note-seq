import Mathlib.Data.Int.Log
import Mathlib.Tactic.Positivity
import Mathlib.Tactic.Ring
import Mathlib.Tactic.NormNum
import NoteSeqVerif.Proofs.RoundingInt
import NoteSeqVerif.Proofs.C20_rne
/-! `NSV.floorLog2 n d = Int.log 2 (n / d)`: the executable exponent finder computes the binade
`2^e ≤ n/d < 2^(e+1)`.  Both bounds are proved on natural numbers (`floorLog2_le` in the core-only
Proofs/C20_rne.lean, `floorLog2_lt` here); `two_zpow_le_div` reads them as bounds on the quotient. -/
namespace NSV

theorem ilog2_unique {x : ℚ} (hx : 0 < x) {e : ℤ} (h1 : (2 : ℚ) ^ e ≤ x)
    (h2 : x < (2 : ℚ) ^ (e + 1)) : Int.log 2 x = e := by
  have a : e ≤ Int.log 2 x :=
    (Int.zpow_le_iff_le_log (by norm_num) hx).mp (by simpa using h1)
  have b : Int.log 2 x < e + 1 :=
    (Int.lt_zpow_iff_log_lt (by norm_num) hx).mp (by simpa using h2)
  omega

theorem ilog2_le {x : ℚ} (hx : 0 < x) : (2 : ℚ) ^ Int.log 2 x ≤ x := by
  simpa using Int.zpow_log_le_self (b := 2) (by norm_num) hx

theorem ilog2_lt (x : ℚ) : x < (2 : ℚ) ^ (Int.log 2 x + 1) := by
  simpa using Int.lt_zpow_succ_log_self (b := 2) (by norm_num) x

theorem two_zpow_pos (e : ℤ) : (0 : ℚ) < (2 : ℚ) ^ e := zpow_pos (by norm_num) e

theorem ilog2_mul_zpow {x : ℚ} (hx : 0 < x) (k : ℤ) :
    Int.log 2 (x * (2 : ℚ) ^ k) = Int.log 2 x + k := by
  have hk := two_zpow_pos k
  apply ilog2_unique (mul_pos hx hk)
  · rw [zpow_add₀ (by norm_num)]
    exact mul_le_mul_of_nonneg_right (ilog2_le hx) hk.le
  · rw [show Int.log 2 x + k + 1 = (Int.log 2 x + 1) + k by ring, zpow_add₀ (by norm_num)]
    exact mul_lt_mul_of_pos_right (ilog2_lt x) hk

/-- upper half of the specification of `floorLog2`, in the division-free form of its lower half `floorLog2_le`
(Proofs/C20_rne.lean): `num/den < 2^(e+1)` -/
theorem floorLog2_lt (num den : ℕ) (hd : 0 < den) :
    num * 2 ^ (-(floorLog2 num den + 1)).toNat < den * 2 ^ (floorLog2 num den + 1).toNat := by
  have key : ∀ ln ld : ℕ, ln + 1 + (-((ln : ℤ) - ld + 1)).toNat = ld + ((ln : ℤ) - ld + 1).toNat :=
    fun ln ld => by omega
  have a1 := @Nat.lt_log2_self num
  have a2 := @Nat.log2_self_le den (by omega)
  unfold floorLog2
  simp only
  generalize Nat.log2 num = ln at *
  generalize Nat.log2 den = ld at *
  -- when the comparison fails that is the claim; one more than the difference of the bit lengths is
  -- always above
  split
  · split
    · exact mul_pow_lt_of_log2 a1 a2 (key ln ld)
    · rename_i hge
      rw [show (ln : ℤ) - ld - 1 + 1 = ln - ld by omega, show (-((ln : ℤ) - ld)).toNat = 0 by omega]
      simpa using hge
  · split
    · exact mul_pow_lt_of_log2 a1 a2 (key ln ld)
    · rename_i hge
      rw [show (ln : ℤ) - ld - 1 + 1 = ln - ld by omega, show ((ln : ℤ) - ld).toNat = 0 by omega]
      simpa using hge

/-- what the division-free comparisons say: `2^e = 2^e.toNat / 2^(-e).toNat`, one of the two exponents being zero -/
theorem two_zpow_le_div (e : ℤ) (n d : ℕ) (hd : 0 < d) :
    (2 : ℚ) ^ e ≤ (n : ℚ) / d ↔ d * 2 ^ e.toNat ≤ n * 2 ^ (-e).toNat := by
  have hdq : (0 : ℚ) < d := by exact_mod_cast hd
  have he : (2 : ℚ) ^ e = (2 : ℚ) ^ e.toNat / 2 ^ (-e).toNat := by
    rw [← zpow_natCast, ← zpow_natCast, ← zpow_sub₀ (by norm_num)]; congr 1; omega
  rw [he, div_le_div_iff₀ (by positivity) hdq, mul_comm]
  exact_mod_cast Iff.rfl

theorem floorLog2_eq (n d : ℕ) (hn : 0 < n) (hd : 0 < d) :
    floorLog2 n d = Int.log 2 ((n : ℚ) / d) := by
  have hx : (0 : ℚ) < (n : ℚ) / d := div_pos (by exact_mod_cast hn) (by exact_mod_cast hd)
  refine (ilog2_unique hx ((two_zpow_le_div _ n d hd).mpr (floorLog2_le n d hn))
    (lt_of_not_ge fun h => ?_)).symm
  exact absurd ((two_zpow_le_div _ n d hd).mp h) (not_le.mpr (floorLog2_lt n d hd))

end NSV

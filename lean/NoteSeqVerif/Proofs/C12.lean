import NoteSeqVerif.Model.NoteSeq
/-! C12 — what "up to storage order" means: `NSPerm` for NoteSequences, `ResRel` for the results of an operation that
may raise (same error, or related values).  The fold over two sorted storage orders of one multiset
(`C12.foldl_sorted_perm`) and what a tuple key leaves in storage order (`lex_tie`) are in `Proofs/Lib.lean`. -/
namespace NSV.C12

/-- two NoteSequences that differ only in the storage order of their repeated fields -/
structure NSPerm (s s' : NoteSeq) : Prop where
  notes : s.notes.Perm s'.notes
  tempos : s.tempos.Perm s'.tempos
  timeSigs : s.timeSigs.Perm s'.timeSigs
  keySigs : s.keySigs.Perm s'.keySigs
  texts : s.texts.Perm s'.texts
  ccs : s.ccs.Perm s'.ccs
  bends : s.bends.Perm s'.bends
  sectionAnns : s.sectionAnns.Perm s'.sectionAnns
  sgroups : s.sgroups = s'.sgroups
  totalTime : s.totalTime = s'.totalTime
  totalQSteps : s.totalQSteps = s'.totalQSteps
  spq : s.spq = s'.spq
  sps : s.sps = s'.sps
  hasSub : s.hasSub = s'.hasSub
  subStart : s.subStart = s'.subStart
  subEnd : s.subEnd = s'.subEnd
  tpq : s.tpq = s'.tpq
  metaTag : s.metaTag = s'.metaTag

theorem NSPerm.refl (s : NoteSeq) : NSPerm s s :=
  ⟨.refl _, .refl _, .refl _, .refl _, .refl _, .refl _, .refl _, .refl _,
   rfl, rfl, rfl, rfl, rfl, rfl, rfl, rfl, rfl, rfl⟩

theorem NSPerm.symm {s s' : NoteSeq} (h : NSPerm s s') : NSPerm s' s :=
  ⟨h.notes.symm, h.tempos.symm, h.timeSigs.symm, h.keySigs.symm, h.texts.symm, h.ccs.symm,
   h.bends.symm, h.sectionAnns.symm, h.sgroups.symm, h.totalTime.symm, h.totalQSteps.symm,
   h.spq.symm, h.sps.symm, h.hasSub.symm, h.subStart.symm, h.subEnd.symm, h.tpq.symm, h.metaTag.symm⟩

theorem NSPerm.trans {a b c : NoteSeq} (h : NSPerm a b) (g : NSPerm b c) : NSPerm a c :=
  ⟨h.notes.trans g.notes, h.tempos.trans g.tempos, h.timeSigs.trans g.timeSigs,
   h.keySigs.trans g.keySigs, h.texts.trans g.texts, h.ccs.trans g.ccs, h.bends.trans g.bends,
   h.sectionAnns.trans g.sectionAnns, h.sgroups.trans g.sgroups, h.totalTime.trans g.totalTime,
   h.totalQSteps.trans g.totalQSteps, h.spq.trans g.spq, h.sps.trans g.sps, h.hasSub.trans g.hasSub,
   h.subStart.trans g.subStart, h.subEnd.trans g.subEnd, h.tpq.trans g.tpq, h.metaTag.trans g.metaTag⟩

theorem NSPerm.isQuantized {s s' : NoteSeq} (h : NSPerm s s') : s.isQuantized = s'.isQuantized := by
  unfold NoteSeq.isQuantized; rw [h.spq, h.sps]

def ResPerm (r r' : Except Err NoteSeq) : Prop :=
  match r, r' with
  | .ok a, .ok b => NSPerm a b
  | .error e, .error e' => e = e'
  | _, _ => False

theorem ResPerm.refl (r : Except Err NoteSeq) : ResPerm r r := by
  cases r with
  | ok a => exact NSPerm.refl a
  | error e => rfl

/-- two results of one operation: the same error, or values related by `P`.  `ResPerm` above, and `ResPermList`,
`ResPermM`, `ResPermT`, `PMResPerm` in the later files, are this relation written out for their `P`; their case
analysis goes through `ResRel.cases`. -/
def ResRel {ε α : Type} (P : α → α → Prop) (r r' : Except ε α) : Prop :=
  match r, r' with
  | .ok a, .ok b => P a b
  | .error e, .error e' => e = e'
  | _, _ => False

theorem ResRel.cases {ε α : Type} {P : α → α → Prop} {r r' : Except ε α} (h : ResRel P r r') :
    (∃ e, r = .error e ∧ r' = .error e) ∨ ∃ a b, r = .ok a ∧ r' = .ok b ∧ P a b := by
  cases r with
  | ok a =>
    cases r' with
    | ok b => exact .inr ⟨a, b, rfl, rfl, h⟩
    | error e => exact h.elim
  | error e =>
    cases r' with
    | ok b => exact h.elim
    | error e' => exact .inl ⟨e, rfl, congrArg _ (Eq.symm h)⟩

theorem ResPerm.cases {r r' : Except Err NoteSeq} (h : ResPerm r r') :
    (∃ e, r = .error e ∧ r' = .error e) ∨ ∃ a b, r = .ok a ∧ r' = .ok b ∧ NSPerm a b :=
  ResRel.cases (P := NSPerm) (by cases r <;> cases r' <;> exact h)

/-- the first exception of a loop over two storage orders is the same as soon as all the exceptions its elements can
raise are the same one -/
theorem findSome?_perm {α ε} {f : α → Option ε} {l l' : List α} (h : l.Perm l')
    (hc : ∀ x ∈ l, ∀ y ∈ l, ∀ e e', f x = some e → f y = some e' → e = e') : l.findSome? f = l'.findSome? f := by
  cases h1 : l.findSome? f with
  | none =>
    rw [List.findSome?_eq_none_iff] at h1
    exact (List.findSome?_eq_none_iff.mpr fun x hx => h1 x (h.mem_iff.mpr hx)).symm
  | some e =>
    obtain ⟨x, hx, ex⟩ := List.exists_of_findSome?_eq_some h1
    cases h2 : l'.findSome? f with
    | none => rw [List.findSome?_eq_none_iff.mp h2 x (h.mem_iff.mp hx)] at ex; cases ex
    | some e' =>
      obtain ⟨y, hy, ey⟩ := List.exists_of_findSome?_eq_some h2
      rw [hc x hx y (h.mem_iff.mpr hy) e e' ex ey]

theorem mergeSort_perm_of_perm {α} (le : α → α → Bool) {l l' : List α} (h : l.Perm l') :
    (l.mergeSort le).Perm (l'.mergeSort le) :=
  ((List.mergeSort_perm l le).trans h).trans (List.mergeSort_perm l' le).symm

theorem foldl_max_perm {l l' : List Int} (h : l.Perm l') (a : Int) : l.foldl max a = l'.foldl max a :=
  h.foldl_eq' (fun x _ y _ z => by omega) a

end NSV.C12

import Mathlib.Algebra.Order.Floor.Ring
import Mathlib.Data.Rat.Floor
import Mathlib.Tactic.Linarith
import NoteSeqVerif.Common.Float
/-! Round-half-even `ℚ → ℤ` (`rnE`) as a mathematical function, its order/error facts, and the
bridge `rneDiv n d = rnE (n / d)` to the executable `NSV.rneDiv`; the order facts of `truncR`. -/
namespace NSV

def rnE (x : ℚ) : ℤ :=
  if 2 * Int.fract x < 1 then ⌊x⌋
  else if 1 < 2 * Int.fract x then ⌊x⌋ + 1
  else if ⌊x⌋ % 2 = 0 then ⌊x⌋ else ⌊x⌋ + 1

/-- `rnE x` is `⌊x⌋` or `⌊x⌋ + 1`, and which of the two bounds the fractional part -/
theorem rnE_cases (x : ℚ) :
    rnE x = ⌊x⌋ ∧ 2 * Int.fract x ≤ 1 ∨ rnE x = ⌊x⌋ + 1 ∧ 1 ≤ 2 * Int.fract x := by
  unfold rnE
  split_ifs with a b c
  · exact .inl ⟨rfl, a.le⟩
  · exact .inr ⟨rfl, b.le⟩
  · exact .inl ⟨rfl, not_lt.mp b⟩
  · exact .inr ⟨rfl, not_lt.mp a⟩

theorem rnE_intCast (n : ℤ) : rnE (n : ℚ) = n := by
  unfold rnE; simp

theorem rnE_natCast (n : ℕ) : rnE (n : ℚ) = n := by
  have := rnE_intCast (n : ℤ); simpa using this

theorem rnE_zero : rnE 0 = 0 := by
  have := rnE_intCast 0; simpa using this

theorem rnE_abs_sub_le (x : ℚ) : |(rnE x : ℚ) - x| ≤ 1 / 2 := by
  have h0 := Int.fract_nonneg x
  have h1 := Int.fract_lt_one x
  have hx := Int.floor_add_fract x
  rw [abs_le]
  rcases rnE_cases x with ⟨e, h⟩ | ⟨e, h⟩ <;> rw [e]
  · constructor <;> linarith
  · push_cast; constructor <;> linarith

theorem rnE_mono {a b : ℚ} (h : a ≤ b) : rnE a ≤ rnE b := by
  have hf : ⌊a⌋ ≤ ⌊b⌋ := Int.floor_mono h
  rcases rnE_cases a with ⟨ea, ha⟩ | ⟨ea, ha⟩ <;> rcases rnE_cases b with ⟨eb, hb⟩ | ⟨eb, hb⟩ <;>
    rw [ea, eb]
  · exact hf
  · omega
  · -- up from `a`, down from `b`: with equal floors both fractional parts would be `1/2` and
    -- `a = b`, which rounds one way only
    rcases hf.lt_or_eq with hlt | heq
    · omega
    · have hab : a = b := by
        have := Int.floor_add_fract a
        have := Int.floor_add_fract b
        have : (⌊a⌋ : ℚ) = ⌊b⌋ := by rw [heq]
        linarith
      rw [hab, eb] at ea
      omega
  · omega

theorem floor_le_rnE (x : ℚ) : ⌊x⌋ ≤ rnE x := by
  rcases rnE_cases x with ⟨e, _⟩ | ⟨e, _⟩ <;> omega

theorem rnE_eq_of_near {z : ℚ} {m : ℤ} (h : |z - m| < 1 / 2) : rnE z = m := by
  have h1 := abs_le.mp (rnE_abs_sub_le z)
  have h2 := abs_lt.mp h
  have lo : (m : ℚ) - 1 < rnE z := by linarith [h1.1, h2.1]
  have hi : (rnE z : ℚ) < m + 1 := by linarith [h1.2, h2.2]
  have lo' : m - 1 < rnE z := by exact_mod_cast lo
  have hi' : rnE z < m + 1 := by exact_mod_cast hi
  omega

/-- `rnE` in the words of the model files, which transcribe Python's `round()` with `Rat.floor` and the distance to
it against `1/2` (`C03.roundHalfEven`, `C18.roundHalfEven`): each of them is `rnE` by unfolding -/
theorem rnE_eq_round (x : ℚ) : rnE x =
    (let f := x.floor
     let d := x - (f : ℚ)
     if d < 1 / 2 then f else if 1 / 2 < d then f + 1 else if f % 2 = 0 then f else f + 1) := by
  have a : 2 * (x - (⌊x⌋ : ℚ)) < 1 ↔ x - (⌊x⌋ : ℚ) < 1 / 2 := by constructor <;> intro h <;> linarith only [h]
  have b : 1 < 2 * (x - (⌊x⌋ : ℚ)) ↔ 1 / 2 < x - (⌊x⌋ : ℚ) := by constructor <;> intro h <;> linarith only [h]
  unfold rnE Int.fract
  simp only [a, b]
  rfl

theorem rneDiv_eq (n d : ℕ) (hd : 0 < d) : ((rneDiv n d : ℕ) : ℤ) = rnE ((n : ℚ) / d) := by
  have hdq : (0 : ℚ) < d := by exact_mod_cast hd
  have hfl : ⌊(n : ℚ) / d⌋ = ((n / d : ℕ) : ℤ) := by
    rw [Rat.floor_natCast_div_natCast]; simp
  have hfr : Int.fract ((n : ℚ) / d) = ((n % d : ℕ) : ℚ) / d :=
    Int.fract_div_natCast_eq_div_natCast_mod
  have c1 : (2 * Int.fract ((n : ℚ) / d) < 1) ↔ 2 * (n % d) < d := by
    rw [hfr, ← mul_div_assoc, div_lt_one hdq]
    exact_mod_cast Iff.rfl
  have c2 : (1 < 2 * Int.fract ((n : ℚ) / d)) ↔ d < 2 * (n % d) := by
    rw [hfr, ← mul_div_assoc, one_lt_div hdq]
    exact_mod_cast Iff.rfl
  unfold rneDiv rnE
  simp only [c1, c2, hfl]
  split_ifs <;> first | rfl | omega

theorem truncR_mono {x y : Rat} (h : x ≤ y) : truncR x ≤ truncR y := by
  unfold truncR
  by_cases hx : 0 ≤ x
  · have hy : 0 ≤ y := le_trans hx h
    simp only [hx, hy, if_true]
    exact Rat.floor_monotone h
  · by_cases hy : 0 ≤ y
    · simp only [hx, hy, if_true, if_false]
      have h1 : x.ceil ≤ 0 := by
        rw [Rat.ceil_le_iff]; push_cast; linarith [not_le.mp hx]
      have h2 : (0:Int) ≤ y.floor := by
        rw [Rat.le_floor_iff]; exact_mod_cast hy
      omega
    · simp only [hx, hy, if_false]
      rw [Rat.ceil_le_iff]
      exact le_trans h Rat.le_ceil

theorem truncR_between {y : ℚ} {N : ℤ} (h1 : (N : ℚ) ≤ y) (h2 : y ≤ (N : ℚ) + 1) :
    N ≤ truncR y ∧ truncR y ≤ N + 1 := by
  unfold truncR
  by_cases h0 : 0 ≤ y
  · rw [if_pos h0]
    change N ≤ ⌊y⌋ ∧ ⌊y⌋ ≤ N + 1
    refine ⟨Int.le_floor.mpr h1, ?_⟩
    have : ((⌊y⌋ : ℤ) : ℚ) ≤ ((N + 1 : ℤ) : ℚ) := by
      push_cast; exact (Int.floor_le y).trans h2
    exact_mod_cast this
  · rw [if_neg h0, Rat.ceil_eq_neg_floor_neg]
    change N ≤ ⌈y⌉ ∧ ⌈y⌉ ≤ N + 1
    refine ⟨?_, Int.ceil_le.mpr (by push_cast; exact h2)⟩
    have : ((N : ℤ) : ℚ) ≤ ((⌈y⌉ : ℤ) : ℚ) := h1.trans (Int.le_ceil y)
    exact_mod_cast this

theorem truncR_eq_of_floor {y : ℚ} {N : ℤ} (h0 : 0 ≤ y) (h1 : (N : ℚ) ≤ y) (h2 : y < (N : ℚ) + 1) :
    truncR y = N := by
  unfold truncR
  rw [if_pos h0]
  change ⌊y⌋ = N
  exact Int.floor_eq_iff.mpr ⟨h1, h2⟩

end NSV

import NoteSeqVerif.Proofs.C12AConcat
import NoteSeqVerif.Props.C12_extract
/-! C12 — `concatenate_sequences` / `repeat_sequence_to_duration` under the property's own quantifier
(no two state events of one kind share a time *inside each input*), helper lemmas.

1. What a stable sort by key is: the key-sorted list whose *classes* (the sublist of the elements of
   one key, in stored order) are those of the input (`filter_class_sort`, `sorted_eq_of_classes` in
   `Proofs/C12A.lean`).
   So two lists have the same stable sort iff they have the same classes (`SameClasses`).
2. Lists built block by block (`l ++ b`, `l' ++ b'` with `b'` a permutation of `b` and no two elements
   of `b` in one class) have the same classes (`SameClasses.append`): elements of one class come from
   different blocks, and the blocks are in the same order in both lists.
3. The concatenation loop appends one shifted piece per round (`mergeFrom`), so the merged containers
   of two storage orders have the same classes as soon as every *shifted piece* is free of ties
   (`PiecesOK`, `catLoop_inv` in `Proofs/C12AConcat.lean`, `catLoop_classes`); in exact arithmetic a shift is
   injective on times, so it is enough that the inputs are (`concatPieces_exact`).
4. Extraction (C02's closed form `specPiece`) only needs the stably sorted state containers to agree
   (`SortAgree`, `specPiece_perm_of_agree`), which is what 1–3 give for the concatenation result. -/
namespace NSV.C12
open NSV.C13

theorem SameClasses.refl {α γ : Type} [DecidableEq γ] (c : α → γ) (l : List α) : SameClasses c l l :=
  fun _ => rfl

theorem SameClasses.of_eq {α γ : Type} [DecidableEq γ] (c : α → γ) {l l' : List α} (h : l = l') :
    SameClasses c l l' := h ▸ SameClasses.refl c l

theorem classes_of_sortByRat_eq {α : Type} (key : α → Rat) {l l' : List α}
    (h : sortByRat key l = sortByRat key l') : SameClasses key l l' := by
  intro k
  rw [← filter_class_sort, ← filter_class_sort key l', h]

/-- **the block lemma**: appending to both lists a block in two storage orders, no two elements of the
block in one class, keeps the classes equal -/
theorem SameClasses.append {α γ : Type} [DecidableEq γ] {c : α → γ} {l l' b b' : List α}
    (h : SameClasses c l l') (hp : b.Perm b') (hd : b.Pairwise (fun x y => c x ≠ c y)) :
    SameClasses c (l ++ b) (l' ++ b') := by
  intro k
  rw [List.filter_append, List.filter_append, h k, filter_class_eq_of_perm c hp hd k]

theorem piecesOK_perm {P Q : NoteSeq → Prop} (hPQ : ∀ {s s'}, NSPerm s s' → P s → Q s') (R : Rat → Rat) (useD : Bool)
    (ps ps' : List (MSeq × Rat)) (hp : PairsPerm ps ps') (cur : Rat) (cat cat' : MSeq) (hm : MPerm cat cat')
    (hok : PiecesOK P R useD cur cat ps) : PiecesOK Q R useD cur cat' ps' :=
  (catLoop_inv (I := MPerm) (fun hc hsh _ => mergeFromM_perm hc hsh) (fun h => h.1.totalTime) hPQ R useD
    ps ps' hp cur cat cat' hm hok).2

/-- the loop on two storage orders: a relation `J` between the merged sequences that `MergeFrom` of a pair of pieces
keeps, when the first piece satisfies `P`, holds between the results -/
theorem catLoop_classes {J : NoteSeq → NoteSeq → Prop} {P : NoteSeq → Prop}
    (hJ : ∀ {a a' b b'}, J a a' → NSPerm b b' → P b → J (mergeFrom a b) (mergeFrom a' b'))
    (R : Rat → Rat) (useD : Bool) {ps ps' : List (MSeq × Rat)} (hp : PairsPerm ps ps')
    (h0 : J emptyM.ns emptyM.ns) (hok : PiecesOK P R useD 0 emptyM ps)
    {r r' : MSeq} (h1 : catLoop R useD 0 emptyM ps = .ok r) (h2 : catLoop R useD 0 emptyM ps' = .ok r') :
    J r.ns r'.ns := by
  have h := (catLoop_inv (I := fun m m' => MPerm m m' ∧ J m.ns m'.ns) (Q := fun _ => True)
    (fun hI hsh hd => ⟨mergeFromM_perm hI.1 hsh, hJ hI.2 hsh.1 hd⟩) (fun h => h.1.1.totalTime) (fun _ _ => trivial)
    R useD ps ps' hp 0 _ _ ⟨MPerm.refl _, h0⟩ hok).1
  rw [h1, h2] at h
  exact h.2

/-- the hypothesis of `concat_perm_pieces` / `repeat_perm_pieces`: every input sequence, after the shift
the loop applies to it, satisfies `P` -/
def ConcatPieces (P : NoteSeq → Prop) (R : Rat → Rat) (seqs : List MSeq) (durs : List Rat) : Prop :=
  PiecesOK P R (!durs.isEmpty) 0 emptyM (catPairs seqs durs)

instance (P : NoteSeq → Prop) [DecidablePred P] (R : Rat → Rat) (seqs : List MSeq) (durs : List Rat) :
    Decidable (ConcatPieces P R seqs durs) := by unfold ConcatPieces; infer_instance

theorem distinctKeys_map {α : Type} (time : α → Rat) (f : α → α) (d : Rat) (hf : ∀ e, time (f e) = time e + d)
    {l : List α} (h : DistinctKeys time l) : DistinctKeys time (l.map f) :=
  List.pairwise_map.mpr (h.imp fun hab e => hab (Rat.add_right_cancel _ (by rw [← hf, ← hf, e])))

/-- in exact arithmetic a shift is injective on times: a piece placed at its offset has the ties of the input -/
theorem stateNoTies_placed (o : Rat) {s : MSeq} (hn : StateNoTies s.ns) : StateNoTies (placed id o s).ns := by
  unfold placed
  split
  · exact ⟨distinctKeys_map _ _ o (fun _ => rfl) hn.1, distinctKeys_map _ _ o (fun _ => rfl) hn.2.1,
      distinctKeys_map _ _ o (fun _ => rfl) hn.2.2⟩
  · exact hn

theorem noTies_placed {preserve : List Int} (o : Rat) {s : MSeq} (hn : NoTies preserve s.ns) :
    NoTies preserve (placed id o s).ns := by
  unfold placed
  split
  · obtain ⟨n1, n2, n3, n4, n5⟩ := hn
    refine ⟨distinctKeys_map _ _ o (fun _ => rfl) n1, distinctKeys_map _ _ o (fun _ => rfl) n2,
      distinctKeys_map _ _ o (fun _ => rfl) n3, ?_, ?_⟩
    · unfold NSV.C02.chords at n4 ⊢
      show DistinctKeys _ ((s.ns.texts.map _).filter _)
      rw [List.filter_map]
      exact distinctKeys_map _ _ o (fun _ => rfl) n4
    · unfold NSV.C02.pedals at n5 ⊢
      show ((s.ns.ccs.map _).filter _).Pairwise _
      rw [List.filter_map]
      exact List.pairwise_map.mpr (n5.imp fun hab ht => hab ⟨Rat.add_right_cancel _ ht.1, ht.2⟩)
  · exact hn

theorem concatPieces_exact {P : NoteSeq → Prop} (hP : ∀ o (s : MSeq), P s.ns → P (placed id o s).ns)
    {seqs : List MSeq} (durs : List Rat) (h : ∀ m ∈ seqs, P m.ns) : ConcatPieces P id seqs durs :=
  piecesOK_of_placed _ _ _ _ fun _ hp o => hP o _ (h _ (mem_catPairs hp).1)

def StateClasses (s s' : NoteSeq) : Prop :=
  SameClasses (·.time) s.timeSigs s'.timeSigs ∧ SameClasses (·.time) s.keySigs s'.keySigs ∧
  SameClasses (·.time) s.tempos s'.tempos

theorem finishCat_classes (mm : List String → String) {seqs seqs' : List MSeq} (hl : MPermList seqs seqs')
    {cat cat' : MSeq} (h : MPerm cat cat') (hc : StateClasses cat.ns cat'.ns) :
    MPerm (finishCat mm seqs cat) (finishCat mm seqs' cat') ∧
    (finishCat mm seqs cat).ns.timeSigs = (finishCat mm seqs' cat').ns.timeSigs ∧
    (finishCat mm seqs cat).ns.keySigs = (finishCat mm seqs' cat').ns.keySigs ∧
    (finishCat mm seqs cat).ns.tempos = (finishCat mm seqs' cat').ns.tempos :=
  removeRedundant_of_sorted (clearSub_perm mm hl h) (sortByRat_eq_of_classes _ hc.1)
    (sortByRat_eq_of_classes _ hc.2.1) (sortByRat_eq_of_classes _ hc.2.2)

theorem stateClasses_empty : StateClasses emptyM.ns emptyM.ns :=
  ⟨SameClasses.refl _ _, SameClasses.refl _ _, SameClasses.refl _ _⟩

theorem catLoop_stateClasses {P : NoteSeq → Prop} (hP : ∀ s, P s → StateNoTies s) (R : Rat → Rat) (useD : Bool)
    {ps ps' : List (MSeq × Rat)} (hp : PairsPerm ps ps') (hok : PiecesOK P R useD 0 emptyM ps) {r r' : MSeq}
    (h1 : catLoop R useD 0 emptyM ps = .ok r) (h2 : catLoop R useD 0 emptyM ps' = .ok r') :
    StateClasses r.ns r'.ns :=
  catLoop_classes (fun h hb hn => ⟨h.1.append hb.timeSigs (hP _ hn).1, h.2.1.append hb.keySigs (hP _ hn).2.1,
    h.2.2.append hb.tempos (hP _ hn).2.2⟩) R useD hp stateClasses_empty hok h1 h2

section extraction
open NSV.C02

theorem extractSubsequence_perm_of_agree (R : Rat → Rat) (preserve : List Int) {s s' : NoteSeq}
    (h : NSPerm s s') (ha : SortAgree preserve s s') (a b : Rat) :
    ResPerm (extractSubsequenceR R preserve s a b) (extractSubsequenceR R preserve s' a b) :=
  extractSubsequence_perm_of_pieces R preserve h (specPiece_perm_of_agree R preserve h ha) a b

theorem chords_mergeFrom (a b : NoteSeq) : chords (mergeFrom a b) = chords a ++ chords b := by
  unfold chords mergeFrom
  simp only [List.filter_append]

theorem pedals_mergeFrom (preserve : List Int) (a b : NoteSeq) :
    pedals preserve (mergeFrom a b) = pedals preserve a ++ pedals preserve b := by
  unfold pedals mergeFrom
  simp only [List.filter_append]

theorem concat_sortAgree (R : Rat → Rat) (mm : List String → String) (preserve : List Int)
    {seqs seqs' : List MSeq} (h : MPermList seqs seqs') (durs : List Rat)
    (hn : ConcatPieces (NoTies preserve) R seqs durs) {r r' : MSeq}
    (e1 : concatR R mm seqs durs = .ok r) (e2 : concatR R mm seqs' durs = .ok r') :
    MPerm r r' ∧ SortAgree preserve r.ns r'.ns := by
  rw [concatR_eq] at e1 e2
  rw [← h.length_eq] at e2
  split at e1
  · cases e1
  · rename_i hcond
    rw [if_neg hcond] at e2
    unfold ConcatPieces at hn
    obtain ⟨e, h1, h2⟩ | ⟨cat, cat', h1, h2, hc⟩ := (catLoop_start_perm R h durs).cases
    · rw [h1] at e1; cases e1
    · rw [h1] at e1
      rw [h2] at e2
      injection e1 with e1
      injection e2 with e2
      subst e1 e2
      have hp := catPairs_perm h durs
      have hst := catLoop_stateClasses (fun _ (x : NoTies preserve _) => ⟨x.2.1, x.2.2.1, x.1⟩) R _ hp hn h1 h2
      obtain ⟨hm, t1, t2, t3⟩ := finishCat_classes mm h hc hst
      have hx := catLoop_classes (J := fun s s' => SameClasses TextAnn.time (chords s) (chords s') ∧
          SameClasses (fun e : CC => (e.time, CC.key e)) (pedals preserve s) (pedals preserve s'))
        (fun h hb (x : NoTies preserve _) => by
          rw [chords_mergeFrom, chords_mergeFrom, pedals_mergeFrom, pedals_mergeFrom]
          exact ⟨h.1.append (chords_perm hb) x.2.2.2.1, h.2.append (pedals_perm preserve hb)
            (x.2.2.2.2.imp fun hab e => hab ⟨congrArg Prod.fst e, congrArg Prod.snd e⟩)⟩)
        R _ hp ⟨SameClasses.refl _ _, SameClasses.refl _ _⟩ hn h1 h2
      exact ⟨hm, by rw [t3], by rw [t1], by rw [t2], sortByRat_eq_of_classes _ hx.1, sortByRat_filter_key_eq _ _ hx.2⟩

end extraction

/-- the tempos of a `concatenate_sequences` result whose merged tempo list `ts` is already in time order (for the
examples: `List.mergeSort` does not reduce in the kernel, so they supply the sorted list themselves) -/
theorem concat_tempos_of_sorted {mm : List String → String} {seqs : List MSeq} {durs : List Rat} (ts : List Tempo)
    (hl : ¬ ((!durs.isEmpty) = true ∧ seqs.length ≠ durs.length))
    (hc : (catLoop id (!durs.isEmpty) 0 emptyM (catPairs seqs durs)).toOption.map (·.ns.tempos) = some ts)
    (hs : ts.Pairwise (fun a b => a.time ≤ b.time)) :
    (concatR id mm seqs durs).toOption.map (·.ns.tempos) = some (dropRepeats sameTempo ts) := by
  rw [concatR_eq, if_neg hl]
  cases h : catLoop id (!durs.isEmpty) 0 emptyM (catPairs seqs durs) with
  | error e => rw [h] at hc; simp [Except.toOption] at hc
  | ok cat =>
    rw [h] at hc
    simp only [Except.toOption, Option.map_some, Option.some.injEq] at hc
    show some (redTempos cat.ns.tempos) = _
    rw [hc]
    unfold redTempos
    rw [NSV.sortByRat_of_pairwise _ _ hs]

end NSV.C12

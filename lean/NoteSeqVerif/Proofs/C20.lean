import NoteSeqVerif.Model.C20
import NoteSeqVerif.Proofs.Basics
/-! C20 — what crop / repeat / stereo need of lists (Python slices, `np.concatenate([xs] * k)`, the masked assignment
of `make_stereo`), and `SignPreserving`: all that those theorems ask of the rounding operator (core Lean only). -/
namespace NSV.C20

theorem pySlice_nonneg {α} (xs : List α) (a n : Int) (ha : 0 ≤ a) (hn : 0 ≤ n) :
    pySlice xs a (a + n) = (xs.drop a.toNat).take n.toNat := by
  simp only [pySlice, pyIdx, if_neg (Int.not_lt.mpr ha), if_neg (Int.not_lt.mpr (Int.add_nonneg ha hn)),
    Int.toNat_add ha hn]
  -- inside the list both sides take `min n (len - a)` elements of the same tail; past its end both are empty
  rcases Nat.le_total a.toNat xs.length with h | h
  · rw [Nat.min_eq_left h, List.take_eq_take_iff, List.length_drop]; omega
  · rw [Nat.min_eq_right h, List.drop_eq_nil_of_le (Nat.le_refl _), List.drop_eq_nil_of_le h,
      List.take_nil, List.take_nil]

/-! ### slices / repetition commute with a per-frame map (multi-channel input: a frame is one list element) -/

theorem pySlice_map {α β} (f : α → β) (xs : List α) (a b : Int) :
    pySlice (xs.map f) a b = (pySlice xs a b).map f := by
  unfold pySlice
  simp only [List.length_map, List.map_take, List.map_drop]

/-! ### `np.concatenate([xs] * k)` -/

theorem length_flatten_replicate {α} (xs : List α) (k : Nat) :
    (List.replicate k xs).flatten.length = k * xs.length := by
  induction k with
  | zero => simp
  | succ k ih => simp [List.replicate_succ, ih, Nat.succ_mul, Nat.add_comm]

theorem getElem?_flatten_replicate {α} (xs : List α) (k i : Nat) (h : i < k * xs.length) :
    (List.replicate k xs).flatten[i]? = xs[i % xs.length]? := by
  induction k generalizing i with
  | zero => simp at h
  | succ k ih =>
    rw [List.replicate_succ, List.flatten_cons]
    by_cases hi : i < xs.length
    · rw [List.getElem?_append_left hi, Nat.mod_eq_of_lt hi]
    · rw [List.getElem?_append_right (by omega), ih (i - xs.length) (by rw [Nat.succ_mul] at h; omega),
        ← Nat.mod_eq_sub_mod (by omega)]

theorem mask_eq (m n : Nat) (h : n ≤ m) :
    (List.range m).map (fun i => decide (i < n)) = List.replicate n true ++ List.replicate (m - n) false := by
  obtain ⟨d, rfl⟩ := Nat.exists_eq_add_of_le h
  rw [List.range_add, List.map_append, List.map_map, Nat.add_sub_cancel_left]
  congr 1
  · exact List.eq_replicate_iff.mpr ⟨by rw [List.length_map, List.length_range], fun b hb => by
      obtain ⟨i, hi, rfl⟩ := List.mem_map.mp hb
      exact decide_eq_true (List.mem_range.mp hi)⟩
  · exact List.eq_replicate_iff.mpr ⟨by rw [List.length_map, List.length_range], fun b hb => by
      obtain ⟨i, _, rfl⟩ := List.mem_map.mp hb
      exact decide_eq_false (Nat.not_lt.mpr (Nat.le_add_right n i))⟩

theorem fillMasked_true {α} (z : α) (l : List α) (rest : List Bool) (vs : List α) :
    fillMasked z (List.replicate l.length true ++ rest) (l ++ vs) =
      (fillMasked z rest vs).map (l ++ ·) := by
  induction l with
  | nil => cases h : fillMasked z rest vs <;> simp [Except.map, h]
  | cons a l ih =>
    simp only [List.length_cons, List.replicate_succ, List.cons_append, fillMasked, ih]
    cases fillMasked z rest vs <;> simp [Except.map]

theorem fillMasked_false {α} (z : α) (k : Nat) (rest : List Bool) (vs : List α) :
    fillMasked z (List.replicate k false ++ rest) vs =
      (fillMasked z rest vs).map (List.replicate k z ++ ·) := by
  induction k with
  | zero => cases h : fillMasked z rest vs <;> simp [Except.map, h]
  | succ k ih =>
    simp only [List.replicate_succ, List.cons_append, fillMasked, ih]
    cases fillMasked z rest vs <;> simp [Except.map]

theorem rat_div_pos (a b : Rat) (ha : 0 < a) (hb : 0 < b) : 0 < a / b := by
  rw [Rat.div_def]; exact Rat.mul_pos ha (Rat.inv_pos.mpr hb)

theorem rat_ceil_pos (x : Rat) (h : 0 < x) : 0 < x.ceil := by
  have := @Rat.le_ceil x
  have : (0 : Rat) < (x.ceil : Rat) := by grind
  exact Rat.intCast_pos.mp this

/-- what the theorems need of the rounding operator: zero stays zero, positive stays positive -/
structure SignPreserving (R : Rat → Rat) : Prop where
  zero : R 0 = 0
  pos : ∀ x, 0 < x → 0 < R x

theorem SignPreserving.nonneg {R} (h : SignPreserving R) (x : Rat) (hx : 0 ≤ x) : 0 ≤ R x := by
  by_cases h0 : x = 0
  · subst h0; rw [h.zero]; exact Rat.le_refl
  · exact Rat.le_of_lt (h.pos x (by grind))

theorem secToSamples_nonneg {R} (hR : SignPreserving R) (secs : Rat) (rate : Int)
    (hs : 0 ≤ secs) (hr : 0 ≤ rate) : 0 ≤ secToSamples R secs rate := by
  unfold secToSamples
  apply truncR_nonneg
  apply hR.nonneg
  exact Rat.mul_nonneg hs (Rat.intCast_nonneg.mpr hr)

theorem secToSamples_zero {R} (hR : SignPreserving R) (rate : Int) : secToSamples R 0 rate = 0 := by
  unfold secToSamples
  rw [Rat.zero_mul, hR.zero]
  decide

/-- the masked assignment into `np.zeros((2, maxlen))` produces the two zero-padded rows -/
theorem stereo_rows {α} (z : α) (l r : List α) :
    fillMasked z
      ((List.range (max l.length r.length)).map (fun i => decide (i < l.length)) ++
       (List.range (max l.length r.length)).map (fun i => decide (i < r.length))) (l ++ r) =
    .ok ((l ++ List.replicate (max l.length r.length - l.length) z) ++
         (r ++ List.replicate (max l.length r.length - r.length) z)) := by
  have hr := fillMasked_true z r (List.replicate (max l.length r.length - r.length) false ++ []) []
  rw [fillMasked_false, List.append_nil, List.append_nil] at hr
  rw [mask_eq _ _ (Nat.le_max_left ..), mask_eq _ _ (Nat.le_max_right ..), List.append_assoc,
    fillMasked_true, fillMasked_false, hr]
  simp only [fillMasked, Except.map, List.append_nil, List.append_assoc]

theorem pad_eq_map {α} (z : α) (l : List α) (m : Nat) (h : l.length ≤ m) :
    l ++ List.replicate (m - l.length) z = (List.range m).map fun i => l[i]?.getD z := by
  apply List.ext_getElem?
  intro i
  rw [List.getElem?_map]
  by_cases hi : i < m
  · rw [List.getElem?_range hi, Option.map_some]
    by_cases c : i < l.length
    · rw [List.getElem?_append_left c, List.getElem?_eq_getElem c]; rfl
    · rw [List.getElem?_append_right (by omega), List.getElem?_replicate, if_pos (by omega),
        List.getElem?_eq_none (by omega)]; rfl
  · rw [List.getElem?_eq_none (by simp; omega), List.getElem?_eq_none (by simp; omega)]; rfl

end NSV.C20

import NoteSeqVerif.Proofs.C06Float
import NoteSeqVerif.Proofs.C06Quant
import NoteSeqVerif.Props.C07_float
/-! C06 — joining the two halves: with `render_quantize_exact` every time of a rendered sequence quantizes to its
step, so `quantize_note_sequence` returns the stepped sequence (`quantize_rendered`); and the bar of a rendered
sequence (implicit 4/4) is `4·spq` steps, computed exactly by the three float operations. -/
namespace NSV.C06

/-- `steps_per_bar_in_quantized_sequence` of a quantized rendered sequence: `spq * (4.0 / 4 * 4)`.  The C07 model
computes the bar under `rne53` whatever rounding `R` the times were rendered and quantized with; the three operations
are exact here, so the choice does not show -/
theorem stepsPerBar_stepped (tm : Int → Rat) (qpm : ℚ) (spq S vel inst prog : ℤ) (drum : Bool)
    (notes : List SNote) (chords : List (ℤ × String)) (tt : ℚ) (tq : ℤ) (h0 : 0 < spq) (h1 : spq ≤ 2 ^ 40) :
    C07.stepsPerBar (steppedSeq tm qpm spq S vel inst prog drum notes chords tt tq) = .ok (4 * spq) := by
  -- the three float operations are exact: a power-of-two denominator and `|spq·4| ≤ 2^53`
  obtain ⟨e1, e2, e3⟩ := C07.spbExact_of_pow2_den rounding_rne53 h0 2 (by decide : (4 : ℤ) = 2 ^ 2)
    (show (spq * 4).natAbs ≤ 2 ^ 53 by omega)
  have e : (spq : ℚ) * (4 / ((4 : ℤ) : ℚ) * ((4 : ℤ) : ℚ)) = ((4 * spq : ℤ) : ℚ) := by push_cast; ring
  unfold C07.stepsPerBar C07.stepsPerBarR C07.stepsPerBarFloatR
  simp only [steppedSeq, h0, not_true_eq_false, ↓reduceIte, show ¬ (4 : ℤ) = 0 by decide, e1, e2, e3.trans e]
  rw [if_neg (by rw [Rat.den_intCast]; simp), Rat.num_intCast]

/-- no `ZeroDivisionError` in `60.0 / qpm / steps_per_quarter` -/
theorem no_zero_div {qpm : ℚ} {spq : ℤ} (hq : 0 < qpm) (hspq : 0 < spq) : ¬ (qpm = 0 ∨ spq = 0) := by
  rintro (h | h)
  · rw [h] at hq; exact lt_irrefl _ hq
  · omega

/-- `quantize_note_sequence` returns the rendered sequence with every index turned into the step `S + index` -/
theorem quantize_rendered {R : ℚ → ℚ} (hR : Rounding R) (qpm : ℚ) (spq S vel inst prog : ℤ) (drum : Bool)
    (notes : List SNote) (chords : List (ℤ × String)) (tt : ℚ)
    (hq : 0 < qpm) (hspq : 0 < spq) (hS : 0 ≤ S)
    (hn : ∀ d ∈ notes, 0 ≤ d.a ∧ d.a < d.b ∧ S + d.b < 2 ^ 40)
    (hc : ∀ c ∈ chords, 0 ≤ c.1 ∧ S + c.1 < 2 ^ 40) :
    quantizeStage R spq (.ok (timedSeq (stepTimeR R (secPerStepR R qpm spq) (seqStartR R (secPerStepR R qpm spq) S))
        qpm vel inst prog drum notes chords tt)) =
      .ok (steppedSeq (stepTimeR R (secPerStepR R qpm spq) (seqStartR R (secPerStepR R qpm spq) S))
        qpm spq S vel inst prog drum notes chords tt
        (totalAfter S notes (C01.qstepR R (1 / 2) tt (C01.spsR R spq qpm)))) := by
  have hq' : ∀ k : ℤ, 0 ≤ k → S + k < 2 ^ 40 →
      C01.qstepR R (1 / 2) (stepTimeR R (secPerStepR R qpm spq) (seqStartR R (secPerStepR R qpm spq) S) k)
        (C01.spsR R spq qpm) = S + k :=
    fun k hk hK => render_quantize_exact hR qpm spq S k hq hspq hS hk hK
  have := quantize_timedSeq R (stepTimeR R (secPerStepR R qpm spq) (seqStartR R (secPerStepR R qpm spq) S))
    qpm spq S vel inst prog drum notes chords tt C01.Gen.DEFAULT_QPM
    (by
      intro d hd
      obtain ⟨h1, h2, h3⟩ := hn d hd
      exact ⟨hq' d.a h1 (by omega), hq' d.b (by omega) h3, h2, by omega⟩)
    (by
      intro c hcm
      obtain ⟨h1, h2⟩ := hc c hcm
      exact ⟨hq' c.1 h1 h2, by omega⟩)
  unfold quantizeStage
  simp only
  rw [show C01.Gen.QUANTIZE_CUTOFF = (1 / 2 : ℚ) from rfl, this]

end NSV.C06

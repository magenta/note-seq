import NoteSeqVerif.Proofs.Rounding
import NoteSeqVerif.Proofs.Near
/-! Applications of `RoundingP` (any rounding operator with the listed algebraic facts, in
particular the executable `rne53` / `rne24`) that mention no model:

* rounding keeps the sign (`eq_zero_iff`, `pos_iff`);
* rounding, adding `1/2` and rounding again (`add_half_err`, `intCast_le`, `floor_eq_of_far_from_half`): what
  `quantize_to_step` in floating point rests on (`Proofs/C01Float.lean`);
* `FExpr.chain_rel_err`: any `+,*,/` expression over positive inputs with at most 10
  roundings has relative error `≤ 2^-49`; the calculus behind it is that of Proofs/Near.lean;
* `grid_roundtrip`: `(k · (1/fps)) · fps` comes back to `k` up to `k·2^-50` (three roundings). -/
namespace NSV

namespace RoundingP
variable {p : ℕ} {R : ℚ → ℚ}

theorem nonneg (h : RoundingP p R) {a : ℚ} (ha : 0 ≤ a) : 0 ≤ R a := by
  have := h.mono 0 a ha; rwa [h.zero] at this

theorem one (h : RoundingP p R) (hp : 1 ≤ p) : R 1 = 1 := by
  have := h.exact_int 1 (by simpa using Nat.one_lt_two_pow (by omega))
  simpa using this

theorem exact_dyadic (h : RoundingP p R) (hp : 1 ≤ p) (n : ℤ) (hn : n.natAbs ≤ 2 ^ p) (k : ℤ) :
    R ((n : ℚ) * 2 ^ k) = (n : ℚ) * 2 ^ k := by
  rw [h.exact_pow2_mul]
  congr 1
  rcases Nat.lt_or_eq_of_le hn with hlt | heq
  · exact h.exact_int n hlt
  · have h2 : R ((2 : ℚ) ^ p) = (2 : ℚ) ^ p := by
      have := h.exact_pow2_mul 1 (p : ℤ)
      rwa [h.one hp, one_mul, zpow_natCast] at this
    rcases Int.natAbs_eq n with e | e
    · rw [e, heq]; push_cast; exact h2
    · rw [e, heq]; push_cast; rw [h.neg, h2]

theorem exact_int_le (h : RoundingP p R) (hp : 1 ≤ p) (n : ℤ) (hn : n.natAbs ≤ 2 ^ p) :
    R (n : ℚ) = n := by
  have := h.exact_dyadic hp n hn 0; simpa using this

theorem exact_half_int (h : RoundingP p R) (hp : 1 ≤ p) (n : ℤ) (hn : n.natAbs ≤ 2 ^ p) :
    R ((n : ℚ) / 2) = (n : ℚ) / 2 := by
  have := h.exact_dyadic hp n hn (-1)
  rwa [zpow_neg_one, ← div_eq_mul_inv] at this

theorem half (h : RoundingP p R) (hp : 1 ≤ p) : R (1 / 2) = 1 / 2 := by
  have := h.exact_half_int hp 1 (by simpa using Nat.one_le_two_pow)
  simpa using this

theorem bounds (h : RoundingP p R) {a : ℚ} (ha : 0 ≤ a) :
    a * (1 - 1 / 2 ^ p) ≤ R a ∧ R a ≤ a * (1 + 1 / 2 ^ p) := by
  have := h.rel_err a
  rw [abs_of_nonneg ha, abs_le] at this
  exact ⟨by linarith only [this.1], by linarith only [this.2]⟩

theorem relErr (h : RoundingP p R) : RelErr p R := fun _ ha => h.bounds ha

theorem eq_zero_iff (hR : RoundingP p R) (hp : 1 ≤ p) (x : ℚ) : R x = 0 ↔ x = 0 := by
  constructor
  · intro h
    have he := hR.rel_err x
    rw [h, zero_sub, abs_neg] at he
    have h2 : (1 : ℚ) / 2 ^ p ≤ 1 / 2 := by
      have : (2 : ℚ) ^ 1 ≤ 2 ^ p := pow_le_pow_right₀ (by norm_num) hp
      rw [div_le_div_iff₀ (by positivity) (by norm_num)]; linarith
    have h3 : |x| * (1 / 2 ^ p) ≤ |x| * (1 / 2) := mul_le_mul_of_nonneg_left h2 (abs_nonneg x)
    have h4 : |x| ≤ 0 := by linarith
    exact abs_eq_zero.mp (le_antisymm h4 (abs_nonneg x))
  · intro h; rw [h, hR.zero]

theorem pos_iff (hR : RoundingP p R) (hp : 1 ≤ p) (x : ℚ) : 0 < R x ↔ 0 < x := by
  constructor
  · intro h
    by_contra hx
    have := hR.mono x 0 (not_lt.mp hx)
    linarith [hR.zero]
  · exact hR.relErr.pos hp

/-- Up to magnitude `2^p` every integer is a fixed point, so rounding a number in that range
does not cross an integer. -/
theorem intCast_le (h : RoundingP p R) (hp : 1 ≤ p) {x : ℚ} (hx : |x| ≤ 2 ^ p) {n : ℤ}
    (hn : (n : ℚ) ≤ x) : (n : ℚ) ≤ R x := by
  obtain ⟨hxl, hxu⟩ := abs_le.mp hx
  by_cases hn' : n.natAbs ≤ 2 ^ p
  · rw [← h.exact_int_le hp n hn']; exact h.mono _ _ hn
  · -- `n ≤ x ≤ 2^p` leaves `n < -2^p`, and `-2^p` is a fixed point below `x`
    have h1 := h.mono _ _ hxl
    rw [show -(2 : ℚ) ^ p = ((-(2 ^ p) : ℤ) : ℚ) by push_cast; rfl,
      h.exact_int_le hp _ (by simp)] at h1
    have h2 : n ≤ 2 ^ p := by exact_mod_cast hn.trans hxu
    have h2' : ¬ (n.natAbs : ℤ) ≤ 2 ^ p := by exact_mod_cast hn'
    have h3 : (n : ℚ) ≤ ((-(2 ^ p) : ℤ) : ℚ) := by exact_mod_cast (by omega : n ≤ -(2 ^ p))
    exact h3.trans h1

theorem le_intCast (h : RoundingP p R) (hp : 1 ≤ p) {x : ℚ} (hx : |x| ≤ 2 ^ p) {n : ℤ}
    (hn : x ≤ (n : ℚ)) : R x ≤ (n : ℚ) := by
  have := h.intCast_le hp (x := -x) (by rwa [abs_neg]) (n := -n) (by push_cast; linarith)
  rw [h.neg] at this; push_cast at this; linarith

/-- `x ↦ R x ↦ R (R x + 1/2)` moves `x + 1/2` by at most `(2x + 1)·2^-p`, as long as
`x·2^-p ≤ 1/2`: the first error is `≤ x·u`, the second `≤ (x + x·u + 1/2)·u ≤ (x + 1)·u`. -/
theorem add_half_err (h : RoundingP p R) {x : ℚ} (h0 : 0 ≤ x) (hx : x ≤ 2 ^ p / 2) :
    |R (R x + 1 / 2) - (x + 1 / 2)| ≤ (2 * x + 1) / 2 ^ p := by
  obtain ⟨u, hu⟩ : ∃ u : ℚ, u = 1 / 2 ^ p := ⟨_, rfl⟩
  have hu0 : 0 ≤ u := by rw [hu]; positivity
  have hxu : x * u ≤ 1 / 2 := by rw [hu, mul_one_div, div_le_iff₀ (by positivity)]; linarith only [hx]
  have hz : 0 ≤ R x + 1 / 2 := add_nonneg (h.nonneg h0) (by norm_num)
  have e1 := h.rel_err x
  have e2 := h.rel_err (R x + 1 / 2)
  rw [abs_of_nonneg h0, ← hu, abs_le] at e1
  rw [abs_of_nonneg hz, ← hu, abs_le] at e2
  have p1 : R x * u ≤ (x + x * u) * u := mul_le_mul_of_nonneg_right (by linarith only [e1.2]) hu0
  have p2 : x * u * u ≤ 1 / 2 * u := mul_le_mul_of_nonneg_right hxu hu0
  rw [show (2 * x + 1) / 2 ^ p = (2 * x + 1) * u by rw [hu, mul_one_div], abs_le]
  exact ⟨by linarith only [e1.1, e2.1, p1, p2], by linarith only [e1.2, e2.2, p1, p2]⟩

end RoundingP

/-- if `x` stays at least `δ` away from every half-integer, anything closer than `δ` to
`x + 1/2` has the same floor -/
theorem floor_eq_of_far_from_half {x y δ : ℚ} (hy : |y - (x + 1 / 2)| < δ)
    (hfar : ∀ n : ℤ, δ ≤ |x - ((n : ℚ) + 1 / 2)|) : ⌊y⌋ = ⌊x + 1 / 2⌋ := by
  obtain ⟨y1, y2⟩ := abs_lt.mp hy
  have hN1 := Int.floor_le (x + 1 / 2)
  have hN2 := Int.lt_floor_add_one (x + 1 / 2)
  have m1 := hfar (⌊x + 1 / 2⌋ - 1)
  have m2 := hfar ⌊x + 1 / 2⌋
  rw [abs_of_nonneg (by push_cast; linarith only [hN1])] at m1
  rw [abs_of_nonpos (by linarith only [hN2])] at m2
  push_cast at m1
  exact Int.floor_eq_iff.mpr ⟨by linarith only [y1, m1], by linarith only [y2, m2]⟩

/-! `NearN` read at precision 53 for callers that hold `Near 53` and a sign fact. -/

theorem near_zero_zero (n : ℕ) : Near 53 n 0 0 := by simp [Near]

theorem near_nonneg {n : ℕ} {a' a : ℚ} (h : Near 53 n a' a) (ha : 0 ≤ a) : 0 ≤ a' := (NearN.of ha h).nonneg

theorem near_abs {N : ℕ} {a' a : ℚ} (h : Near 53 N a' a) (ha : 0 ≤ a) (hN : N * (N + 1) ≤ 2 ^ 53) :
    |a' - a| ≤ a * (((N : ℚ) + 1) * (1 / 2 ^ 53)) := (NearN.of ha h).abs_le (by norm_num) hN

inductive FExpr where
  | lit (a : ℚ)
  | add (x y : FExpr)
  | mul (x y : FExpr)
  | div (x y : FExpr)

namespace FExpr

def exact : FExpr → ℚ
  | lit a => a
  | add x y => x.exact + y.exact
  | mul x y => x.exact * y.exact
  | div x y => x.exact / y.exact

/-- the floating-point value: `R` after every operation -/
def rounded (R : ℚ → ℚ) : FExpr → ℚ
  | lit a => a
  | add x y => R (x.rounded R + y.rounded R)
  | mul x y => R (x.rounded R * y.rounded R)
  | div x y => R (x.rounded R / y.rounded R)

/-- number of operations = number of roundings -/
def ops : FExpr → ℕ
  | lit _ => 0
  | add x y => x.ops + y.ops + 1
  | mul x y => x.ops + y.ops + 1
  | div x y => x.ops + y.ops + 1

def Pos : FExpr → Prop
  | lit a => 0 < a
  | add x y => x.Pos ∧ y.Pos
  | mul x y => x.Pos ∧ y.Pos
  | div x y => x.Pos ∧ y.Pos

theorem exact_pos : ∀ e : FExpr, e.Pos → 0 < e.exact
  | lit _, h => h
  | add x y, h => add_pos (exact_pos x h.1) (exact_pos y h.2)
  | mul x y, h => mul_pos (exact_pos x h.1) (exact_pos y h.2)
  | div x y, h => div_pos (exact_pos x h.1) (exact_pos y h.2)

theorem nearN {p : ℕ} {R : ℚ → ℚ} (hR : RelErr p R) (hp : 1 ≤ p) :
    ∀ e : FExpr, e.Pos → NearN p e.ops (e.rounded R) e.exact
  | lit _, h => .lit (le_of_lt h)
  | add x y, h => (((nearN hR hp x h.1).add (nearN hR hp y h.2)).mono
      (max_le (Nat.le_add_right _ _) (Nat.le_add_left _ _))).rnd hR
  | mul x y, h => ((nearN hR hp x h.1).mul (nearN hR hp y h.2)).rnd hR
  | div x y, h => ((nearN hR hp x h.1).div hp (nearN hR hp y h.2) (exact_pos y h.2)).rnd hR

theorem near {p : ℕ} {R : ℚ → ℚ} (hR : RoundingP p R) (hp : 1 ≤ p) :
    ∀ e : FExpr, e.Pos → Near p e.ops (e.rounded R) e.exact :=
  fun e h => (nearN hR.relErr hp e h).2

/-- a chain of at most `N` roundings has relative error `c` as soon as `1 - c ≤ w^N` and
`1 ≤ (1 + c)·w^N`, `w = 1 - 2^-p`: two numerical facts for given `p`, `N`, `c` -/
theorem rel_err {p : ℕ} {R : ℚ → ℚ} (hR : RoundingP p R) (hp : 1 ≤ p) (e : FExpr) (hpos : e.Pos)
    {N : ℕ} (hops : e.ops ≤ N) {c : ℚ} (hc1 : 1 - c ≤ (1 - 1 / 2 ^ p) ^ N)
    (hc2 : 1 ≤ (1 + c) * (1 - 1 / 2 ^ p) ^ N) : |e.rounded R - e.exact| ≤ e.exact * c :=
  ((nearN hR.relErr hp e hpos).mono hops).2.abs_le (exact_pos e hpos) hc1 hc2 (pow_pos (Near.w_pos hp) N)

/-- a `+,*,/` chain over positive inputs with at most 10 float64 roundings has relative
error at most `2^-49` -/
theorem chain_rel_err {R : ℚ → ℚ} (hR : Rounding R) (e : FExpr) (hpos : e.Pos)
    (hops : e.ops ≤ 10) : |e.rounded R - e.exact| ≤ e.exact * (1 / 2 ^ 49) :=
  rel_err hR (by norm_num) e hpos hops (by norm_num) (by norm_num)

theorem chain_rel_err24 {R : ℚ → ℚ} (hR : Rounding24 R) (e : FExpr) (hpos : e.Pos)
    (hops : e.ops ≤ 10) : |e.rounded R - e.exact| ≤ e.exact * (1 / 2 ^ 20) :=
  rel_err hR (by norm_num) e hpos hops (by norm_num) (by norm_num)

/-- non-vacuity: `spq·qpm/60·t + 1/2` with float inputs is a 4-operation positive chain -/
example : |rne53 (rne53 (rne53 (rne53 (4 * 117) / 60) * (3 / 8)) + 1 / 2)
    - ((4 * 117 / 60 * (3 / 8) + 1 / 2 : ℚ))| ≤ (4 * 117 / 60 * (3 / 8) + 1 / 2 : ℚ) * (1 / 2 ^ 49) :=
  chain_rel_err rounding_rne53
    (.add (.mul (.div (.mul (.lit 4) (.lit 117)) (.lit 60)) (.lit (3 / 8))) (.lit (1 / 2)))
    (by simp [Pos]) (by simp [ops])

end FExpr

/-- `k ↦ k·(1/fps) ↦ ·fps` with three roundings returns to `k` up to `k·2^-51`
(any `k ≥ 0`, any `fps > 0`; no representability assumption is needed) -/
theorem grid_roundtrip_sharp {R : ℚ → ℚ} (hR : Rounding R) (k fps : ℚ) (hk : 0 ≤ k)
    (hfps : 0 < fps) : |R (R (k * R (1 / fps)) * fps) - k| ≤ k * (1 / 2 ^ 51) :=
  ((grid_chain hR.relErr (by norm_num) hk hfps).abs_le (by norm_num) (by norm_num)).trans
    (mul_le_mul_of_nonneg_left (by norm_num) hk)

/-- stated on the range of a frame index `k < 2^31` and a frame rate `1 ≤ fps ≤ 1000`; of these hypotheses the
proof uses `0 < fps` only (`grid_roundtrip_sharp`) -/
theorem grid_roundtrip {R : ℚ → ℚ} (hR : Rounding R) (k : ℕ) (_hk : k < 2 ^ 31) (fps : ℚ)
    (_hrep : R fps = fps) (h1 : 1 ≤ fps) (_h2 : fps ≤ 1000) :
    |R (R ((k : ℚ) * R (1 / fps)) * fps) - k| ≤ (k : ℚ) * (1 / 2 ^ 50) := by
  have hk0 : (0 : ℚ) ≤ k := Nat.cast_nonneg k
  refine (grid_roundtrip_sharp hR k fps hk0 (by linarith)).trans ?_
  exact mul_le_mul_of_nonneg_left (by norm_num) hk0

/-- … hence inside the snapping window `1e-9·max(1,k)` of `time_to_frames` -/
theorem grid_roundtrip_snap {R : ℚ → ℚ} (hR : Rounding R) (k : ℕ) (fps : ℚ) (hfps : 0 < fps) :
    |R (R ((k : ℚ) * R (1 / fps)) * fps) - k| ≤ 1 / 10 ^ 9 * max 1 (k : ℚ) := by
  have hk0 : (0 : ℚ) ≤ k := Nat.cast_nonneg k
  refine (grid_roundtrip_sharp hR k fps hk0 hfps).trans ?_
  calc (k : ℚ) * (1 / 2 ^ 51) ≤ max 1 (k : ℚ) * (1 / 10 ^ 9) :=
        mul_le_mul (le_max_right _ _) (by norm_num) (by positivity) (by positivity)
    _ = 1 / 10 ^ 9 * max 1 (k : ℚ) := mul_comm _ _

/-- instance for the executable float64 model, in the shape used by C18's `timeToFrames`
(`fls = R (1/fps)`, note time `R (k·fls)`, frames `R (time·fps)`) -/
theorem grid_roundtrip_rne53 (k : ℕ) (fps : ℚ) (hfps : 0 < fps) :
    |rne53 (rne53 ((k : ℚ) * rne53 (1 / fps)) * fps) - k| ≤ 1 / 10 ^ 9 * max 1 (k : ℚ) :=
  grid_roundtrip_snap rounding_rne53 k fps hfps

/-- non-vacuity of `grid_roundtrip`: 44100/512 fps (a float64), frame 123456 -/
example : |rne53 (rne53 ((123456 : ℕ) * rne53 (1 / (11025 / 128))) * (11025 / 128)) - (123456 : ℕ)|
    ≤ ((123456 : ℕ) : ℚ) * (1 / 2 ^ 50) :=
  grid_roundtrip rounding_rne53 123456 (by norm_num) (11025 / 128) (by decide +kernel)
    (by norm_num) (by norm_num)

end NSV

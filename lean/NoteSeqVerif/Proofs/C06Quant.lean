import NoteSeqVerif.Model.C06
import NoteSeqVerif.Proofs.C01
/-! C06 — what `quantize_note_sequence` (C01 model) returns on a rendered sequence whose times quantize to
their step indexes: the same sequence with `quantized_start_step = S + a`, `quantized_end_step = S + b`,
`quantized_step = S + k`, the implicit 4/4 time signature, `steps_per_quarter`, and
`total_quantized_steps` = the furthest of `q(total_time)` and the note ends.  (core Lean only) -/
namespace NSV.C06

def qNote (tm : Int → Rat) (vel inst prog : Int) (drum : Bool) (S : Int) (d : SNote) : Note :=
  { rNote tm vel inst prog drum d with qs := S + d.a, qe := S + d.b }

def qChord (tm : Int → Rat) (S : Int) (c : Int × String) : TextAnn :=
  { rChord tm c with qstep := S + c.1 }

/-- `total_quantized_steps` after the note loop of `_quantize_notes` -/
def totalAfter (S : Int) (notes : List SNote) (t0 : Int) : Int :=
  notes.foldl (fun t d => if t < S + d.b then S + d.b else t) t0

/-- used for PianorollSequence, where `total_time` is the time of index `len` and every run ends by then -/
theorem totalAfter_eq (S : Int) (notes : List SNote) (t0 : Int) (h : ∀ d ∈ notes, S + d.b ≤ t0) :
    totalAfter S notes t0 = t0 := by
  have e := List.foldl_map (l := notes) (f := fun d => S + d.b) (g := max) (init := t0)
  simp only [totalAfter, C01.ite_lt_eq_max, ← e]
  exact Int.le_antisymm ((foldl_max_le _ t0 t0).mpr ⟨Int.le_refl _, List.forall_mem_map.mpr h⟩) (foldl_max_ge _ t0).1

/-- the quantized form of `timedSeq` -/
def steppedSeq (tm : Int → Rat) (qpm : Rat) (spq S vel inst prog : Int) (drum : Bool) (notes : List SNote)
    (chords : List (Int × String)) (totalTime : Rat) (totalQ : Int) : NoteSeq :=
  { notes := notes.map (qNote tm vel inst prog drum S), texts := chords.map (qChord tm S),
    tempos := [⟨0, qpm⟩], timeSigs := [⟨0, 4, 4⟩], totalTime := totalTime, totalQSteps := totalQ,
    spq := spq, tpq := Gen.STANDARD_PPQ }

theorem quantize_timedSeq (R : Rat → Rat) (tm : Int → Rat) (qpm : Rat) (spq S vel inst prog : Int) (drum : Bool)
    (notes : List SNote) (chords : List (Int × String)) (totalTime : Rat) (dq : Rat)
    (hn : ∀ d ∈ notes, C01.qstepR R (1 / 2) (tm d.a) (C01.spsR R spq qpm) = S + d.a ∧
        C01.qstepR R (1 / 2) (tm d.b) (C01.spsR R spq qpm) = S + d.b ∧ d.a < d.b ∧ 0 ≤ S + d.a)
    (hc : ∀ c ∈ chords, C01.qstepR R (1 / 2) (tm c.1) (C01.spsR R spq qpm) = S + c.1 ∧ 0 ≤ S + c.1) :
    C01.quantizeRelR R (1 / 2) dq (timedSeq tm qpm vel inst prog drum notes chords totalTime) spq =
      .ok (steppedSeq tm qpm spq S vel inst prog drum notes chords totalTime
            (totalAfter S notes (C01.qstepR R (1 / 2) totalTime (C01.spsR R spq qpm)))) := by
  have hk : C01.keptTimeSig (timedSeq tm qpm vel inst prog drum notes chords totalTime) = ⟨0, 4, 4⟩ := rfl
  have hq : C01.keptTempo dq (timedSeq tm qpm vel inst prog drum notes chords totalTime) = ⟨0, qpm⟩ := rfl
  rw [C01.quantizeRelR_eq, if_neg (by simp [timedSeq, C01.tsChange, C01.tsImplicit]), hk,
    if_neg (by decide), if_neg (by simp [timedSeq, C01.tpChange, C01.tpImplicit]), hq]
  simp only []
  generalize hqd : (fun t => C01.qstepR R (1 / 2) t (C01.spsR R spq qpm)) = q
  have hn' : ∀ d ∈ notes, q (tm d.a) = S + d.a ∧ q (tm d.b) = S + d.b ∧ d.a < d.b ∧ 0 ≤ S + d.a :=
    hqd ▸ hn
  have hc' : ∀ c ∈ chords, q (tm c.1) = S + c.1 ∧ 0 ≤ S + c.1 := hqd ▸ hc
  have e1 : ∀ d ∈ notes, (C01.qNote q ∘ rNote tm vel inst prog drum) d = qNote tm vel inst prog drum S d := by
    intro d hd
    obtain ⟨h1, h2, h3, _⟩ := hn' d hd
    simp only [Function.comp, C01.qNote, C01.fixEnd, qNote, rNote, h1, h2, if_neg (show ¬ S + d.b = S + d.a by omega)]
  have e2 : ∀ c ∈ chords, ((fun c : TextAnn => { c with qstep := q c.time }) ∘ rChord tm) c = qChord tm S c := by
    intro c hc
    simp only [Function.comp, qChord, rChord, (hc' c hc).1]
  have e3 : ∀ d ∈ notes, ((fun n => (C01.qNote q n).qe) ∘ rNote tm vel inst prog drum) d = S + d.b :=
    fun d hd => congrArg Note.qe (e1 d hd)
  rw [C01.quantizeNotes_spec, if_neg]
  · simp only [C01.quantized, steppedSeq, timedSeq, List.map_map, totalAfter, C01.ite_lt_eq_max]
    rw [List.map_congr_left e1, List.map_congr_left e2, List.map_congr_left e3, List.foldl_map]
    rfl
  · simp only [C01.anyNeg, timedSeq, List.mem_map, C01.noteNeg]
    rintro (⟨_, ⟨d, hd, rfl⟩, h⟩ | ⟨_, h, _⟩ | ⟨_, ⟨c, hc, rfl⟩, h⟩)
    · obtain ⟨h1, h2, h3, h4⟩ := hn' d hd
      simp only [rNote, h1, h2, C01.fixEnd] at h
      split at h <;> omega
    · cases h
    · have := hc' c hc
      simp only [rChord] at h
      omega

end NSV.C06

import NoteSeqVerif.Model.C02
/-! C02 — `run_eq_spec`, the closed form of the generic single-pass loop: for sorted events and
sorted split times, piece `[a, b)` is

    enter (memory after all events "before" a)  ++  (events within (a, b)).map (place a b)

(`before`/`within` are `≤ a`, `a < · < b` for the state loops and `< a`, `a ≤ · < b` for notes and beats). -/
namespace NSV.C02

variable {α μ : Type}

/-- the event time `t` lies inside the piece `[a, b)`: strictly after `a` for state events (an event
at `a` is carried state), from `a` on for notes and beats; always strictly before `b`. -/
def within (strict : Bool) (a b t : Rat) : Bool :=
  if strict then decide (a < t) && decide (t < b) else decide (a ≤ t) && decide (t < b)

/-- events stored inside the piece `[a, b)`, in the order of `E` -/
def inside (L : Loop α μ) (a b : Rat) (E : List α) : List α :=
  (E.filter (fun e => within L.strict a b (L.time e))).map (L.place a b)

/-- the remembered state at split time `x`: all events before `x` folded into `m` -/
def memAt (L : Loop α μ) (m : μ) (x : Rat) (E : List α) : μ :=
  (E.filter (fun e => before L.strict x (L.time e))).foldl L.upd m

def pieceSpec (L : Loop α μ) (m : μ) (E : List α) (ab : Rat × Rat) : List α :=
  L.enter (memAt L m ab.1 E) ++ inside L ab.1 ab.2 E

def tailSpec (L : Loop α μ) (m : μ) (E : List α) (l : List Rat) : List (List α) :=
  (pairs l).map (pieceSpec L m E)

abbrev SortedLE (l : List Rat) : Prop := l.Pairwise (fun a b => a ≤ b)

theorem before_mono {s : Bool} {x y t : Rat} (h : x ≤ y) (hb : before s x t = true) :
    before s y t = true := by
  unfold before at *; cases s <;> simp at * <;> grind

theorem before_anti {s : Bool} {x t t' : Rat} (h : t ≤ t') (hb : before s x t = false) :
    before s x t' = false := by
  unfold before at *; cases s <;> simp at * <;> grind

theorem within_before {s : Bool} {a b t : Rat} (h : within s a b t = true) : before s b t = true := by
  unfold within before at *; cases s <;> simp at * <;> grind

theorem within_not_before {s : Bool} {a b t : Rat} (h : within s a b t = true) : before s a t = false := by
  unfold within before at *; cases s <;> simp at * <;> grind

theorem within_bounds {s : Bool} {a b t : Rat} (h : within s a b t = true) : a ≤ t ∧ t ≤ b := by
  unfold within at h; cases s <;> simp at h <;> grind

theorem before_false_of_le {s : Bool} {x y t : Rat} (h : x ≤ y) (hb : before s y t = false) :
    before s x t = false := by
  cases hh : before s x t with
  | false => rfl
  | true => rw [before_mono h hh] at hb; exact hb

/-- an event neither before `a` nor past `b` is stored in `[a, b)` unless it is a state event at `b` -/
theorem within_of_before {s : Bool} {a b t : Rat} (ha : before s a t = false) (hb : before s b t = true) :
    within s a b t = (if s then decide (t < b) else true) := by
  unfold within before at *; cases s <;> simp at * <;> grind

theorem before_all {s : Bool} {b : Rat} {r : List Rat} (hs : SortedLE (b :: r)) {t : Rat}
    (hp : before s b t = true) : ∀ x ∈ b :: r, before s x t = true := by
  intro x hx
  rcases List.mem_cons.mp hx with rfl | h
  · exact hp
  · exact before_mono ((List.pairwise_cons.mp hs).1 x h) hp

theorem pairs_eq_zip : ∀ l : List Rat, pairs l = l.zip l.tail
  | [] => rfl
  | [_] => rfl
  | a :: b :: r => by rw [pairs, pairs_eq_zip (b :: r)]; rfl

theorem pairs_length (b : Rat) (r : List Rat) : (pairs (b :: r)).length = r.length := by
  simp [pairs_eq_zip]

theorem mem_pairs {l : List Rat} {p : Rat × Rat} (h : p ∈ pairs l) : p.1 ∈ l ∧ p.2 ∈ l := by
  rw [pairs_eq_zip] at h
  exact ⟨(List.of_mem_zip h).1, List.mem_of_mem_tail (List.of_mem_zip h).2⟩

theorem finish_some (ent : List α) (done : List (List α)) (a : Rat) (c : List α) (b : Rat) (r : List Rat) :
    finish ent ⟨done, some (a, c), b :: r⟩ = done ++ c :: List.replicate r.length ent := by
  simp [finish]

theorem tailSpec_nil (L : Loop α μ) (m : μ) (b : Rat) (r : List Rat) :
    tailSpec L m [] (b :: r) = List.replicate r.length (L.enter m) := by
  unfold tailSpec
  rw [← pairs_length b r, ← List.map_const']
  apply List.map_congr_left
  intro p _
  simp [pieceSpec, memAt, inside]

/-- consuming an event that is before every split time of `l` only updates the memory -/
theorem tailSpec_cons_before (L : Loop α μ) (m : μ) (e : α) (es : List α) (l : List Rat)
    (h : ∀ x ∈ l, before L.strict x (L.time e) = true) :
    tailSpec L m (e :: es) l = tailSpec L (L.upd m e) es l := by
  unfold tailSpec
  apply List.map_congr_left
  intro p hp
  have hx := h p.1 (mem_pairs hp).1
  have hw : within L.strict p.1 p.2 (L.time e) = false := by
    cases hw : within L.strict p.1 p.2 (L.time e) with
    | false => rfl
    | true => have := within_not_before hw; simp [hx] at this
  simp [pieceSpec, memAt, inside, hx, hw]

/-- events none of which is before `b`: the piece ending at `b` receives nothing (and the memory at
`b` is unchanged: `memAt_eq`) -/
theorem inside_eq_nil (L : Loop α μ) (a b : Rat) (E : List α)
    (h : ∀ e ∈ E, before L.strict b (L.time e) = false) : inside L a b E = [] := by
  unfold inside
  rw [List.map_eq_nil_iff, List.filter_eq_nil_iff]
  intro e he hw
  have := within_before hw
  simp [h e he] at this

theorem memAt_eq (L : Loop α μ) (m : μ) (b : Rat) (E : List α)
    (h : ∀ e ∈ E, before L.strict b (L.time e) = false) : memAt L m b E = m := by
  unfold memAt
  have : E.filter (fun e => before L.strict b (L.time e)) = [] := by
    rw [List.filter_eq_nil_iff]; intro e he; simp [h e he]
  simp [this]


theorem not_before_all (L : Loop α μ) {e : α} {es : List α}
    (hE : (e :: es).Pairwise (fun x y => L.time x ≤ L.time y)) {x : Rat}
    (hp : before L.strict x (L.time e) = false) : ∀ e' ∈ e :: es, before L.strict x (L.time e') = false := by
  intro e' he'
  rcases List.mem_cons.mp he' with rfl | h
  · exact hp
  · exact before_anti ((List.pairwise_cons.mp hE).1 e' h) hp

theorem inside_cons (L : Loop α μ) (a b : Rat) (e : α) (es : List α) :
    inside L a b (e :: es) = inside L a b [e] ++ inside L a b es := by
  simp only [inside, ← List.map_append, ← List.filter_append, List.singleton_append]

/-- the event has passed `b`, and `b` is not the last split time: the current piece is closed and the
piece starting at `b` entered -/
theorem run_cons_pass (L : Loop α μ) (t0 : Rat) (e : α) (es : List α) (m : μ)
    (done : List (List α)) (a : Rat) (c : List α) (b b' : Rat) (r : List Rat)
    (hskip : before L.strict t0 (L.time e) = false) (hpass : before L.strict b (L.time e) = false) :
    run L t0 (e :: es) m ⟨done, some (a, c), b :: b' :: r⟩ =
      run L t0 (e :: es) m ⟨done ++ [c], some (b, L.enter m), b' :: r⟩ := by
  simp [run, hskip, adv, hpass]

/-- the event lies in the current piece `[a, b)`: it is stored there, unless it is a state event at
`b`, and remembered -/
theorem run_cons_in (L : Loop α μ) (t0 : Rat) (e : α) (es : List α) (m : μ)
    (done : List (List α)) (a : Rat) (c : List α) (b : Rat) (r : List Rat)
    (hskip : before L.strict t0 (L.time e) = false) (ha : before L.strict a (L.time e) = false)
    (hb : before L.strict b (L.time e) = true) :
    run L t0 (e :: es) m ⟨done, some (a, c), b :: r⟩ =
      run L t0 es (L.upd m e) ⟨done, some (a, c ++ inside L a b [e]), b :: r⟩ := by
  simp only [run, hskip, adv, hb, inside, List.filter_cons, within_of_before ha hb]
  cases hst : L.strict <;> simp
  · split <;> simp

/-- the loop entered in the middle: the current piece `[a, b)` holds `c` and no remaining event is
before `a`.  `t0 ≤ a` is what makes the `continue` test at `split_times[0]` fail for all of them.
Recursion on the events and the remaining split times together, as the loop itself runs: the first
event is stored in the current piece and consumed, or it passes one split time and stays. -/
theorem run_general (L : Loop α μ) (t0 : Rat) : ∀ (E : List α) (r : List Rat),
    E.Pairwise (fun x y => L.time x ≤ L.time y) →
    ∀ (b a : Rat) (c : List α) (done : List (List α)) (m : μ),
      t0 ≤ a → SortedLE (a :: b :: r) → (∀ e ∈ E, before L.strict a (L.time e) = false) →
      run L t0 E m ⟨done, some (a, c), b :: r⟩ =
        done ++ (c ++ inside L a b E) :: tailSpec L m E (b :: r)
  | [], r, _, b, a, c, done, m, _, _, _ => by simp [run, finish_some, tailSpec_nil, inside]
  | e :: es, r, hE, b, a, c, done, m, h0, hs, hnb => by
    obtain ⟨hle, hes⟩ := List.pairwise_cons.mp hE
    have hea := hnb e List.mem_cons_self
    cases hp : before L.strict b (L.time e) with
    | true =>
      rw [run_cons_in L t0 e es m done a c b r (before_false_of_le h0 hea) hea hp,
        run_general L t0 es r hes b a _ done _ h0 hs (fun e' he' => before_anti (hle e' he') hea),
        tailSpec_cons_before L m e es (b :: r) (before_all (List.pairwise_cons.mp hs).2 hp),
        List.append_assoc, ← inside_cons]
    | false =>
      have hall := not_before_all L hE hp
      match r, hs with
      | [], _ =>
        -- passes the last split time: break
        simp [run, before_false_of_le h0 hea, adv, hp, finish,
          inside_eq_nil L a b (e :: es) hall, tailSpec, pairs]
      | b' :: r, hs =>
        obtain ⟨hab, hs'⟩ := List.pairwise_cons.mp hs
        rw [run_cons_pass L t0 e es m done a c b b' r (before_false_of_le h0 hea) hp,
          run_general L t0 (e :: es) r hE b' b (L.enter m) (done ++ [c]) m
            (Rat.le_trans h0 (hab b List.mem_cons_self)) hs' hall,
          inside_eq_nil L a b (e :: es) hall]
        simp [tailSpec, pairs, pieceSpec, memAt_eq L m b (e :: es) hall]
termination_by E r => E.length + r.length

theorem run_eq_spec (L : Loop α μ) (m0 : μ) (t0 : Rat) (r : List Rat) (E : List α)
    (hst : SortedLE (t0 :: r)) (hE : E.Pairwise (fun x y => L.time x ≤ L.time y)) :
    runLoop L m0 (t0 :: r) t0 E = (pairs (t0 :: r)).map (pieceSpec L m0 E) := by
  unfold runLoop
  induction E generalizing m0 with
  | nil =>
    have := tailSpec_nil L m0 t0 r
    simp [run, finish, tailSpec] at *
    exact this.symm
  | cons e es ih =>
    cases hp : before L.strict t0 (L.time e) with
    | true =>
      simp only [run, hp, ↓reduceIte]
      rw [ih (L.upd m0 e) (List.pairwise_cons.mp hE).2]
      exact (tailSpec_cons_before L m0 e es (t0 :: r) (before_all hst hp)).symm
    | false =>
      have hall := not_before_all L hE hp
      cases r with
      | nil => simp [run, hp, adv, finish, pairs]
      | cons b r =>
        have h1 : run L t0 (e :: es) m0 ⟨[], none, t0 :: b :: r⟩ =
            run L t0 (e :: es) m0 ⟨[], some (t0, L.enter m0), b :: r⟩ := by
          simp [run, hp, adv]
        rw [h1, run_general L t0 (e :: es) r hE b t0 (L.enter m0) [] m0 (Rat.le_refl) hst hall]
        simp [tailSpec, pairs, pieceSpec, memAt_eq L m0 t0 (e :: es) hall]

theorem runLoop_length (L : Loop α μ) (m0 : μ) (t0 : Rat) (r : List Rat) (E : List α)
    (hst : SortedLE (t0 :: r)) (hE : E.Pairwise (fun x y => L.time x ≤ L.time y)) :
    (runLoop L m0 (t0 :: r) t0 E).length = r.length := by
  rw [run_eq_spec L m0 t0 r E hst hE, List.length_map, pairs_length]

end NSV.C02

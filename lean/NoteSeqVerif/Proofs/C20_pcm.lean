import NoteSeqVerif.Proofs.Rounding
import NoteSeqVerif.Model.C20_pcm
import NoteSeqVerif.Proofs.Basics
/-! C20 — why dividing a `(n+1)`-bit integer by `d = 2^n - 1` and multiplying by `d` again, each in `p`-bit
floating point with `n < p`, gives the integer back (`rne_div_mul_cancel`).  `pcm_roundtrip` is the case
`n = 15`, `p = 24`. -/
namespace NSV.C20

/-- an integer `k` in the binade `[2^j, 2^(j+1))`, `j < p`, is the `p`-bit rounding of every `y` of that binade
closer to it than half an ulp `2^(j-p)` -/
theorem rne_eq_of_near {p j : ℕ} (hj : j < p) {k : ℕ} {y : ℚ} (hlo : (2 : ℚ) ^ j ≤ y) (hhi : y < 2 ^ (j + 1))
    (h : |y - k| < 2 ^ ((j : ℤ) - p)) : rne p y = k := by
  have hy : 0 < y := lt_of_lt_of_le (by positivity) hlo
  have hlog : Int.log 2 y = j := ilog2_unique hy (by exact_mod_cast hlo) (by exact_mod_cast hhi)
  -- `k = (k · 2^(p-1-j)) · 2^(j-(p-1))` lies on the grid of that binade
  have hk : (k : ℚ) = ((k * 2 ^ (p - 1 - j) : ℕ) : ℤ) * 2 ^ ((j : ℤ) - ((p : ℤ) - 1)) := by
    have : (j : ℤ) - ((p : ℤ) - 1) = -((p - 1 - j : ℕ) : ℤ) := by omega
    rw [this, zpow_neg, zpow_natCast]; push_cast; field_simp
  have hq : (2 : ℚ) ^ ((j : ℤ) - ((p : ℤ) - 1)) / 2 = 2 ^ ((j : ℤ) - p) := by
    rw [show (j : ℤ) - p = (j - ((p : ℤ) - 1)) - 1 by ring, zpow_sub_one₀ (by norm_num)]; ring
  rw [rne_of_pos p hy, rpos, hlog, hk]
  apply rq_eq_of_near
  rw [← hk, hq]; exact h

section
variable (p n : ℕ)

/-- Positive `k < 2^n - 1` that are not powers of two.  The binade `j` is read off the integer `k`, strictly inside
it (`2^j < k < 2^(j+1)`); the quotient `x = k/d` then lies in the binade `j - n`, so the first rounding errs by at
most half an ulp `2^(j-n-p)` of `x` and the product is within `d · 2^(j-n-p) < 2^(j-p)` of `k`: half an ulp of `k`. -/
theorem rne_div_mul_cancel_pos (hnp : n < p) (k : ℕ) (hk : (k : ℚ) < 2 ^ n - 1)
    (hpow : ∀ j : ℕ, k ≠ 2 ^ j) (hk0 : 0 < k) :
    rne p (rne p (k / (2 ^ n - 1)) * (2 ^ n - 1)) = k := by
  have two_ne : (2 : ℚ) ≠ 0 := by norm_num
  have hkq : (0 : ℚ) < k := by exact_mod_cast hk0
  have hd : (0 : ℚ) < 2 ^ n - 1 := lt_trans hkq hk
  obtain ⟨j, hj⟩ : ∃ j, j = Nat.log2 k := ⟨_, rfl⟩
  have hj1 : 2 ^ j + 1 ≤ k := by
    have := Nat.log2_self_le hk0.ne'
    have := hpow j
    rw [← hj] at *; omega
  have hj2 : k + 1 ≤ 2 ^ (j + 1) := by have := @Nat.lt_log2_self k; rw [← hj] at this; omega
  have hjq1 : (2 : ℚ) ^ j + 1 ≤ k := by exact_mod_cast hj1
  have hjq2 : (k : ℚ) + 1 ≤ 2 ^ (j + 1) := by exact_mod_cast hj2
  have hjn : j < n := (pow_lt_pow_iff_right₀ (by norm_num : (1 : ℚ) < 2)).mp (by linarith only [hjq1, hk])
  set d : ℚ := 2 ^ n - 1 with hdef
  set x : ℚ := k / d with hx
  have hx0 : 0 < x := div_pos hkq hd
  have hkx : (k : ℚ) = x * d := by rw [hx]; field_simp
  have h2n : (0 : ℚ) < 2 ^ n := by positivity
  have hlog : Int.log 2 x = (j : ℤ) - n := by
    apply ilog2_unique hx0
    · rw [zpow_sub₀ two_ne, zpow_natCast, zpow_natCast, div_le_div_iff₀ h2n hd, hdef]
      have := mul_le_mul_of_nonneg_right (le_trans (le_add_of_nonneg_right zero_le_one) hjq1) h2n.le
      linarith only [this, show (0 : ℚ) < 2 ^ j by positivity]
    · rw [show (j : ℤ) - n + 1 = ((j + 1 : ℕ) : ℤ) - n by push_cast; ring, zpow_sub₀ two_ne, zpow_natCast,
        zpow_natCast, div_lt_div_iff₀ hd h2n, hdef]
      -- `2^(j+1)·d - k·2^n = (2^(j+1) - (k+1))·d + (d - k)`
      have := mul_nonneg (sub_nonneg.mpr hjq2) hd.le
      linarith only [this, hk, hdef]
  have herr : |rne p x * d - k| < 2 ^ ((j : ℤ) - p) := by
    have h1 : |rne p x - x| ≤ 2 ^ ((j : ℤ) - n - p) := by
      rw [rne_of_pos p hx0, ← hlog]; exact rpos_err_ulp p x
    rw [show rne p x * d - k = (rne p x - x) * d by rw [hkx]; ring, abs_mul, abs_of_pos hd]
    calc |rne p x - x| * d ≤ 2 ^ ((j : ℤ) - n - p) * d := mul_le_mul_of_nonneg_right h1 hd.le
      _ < 2 ^ ((j : ℤ) - n - p) * 2 ^ n := mul_lt_mul_of_pos_left (hdef.trans_lt (sub_one_lt _)) (two_zpow_pos _)
      _ = 2 ^ ((j : ℤ) - p) := by rw [← zpow_natCast, ← zpow_add₀ two_ne, sub_right_comm, sub_add_cancel]
  have hhalf : (2 : ℚ) ^ ((j : ℤ) - p) ≤ 1 / 2 := by
    have : (2 : ℚ) ^ ((j : ℤ) - p) ≤ 2 ^ (-1 : ℤ) := (zpow_le_zpow_iff_right₀ (by norm_num)).mpr (by omega)
    simpa using this
  have hab := abs_lt.mp herr
  exact rne_eq_of_near (by omega) (by linarith only [hab.1, hhalf, hjq1]) (by linarith only [hab.2, hhalf, hjq2])
    herr

/-- **Dividing by `2^n - 1` and multiplying back is lossless on `(n+1)`-bit integers** in `p`-bit floating point,
`n < p`.  Powers of two (below which the ulp halves, so the half-ulp argument fails) reduce by scaling to `k = 1`,
which is the hypothesis `h1`: one evaluation for concrete `n`, `p`. -/
theorem rne_div_mul_cancel (hnp : n < p)
    (h1 : rne p (rne p (1 / (2 ^ n - 1)) * (2 ^ n - 1)) = 1) (k : ℤ) (hk : |k| ≤ 2 ^ n) :
    rne p (rne p (k / (2 ^ n - 1)) * (2 ^ n - 1)) = k := by
  -- nonnegative `k` suffice: everything in sight is odd
  wlog hk0 : 0 ≤ k generalizing k
  · have := this (-k) (by rwa [abs_neg]) (by omega)
    push_cast at this
    rw [neg_div, rne_neg, neg_mul, rne_neg] at this
    exact neg_inj.mp this
  lift k to ℕ using hk0
  have hk' : k ≤ 2 ^ n := by
    rw [abs_of_nonneg (by positivity)] at hk; exact_mod_cast hk
  push_cast
  by_cases hpow : ∃ j : ℕ, k = 2 ^ j
  · obtain ⟨j, rfl⟩ := hpow
    have e : ((2 ^ j : ℕ) : ℚ) = 1 * 2 ^ (j : ℤ) := by push_cast; rw [zpow_natCast]; ring
    rw [e, mul_div_right_comm, rne_scale, mul_right_comm, rne_scale, h1]
  push Not at hpow
  rcases Nat.eq_zero_or_pos k with rfl | hpos
  · simp [rne_zero]
  have hlt : k < 2 ^ n := lt_of_le_of_ne hk' (hpow n)
  rcases Nat.lt_or_ge k (2 ^ n - 1) with hlt' | hge
  · refine rne_div_mul_cancel_pos p n hnp k ?_ hpow hpos
    have : ((k + 1 : ℕ) : ℚ) < ((2 ^ n : ℕ) : ℚ) := by exact_mod_cast (by omega : k + 1 < 2 ^ n)
    push_cast at this; exact lt_sub_iff_add_lt.mpr this
  · -- `k = d`: the quotient is exactly 1
    have hkd : (k : ℚ) = 2 ^ n - 1 := by
      have : k + 1 = 2 ^ n := by omega
      have : ((k + 1 : ℕ) : ℚ) = ((2 ^ n : ℕ) : ℚ) := by exact_mod_cast this
      push_cast at this; exact eq_sub_of_add_eq this
    have hd : (2 : ℚ) ^ n - 1 ≠ 0 := by
      rw [← hkd]; exact_mod_cast hpos.ne'
    rw [hkd, div_self hd]
    have one : rne p 1 = 1 := by
      simpa using rne_exact_int p 1 (by simpa using Nat.one_lt_two_pow (by omega : p ≠ 0))
    rw [one, one_mul, ← hkd]
    exact_mod_cast rne_exact_int p k (by
      simpa using lt_of_lt_of_le hlt (Nat.pow_le_pow_right (by norm_num) hnp.le))

end

/-- the scale constants of `note_seq/audio_io.py` as the generator reads them today; a changed constant
breaks this line and with it `pcm_roundtrip` -/
theorem scale_constants : (Gen.toFloatDiv : ℚ) = 2 ^ 15 - 1 ∧ (Gen.toIntMul : ℚ) = 2 ^ 15 - 1 := by
  decide +kernel

end NSV.C20

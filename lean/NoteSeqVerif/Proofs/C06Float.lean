import NoteSeqVerif.Proofs.C01Float
import NoteSeqVerif.Model.C06Time
/-! C06 — the float half (`render_quantize_exact`): the time a renderer computes for step `k` of an event
sequence starting at `startStep`, quantized by the C01 model at the same resolution and tempo, is exactly
step `startStep + k`.  Stated for every rounding operator `R` with `Rounding R` (in particular `rne53`,
IEEE binary64) and every positive tempo / resolution; the only size bound is `startStep + k < 2^40`. -/
namespace NSV.C06

variable {R : ℚ → ℚ}

private theorem hp53 : 1 ≤ 53 := by norm_num

/-- the rendered time of step `k` is within `a + 2` roundings of `(S + k)·σ₀`: the two products carry `a + 1` each,
their sum no more, and the sum is rounded once -/
theorem near_stepTime (hR : Rounding R) {σ σ₀ : ℚ} {a : ℕ} (hσ₀ : 0 < σ₀) (hσ : Near 53 a σ σ₀)
    (S k : ℤ) (hS : 0 ≤ S) (hk : 0 ≤ k) :
    NearN 53 (a + 2) (stepTimeR R σ (seqStartR R σ S) k) (((S + k : ℤ) : ℚ) * σ₀) := by
  have hσN := NearN.of hσ₀.le hσ
  have lit : ∀ {j : ℤ}, 0 ≤ j → NearN 53 0 (j : ℚ) j := fun h => .lit (by exact_mod_cast h)
  have h := ((((lit hk).mul hσN).rnd hR.relErr).add (((lit hS).mul hσN).rnd hR.relErr)).rnd hR.relErr
  rw [show (k : ℚ) * σ₀ + (S : ℚ) * σ₀ = ((S + k : ℤ) : ℚ) * σ₀ by push_cast; ring] at h
  exact h.mono (by omega)

/-- **float half, general form.**  `σ` = seconds per step as the renderer computes it (within `a` roundings of
`σ₀`), `ρ` = steps per second as the quantizer computes it (within `b` roundings of `ρ₀ = 1/σ₀`).  The time
`R (R (k·σ) + R (S·σ))` the renderer gives step `k` of a sequence starting at step `S` is quantized
(`quantize_to_step`, cutoff 1/2, two more roundings) to exactly `S + k`.  The product time · rate carries
`a + 2 + b` roundings (`near_stepTime`), which `hab` keeps below ten with room to spare; ten roundings are a relative
error below `2^-49`, and with `S + k ≤ 2^40` that is an absolute error of at most `2^-9`, the margin
`qstep_of_near_int` asks for. -/
theorem step_quantize_exact (hR : Rounding R) {σ ρ σ₀ ρ₀ : ℚ} {a b : ℕ}
    (hσ₀ : 0 < σ₀) (hρ₀ : 0 < ρ₀) (hinv : σ₀ * ρ₀ = 1)
    (hσ : Near 53 a σ σ₀) (hρ : Near 53 b ρ ρ₀) (hab : 2 * a + b + 3 ≤ 10)
    (S k : ℤ) (hS : 0 ≤ S) (hk : 0 ≤ k) (hK : S + k < 2 ^ 40) :
    C01.qstepR R (1 / 2) (stepTimeR R σ (seqStartR R σ S) k) ρ = S + k := by
  have hKle : ((S + k : ℤ) : ℚ) ≤ 2 ^ 40 := by exact_mod_cast hK.le
  have h := ((near_stepTime hR hσ₀ hσ S k hS hk).mul (.of hρ₀.le hρ)).mono (show a + 2 + b ≤ 10 by omega)
  rw [mul_assoc, hinv, mul_one] at h
  refine qstep_of_near_int hR _ _ _ h.nonneg hKle ((h.abs_le (by norm_num) (by norm_num)).trans ?_)
  calc ((S + k : ℤ) : ℚ) * ((((10 : ℕ) : ℚ) + 1) * (1 / 2 ^ 53)) ≤ 2 ^ 40 * ((((10 : ℕ) : ℚ) + 1) * (1 / 2 ^ 53)) :=
        mul_le_mul_of_nonneg_right hKle (by positivity)
    _ ≤ 1 / 2 ^ 9 := by norm_num

theorem near_secPerStep (hR : Rounding R) (qpm : ℚ) (spq : ℤ) (hq : 0 < qpm) (hs : 0 < spq) :
    Near 53 2 (secPerStepR R qpm spq) (60 / qpm / (spq : ℚ)) := by
  have hsq : (0 : ℚ) < spq := by exact_mod_cast hs
  exact FExpr.near hR hp53 (.div (.div (.lit 60) (.lit qpm)) (.lit (spq : ℚ)))
    ⟨⟨show (0 : ℚ) < 60 by norm_num, hq⟩, hsq⟩

theorem near_secPerStepMetric (hR : Rounding R) (qpm : ℚ) (spq : ℤ) (hq : 0 < qpm) (hs : 0 < spq) :
    Near 53 2 (secPerStepMetricR R qpm spq) (60 / ((spq : ℚ) * qpm)) := by
  have hsq : (0 : ℚ) < spq := by exact_mod_cast hs
  exact FExpr.near hR hp53 (.div (.lit 60) (.mul (.lit (spq : ℚ)) (.lit qpm)))
    ⟨show (0 : ℚ) < 60 by norm_num, hsq, hq⟩

theorem near_secPerStepAbs (hR : Rounding R) (sps : ℤ) (hs : 0 < sps) :
    Near 53 1 (secPerStepAbsR R sps) (1 / (sps : ℚ)) := by
  have hsq : (0 : ℚ) < sps := by exact_mod_cast hs
  exact FExpr.near hR hp53 (.div (.lit 1) (.lit (sps : ℚ))) ⟨show (0 : ℚ) < 1 by norm_num, hsq⟩

theorem near_spsR (hR : Rounding R) (qpm : ℚ) (spq : ℤ) (hq : 0 < qpm) (hs : 0 < spq) :
    Near 53 2 (C01.spsR R spq qpm) ((spq : ℚ) * qpm / 60) := by
  have hsq : (0 : ℚ) < spq := by exact_mod_cast hs
  exact FExpr.near hR hp53 (.div (.mul (.lit (spq : ℚ)) (.lit qpm)) (.lit 60))
    ⟨⟨hsq, hq⟩, show (0 : ℚ) < 60 by norm_num⟩

theorem seqStartAddR_zero (hR : Rounding R) (σ : ℚ) (S : ℤ) :
    seqStartAddR R 0 σ S = seqStartR R σ S := by
  unfold seqStartAddR seqStartR
  rw [zero_add, hR.idem]

/-- **float half** for Melody, DrumTrack, ChordProgression, LeadSheet, PianorollSequence:
`seconds_per_step = 60.0 / qpm / spq`, quantizer rate `spq * qpm / 60.0`; `qpm` is any positive rational, so any
double. -/
theorem render_quantize_exact (hR : Rounding R) (qpm : ℚ) (spq S k : ℤ) (hq : 0 < qpm) (hs : 0 < spq)
    (hS : 0 ≤ S) (hk : 0 ≤ k) (hK : S + k < 2 ^ 40) :
    C01.qstepR R (1 / 2)
      (stepTimeR R (secPerStepR R qpm spq) (seqStartR R (secPerStepR R qpm spq) S) k)
      (C01.spsR R spq qpm) = S + k := by
  have hsq : (0 : ℚ) < spq := by exact_mod_cast hs
  exact step_quantize_exact hR (σ₀ := 60 / qpm / (spq : ℚ)) (ρ₀ := (spq : ℚ) * qpm / 60)
    (by positivity) (by positivity) (by field_simp)
    (near_secPerStep hR qpm spq hq hs) (near_spsR hR qpm spq hq hs) (by norm_num) S k hS hk hK

/-- **float half** for MetricPerformance: `seconds_per_step = 60.0 / (spq * qpm)` -/
theorem render_quantize_exact_metric (hR : Rounding R) (qpm : ℚ) (spq S k : ℤ) (hq : 0 < qpm)
    (hs : 0 < spq) (hS : 0 ≤ S) (hk : 0 ≤ k) (hK : S + k < 2 ^ 40) :
    C01.qstepR R (1 / 2)
      (stepTimeR R (secPerStepMetricR R qpm spq) (seqStartR R (secPerStepMetricR R qpm spq) S) k)
      (C01.spsR R spq qpm) = S + k := by
  have hsq : (0 : ℚ) < spq := by exact_mod_cast hs
  exact step_quantize_exact hR (σ₀ := 60 / ((spq : ℚ) * qpm)) (ρ₀ := (spq : ℚ) * qpm / 60)
    (by positivity) (by positivity) (by field_simp)
    (near_secPerStepMetric hR qpm spq hq hs) (near_spsR hR qpm spq hq hs) (by norm_num) S k hS hk hK

/-- **float half** for Performance / NotePerformance (absolute quantization):
`seconds_per_step = 1.0 / steps_per_second`, quantizer rate = the integer `steps_per_second` -/
theorem render_quantize_exact_abs (hR : Rounding R) (sps S k : ℤ) (hs : 0 < sps)
    (hS : 0 ≤ S) (hk : 0 ≤ k) (hK : S + k < 2 ^ 40) :
    C01.qstepR R (1 / 2)
      (stepTimeR R (secPerStepAbsR R sps) (seqStartR R (secPerStepAbsR R sps) S) k)
      (sps : ℚ) = S + k := by
  have hsq : (0 : ℚ) < sps := by exact_mod_cast hs
  exact step_quantize_exact hR (σ₀ := 1 / (sps : ℚ)) (ρ₀ := (sps : ℚ)) (b := 0)
    (by positivity) hsq (by field_simp)
    (near_secPerStepAbs hR sps hs) (Near.refl _) (by norm_num) S k hS hk hK

/-! ### non-vacuity: an awkward tempo (`100/3` is not a double; `rne53 (100/3)` is), start step 64 -/
example : C01.qstepR rne53 (1 / 2)
      (stepTimeR rne53 (secPerStepR rne53 (rne53 (100 / 3)) 12)
        (seqStartR rne53 (secPerStepR rne53 (rne53 (100 / 3)) 12) 64) 1000001)
      (C01.spsR rne53 12 (rne53 (100 / 3))) = 64 + 1000001 :=
  render_quantize_exact rounding_rne53 _ 12 64 1000001
    (by decide +kernel)
    (by norm_num) (by norm_num) (by norm_num) (by norm_num)

example : C01.qstepR rne53 (1 / 2)
      (stepTimeR rne53 (secPerStepAbsR rne53 31) (seqStartR rne53 (secPerStepAbsR rne53 31) 310) 977)
      (31 : ℚ) = 310 + 977 :=
  render_quantize_exact_abs rounding_rne53 31 310 977 (by norm_num) (by norm_num) (by norm_num) (by norm_num)

end NSV.C06

import NoteSeqVerif.Proofs.C08
import NoteSeqVerif.Props.C09
import NoteSeqVerif.Model.C08Inst
/-! C08 — what C08 takes from C09: the abstract one-hot hypotheses (`ValidEv`, `DecodeTotal`) discharged for the
concrete melody and performance encodings by the C09 theorems, and the pianoroll label as C09's `powSum` (the
decoding loop reads the set bits, the label of a strictly increasing tuple is the sum over a predicate on
`range n`), so that its round trips rest on `testBit_powSum` / `powSum_testBit` like the multi-drum encoding's. -/
namespace NSV.C08
open Gen

theorem melody_valid (mn mx e : Int) (hc : C09.MelCfg mn mx) (he : C09.MelEvent mn mx e) :
    ValidEv (melOneHot mn mx) e := by
  obtain ⟨i, h1, h2, h3, h4⟩ := C09.melody_encode_decode mn mx e hc he
  exact ⟨i, h1, h2, h3, by simp [melOneHot, h4]⟩

theorem melody_decode_total (mn mx : Int) (hc : C09.MelCfg mn mx) : DecodeTotal (melOneHot mn mx) :=
  decodeTotal_of _ fun i h0 h1 => ⟨C09.Gen.melDecode mn i, rfl, C09.melody_decode_encode mn mx i hc h0 h1⟩

theorem melody_default_valid (mn mx : Int) (hc : C09.MelCfg mn mx) :
    ValidEv (melOneHot mn mx) (melOneHot mn mx).default :=
  melody_valid mn mx _ hc (by unfold melOneHot MELODY_NO_EVENT C09.MelEvent; simp)

/-- legal configurations: `0 ≤ num_velocity_bins ≤ 127`, `max_shift_steps ≥ 1` -/
def ModCfgOk (c : ModCfg) : Prop := 0 ≤ c.bins ∧ c.bins ≤ MAX_NUM_VELOCITY_BINS ∧ 1 ≤ c.maxShift

/-- performance events of a configuration: the type is one of the encoder's ranges and the value lies in it -/
def ModEvent (c : ModCfg) (e : Nat × Int) : Prop :=
  ∃ r ∈ C09.perfRanges c.bins c.maxShift MIN_MIDI_PITCH MAX_MIDI_PITCH, e.1 = r.ty ∧ r.lo ≤ e.2 ∧ e.2 ≤ r.hi

/-- a value inside one of the encoder's ranges passes the `PerformanceEvent` validation -/
theorem perfEventOk_of_range (c : ModCfg) (hc : ModCfgOk c) (r : C09.Range)
    (hr : r ∈ C09.perfRanges c.bins c.maxShift MIN_MIDI_PITCH MAX_MIDI_PITCH) (v : Int) (h2 : r.lo ≤ v) (h3 : v ≤ r.hi) :
    perfEventOk r.ty v = true := by
  obtain ⟨c1, c2, c3⟩ := hc
  unfold C09.perfRanges at hr
  unfold perfEventOk
  unfold MAX_NUM_VELOCITY_BINS MIN_MIDI_PITCH MAX_MIDI_PITCH NOTE_ON NOTE_OFF TIME_SHIFT VELOCITY DURATION at *
  unfold C09.Gen.NOTE_ON C09.Gen.NOTE_OFF C09.Gen.TIME_SHIFT C09.Gen.VELOCITY at hr
  simp only [List.mem_append, List.mem_cons, List.not_mem_nil, or_false] at hr
  rcases hr with (h | h | h) | h
  · subst h; simp at h2 h3 ⊢; omega
  · subst h; simp at h2 h3 ⊢; omega
  · subst h; simp at h2 h3 ⊢; omega
  · split at h
    · simp only [List.mem_cons, List.not_mem_nil, or_false] at h
      subst h; simp at h2 h3 ⊢; omega
    · cases h

theorem modulo_valid (c : ModCfg) (hc : ModCfgOk c) (e : Nat × Int) (he : ModEvent c e) :
    ValidEv (perfOneHot c.bins c.maxShift MIN_MIDI_PITCH MAX_MIDI_PITCH) e := by
  obtain ⟨r, hr, h1, h2, h3⟩ := he
  obtain ⟨i, e1, e2, e3, e4⟩ := C09.perf_encode_decode c.bins c.maxShift MIN_MIDI_PITCH MAX_MIDI_PITCH
    ⟨hc.1, hc.2.2, by unfold MIN_MIDI_PITCH MAX_MIDI_PITCH; omega⟩ r hr e.2 h2 h3
  refine ⟨i, by simp only [perfOneHot]; rw [h1]; exact e1, e2, e3, ?_⟩
  simp only [perfOneHot, e4, perfEventOk_of_range c hc r hr e.2 h2 h3, if_true]
  congr 1
  exact Prod.ext h1.symm rfl

section Pianoroll
open C09 (powSum foldl_filter_range)

/-- binary digit `i` of `m`, the way the Python loops read it (`% 2` of the shifted number) -/
theorem shiftRight_fmod_two (m i : Nat) : ((m >>> i : Nat) : Int).fmod 2 ≠ 0 ↔ m.testBit i = true := by
  rw [Int.fmod_eq_emod_of_nonneg _ (by omega), Nat.testBit, Nat.one_and_eq_mod_two]
  have := Nat.mod_two_eq_zero_or_one (m >>> i)
  have e : ((m >>> i : Nat) : Int) % 2 = ((m >>> i % 2 : Nat) : Int) := rfl
  rw [e]; rcases this with h | h <;> simp [h]

/-- the decoding loop, started at bit `i` of `m`, collects the set bits among the next `k` -/
theorem prDecodeLoop_eq (m k i : Nat) :
    prDecodeLoop k i ((m >>> i : Nat) : Int) =
      ((List.range' i k).filter m.testBit, ((m >>> (i + k) : Nat) : Int)) := by
  induction k generalizing i with
  | zero => rfl
  | succ k ih =>
    have hdiv : ((m >>> i : Nat) : Int).fdiv 2 = ((m >>> (i + 1) : Nat) : Int) := by
      rw [Int.fdiv_eq_ediv_of_nonneg _ (by omega), Nat.shiftRight_succ]; rfl
    rw [prDecodeLoop, hdiv, ih (i + 1), List.range'_succ, List.filter_cons, Nat.add_right_comm i 1 k,
      Nat.add_assoc]
    simp only [shiftRight_fmod_two]

theorem prClassIndexToEvent_nat (n m : Nat) (h : m < 2 ^ n) :
    prClassIndexToEvent n (m : Int) = .ok ((List.range n).filter m.testBit) := by
  have h1 : (m : Int) < prNumClasses n := by unfold prNumClasses; exact_mod_cast h
  have := prDecodeLoop_eq m n 0
  rw [Nat.shiftRight_zero, Nat.zero_add, Nat.shiftRight_eq_div_pow, Nat.div_eq_of_lt h, ← List.range_eq_range'] at this
  unfold prClassIndexToEvent
  rw [if_neg (by omega), this]
  rfl

theorem prEventToLabel_filter (f : Nat → Bool) (n : Nat) :
    prEventToLabel ((List.range n).filter f) = (powSum f n : Nat) := by
  have : ∀ (ev : List Nat) (a : Nat), ev.foldl (fun acc p => acc + (2 : Int) ^ p) (a : Int) =
      ((ev.foldl (fun acc p => acc + 2 ^ p) a : Nat) : Int) := by
    intro ev
    induction ev with
    | nil => intro a; rfl
    | cons p r ih => intro a; simp only [List.foldl_cons]; rw [← ih]; push_cast; rfl
  rw [prEventToLabel, ← foldl_filter_range]
  exact this _ 0

/-- a strictly increasing tuple below `n` is a sublist of `range n` picked out by a predicate -/
theorem prEvent_eq_filter {n : Nat} {ev : List Nat} (hv : PrEvent n ev) :
    ∃ f : Nat → Bool, ev = (List.range n).filter f := by
  refine ⟨(ev.contains ·), ?_⟩
  have hs : ((List.range n).filter (ev.contains ·)).Pairwise (· < ·) := List.pairwise_lt_range.filter _
  refine List.Perm.eq_of_pairwise (fun a b _ _ h1 h2 => by omega) hv.1 hs
    ((List.perm_ext_iff_of_nodup (hv.1.imp Nat.ne_of_lt) (hs.imp Nat.ne_of_lt)).mpr fun a => ?_)
  simp only [List.mem_filter, List.mem_range, List.contains_iff_mem]
  exact ⟨fun h => ⟨hv.2 a h, h⟩, fun h => h.2⟩

end Pianoroll

end NSV.C08

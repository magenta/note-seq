import NoteSeqVerif.Model.C09
import NoteSeqVerif.Proofs.Lib
/-! C09 — what the one-hot theorems rest on.  A multi-drum index is a sum of distinct powers of two (`powSum`),
so its round trips are `Nat.testBit` facts; the chord encoders are case tables in root and quality
(`mmEncode_eq`, `triadEncode_eq`) whose decoders are decided index by index (`mm_table`, `triad_table`);
the density class is a `List.findIdx`.  Core Lean only. -/
namespace NSV.C09
open Gen

theorem binsize_facts (n : Int) (h1 : 1 ≤ n) :
    1 ≤ velocityBinSize n ∧ 127 ≤ n * velocityBinSize n ∧ n * (velocityBinSize n - 1) < 127 := by
  unfold velocityBinSize pyCeilDiv
  have hn : 0 ≤ n := by omega
  rw [Int.fdiv_eq_ediv_of_nonneg _ hn]
  have a := @Int.mul_ediv_self_le (-127) n (by omega)
  have b := @Int.lt_mul_ediv_self_add (-127) n (by omega)
  have hq : (-127 : Int) / n < 0 := Int.ediv_neg_of_neg_of_pos (by omega) (by omega)
  simp only [Int.reduceSub, Int.reduceAdd, Int.reduceNeg] at *
  generalize (-127 : Int) / n = q at *
  have e1 : n * (-q) = -(n * q) := by rw [Int.mul_neg]
  have e2 : n * (-q - 1) = -(n * q) - n := by rw [Int.mul_sub, Int.mul_neg, Int.mul_one]
  exact ⟨by omega, by omega, by omega⟩

theorem numClasses_nonneg (rs : List Range) (h : ∀ r ∈ rs, r.lo ≤ r.hi) : 0 ≤ numClasses rs := by
  induction rs with
  | nil => simp [numClasses]
  | cons r rs ih =>
    have := h r (by simp)
    have := ih (fun x hx => h x (by simp [hx]))
    simp [numClasses]; omega

/-- `Σ_{i<n, f i} 2^i` -/
def powSum (f : Nat → Bool) : Nat → Nat
  | 0 => 0
  | n + 1 => powSum f n + (if f n then 2 ^ n else 0)

theorem powSum_lt (f : Nat → Bool) (n : Nat) : powSum f n < 2 ^ n := by
  induction n with
  | zero => simp [powSum]
  | succ n ih =>
    simp only [powSum, Nat.pow_succ]
    split <;> omega

theorem testBit_powSum (f : Nat → Bool) (n k : Nat) :
    (powSum f n).testBit k = (decide (k < n) && f k) := by
  induction n with
  | zero => simp [powSum]
  | succ n ih =>
    -- the new summand lies above the old sum, so adding it is `|||`
    have hor : powSum f (n + 1) = (if f n then 2 ^ n else 0) ||| powSum f n := by
      rw [powSum, Nat.add_comm]
      split
      · simpa using Nat.two_pow_add_eq_or_of_lt (powSum_lt f n) 1
      · simp
    rw [hor, Nat.testBit_or, ih]
    by_cases hk : k = n
    · subst hk; cases f k <;> simp
    · have h1 : (if f n then 2 ^ n else 0).testBit k = false := by
        split
        · simp [Ne.symm hk]
        · simp
      have h2 : decide (k < n + 1) = decide (k < n) := decide_eq_decide.mpr (by omega)
      rw [h1, h2, Bool.false_or]

theorem powSum_testBit {m n : Nat} (h : m < 2 ^ n) : powSum m.testBit n = m := by
  apply Nat.eq_of_testBit_eq
  intro k
  rw [testBit_powSum]
  rcases Nat.lt_or_ge k n with hk | hk
  · simp [hk]
  · rw [Nat.testBit_lt_two_pow (Nat.lt_of_lt_of_le h (Nat.pow_le_pow_right (by omega) hk))]
    simp

theorem foldl_filter_range (f : Nat → Bool) (n : Nat) :
    ((List.range n).filter f).foldl (fun acc i => acc + 2 ^ i) 0 = powSum f n := by
  induction n with
  | zero => simp [powSum]
  | succ n ih =>
    rw [List.range_succ, List.filter_append, List.foldl_append, ih]
    by_cases h : f n <;> simp [powSum, h]

def DisjointTable (t : List (List Nat)) : Prop := t.Pairwise (fun a b => ∀ p, p ∈ a → p ∉ b)
def NonEmptyTable (t : List (List Nat)) : Prop := ∀ c, c ∈ t → c ≠ []

theorem mem_getD_lt {t : List (List Nat)} {i p : Nat} (h : p ∈ t.getD i []) : i < t.length := by
  rcases Nat.lt_or_ge i t.length with hlt | hge
  · exact hlt
  · simp [List.getD_eq_getElem?_getD, List.getElem?_eq_none hge] at h

theorem getD_of_lt {t : List (List Nat)} {i : Nat} (h : i < t.length) : t.getD i [] = t[i] := by
  simp [List.getD_eq_getElem?_getD, h]

theorem disjoint_index {t : List (List Nat)} (hd : DisjointTable t) {i j p : Nat}
    (hi : p ∈ t.getD i []) (hj : p ∈ t.getD j []) : i = j := by
  have hil := mem_getD_lt hi
  have hjl := mem_getD_lt hj
  rw [getD_of_lt hil] at hi
  rw [getD_of_lt hjl] at hj
  have := List.pairwise_iff_getElem.mp hd
  rcases Nat.lt_trichotomy i j with h | h | h
  · exact absurd hj (this i j hil hjl h p hi)
  · exact h
  · exact absurd hi (this j i hjl hil h p hj)

theorem foldl_last {α : Type} (c : α → Bool) (l : List α) (acc : Option α) :
    l.foldl (fun acc i => if c i then some i else acc) acc = (l.reverse.find? c).or acc := by
  induction l generalizing acc with
  | nil => simp
  | cons a l ih =>
    rw [List.foldl_cons, ih, List.reverse_cons, List.find?_append]
    cases h : c a <;> simp [h]

theorem classOf_eq (t : List (List Nat)) (p : Nat) :
    classOf t p = (List.range t.length).reverse.find? (fun i => (t.getD i []).contains p) := by
  rw [classOf, foldl_last, Option.or_none]

theorem classOf_eq_some_iff {t : List (List Nat)} (hd : DisjointTable t) (p i : Nat) :
    classOf t p = some i ↔ p ∈ t.getD i [] := by
  rw [classOf_eq]
  refine ⟨fun e => by simpa using List.find?_some e, fun hi => ?_⟩
  cases h : (List.range t.length).reverse.find? (fun i => (t.getD i []).contains p) with
  | none => exact absurd (by simpa using hi) (List.find?_eq_none.mp h i (by simpa using mem_getD_lt hi))
  | some j => exact congrArg some (disjoint_index hd (by simpa using List.find?_some h) hi)

theorem classOf_isNone_iff (t : List (List Nat)) (p : Nat) :
    (classOf t p).isNone = true ↔ ∀ c, c ∈ t → p ∉ c := by
  rw [classOf_eq, Option.isNone_iff_eq_none, List.find?_eq_none]
  constructor
  · intro h c hc hp
    obtain ⟨i, hi, rfl⟩ := List.getElem_of_mem hc
    exact h i (by simpa using hi) (by simpa [hi] using hp)
  · intro h i hi hp
    have hi : i < t.length := by simpa using hi
    exact h _ (List.getElem_mem hi) (by simpa [hi] using hp)

theorem drumEncode_eq_powSum (t : List (List Nat)) (ev : List Nat) :
    drumEncode t ev = powSum (fun i => ev.any (fun p => classOf t p == some i)) t.length := by
  unfold drumEncode; rw [foldl_filter_range]

/-- for a disjoint table, class `i` is hit iff the event contains one of its pitches -/
theorem hit_iff {t : List (List Nat)} (hd : DisjointTable t) (ev : List Nat) (i : Nat) :
    ev.any (fun p => classOf t p == some i) = true ↔ ∃ p, p ∈ ev ∧ p ∈ t.getD i [] := by
  simp only [List.any_eq_true, beq_iff_eq, classOf_eq_some_iff hd]

theorem decodeIdxs_ok {t : List (List Nat)} (hne : NonEmptyTable t) (idx : Nat) (is : List Nat)
    (his : ∀ i, i ∈ is → i < t.length) :
    decodeIdxs t idx is =
      .ok (is.filterMap (fun i => if idx.testBit i then (t.getD i []).head? else none)) := by
  induction is with
  | nil => simp [decodeIdxs]
  | cons i is ih =>
    have hi := his i (by simp)
    have ih := ih (fun j hj => his j (by simp [hj]))
    by_cases hb : idx.testBit i
    · have hc : t[i] ≠ [] := hne _ (List.getElem_mem hi)
      simp only [decodeIdxs, hb, if_true, List.getElem?_eq_getElem hi, List.filterMap_cons, getD_of_lt hi]
      cases hti : t[i] with
      | nil => exact absurd hti hc
      | cons p r => simp [ih]
    · simp [decodeIdxs, hb, ih]

theorem drumDecode_ok {t : List (List Nat)} (hne : NonEmptyTable t) (idx : Nat) (h : idx < 2 ^ t.length) :
    drumDecode t idx =
      .ok ((List.range t.length).filterMap (fun i => if idx.testBit i then (t.getD i []).head? else none)) := by
  unfold drumDecode
  rw [decodeIdxs_ok hne idx _ (fun i hi => by simpa using hi)]
  simp [h]

/-- the documented canonical representative of a pitch set: the first pitch of every class hit -/
def hitFirsts (t : List (List Nat)) (s : List Nat) : List Nat :=
  t.filterMap (fun c => if c.any (fun p => s.contains p) then c.head? else none)

theorem filterMap_range_getD (t : List (List Nat)) (g : List Nat → Option Nat) :
    (List.range t.length).filterMap (fun k => g (t.getD k [])) = t.filterMap g := by
  -- a table is its `getD` mapped over its index range
  have : (List.range t.length).map (fun k => t.getD k []) = t :=
    List.ext_getElem (by simp) fun i h1 h2 => by simp at h1; simp [h1]
  exact (List.filterMap_map ..).symm.trans (congrArg _ this)

/-- decode an index, read the decoded name back as a structured symbol, and run `k` on it -/
def decodeThen {β : Type} (dec : Int → Except String ChordDecoded) (k : ChordEvent → Except String β) (i : Int) :
    Except String β :=
  match dec i with
  | .error e => .error e
  | .ok d => match structured d with
      | none => .error "unparsed"
      | some ev => k ev

theorem decodeThen_ok {β : Type} {dec : Int → Except String ChordDecoded} {k : ChordEvent → Except String β} {i : Int}
    {b : β} (h : decodeThen dec k i = .ok b) : ∃ d ev, dec i = .ok d ∧ structured d = some ev ∧ k ev = .ok b := by
  unfold decodeThen at h
  split at h
  · cases h
  · split at h
    · cases h
    · exact ⟨_, _, ‹_›, ‹_›, h⟩

theorem mm_table : ∀ n : Nat, n < mmNumClasses.toNat → decodeThen mmDecode mmEncode (n : Int) = .ok (n : Int) := by
  decide +kernel

theorem triad_table :
    ∀ n : Nat, n < triadNumClasses.toNat → decodeThen triadDecode triadEncode (n : Int) = .ok (n : Int) := by
  decide +kernel

def namePitchClass (nm : List Char) : Except String Int :=
  match parsePitchClass nm with
  | some (step, alter) => pitchClassToMidi step alter
  | none => .error "unparsed"

/-- decode an index and read root pitch class and quality off the decoded name -/
def mmDecodeRQ (i : Int) : Except String (Option (Int × Nat)) :=
  match mmDecode i with
  | .error e => .error e
  | .ok d => match structured d with
      | none => .error "unparsed"
      | some ev => rootQuality ev

def triadDecodeRQ (i : Int) : Except String (Option (Int × Nat)) :=
  match triadDecode i with
  | .error e => .error e
  | .ok d => match structured d with
      | none => .error "unparsed"
      | some ev => rootQuality ev

/-- the triad qualities in index-block order -/
def triadQualities : List Nat :=
  [CHORD_QUALITY_MAJOR, CHORD_QUALITY_MINOR, CHORD_QUALITY_AUGMENTED, CHORD_QUALITY_DIMINISHED]

theorem mmEncode_eq (ev : ChordEvent) : mmEncode ev =
    match rootQuality ev with
    | .error e => .error e
    | .ok none => .ok 0
    | .ok (some (r, q)) =>
        if q = CHORD_QUALITY_MAJOR then .ok (r + 1)
        else if q = CHORD_QUALITY_MINOR then .ok (r + NOTES_PER_OCTAVE + 1)
        else .error "ChordEncodingError" := by
  cases ev with
  | noChord => rfl
  | sym step alter kind mods =>
    simp only [mmEncode, rootQuality]
    cases pitchClassToMidi step alter with
    | error e => rfl
    | ok r => cases symQuality kind mods with
      | error e => rfl
      | ok q => rfl

theorem root_range {ev : ChordEvent} {r : Int} {q : Nat} (h : rootQuality ev = .ok (some (r, q))) :
    0 ≤ r ∧ r < 12 := by
  cases ev with
  | noChord => simp [rootQuality] at h
  | sym step alter kind mods =>
    simp only [rootQuality, pitchClassToMidi] at h
    cases hl : stepsMidi.lookup step with
    | none => simp [hl] at h
    | some m =>
      simp only [hl] at h
      cases hq : symQuality kind mods with
      | error e => simp [hq] at h
      | ok q' =>
        simp only [hq, Except.ok.injEq, Option.some.injEq, Prod.mk.injEq] at h
        rw [← h.1, Int.fmod_eq_emod_of_nonneg _ (by omega)]
        exact ⟨Int.emod_nonneg _ (by omega), Int.emod_lt_of_pos _ (by omega)⟩

theorem triadEncode_eq (ev : ChordEvent) : triadEncode ev =
    match rootQuality ev with
    | .error e => .error e
    | .ok none => .ok 0
    | .ok (some (r, q)) =>
        if q = CHORD_QUALITY_MAJOR then .ok (r + 1)
        else if q = CHORD_QUALITY_MINOR then .ok (r + NOTES_PER_OCTAVE + 1)
        else if q = CHORD_QUALITY_AUGMENTED then .ok (r + 2 * NOTES_PER_OCTAVE + 1)
        else if q = CHORD_QUALITY_DIMINISHED then .ok (r + 3 * NOTES_PER_OCTAVE + 1)
        else .error "ChordEncodingError" := by
  cases ev with
  | noChord => rfl
  | sym step alter kind mods =>
    simp only [triadEncode, rootQuality]
    cases pitchClassToMidi step alter with
    | error e => rfl
    | ok r => cases symQuality kind mods with
      | error e => rfl
      | ok q => rfl

theorem pyIndex_nat {α} (l : List α) (k : Nat) (h : k < l.length) : pyIndex l (k : Int) = .ok l[k] := by
  unfold pyIndex
  have h1 : ¬ ((k : Int) < 0) := by omega
  simp only [h1, if_false, Int.toNat_natCast, List.getElem?_eq_getElem h]

theorem densEncodeAux_eq (bs : List Rat) (idx : Nat) (x : Rat) :
    densEncodeAux bs idx x = idx + bs.findIdx (fun d => decide (x < d)) := by
  induction bs generalizing idx with
  | nil => rfl
  | cons d ds ih =>
    rw [densEncodeAux, List.findIdx_cons]
    by_cases h : x < d
    · simp [h]
    · simp [h, ih]; omega

/-- the class of `x` is the index of the first boundary above it (`len` when there is none) -/
theorem densEncode_eq (bs : List Rat) (x : Rat) : densEncode bs x = bs.findIdx (fun d => decide (x < d)) := by
  rw [densEncode, densEncodeAux_eq, Nat.zero_add]

theorem densEncode_cons (d : Rat) (ds : List Rat) (x : Rat) :
    densEncode (d :: ds) x = if x < d then 0 else densEncode ds x + 1 := by
  rw [densEncode_eq, densEncode_eq, List.findIdx_cons]
  by_cases h : x < d <;> simp [h]

theorem densEncode_nil (x : Rat) : densEncode [] x = 0 := rfl

theorem densEncode_spec (bs : List Rat) (x : Rat) :
    densEncode bs x ≤ bs.length ∧
    (∀ k (h : k < bs.length), k < densEncode bs x → bs[k] ≤ x) ∧
    (∀ h : densEncode bs x < bs.length, x < bs[densEncode bs x]) := by
  rw [densEncode_eq]
  exact ⟨List.findIdx_le_length, fun k _ hk => Rat.not_lt.mp (by simpa using List.not_of_lt_findIdx hk),
    fun h => by simpa using List.findIdx_getElem (w := h)⟩

theorem densEncode_boundary (bs : List Rat) (hs : bs.Pairwise (· < ·)) (k : Nat) (h : k < bs.length) :
    densEncode bs bs[k] = k + 1 := by
  have hp := List.pairwise_iff_getElem.mp hs
  rw [densEncode_eq]
  -- the boundaries up to `k` are not above `bs[k]`; the next one, if there is one, is
  have h1 : k < bs.findIdx (fun d => decide (bs[k] < d)) := List.lt_findIdx_of_not h fun j hj => by
    rcases Nat.lt_or_eq_of_le hj with hlt | rfl
    · simpa using Rat.not_lt.mpr (Rat.le_of_lt (hp j k _ h hlt))
    · simp [Rat.lt_irrefl]
  refine Nat.le_antisymm (Nat.not_lt.mp fun h2 => ?_) h1
  have := List.not_of_lt_findIdx h2
  simp only [decide_eq_false_iff_not] at this
  exact this (hp k (k + 1) h _ (Nat.lt_succ_self k))

/-- legal configuration: strictly increasing, positive bin boundaries -/
def DensCfg (bs : List Rat) : Prop := bs.Pairwise (· < ·) ∧ ∀ b, b ∈ bs → 0 < b

end NSV.C09

import NoteSeqVerif.Proofs.C03Tick
import NoteSeqVerif.Proofs.RoundingApps
import Mathlib.Tactic.Linarith
import Mathlib.Tactic.Ring
import Mathlib.Tactic.FieldSimp
import Mathlib.Tactic.NormNum
import Mathlib.Tactic.Positivity
import Mathlib.Data.Rat.Floor
/-! The tick map in FLOATING POINT: every statement is for every rounding operator `R` with the `Rounding` facts of
`Proofs/Rounding.lean`, in particular for the executable float64 model `rne53` (`rounding_rne53`).
`NearN 53 n a' a` is `NSV.NearN`: `a'` within `n` roundings of the non-negative `a`. -/
namespace NSV.C03

variable {R : ℚ → ℚ}

/-- `WF` with nonnegative instead of positive scales -/
structure WF0 (m : TickMap) : Prop where
  c0 : 0 ≤ m.c0
  pos : ∀ p ∈ m.rest, 0 ≤ p.2
  sorted : SortedFrom 0 m.rest

theorem WF.toWF0 {m : TickMap} (h : WF m) : WF0 m :=
  ⟨h.c0.le, fun p hp => (h.pos p hp).le, h.sorted⟩

theorem WF0.scale_nonneg {m : TickMap} (hw : WF0 m) {x : ℚ} (h : x ∈ m.c0 :: m.rest.map Prod.snd) : 0 ≤ x := by
  rcases List.mem_cons.mp h with rfl | h
  · exact hw.c0
  · obtain ⟨p, hp, rfl⟩ := List.mem_map.mp h
    exact hw.pos p hp

theorem arr_mono_R (hR : Rounding R) (m : TickMap) (hw : WF0 m) : Monotone (tickToTime R m) :=
  monotone_int_of_le_succ fun j => by
    obtain ⟨s₀, c₀, -, hc, e⟩ := ttAux_seg hR.zero hR.idem m.rest 0 0 m.c0 hR.zero hw.sorted j
    unfold tickToTime
    rw [e j (Or.inl rfl), e _ (Or.inr rfl)]
    apply hR.mono
    have h1 : ((j - s₀ : Int) : ℚ) ≤ ((j + 1 - s₀ : Int) : ℚ) := by exact_mod_cast (by omega : j - s₀ ≤ j + 1 - s₀)
    have := hR.mono _ _ (mul_le_mul_of_nonneg_left h1 (hw.scale_nonneg hc))
    linarith

theorem arr_nonneg_R (hR : Rounding R) (m : TickMap) (hw : WF0 m) {k : Int} (hk : 0 ≤ k) :
    0 ≤ tickToTime R m k := by
  have := arr_mono_R hR m hw hk
  rwa [arr_zero hR.zero hw.sorted] at this

/-! ### a single tempo: `_tick_scales = [(0, c)]`, array of length 1 (what `write` sees) -/

theorem tickToTime_single (hR : Rounding R) (c : ℚ) (k : Int) : tickToTime R ⟨c, []⟩ k = R (c * (k : ℚ)) := by
  simp [tickToTime, ttAux, hR.idem]

theorem wf_single {c : ℚ} (hc : 0 < c) : WF ⟨c, []⟩ := ⟨hc, by simp, trivial⟩

/-- with one tempo the tick of a positive time is `round(t / c)` (two roundings: `t - 0.0`, `/ c`;
adding the array index `0` is exact) -/
theorem timeToTick_single (hR : Rounding R) (c : ℚ) (hc : 0 < c) (t : ℚ) :
    timeToTick R ⟨c, []⟩ 0 t = if 0 < t then roundHalfEven (R (R t / c)) else 0 := by
  have hw0 := (wf_single hc).toWF0
  have h0 := arr_zero (m := ⟨c, []⟩) hR.zero hw0.sorted
  rcases timeToTick_cases (arr_mono_R hR ⟨c, []⟩ hw0) 0 (le_refl 0) t with
    ⟨hgt, e⟩ | ⟨i, hi0, hi1, -, hge, e⟩
  · rw [h0] at hgt
    rw [e, if_pos hgt, h0]
    simp only [lastScale, lastOf, Int.cast_zero, zero_add, sub_zero, hR.idem]
  · obtain rfl : i = 0 := by omega
    rw [h0] at hge
    rw [e, if_neg (by simp), if_neg (not_lt.mpr hge)]

/-- Float round trip time → tick → time under one tempo (tick length `c`): the read-back time differs from `t`
by at most half a tick (inflated by `2^-53`) plus `t·2^-51` — four roundings (`t - 0.0`, `/ c`, `c * k`, `0.0 + ·`
is exact) and one `round()`.  No bound on `t` is needed in the model (no overflow). -/
theorem single_roundtrip_R (hR : Rounding R) (c : ℚ) (hc : 0 < c) (t : ℚ) (ht : 0 ≤ t) :
    0 ≤ timeToTick R ⟨c, []⟩ 0 t ∧
    |tickToTime R ⟨c, []⟩ (timeToTick R ⟨c, []⟩ 0 t) - t| ≤ c / 2 * (1 + 1 / 2 ^ 53) + t * (1 / 2 ^ 51) := by
  rw [timeToTick_single hR c hc t]
  by_cases ht0 : 0 < t
  · rw [if_pos ht0, tickToTime_single hR]
    -- `c · x` for `x = R (R t / c)` is within two roundings of `t`
    have h2 := (((NearN.lit ht).rnd hR.relErr).div (by norm_num) (.lit hc.le) hc).rnd hR.relErr
    have h3 := (NearN.lit hc.le).mul h2
    rw [show c * (t / c) = t by field_simp] at h3
    obtain ⟨cxl, cxu⟩ := Near.clear_denoms (n := 2) h3.2
    obtain ⟨r1, r2, r3⟩ := roundHalfEven_spec (R (R t / c))
    have hK0 : 0 ≤ roundHalfEven (R (R t / c)) :=
      le_trans (by rw [Rat.le_floor_iff]; exact_mod_cast h2.nonneg) r3
    generalize roundHalfEven (R (R t / c)) = K at *
    obtain ⟨yl, yu⟩ := hR.bounds (mul_nonneg hc.le (Int.cast_nonneg hK0))
    have cK1 := mul_le_mul_of_nonneg_left r1 hc.le
    have cK2 := mul_le_mul_of_nonneg_left r2 hc.le
    refine ⟨hK0, ?_⟩
    generalize R (c * (K : ℚ)) = y at *
    generalize R (R t / c) = x at *
    rw [abs_le]
    constructor
    · linarith only [yl, cxl, cK2, hc, ht]
    · linarith only [yu, cxu, cK1, hc, ht]
  · have : t = 0 := le_antisymm (not_lt.mp ht0) ht
    subst this
    rw [if_neg ht0, tickToTime_single hR]
    simp only [Int.cast_zero, mul_zero, hR.zero, sub_self, abs_zero]
    refine ⟨le_refl _, ?_⟩
    positivity

/-- six roundings separate the microsecond value `write` truncates from the exact `6e7 / Q`, when the qpm stored
in the sequence is within one rounding of `Q` (`qpm = R (6e7 / n)` is how a microsecond tempo gets there) -/
theorem tempo_chain_near (hR : Rounding R) (res : Int) (hres : 0 < res) (qpm Q : ℚ) (hQ : 0 < Q)
    (hq : NearN 53 1 qpm Q) :
    NearN 53 5 (qpmOfScale R res (R (60 / R ((res : ℚ) * qpm)))) Q ∧
    NearN 53 6 (R (60000000 / qpmOfScale R res (R (60 / R ((res : ℚ) * qpm))))) (60000000 / Q) := by
  have hp : 1 ≤ 53 := by norm_num
  have hr : (0 : ℚ) < (res : ℚ) := by exact_mod_cast hres
  have l60 : NearN 53 0 (60 : ℚ) 60 := .lit (by norm_num)
  have lres : NearN 53 0 (res : ℚ) res := .lit hr.le
  -- `res·qpm`, `60 / ·`, `· · res`, `60 / ·`: one rounding each on top of the one in `qpm`
  have h2 := (l60.div hp ((lres.mul hq).rnd hR.relErr) (mul_pos hr hQ)).rnd hR.relErr
  have h4 := (l60.div hp ((h2.mul lres).rnd hR.relErr) (by positivity)).rnd hR.relErr
  rw [show 60 / (60 / ((res : ℚ) * Q) * (res : ℚ)) = Q by field_simp] at h4
  exact ⟨h4, ((NearN.lit (by norm_num)).div hp h4 hQ).rnd hR.relErr⟩

/-- `g` = the float that `write` truncates: within six roundings of the integer `n` it lies in `(n - 1, n + 1)`, so
`int(g)` is `n` or `n - 1` according to the side of `n` it is on -/
theorem trunc_near_int {g : ℚ} {n : Int} (hn : 1 ≤ n) (hn2 : n ≤ 2 ^ 40) (h : NearN 53 6 g (n : ℚ)) :
    (n ≤ g → truncR g = n) ∧ (g < n → truncR g = n - 1) := by
  have hnq : (1 : ℚ) ≤ (n : ℚ) := by exact_mod_cast hn
  have hnq2 : (n : ℚ) ≤ 2 ^ 40 := by exact_mod_cast hn2
  have := abs_le.mp (h.abs_le (by norm_num) (by norm_num))
  have hl : (n : ℚ) - 1 < g := by linarith only [this.1, hnq2]
  have hu : g < (n : ℚ) + 1 := by linarith only [this.2, hnq2]
  constructor
  · intro hge
    exact truncR_eq_of_floor (by linarith only [hge, hnq]) hge hu
  · intro hlt
    exact truncR_eq_of_floor (by linarith only [hl, hnq]) (by push_cast; exact hl.le) (by push_cast; linarith only [hlt])

theorem near_of_abs {a' a : ℚ} (ha : 0 < a) (h : |a' - a| ≤ a * (1 / 2 ^ 53)) : NearN 53 1 a' a := by
  rw [abs_le] at h
  refine ⟨ha.le, ?_, ?_⟩
  · rw [pow_one]; linarith [h.1]
  · rw [pow_one]
    have h2 : a' ≤ a * (1 + 1 / 2 ^ 53) := by linarith [h.2]
    calc a' * (1 - 1 / 2 ^ 53) ≤ a * (1 + 1 / 2 ^ 53) * (1 - 1 / 2 ^ 53) :=
          mul_le_mul_of_nonneg_right h2 (by norm_num)
      _ = a - a * (1 / 2 ^ 53) ^ 2 := by ring
      _ ≤ a := sub_le_self _ (by positivity)

end NSV.C03

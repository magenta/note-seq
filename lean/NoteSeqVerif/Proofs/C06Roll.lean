import NoteSeqVerif.Proofs.C06Drums
/-! C06 — PianorollSequence, discrete half: extraction (C07 model, through its specification
`pianoroll_frame_mem`) of a sequence whose notes are exactly the rendered runs — in any storage order — returns
the canonical roll; and every roll the extractor returns is canonical.  (core Lean only) -/
namespace NSV.C06
open NSV.C07

/-- the run of `p` open after frame `k − 1` goes on for `m` frames that all hold `p`, and is maximal -/
theorem runEnd_spec (p : Int) : ∀ (rest : List (List Int)) (k : Int),
    ∃ m : Nat, runEnd p k rest = k + m ∧ m ≤ rest.length ∧ (∀ j, j < m → p ∈ evAt rest j) ∧ p ∉ evAt rest m := by
  intro rest
  induction rest with
  | nil => intro k; exact ⟨0, by simp [runEnd], by simp, by intro j hj; omega, by simp [evAt]⟩
  | cons fr rest ih =>
    intro k
    unfold runEnd
    split
    · rename_i hp
      obtain ⟨m, hm, hml, hmj, hmax⟩ := ih (k + 1)
      refine ⟨m + 1, by rw [hm]; push_cast; omega, by simpa using hml, ?_, by rwa [evAt_succ]⟩
      intro j hj
      cases j with
      | zero => rw [evAt_zero]; exact hp
      | succ j => rw [evAt_succ]; exact hmj j (by omega)
    · rename_i hp
      exact ⟨0, by simp, by simp, by intro j hj; omega, by rwa [evAt_zero]⟩

/-- every rendered note is a maximal run: it starts where `p` appears (`p` not in the previous frame), every frame it
covers holds `p`, and the frame after it does not -/
theorem rollNotesFrom_sound (minP : Int) : ∀ (ev : List (List Int)) (k : Int) (prev : List Int),
    ∀ d ∈ rollNotesFrom minP k prev ev,
      ∃ (p : Int) (i m : Nat), d = ⟨p + minP, k + i, k + m⟩ ∧ i < m ∧ m ≤ ev.length ∧
        (∀ j, i ≤ j → j < m → p ∈ evAt ev j) ∧ (i = 0 → p ∉ prev) ∧ (∀ i', i = i' + 1 → p ∉ evAt ev i') ∧
        p ∉ evAt ev m := by
  intro ev
  induction ev with
  | nil => intro k prev d hd; simp [rollNotesFrom] at hd
  | cons fr rest ih =>
    intro k prev d hd
    simp only [rollNotesFrom, List.mem_append, List.mem_map, List.mem_filter, mem_canonSet,
      decide_eq_true_eq] at hd
    rcases hd with ⟨p, ⟨hpfr, hpprev⟩, rfl⟩ | hd
    · obtain ⟨m, hm, hml, hmj, hmax⟩ := runEnd_spec p rest (k + 1)
      refine ⟨p, 0, m + 1, ?_, by omega, by simpa using hml, ?_, fun _ => hpprev, by intro i' h; omega,
        by rwa [evAt_succ]⟩
      · rw [hm]; simp only [SNote.mk.injEq, true_and]; push_cast; omega
      · intro j _ hj
        cases j with
        | zero => rw [evAt_zero]; exact hpfr
        | succ j => rw [evAt_succ]; exact hmj j (by omega)
    · obtain ⟨p, i, m, rfl, him, hml, hcov, hstart0, hstart, hmax⟩ := ih (k + 1) fr d hd
      refine ⟨p, i + 1, m + 1, ?_, by omega, by simpa using hml, ?_, by intro h; omega, ?_, by rwa [evAt_succ]⟩
      · simp only [SNote.mk.injEq, true_and]; push_cast; omega
      · intro j hij hjm
        cases j with
        | zero => omega
        | succ j => rw [evAt_succ]; exact hcov j (by omega) (by omega)
      · intro i' hi'
        have : i = i' := by omega
        subst this
        cases i with
        | zero => rw [evAt_zero]; exact hstart0 rfl
        | succ i => rw [evAt_succ]; exact hstart i rfl

/-- conversely, a pitch that appears in frame `i` (not in the frame before) starts a rendered note there -/
theorem rollNotesFrom_start (minP p : Int) : ∀ (ev : List (List Int)) (k : Int) (prev : List Int) (i : Nat),
    p ∈ evAt ev i → (i = 0 → p ∉ prev) → (∀ i', i = i' + 1 → p ∉ evAt ev i') →
      ⟨p + minP, k + i, runEnd p (k + i + 1) (ev.drop (i + 1))⟩ ∈ rollNotesFrom minP k prev ev := by
  intro ev
  induction ev with
  | nil => intro k prev i hp; simp [evAt] at hp
  | cons fr rest ih =>
    intro k prev i hp h0 hs
    simp only [rollNotesFrom, List.mem_append, List.mem_map, List.mem_filter, mem_canonSet, decide_eq_true_eq]
    cases i with
    | zero => exact .inl ⟨p, ⟨by rwa [evAt_zero] at hp, h0 rfl⟩, by simp⟩
    | succ i =>
      right
      have := ih (k + 1) fr i (by rwa [evAt_succ] at hp) (fun h => by have := hs 0 (by omega); rwa [evAt_zero] at this)
        (fun i' h => by have := hs (i' + 1) (by omega); rwa [evAt_succ] at this)
      rwa [show k + ((i + 1 : Nat) : Int) = k + 1 + i by push_cast; omega]

/-- every pitch of every frame lies in a rendered note: the one that starts here if the frame before does not hold the
pitch, else the one that covers the frame before, which by maximality goes on -/
theorem rollNotes_cover (minP : Int) (ev : List (List Int)) (p : Int) : ∀ f : Nat, p ∈ evAt ev f →
    ∃ d ∈ rollNotes minP ev, d.pitch = p + minP ∧ d.a ≤ f ∧ f < d.b := by
  have start : ∀ i : Nat, p ∈ evAt ev i → (∀ i', i = i' + 1 → p ∉ evAt ev i') →
      ∃ d ∈ rollNotes minP ev, d.pitch = p + minP ∧ d.a ≤ i ∧ i < d.b := by
    intro i hp hb
    obtain ⟨m, hm, -⟩ := runEnd_spec p (ev.drop (i + 1)) (0 + i + 1)
    exact ⟨_, rollNotesFrom_start minP p ev 0 [] i hp (fun _ => List.not_mem_nil) hb, rfl, by simp, by
      show (i : Int) < runEnd p (0 + i + 1) (ev.drop (i + 1)); omega⟩
  intro f
  induction f with
  | zero => intro hp; exact start 0 hp (by omega)
  | succ f ih =>
    intro hp
    by_cases hpf : p ∈ evAt ev f
    · obtain ⟨d, hd, h1, h2, h3⟩ := ih hpf
      refine ⟨d, hd, h1, by push_cast; omega, ?_⟩
      obtain ⟨p', i, m, rfl, -, -, -, -, -, hmax⟩ := rollNotesFrom_sound minP ev 0 [] d hd
      obtain rfl : p' = p := by simpa using h1
      have : m ≠ f + 1 := fun h => hmax (h ▸ hp)
      simp only at h3 ⊢
      omega
    · exact start (f + 1) hp (fun i' h => Nat.succ.inj h ▸ hpf)

/-- **discrete half for PianorollSequence**: `s` is any relative-quantized sequence of `S + len` steps whose notes
are exactly the rendered runs of the canonical roll `ev`, in any storage order, with any other attributes. -/
theorem roll_discrete (s : NoteSeq) (ev : List (List Int)) (S minP maxP : Int) (split : Bool)
    (hq : 0 < s.spq) (hT : s.totalQSteps = S + ev.length)
    (hA : ∀ n ∈ s.notes, ∃ d ∈ rollNotes minP ev, n.qs = S + d.a ∧ n.qe = S + d.b ∧ n.pitch = d.pitch)
    (hB : ∀ d ∈ rollNotes minP ev, ∃ n ∈ s.notes, n.qs = S + d.a ∧ n.qe = S + d.b ∧ n.pitch = d.pitch)
    (hc : CanonicalPianoroll minP maxP S ev) :
    pianorollFromQuantized s S minP maxP split = .ok ev := by
  obtain ⟨hS, hW, hfr⟩ := hc
  have hrun : ∀ n ∈ s.notes, ∃ (p : Int) (i m : Nat), n.qs = S + i ∧ n.qe = S + m ∧ n.pitch = p + minP ∧ i < m ∧
      m ≤ ev.length ∧ (∀ j, i ≤ j → j < m → p ∈ evAt ev j) ∧ ∀ i', i = i' + 1 → p ∉ evAt ev i' := by
    intro n hn
    obtain ⟨d, hd, h1, h2, h3⟩ := hA n hn
    obtain ⟨p, i, m, rfl, him, hml, hcov, -, hstart, -⟩ := rollNotesFrom_sound minP ev 0 [] d hd
    exact ⟨p, i, m, by simpa using h1, by simpa using h2, h3, him, hml, hcov, hstart⟩
  obtain ⟨evs, hevs, hlen, hmem⟩ := pianoroll_frame_mem s S minP maxP split hq (by omega) hW (by
    intro n hn
    obtain ⟨p, i, m, h1, h2, -, him, hml, -⟩ := hrun n hn
    omega)
  rw [hevs]
  congr 1
  have hl : evs.length = ev.length := by omega
  apply List.ext_getElem?
  intro f
  by_cases hf : f < ev.length
  · have hf' : f < evs.length := hl ▸ hf
    rw [getElem?_eq_evAt hf, List.getElem?_eq_getElem hf']
    congr 1
    obtain ⟨hsorted, hm⟩ := hmem f evs[f] (List.getElem?_eq_getElem hf')
    obtain ⟨hesorted, herange⟩ := hfr _ (evAt_mem hf)
    apply sorted_ext hsorted hesorted
    intro p
    rw [hm p, rollSpec_iff]
    simp only
    constructor
    · rintro ⟨_, _, ⟨n, hn, _, h1, h2, h3⟩, _⟩
      obtain ⟨p', i, m, hq1, hq2, hq3, -, -, hcov, -⟩ := hrun n hn
      obtain ⟨rfl, h4, h5⟩ : p' = p ∧ i ≤ f ∧ f < m := by omega
      exact hcov f h4 h5
    · intro hp
      obtain ⟨hp0, hp1⟩ := herange p hp
      refine ⟨hp0, hp1, ?_, ?_⟩
      · obtain ⟨d, hd, h1, h2, h3⟩ := rollNotes_cover minP ev p f hp
        obtain ⟨n, hn, hq1, hq2, hq3⟩ := hB d hd
        obtain ⟨-, i, -, e1, -⟩ := hrun n hn
        refine ⟨n, hn, ?_, step_le_of_offset_le hq1 h2, step_lt_of_offset_lt hq2 h3, hq3.trans h1⟩
        simp only [rollSel, Bool.and_eq_true, decide_eq_true_eq]
        omega
      · intro _
        rintro ⟨n, hn, _, h1, h3⟩
        obtain ⟨p', i, m, hq1, -, hq3, -, -, -, hstart⟩ := hrun n hn
        obtain ⟨rfl, h4⟩ : p' = p ∧ i = f + 1 := by omega
        exact hstart f h4 hp
  · rw [List.getElem?_eq_none (hl ▸ Nat.le_of_not_lt hf), List.getElem?_eq_none (Nat.le_of_not_lt hf)]

/-- **what extraction produces is canonical** (PianorollSequence) -/
theorem roll_extract_canonical (s : NoteSeq) (S minP maxP : Int) (split : Bool) (hS : 0 ≤ S)
    (evs : List (List Int)) (h : pianorollFromQuantized s S minP maxP split = .ok evs) :
    CanonicalPianoroll minP maxP S evs := by
  unfold pianorollFromQuantized at h
  split at h
  · cases h
  · simp only at h
    split at h
    · cases h
    · split at h
      · cases h
      · rename_i hdim _
        cases h
        refine ⟨hS, by omega, ?_⟩
        intro e he
        simp only [rollFrames, List.mem_map, List.mem_range] at he
        obtain ⟨f, _, rfl⟩ := he
        constructor
        · rw [List.pairwise_map]
          apply List.Pairwise.filter
          apply List.Pairwise.imp _ List.pairwise_lt_range
          intro a b h; omega
        · intro p hp
          simp only [List.mem_map, List.mem_filter, List.mem_range] at hp
          obtain ⟨q, ⟨hq, _⟩, rfl⟩ := hp
          omega

end NSV.C06

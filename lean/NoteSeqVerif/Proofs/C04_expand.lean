import NoteSeqVerif.Proofs.C04
/-! C04 — `expand_section_groups` (notes) on a sequence whose notes are partitioned by its section
annotations (`Block`, `BlocksWF`): the per-section table it builds is `tableOf`, and an id in range
looks up its section shifted to zero.  Exact arithmetic (`R = id`). -/
namespace NSV.C04

/-- a section: its start time and its notes -/
abbrev Block := Rat × List Note

def endOf (rest : List Block) (T : Rat) : Rat :=
  match rest with
  | (s, _) :: _ => s
  | [] => T

/-- increasing section starts below the total time; every note of a section starts inside it and
ends no later than its end -/
def BlocksWF : List Block → Rat → Prop
  | [], _ => True
  | (s, ns) :: rest, T =>
    s < endOf rest T ∧ (∀ n ∈ ns, s ≤ n.start ∧ n.start < endOf rest T ∧ n.end_ ≤ endOf rest T) ∧ BlocksWF rest T

/-- section annotations with consecutive ids from `i0` -/
def blockSections : List Block → Int → List (Rat × Int)
  | [], _ => []
  | (s, _) :: rest, i0 => (s, i0) :: blockSections rest (i0 + 1)

def blockNotes (bs : List Block) : List Note := bs.flatMap (·.2)

def shiftBlock (s : Rat) (ns : List Note) : List Note :=
  ns.map (fun n => { n with start := n.start - s, end_ := n.end_ - s })

abbrev Tbl := List (Int × (List Note × Rat × Rat))

/-- the table `expand_section_groups` builds for the sections of `rest` (ids from `i`) -/
def tableOf : List Block → Int → Rat → Tbl → Tbl
  | [], _, _, acc => acc
  | (s, ns) :: rest, i, T, acc =>
    tableOf rest (i + 1) T (upsert i (shiftBlock s ns, maxEnd (shiftBlock s ns) 0, endOf rest T - s) acc)

/-- what the expansion is compared on: pitch and duration of every note, in order -/
def pd (n : Note) : Int × Rat := (n.pitch, n.end_ - n.start)

/-- a tune whose notes are partitioned by its section annotations -/
def tuneOfBlocks (bs : List Block) (T : Rat) (groups : List (Int × Nat)) (base : Tune) : Tune :=
  { base with notes := blockNotes bs, sections := blockSections bs 0, groups := groups, totalTime := T }

def blockPd (bs : List Block) (i : Int) : List (Int × Rat) :=
  match bs[i.toNat]? with
  | some (_, ns) => ns.map pd
  | none => []

theorem endOf_le_T {rest : List Block} {T : Rat} (h : BlocksWF rest T) : endOf rest T ≤ T := by
  induction rest with
  | nil => exact Rat.le_refl
  | cons b r ih =>
    obtain ⟨s, ns⟩ := b
    exact Rat.le_of_lt (Std.lt_of_lt_of_le h.1 (ih h.2.2))

theorem later_notes_ge {rest : List Block} {T : Rat} (h : BlocksWF rest T) :
    ∀ n ∈ blockNotes rest, endOf rest T ≤ n.start := by
  induction rest with
  | nil => simp [blockNotes]
  | cons b r ih =>
    obtain ⟨s, ns⟩ := b
    intro n hn
    simp only [blockNotes, List.flatMap_cons, List.mem_append] at hn
    simp only [endOf]
    rcases hn with hn | hn
    · exact (h.2.1 n hn).1
    · exact Rat.le_trans (Rat.le_of_lt h.1) (ih h.2.2 n hn)

theorem filter_append_of {α} (q : α → Bool) (a b : List α) (ha : ∀ x ∈ a, q x = false) (hb : ∀ x ∈ b, q x = true) :
    (a ++ b).filter q = b := by
  rw [List.filter_append, List.filter_eq_nil_iff.mpr (by simpa using ha), List.filter_eq_self.mpr hb]
  rfl

theorem takeWhile_append_of {α} (p : α → Bool) (a b : List α) (ha : ∀ x ∈ a, p x = true) (hb : ∀ x ∈ b, p x = false) :
    (a ++ b).takeWhile p = a := by
  rw [List.takeWhile_append_of_pos ha]
  cases b with
  | nil => simp
  | cons x r => simp [hb x (by simp)]

/-- the notes `_extract_subsequences` puts into the section `[s, e)` -/
theorem extractNotes_block (pre : List Note) (ns : List Note) (post : List Note) (s e : Rat)
    (hpre : ∀ n ∈ pre, n.start < s) (hns : ∀ n ∈ ns, s ≤ n.start ∧ n.start < e ∧ n.end_ ≤ e)
    (hpost : ∀ n ∈ post, e ≤ n.start) (hse : s < e) :
    extractNotes id (pre ++ (ns ++ post)) s e =
      ns.map (fun n => { n with start := n.start - s, end_ := n.end_ - s }) := by
  unfold extractNotes
  rw [filter_append_of _ pre (ns ++ post)]
  · rw [takeWhile_append_of _ ns post]
    · apply List.map_congr_left
      intro n hn
      simp [(hns n hn).2.2]
    · intro n hn; simpa using (hns n hn).2.1
    · intro n hn; simpa [Rat.not_lt] using hpost n hn
  · intro n hn; simpa using hpre n hn
  · intro n hn
    rcases List.mem_append.mp hn with h | h
    · simpa [Rat.not_lt] using (hns n h).1
    · simpa [Rat.not_lt] using Rat.le_trans (Rat.le_of_lt hse) (hpost n h)

theorem BlocksWF_suffix {pre rest : List Block} {T : Rat} (h : BlocksWF (pre ++ rest) T) : BlocksWF rest T := by
  induction pre with
  | nil => simpa using h
  | cons b p ih =>
    obtain ⟨s, ns⟩ := b
    exact ih h.2.2

theorem endOf_chain {p r : List Block} {s : Rat} {ns : List Note} {T : Rat} (h : BlocksWF (p ++ (s, ns) :: r) T) :
    endOf (p ++ (s, ns) :: r) T ≤ s := by
  induction p with
  | nil => simp [endOf]
  | cons b p' ih =>
    obtain ⟨s1, ns1⟩ := b
    exact Rat.le_of_lt (Std.lt_of_lt_of_le h.1 (ih h.2.2))

theorem earlier_notes_lt {pre r : List Block} {s : Rat} {ns : List Note} {T : Rat}
    (h : BlocksWF (pre ++ (s, ns) :: r) T) : ∀ n ∈ blockNotes pre, n.start < s := by
  induction pre with
  | nil => simp [blockNotes]
  | cons b p ih =>
    obtain ⟨s0, ns0⟩ := b
    intro n hn
    simp only [blockNotes, List.flatMap_cons, List.mem_append] at hn
    rcases hn with hn | hn
    · exact Std.lt_of_lt_of_le (h.2.1 n hn).2.1 (endOf_chain h.2.2)
    · exact ih h.2.2 n hn

theorem blockSections_head (r : List Block) (j : Int) (T : Rat) :
    nextStart (blockSections r j) T = endOf r T := by
  cases r with
  | nil => rfl
  | cons b r' => obtain ⟨s, ns⟩ := b; rfl

theorem sectionTable_blocks (pre rest : List Block) (T : Rat) (i : Int) (acc : Tbl)
    (h : BlocksWF (pre ++ rest) T) :
    sectionTable id (blockNotes (pre ++ rest)) T (blockSections rest i) acc = .ok (tableOf rest i T acc) := by
  induction rest generalizing pre i acc with
  | nil => simp [blockSections, sectionTable, tableOf]
  | cons b r ih =>
    obtain ⟨s, ns⟩ := b
    have hsuf := BlocksWF_suffix h
    have hse : s < endOf r T := hsuf.1
    have heT : endOf r T ≤ T := endOf_le_T hsuf.2.2
    simp only [blockSections, sectionTable, blockSections_head]
    rw [if_neg (Rat.not_lt.mpr (Rat.le_of_lt hse)), if_neg (Rat.not_le.mpr (Std.lt_of_lt_of_le hse heT))]
    have hnotes : blockNotes (pre ++ (s, ns) :: r) = blockNotes pre ++ (ns ++ blockNotes r) := by
      simp [blockNotes]
    rw [hnotes, extractNotes_block (blockNotes pre) ns (blockNotes r) s (endOf r T)
      (earlier_notes_lt h) hsuf.2.1 (later_notes_ge hsuf.2.2) hse]
    have := ih (pre ++ [(s, ns)]) (i + 1)
      (upsert i (shiftBlock s ns, maxEnd (shiftBlock s ns) 0, endOf r T - s) acc) (by simpa using h)
    simp only [List.append_assoc, List.cons_append, List.nil_append] at this
    rw [hnotes] at this
    simp only [id]
    exact this

theorem lookup_tableOf_lt (rest : List Block) (i j : Int) (T : Rat) (acc : Tbl) (hj : j < i) :
    lookup j (tableOf rest i T acc) = lookup j acc := by
  induction rest generalizing i acc with
  | nil => rfl
  | cons b r ih =>
    obtain ⟨s, ns⟩ := b
    simp only [tableOf]
    rw [ih (i + 1) _ (by omega), lookup_upsert, if_neg (by omega)]

theorem lookup_tableOf (rest : List Block) (i : Int) (T : Rat) (acc : Tbl) (k : Nat) (s : Rat) (ns : List Note)
    (hk : rest[k]? = some (s, ns)) :
    lookup (i + k) (tableOf rest i T acc) =
      some (shiftBlock s ns, maxEnd (shiftBlock s ns) 0, endOf (rest.drop (k + 1)) T - s) := by
  induction rest generalizing i acc k with
  | nil => simp at hk
  | cons b r ih =>
    obtain ⟨s0, ns0⟩ := b
    cases k with
    | zero =>
      simp only [List.getElem?_cons_zero, Option.some.injEq, Prod.mk.injEq] at hk
      obtain ⟨rfl, rfl⟩ := hk
      simp only [tableOf, Int.natCast_zero, Int.add_zero, Nat.zero_add, List.drop_succ_cons, List.drop_zero]
      rw [lookup_tableOf_lt _ _ _ _ _ (by omega), lookup_upsert, if_pos rfl]
    | succ k =>
      simp only [List.getElem?_cons_succ] at hk
      simp only [tableOf, List.drop_succ_cons]
      have := ih (i + 1) (upsert i (shiftBlock s0 ns0, maxEnd (shiftBlock s0 ns0) 0, endOf r T - s0) acc) k hk
      rw [← this]
      congr 1
      omega

theorem pd_shiftBlock (s : Rat) (ns : List Note) : (shiftBlock s ns).map pd = ns.map pd := by
  simp only [shiftBlock, List.map_map]
  apply List.map_congr_left
  intro n _
  simp only [Function.comp, pd, Prod.mk.injEq, true_and]
  grind

theorem maxEnd_le (l : List Note) (m d : Rat) (hm : m ≤ d) (hl : ∀ n ∈ l, n.end_ ≤ d) : maxEnd l m ≤ d := by
  induction l generalizing m with
  | nil => simpa [maxEnd] using hm
  | cons n r ih =>
    simp only [maxEnd]
    apply ih
    · split
      · exact hl n (by simp)
      · exact hm
    · intro x hx; exact hl x (by simp [hx])

theorem lookupAll_ok {β} (tbl : List (Int × β)) (ids : List Int) (f : Int → β) (h : ∀ i ∈ ids, lookup i tbl = some (f i)) :
    lookupAll tbl ids = .ok (ids.map f) := by
  induction ids with
  | nil => rfl
  | cons i r ih =>
    simp only [lookupAll, h i (by simp), ih (fun j hj => h j (by simp [hj])), List.map_cons]

end NSV.C04

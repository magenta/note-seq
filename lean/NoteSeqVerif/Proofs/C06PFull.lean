import NoteSeqVerif.Proofs.C06PEvents
/-! C06 (performance half) — the first sort (`sorted_notes`), and with it the discrete half of the round trip.

Several NOTE_ONs of one pitch may share a step.  Then two rendered notes can share start time and pitch, the extractor's
first sort has tied keys, and its result depends on the order in which `_to_sequence` stores the notes (Python's `sorted`
is stable).  That order is the NOTE_OFF order, and first-in-first-out matching closes notes of one pitch in the order of
their NOTE_ONs (`FOrd`), so the stable sort puts tied notes back in NOTE_ON order (`sortedNotes_full`).  Where no two
NOTE_ONs share step and pitch no keys tie and the storage order does not matter (`sortedNotes_strict`). -/
namespace NSV.C06P
open NSV.C06 NSV.C07

/-- first-in-first-out: notes of one pitch are closed in the order they were opened (`offsOrd`); the other fields are
what the induction over `anStep` needs to carry (`open_` is in NOTE_ON order, so `find?` takes the oldest) -/
structure FOrd (st : AnState) : Prop where
  openInc : st.open_.Pairwise (fun a b => a.idx < b.idx)
  offOpen : ∀ a ∈ st.offs, ∀ o ∈ st.open_, a.pitch = o.pitch → a.idx < o.idx
  offsOrd : st.offs.Pairwise (fun a b => a.pitch = b.pitch → a.idx < b.idx)

theorem FOrd.init : FOrd ⟨0, [], [], true⟩ :=
  ⟨by simp, by intro a ha; simp [AnState.offs] at ha, by simp [AnState.offs]⟩

theorem find_first {α} (R : α → α → Prop) (p : α → Bool) (l : List α) (o : α) (hpw : l.Pairwise R)
    (hf : l.find? p = some o) : ∀ x ∈ l.eraseP p, p x = true → R o x := by
  obtain ⟨_, l₁, l₂, rfl, h₁, he⟩ := find?_split hf
  intro x hx hpx
  rw [he] at hx
  rcases List.mem_append.mp hx with hx | hx
  · exact absurd hpx (h₁ x hx)
  · exact (List.pairwise_cons.mp (List.pairwise_append.mp hpw).2.1).1 x hx

theorem FOrd.step {st : AnState} (h : FOrd st) (hinv : AInv st) (e : SEv) : FOrd (anStep st e) := by
  cases hoff : e.isOff with
  | true =>
    cases hf : st.open_.find? (fun o => o.pitch == e.pitch) with
    | none => rw [anStep_off_none st e hoff hf]; exact ⟨h.openInc, h.offOpen, h.offsOrd⟩
    | some o =>
      have ho : o ∈ st.open_ := List.mem_of_find?_eq_some hf
      have hp : o.pitch = e.pitch := by simpa using List.find?_some hf
      have hoffs := anStep_off_offs st e o hoff hf
      rw [anStep_off_some st e o hoff hf] at hoffs ⊢
      refine ⟨h.openInc.sublist List.eraseP_sublist, ?_, ?_⟩
      · intro a ha o' ho' hpp
        rw [hoffs, List.mem_append, List.mem_singleton] at ha
        rcases ha with ha | rfl
        · exact h.offOpen a ha o' (List.mem_of_mem_eraseP ho') hpp
        · -- the note just closed was the first open one of its pitch
          exact find_first (fun a b => a.idx < b.idx) _ st.open_ o h.openInc hf o' ho' (by simp [← hpp])
      · rw [hoffs, List.pairwise_append]
        refine ⟨h.offsOrd, by simp, ?_⟩
        intro a ha b hb hpp
        rw [List.mem_singleton.mp hb] at hpp ⊢
        exact h.offOpen a ha o ho (hpp.trans hp.symm)
  | false =>
    -- the new note gets the number `nOn`, above every number in use
    have hoffs := anStep_on_offs st e hoff
    rw [anStep_on st e hoff] at hoffs ⊢
    refine ⟨?_, ?_, hoffs ▸ h.offsOrd⟩
    · rw [List.pairwise_append]
      refine ⟨h.openInc, by simp, ?_⟩
      intro a ha b hb
      rw [List.mem_singleton.mp hb]
      exact hinv.idx_lt.2 a ha
    · intro a ha o ho hpp
      rw [hoffs] at ha
      rcases List.mem_append.mp ho with ho | ho
      · exact h.offOpen a ha o ho hpp
      · rw [List.mem_singleton.mp ho]; exact hinv.idx_lt.1 a ha

theorem annotate_ford (es : List SEv) : FOrd (annotate es) :=
  (anRun_inv (P := fun st => AInv st ∧ FOrd st) (fun _ e h => ⟨h.1.step e, h.2.step h.1 e⟩)
    ⟨AInv.init, FOrd.init⟩ es).2

theorem pair_sublist_or {α} : ∀ (l : List α) (a b : α), a ∈ l → b ∈ l → a ≠ b →
    [a, b].Sublist l ∨ [b, a].Sublist l := by
  intro l
  induction l with
  | nil => intro a b ha; simp at ha
  | cons x xs ih =>
    intro a b ha hb hab
    rcases List.mem_cons.mp ha with rfl | ha' <;> rcases List.mem_cons.mp hb with rfl | hb'
    · exact absurd rfl hab
    · left; exact List.Sublist.cons_cons _ (List.singleton_sublist.mpr hb')
    · right; exact List.Sublist.cons_cons _ (List.singleton_sublist.mpr ha')
    · rcases ih a b ha' hb' hab with h | h
      · exact Or.inl (h.cons _)
      · exact Or.inr (h.cons _)

theorem nodup_pair_sublist {α} : ∀ (l : List α) (a b : α), l.Nodup → [a, b].Sublist l → [b, a].Sublist l → False := by
  intro l
  induction l with
  | nil => intro a b _ h; simp at h
  | cons x xs ih =>
    intro a b hnd h1 h2
    rw [List.nodup_cons] at hnd
    rw [List.sublist_cons_iff] at h1 h2
    rcases h1 with h1 | ⟨r1, e1, h1⟩ <;> rcases h2 with h2 | ⟨r2, e2, h2⟩
    · exact ih a b hnd.2 h1 h2
    · -- b = x, a ∈ xs, and [a, b] <+ xs puts b ∈ xs
      simp only [List.cons.injEq] at e2
      have : b ∈ xs := h1.subset (by simp)
      rw [e2.1] at this; exact hnd.1 this
    · simp only [List.cons.injEq] at e1
      have : a ∈ xs := h2.subset (by simp)
      rw [e1.1] at this; exact hnd.1 this
    · simp only [List.cons.injEq] at e1 e2
      have : b ∈ xs := by rw [← e1.2] at h1; exact h1.subset (by simp)
      rw [e2.1] at this; exact hnd.1 this

/-- **first sort, with ties**: the stable sort by `(start_time, pitch)` of the notes in the order `_to_sequence`
stores them (NOTE_OFF order) is the list of notes in NOTE_ON order -/
theorem sortedNotes_full {nb B v0 : Int} {strict : Bool} {st : AnState} (acc : Accepted nb B strict st) (ford : FOrd st)
    {R : Rat → Rat} {c : RenderCfg} {q : Rat → Int} {S : Int}
    (g : Grid (stepTimeR R c.sigma c.sst) q S B) :
    ((st.offs.map (noteOfOff nb v0)).map (qnote R c S)).mergeSort timePitchLe =
      ((List.range st.nOn).map (noteAt nb v0 st)).map (qnote R c S) := by
  -- sort the NOTE_OFF events themselves, by the key of their notes: they come out in NOTE_ON order
  let f : AEv → Note := fun a => qnote R c S (noteOfOff nb v0 a)
  let le' : AEv → AEv → Bool := fun a b => timePitchLe (f a) (f b)
  have hle' : TotalPre le' := timePitchLe_pre.comap f
  have hperm : (st.offs.mergeSort le').Perm st.offs := List.mergeSort_perm _ _
  have hnd : (st.offs.mergeSort le').Nodup := hperm.nodup_iff.mpr (List.Pairwise.of_map (·.idx) (fun _ _ h e => h (congrArg _ e)) acc.offsIdx_nodup)
  have hkey : ∀ a ∈ st.offs, ∀ b ∈ st.offs, le' a b = rnLe (noteOfOff nb v0 a) (noteOfOff nb v0 b) :=
    fun a ha b hb => timePitchLe_qnote g _ _ (acc.inB a ha) (acc.inB b hb)
  have hidx : (st.offs.mergeSort le').Pairwise (fun a b => a.idx < b.idx) := by
    rw [List.pairwise_iff_forall_sublist]
    intro a b hab
    have ha : a ∈ st.offs := hperm.mem_iff.mp (hab.subset (by simp))
    have hb : b ∈ st.offs := hperm.mem_iff.mp (hab.subset (by simp))
    have hle : le' a b = true := List.pairwise_iff_forall_sublist.mp (hle'.sorted st.offs) hab
    apply Decidable.byContradiction
    intro hn
    have hne : a ≠ b := List.pairwise_iff_forall_sublist.mp hnd hab
    have hlt : b.idx < a.idx := by
      have : a.idx ≠ b.idx := fun h => hne (inj_of_nodup_map (·.idx) acc.offsIdx_nodup ha hb h)
      omega
    -- the NOTE_ON order is a key order, so the keys are tied: same start step, same pitch
    have hge := acc.rnLe_of_idx_lt (v0 := v0) b hb a ha hlt
    have hpitch : a.pitch = b.pitch := by
      rw [hkey a ha b hb, rnLe_iff] at hle
      rw [rnLe_iff] at hge
      simp only [noteOfOff] at hle hge
      omega
    -- first in, first out: `b` (earlier NOTE_ON, same pitch) was closed before `a`, and the sort is stable
    have hba : [b, a].Sublist st.offs := (pair_sublist_or st.offs a b ha hb hne).resolve_left fun h => by
      have := List.pairwise_iff_forall_sublist.mp ford.offsOrd h hpitch
      omega
    exact nodup_pair_sublist _ _ _ hnd hab
      (List.pair_sublist_mergeSort hle'.trans hle'.total ((hkey b hb a ha).trans hge) hba)
  have hrange : (st.offs.mergeSort le').map (·.idx) = List.range st.nOn :=
    List.Perm.eq_of_pairwise (fun a b _ _ h1 h2 => by omega) (List.pairwise_map.mpr hidx) List.pairwise_lt_range
      ((hperm.map _).trans acc.offsIdx_perm)
  rw [List.map_map]
  show (st.offs.map f).mergeSort timePitchLe = _
  rw [← List.map_mergeSort (f := f) (r := le') (s := timePitchLe) (fun a _ b _ => rfl), ← hrange, List.map_map, List.map_map]
  exact List.map_congr_left fun a ha => by
    simp only [Function.comp, f, acc.noteAt_off (v0 := v0) a (hperm.mem_iff.mp ha)]

/-- **first sort, strict**: when no two NOTE_ONs share step and pitch the keys are distinct, so the notes may be stored
in any order -/
theorem sortedNotes_strict {nb B v0 : Int} {st : AnState} (acc : Accepted nb B true st) (ford : FOrd st)
    {R : Rat → Rat} {c : RenderCfg} {q : Rat → Int} {S : Int}
    (g : Grid (stepTimeR R c.sigma c.sst) q S B) (X : List Note)
    (hX : X.Perm ((st.offs.map (noteOfOff nb v0)).map (qnote R c S))) :
    X.mergeSort timePitchLe = ((List.range st.nOn).map (noteAt nb v0 st)).map (qnote R c S) := by
  rw [← sortedNotes_full acc ford g]
  -- distinct keys: the sort does not see the storage order
  refine (List.map_id _).symm.trans
    ((timePitchLe_pre.map_mergeSort_perm (f := id) hX.symm fun x hx y hy h1 h2 => ?_).symm.trans (List.map_id _))
  show x = y
  obtain ⟨_, hr, rfl⟩ := List.mem_map.mp hx
  obtain ⟨a, ha, rfl⟩ := List.mem_map.mp hr
  obtain ⟨_, hr', rfl⟩ := List.mem_map.mp hy
  obtain ⟨b, hb, rfl⟩ := List.mem_map.mp hr'
  rw [timePitchLe_qnote g _ _ (acc.inB a ha) (acc.inB b hb), rnLe_iff] at h1
  rw [timePitchLe_qnote g _ _ (acc.inB b hb) (acc.inB a ha), rnLe_iff] at h2
  -- NOTE_ONs of different numbers differ in step or pitch
  have hlt : ∀ a ∈ st.offs, ∀ b ∈ st.offs, a.idx < b.idx → a.s < b.s ∨ (a.s = b.s ∧ a.pitch < b.pitch) := by
    intro a ha b hb hij
    have := acc.ons_rel a b ha hb hij
    simp only [↓reduceIte, onLt, AEv.onOf, Bool.or_eq_true, Bool.and_eq_true, beq_iff_eq] at this
    rcases this with h | ⟨h, p⟩
    · exact Or.inl (of_decide_eq_true h)
    · exact Or.inr ⟨h, of_decide_eq_true p⟩
  simp only [noteOfOff] at h1 h2
  rcases Nat.lt_trichotomy a.idx b.idx with h | h | h
  · have := hlt a ha b hb h; omega
  · rw [inj_of_nodup_map (·.idx) acc.offsIdx_nodup ha hb h]
  · have := hlt b hb a ha h; omega

/-- **discrete half at full strength**: the quantized sequence holds the notes `_to_sequence` adds, in the order
it adds them -/
theorem discreteHalf_full {R : Rat → Rat} (σ : Rat) {p : PerfObj} {a : SeqArgs} {filt : Option Int}
    (hcanon : CanonicalPerfFull p.nb p.maxShift p.events) (hnb0 : 0 ≤ p.nb)
    (hfilt : filt = none ∨ filt = some a.instrument) : DiscreteHalf R σ p a filt p.events := by
  intro q g
  obtain ⟨_, _, _, _, acc⟩ := accepted_of_canonicalB p.nb p.maxShift false p.events hcanon
  refine ⟨_, decodeEvents_canonicalB p.nb p.maxShift a.velocity false p.events hcanon, fun r hr => ?_, fun qs hqn => ?_⟩
  · obtain ⟨x, hx, rfl⟩ := List.mem_map.mp hr
    exact acc.inB x hx
  · refine perfEvents_of_sorted p.nb p.maxShift a.velocity false p.events hcanon hnb0 filt hfilt qs
      (fun n hn => hqn ▸ hn) ?_
    rw [hqn]
    exact sortedNotes_full acc (annotate_ford _) g

/-- **discrete half**: it holds when `p` renders to the same notes as the strictly canonical `evs`, in any storage
order (the extractor's first sort has distinct keys) -/
theorem discreteHalf_of_sameNotes {R : Rat → Rat} (σ : Rat) {p : PerfObj} {a : SeqArgs} {filt : Option Int}
    {evs : List PEvent} (hcanon : CanonicalPerf p.nb p.maxShift evs) (hnb0 : 0 ≤ p.nb)
    (hfilt : filt = none ∨ filt = some a.instrument) (hsame : SameNotes p a evs) :
    DiscreteHalf R σ p a filt evs := by
  intro q g
  obtain ⟨_, _, _, _, acc⟩ := accepted_of_canonicalB p.nb p.maxShift true evs hcanon
  obtain ⟨D0, D', hD0, hD', hperm⟩ := hsame
  obtain rfl := Except.ok.inj ((decodeEvents_canonicalB p.nb p.maxShift a.velocity true evs hcanon).symm.trans hD0)
  refine ⟨D', hD', fun r hr => ?_, fun qs hqn => ?_⟩
  · obtain ⟨x, hx, rfl⟩ := List.mem_map.mp (hperm.mem_iff.mp hr)
    exact acc.inB x hx
  · have hX := hqn ▸ hperm.map (qnote R (renderCfg R σ p a) p.startStep)
    exact perfEvents_of_sorted p.nb p.maxShift a.velocity true evs hcanon hnb0 filt hfilt qs
      (fun n hn => hX.mem_iff.mp hn) (sortedNotes_strict acc (annotate_ford _) g qs.notes hX)

end NSV.C06P

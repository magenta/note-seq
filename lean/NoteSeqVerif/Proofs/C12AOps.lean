import NoteSeqVerif.Proofs.C12A
import NoteSeqVerif.Props.C10
import NoteSeqVerif.Model.C13Spec
/-! C12 — transposition (C10's model) and stretching / shifting (C13's model) on two storage orders: the loops of
`transposeNS` one by one (assembled in `Props/C12_transpose.lean`), and `stretch_perm` / `shift_perm` themselves,
which need no side condition (`Props/C12_stretch.lean` only instantiates them). -/
namespace NSV.C12

section transpose
open NSV.C10

theorem noteLoop_perm (k mn mx : Int) {l l' : List Note} (h : l.Perm l') :
    (noteLoop k mn mx l [] 0 0).1.Perm (noteLoop k mn mx l' [] 0 0).1 ∧
    (noteLoop k mn mx l [] 0 0).2.1 = (noteLoop k mn mx l' [] 0 0).2.1 ∧
    (noteLoop k mn mx l [] 0 0).2.2 = (noteLoop k mn mx l' [] 0 0).2.2 := by
  rw [noteLoop_eq, noteLoop_eq]
  refine ⟨?_, ?_, ?_⟩
  · simp only [List.nil_append]
    exact (h.filter _).map _
  · simp only [Nat.zero_add]
    exact (h.filter _).length_eq
  · exact (h.filter _).foldl_eq' (by intro x _ y _ z; unfold maxEnd; grind) 0

/-- the chord symbols of the sequence that cannot be split all fail with the same error
(in the implementation: `ChordSymbolError`) -/
def OneSplitError (split : String → Except Err Sym) (ts : List TextAnn) : Prop :=
  ∀ t ∈ ts, ∀ t' ∈ ts, IsChord t → IsChord t' →
    ∀ e e', split t.text = .error e → split t'.text = .error e' → e = e'

theorem OneSplitError.perm {split : String → Except Err Sym} {ts ts' : List TextAnn} (h : ts.Perm ts')
    (ho : OneSplitError split ts) : OneSplitError split ts' :=
  fun t ht t' ht' => ho t (h.mem_iff.mpr ht) t' (h.mem_iff.mpr ht')

theorem textLoop_perm (split : String → Except Err Sym) (k : Int) {ts ts' : List TextAnn}
    (h : ts.Perm ts') (ho : OneSplitError split ts) :
    ResRel List.Perm (textLoop split k ts) (textLoop split k ts') := by
  rw [textLoop_eq, textLoop_eq, findSome?_perm h fun x hx y hy e e' ex ey =>
    ho x hx y hy (textErr_some ex).1 (textErr_some ey).1 e e' (textErr_some ex).2 (textErr_some ey).2]
  cases ts'.findSome? (textErr split) with
  | some e => rfl
  | none => exact h.map _

/-- lowest and highest pitch are the greatest lower and the least upper bound of the pitches, so they only
depend on the members of the list -/
theorem minPitch_perm {n n' : Note} {ns ns' : List Note} (h : (n :: ns).Perm (n' :: ns')) :
    minPitch ns n.pitch = minPitch ns' n'.pitch := by
  have key : ∀ b, b ≤ minPitch ns n.pitch ↔ b ≤ minPitch ns' n'.pitch := fun b => by
    simp only [le_minPitch, h.mem_iff]
  exact Int.le_antisymm ((key _).mp (Int.le_refl _)) ((key _).mpr (Int.le_refl _))

theorem maxPitch_perm {n n' : Note} {ns ns' : List Note} (h : (n :: ns).Perm (n' :: ns')) :
    maxPitch ns n.pitch = maxPitch ns' n'.pitch := by
  have key : ∀ b, maxPitch ns n.pitch ≤ b ↔ maxPitch ns' n'.pitch ≤ b := fun b => by
    simp only [maxPitch_le, h.mem_iff]
  exact Int.le_antisymm ((key _).mpr (Int.le_refl _)) ((key _).mp (Int.le_refl _))

end transpose

section stretch
open NSV.C13

theorem perm_ite_map {α : Type} (c : Prop) [Decidable c] (f : α → α) {l l' : List α} (h : l.Perm l') :
    (if c then l.map f else l).Perm (if c then l'.map f else l') := by
  split
  · exact h.map f
  · exact h

theorem mapEv_perm (sel : List String) (g : Rat → Rat) {s s' : NoteSeq} (h : NSPerm s s') :
    NSPerm (mapEv sel g s) (mapEv sel g s') :=
  { h with
    tempos := perm_ite_map _ _ h.tempos
    timeSigs := perm_ite_map _ _ h.timeSigs
    keySigs := perm_ite_map _ _ h.keySigs
    texts := perm_ite_map _ _ h.texts
    ccs := perm_ite_map _ _ h.ccs
    bends := perm_ite_map _ _ h.bends
    sectionAnns := perm_ite_map _ _ h.sectionAnns }

/-- `stretch_note_sequence(note_sequence, stretch_factor)` on two storage orders of one sequence:
same error (quantized input, division by zero), or the same stretched sequence up to storage order -/
theorem stretch_perm (R : Rat → Rat) (f : Rat) {s s' : NoteSeq} (h : NSPerm s s') :
    ResPerm (stretchR R f s) (stretchR R f s') := by
  have h1 : NSPerm { s with notes := mapNotes (fun t => R (t * f)) s.notes, totalTime := R (s.totalTime * f) }
      { s' with notes := mapNotes (fun t => R (t * f)) s'.notes, totalTime := R (s'.totalTime * f) } :=
    { h with notes := h.notes.map _, totalTime := by rw [h.totalTime] }
  have h2 := mapEv_perm Gen.stretchEventFields (fun t => R (t * f)) h1
  have fin : ∀ {t t' : NoteSeq}, NSPerm t t' →
      NSPerm { t with tempos := t.tempos.map fun x => { x with qpm := R (x.qpm / f) } }
        { t' with tempos := t'.tempos.map fun x => { x with qpm := R (x.qpm / f) } } :=
    fun ht => { ht with tempos := ht.tempos.map _ }
  unfold stretchR
  rw [← h.isQuantized]
  split
  · rfl
  · split
    · exact h
    · simp only []
      rw [h2.tempos.isEmpty_eq]
      split
      · rfl
      · exact fin h2

/-- `shift_sequence_times(sequence, shift_seconds)` on two storage orders of one sequence: same
error (non-positive shift, quantized input), or the same shifted sequence up to storage order -/
theorem shift_perm (R : Rat → Rat) (d : Rat) {s s' : NoteSeq} (h : NSPerm s s') :
    ResPerm (shiftR R d s) (shiftR R d s') := by
  have h1 : NSPerm { s with hasSub := false, subStart := 0, subEnd := 0, notes := mapNotes (fun t => R (t + d)) s.notes }
      { s' with hasSub := false, subStart := 0, subEnd := 0, notes := mapNotes (fun t => R (t + d)) s'.notes } :=
    { h with notes := h.notes.map _, hasSub := rfl, subStart := rfl, subEnd := rfl }
  have h2 := mapEv_perm Gen.shiftEventFields (fun t => R (t + d)) h1
  have fin : ∀ {t t' : NoteSeq}, NSPerm t t' →
      NSPerm { t with totalTime := R (t.totalTime + d) } { t' with totalTime := R (t'.totalTime + d) } :=
    fun ht => { ht with totalTime := by rw [ht.totalTime] }
  unfold shiftR
  rw [← h.isQuantized]
  split
  · rfl
  · split
    · rfl
    · exact fin h2

/-- the sequence `shift_sequence_times` returns when it returns (C13's `shiftSeq`), on two storage orders: what one
round of the concatenation loop appends -/
theorem shiftSeq_perm (R : Rat → Rat) (d : Rat) {s s' : NoteSeq} (h : NSPerm s s') :
    NSPerm (shiftSeq R d s) (shiftSeq R d s') :=
  { h with
    notes := h.notes.map _
    tempos := h.tempos.map _
    timeSigs := h.timeSigs.map _
    keySigs := h.keySigs.map _
    texts := h.texts.map _
    ccs := h.ccs.map _
    bends := h.bends.map _
    sectionAnns := h.sectionAnns.map _
    totalTime := by show R (s.totalTime + d) = R (s'.totalTime + d); rw [h.totalTime]
    hasSub := rfl
    subStart := rfl
    subEnd := rfl }

end stretch
end NSV.C12

import NoteSeqVerif.Proofs.C14Basic
/-! C14 — layer 1 of the proof of `sustain_spec`: the concrete event loop (heap, active lists,
pedal flags) simulates, for every note `j` separately, a small automaton `astep j` whose state is
"is `j` in its instrument's active list / where does `j` end now / is `j`'s pedal down / how was
`j` closed".  Layer 2 (`C14Abs`) evaluates that automaton over the sorted event list. -/
namespace NSV.C14
open Gen

-- The four event-type constants are regenerated from the source.  The proofs use only that they
-- are pairwise different (here: `step` and `astep` branch on them) and their order (`typ_order` in
-- `C14Abs`).
theorem t01 : SUSTAIN_ON ≠ SUSTAIN_OFF := by decide
theorem t02 : SUSTAIN_ON ≠ NOTE_ON := by decide
theorem t03 : SUSTAIN_ON ≠ NOTE_OFF := by decide
theorem t12 : SUSTAIN_OFF ≠ NOTE_ON := by decide
theorem t13 : SUSTAIN_OFF ≠ NOTE_OFF := by decide
theorem t23 : NOTE_ON ≠ NOTE_OFF := by decide


/-- ghost: what gave the note a new end — `byPed` a release of its pedal, `byStrike` a note of its
pitch starting under the pedal; `none` = not ended yet, or ended by its own note-off (end unchanged) -/
inductive Tag where
  | none | byPed | byStrike
deriving DecidableEq

structure Abs where
  act : Bool      -- the note is in its instrument's active list
  e : Rat         -- current end time of the note object
  ped : Bool      -- pedal flag of the note's instrument
  tag : Tag       -- how the note was taken out of the active list with a new end (ghost)

/-- what one event does to note `j` alone: `step` projected to `j`'s membership in its active
list, the end of `j`'s object and the pedal flag of `j`'s instrument.  `notes` are the input notes
(pitch, instrument and start never change during the loop). -/
def astep {n} (notes : Fin n → Note) (j : Fin n) (a : Abs) (ev : Ev n) : Abs :=
  match ev.obj with
  | .cc c =>
    if c.instrument = (notes j).instrument then
      if ev.typ = SUSTAIN_ON then { a with ped := true }
      else if ev.typ = SUSTAIN_OFF then
        if a.act = true ∧ a.e < ev.time then { act := false, e := ev.time, ped := false, tag := .byPed }
        else { a with ped := false }
      else a
    else a
  | .note k =>
    if ev.typ = NOTE_ON then
      if k = j then { a with act := true }
      else if (notes k).instrument = (notes j).instrument ∧ (notes k).pitch = (notes j).pitch ∧
          a.ped = true ∧ a.act = true then { a with act := false, e := ev.time, tag := .byStrike }
      else a
    else if ev.typ = NOTE_OFF then
      if k = j ∧ a.ped = false then { a with act := false } else a
    else a

section
variable {n : Nat} (notes : Fin n → Note) (j : Fin n) (a : Abs) (t : Rat)

theorem astep_susOn (c : CC) : astep notes j a ⟨t, SUSTAIN_ON, .cc c⟩ =
    if c.instrument = (notes j).instrument then { a with ped := true } else a := rfl

theorem astep_susOff (c : CC) : astep notes j a ⟨t, SUSTAIN_OFF, .cc c⟩ =
    if c.instrument = (notes j).instrument then
      if a.act = true ∧ a.e < t then { act := false, e := t, ped := false, tag := .byPed }
      else { a with ped := false }
    else a := rfl

theorem astep_noteOn (k : Fin n) : astep notes j a ⟨t, NOTE_ON, .note k⟩ =
    if k = j then { a with act := true }
    else if (notes k).instrument = (notes j).instrument ∧ (notes k).pitch = (notes j).pitch ∧
        a.ped = true ∧ a.act = true then { a with act := false, e := t, tag := .byStrike }
    else a := rfl

theorem astep_noteOff (k : Fin n) : astep notes j a ⟨t, NOTE_OFF, .note k⟩ =
    if k = j ∧ a.ped = false then { a with act := false } else a := rfl

theorem astep_note_ped (typ : Nat) (k : Fin n) : (astep notes j a ⟨t, typ, .note k⟩).ped = a.ped := by
  simp only [astep, apply_ite Abs.ped, ite_self]

end

/-- events as `sortedEvents` produces them -/
def EvOK {n} (notes : Fin n → Note) (ev : Ev n) : Prop :=
  match ev.obj with
  | .cc _ => ev.typ = SUSTAIN_ON ∨ ev.typ = SUSTAIN_OFF
  | .note k => (notes k).isDrum = false ∧
      ((ev.typ = NOTE_ON ∧ ev.time = (notes k).start) ∨ (ev.typ = NOTE_OFF ∧ ev.time = (notes k).end_))

/-- identities of the notes whose `_NOTE_ON` event is in the list -/
def onIds {n} (l : List (Ev n)) : List (Fin n) :=
  l.filterMap (fun ev => if ev.typ = NOTE_ON then
    (match ev.obj with | .note k => some k | .cc _ => none) else none)

/-- the simulation relation between the concrete state `st` and the per-note states `a`, with
`rest` the events still to come and `T0` the input `total_time`.  `pending`: a note that is active
or has been given a new end has its note-on behind it, so a note-on always finds its note idle.
`tot_wit` / `tot_cov`: `total_time` is the input's or the end of a note ended by a release, and is
not below any such end. -/
structure Sim {n} (notes : Fin n → Note) (T0 : Rat) (st : St n) (a : Fin n → Abs)
    (rest : List (Ev n)) : Prop where
  act_iff : ∀ j, (notes j).isDrum = false →
    ((a j).act = true ↔ j ∈ dget st.active (notes j).instrument [])
  e_eq : ∀ j, (notes j).isDrum = false → (st.store j).end_ = (a j).e
  ped_eq : ∀ j, (notes j).isDrum = false → dget st.sus (notes j).instrument false = (a j).ped
  act_mem : ∀ k, ∀ j ∈ dget st.active k [], (notes j).isDrum = false ∧ (notes j).instrument = k
  act_nodup : ∀ k, (dget st.active k []).Nodup
  store_eq : ∀ j, st.store j = setEnd (notes j) (st.store j).end_
  drum_eq : ∀ j, (notes j).isDrum = true → st.store j = notes j
  seq_eq : st.seq = List.finRange n
  pending : ∀ j, (a j).act = true ∨ (a j).tag ≠ .none → j ∉ onIds rest
  closed : ∀ j, (a j).tag ≠ .none → (a j).act = false
  keys : (st.active.map (·.1)).Nodup
  tot_ge : T0 ≤ st.total
  tot_wit : st.total = T0 ∨ ∃ j, (notes j).isDrum = false ∧ (a j).tag = .byPed ∧ (a j).e = st.total
  tot_cov : ∀ j, (notes j).isDrum = false → (a j).tag = .byPed → (a j).e ≤ st.total

/-- distinct pitched notes of one pitch on one instrument start at different times: what layer 1
needs of `NoSamePitchOverlap` (layer 2 needs the rest, `Static.noov`) -/
def DistinctStarts {n} (notes : Fin n → Note) : Prop :=
  ∀ i j, i ≠ j → (notes i).isDrum = false → (notes j).isDrum = false →
    (notes i).instrument = (notes j).instrument → (notes i).pitch = (notes j).pitch →
    (notes i).start ≠ (notes j).start

section steps
variable {n : Nat} {notes : Fin n → Note} {T0 : Rat} {st : St n} {a : Fin n → Abs}
  {rest : List (Ev n)}

theorem store_pitch (hs : Sim notes T0 st a rest) (j : Fin n) :
    (st.store j).pitch = (notes j).pitch := by rw [hs.store_eq j]; rfl
theorem store_start (hs : Sim notes T0 st a rest) (j : Fin n) :
    (st.store j).start = (notes j).start := by rw [hs.store_eq j]; rfl
theorem store_inst (hs : Sim notes T0 st a rest) (j : Fin n) :
    (st.store j).instrument = (notes j).instrument := by rw [hs.store_eq j]; rfl

/-- the notes in the active lists (the ones the close-out visits) are the pitched notes that are
abstractly active -/
theorem Sim.mem_active (hs : Sim notes T0 st a rest) (j : Fin n) :
    j ∈ st.active.flatMap (·.2) ↔ ((notes j).isDrum = false ∧ (a j).act = true) := by
  rw [List.mem_flatMap]
  constructor
  · rintro ⟨⟨k, l⟩, he, hjl⟩
    have hm : j ∈ dget st.active k [] := by
      rw [dget_of_mem st.active k l [] hs.keys he]; exact hjl
    have hjk := hs.act_mem k j hm
    exact ⟨hjk.1, (hs.act_iff j hjk.1).mpr (by rw [hjk.2]; exact hm)⟩
  · rintro ⟨hj, hact⟩
    have hm := (hs.act_iff j hj).mp hact
    exact ⟨_, mem_of_dget_ne _ _ _ (fun e => by rw [e] at hm; cases hm), hm⟩

theorem act_mem_dset (hs : Sim notes T0 st a rest) (i : Int) (L : List (Fin n))
    (h : ∀ j ∈ L, (notes j).isDrum = false ∧ (notes j).instrument = i) :
    ∀ k, ∀ j ∈ dget (dset st.active i L) k [], (notes j).isDrum = false ∧ (notes j).instrument = k :=
  dget_dset_forall (fun k L => ∀ j ∈ L, (notes j).isDrum = false ∧ (notes j).instrument = k)
    _ _ _ _ hs.act_mem h

theorem act_nodup_dset (hs : Sim notes T0 st a rest) (i : Int) (L : List (Fin n))
    (h : L.Nodup) : ∀ k, (dget (dset st.active i L) k []).Nodup :=
  dget_dset_forall (fun _ L => List.Nodup L) _ _ _ _ hs.act_nodup h

theorem onIds_cons_other (ev : Ev n) (rest : List (Ev n)) (h : ev.typ ≠ NOTE_ON) :
    onIds (ev :: rest) = onIds rest := by
  simp [onIds, h]

theorem onIds_cons_on (t : Rat) (k : Fin n) (rest : List (Ev n)) :
    onIds (⟨t, NOTE_ON, .note k⟩ :: rest) = k :: onIds rest := by
  simp [onIds]

theorem onIds_sublist (ev : Ev n) (rest : List (Ev n)) : (onIds rest).Sublist (onIds (ev :: rest)) :=
  List.Sublist.filterMap _ (List.sublist_cons_self ev rest)

/-- what `Sim` says about the single note `j`, whose abstract state is `a` -/
structure SimJ (notes : Fin n → Note) (st : St n) (rest : List (Ev n)) (j : Fin n) (a : Abs) :
    Prop where
  act_iff : (notes j).isDrum = false →
    (a.act = true ↔ j ∈ dget st.active (notes j).instrument [])
  e_eq : (notes j).isDrum = false → (st.store j).end_ = a.e
  ped_eq : (notes j).isDrum = false → dget st.sus (notes j).instrument false = a.ped
  store_eq : st.store j = setEnd (notes j) (st.store j).end_
  drum_eq : (notes j).isDrum = true → st.store j = notes j
  pending : a.act = true ∨ a.tag ≠ .none → j ∉ onIds rest
  closed : a.tag ≠ .none → a.act = false
  tot_cov : (notes j).isDrum = false → a.tag = .byPed → a.e ≤ st.total

theorem Sim.simJ (hs : Sim notes T0 st a rest) (j : Fin n) :
    SimJ notes st rest j (a j) :=
  ⟨hs.act_iff j, hs.e_eq j, hs.ped_eq j, hs.store_eq j, hs.drum_eq j, hs.pending j, hs.closed j,
    hs.tot_cov j⟩

/-- `Sim` after one event, from what holds of every single note: a note the pedal has ended
earlier keeps its end; `total_time` is unchanged, or raised to the new end of a note that the
pedal ends now -/
theorem Sim.step_of {st' : St n} {a' : Fin n → Abs} {ev : Ev n}
    (hs : Sim notes T0 st a (ev :: rest))
    (hJ : ∀ j, SimJ notes st' rest j (a' j) ∧
      ((a j).tag = .byPed → (a' j).tag = .byPed ∧ (a' j).e = (a j).e))
    (hmem : ∀ k, ∀ j ∈ dget st'.active k [], (notes j).isDrum = false ∧ (notes j).instrument = k)
    (hnd : ∀ k, (dget st'.active k []).Nodup) (hseq : st'.seq = st.seq)
    (hkeys : (st'.active.map (·.1)).Nodup)
    (htot : st'.total = st.total ∨ (st.total ≤ st'.total ∧
      ∃ j, (notes j).isDrum = false ∧ (a' j).tag = .byPed ∧ (a' j).e = st'.total)) :
    Sim notes T0 st' a' rest where
  act_iff j := (hJ j).1.act_iff
  e_eq j := (hJ j).1.e_eq
  ped_eq j := (hJ j).1.ped_eq
  act_mem := hmem
  act_nodup := hnd
  store_eq j := (hJ j).1.store_eq
  drum_eq j := (hJ j).1.drum_eq
  seq_eq := hseq.trans hs.seq_eq
  pending j := (hJ j).1.pending
  closed j := (hJ j).1.closed
  keys := hkeys
  tot_ge := by
    rcases htot with h | h
    · rw [h]; exact hs.tot_ge
    · exact Rat.le_trans hs.tot_ge h.1
  tot_wit := by
    rcases htot with h | h
    · rcases hs.tot_wit with g | ⟨j, hjd, hjt, hje⟩
      · exact Or.inl (h.trans g)
      · obtain ⟨k1, k2⟩ := (hJ j).2 hjt
        exact Or.inr ⟨j, hjd, k1, by rw [k2, h]; exact hje⟩
    · exact Or.inr h.2
  tot_cov j := (hJ j).1.tot_cov

/-- the frame: a note whose activity, end and tag the event leaves alone and whose place in the
concrete state is the same -/
theorem SimJ.frame {st' : St n} {ev : Ev n} {j : Fin n} {a a' : Abs}
    (h : SimJ notes st (ev :: rest) j a)
    (hact : a'.act = a.act) (he : a'.e = a.e) (htag : a'.tag = a.tag)
    (hmem : (notes j).isDrum = false → (j ∈ dget st'.active (notes j).instrument [] ↔
      j ∈ dget st.active (notes j).instrument []))
    (hstore : st'.store j = st.store j)
    (hped : (notes j).isDrum = false → dget st'.sus (notes j).instrument false = a'.ped)
    (htot : st.total ≤ st'.total) :
    SimJ notes st' rest j a' ∧ (a.tag = .byPed → a'.tag = .byPed ∧ a'.e = a.e) := by
  refine ⟨⟨fun hj => by rw [hact, hmem hj]; exact h.act_iff hj,
    fun hj => by rw [hstore, he]; exact h.e_eq hj, hped, by rw [hstore]; exact h.store_eq,
    fun hj => by rw [hstore]; exact h.drum_eq hj, fun hp hm => ?_,
    by rw [htag, hact]; exact h.closed, fun hj ht => ?_⟩, fun ht => ⟨htag.trans ht, he⟩⟩
  · rw [hact, htag] at hp
    exact h.pending hp ((onIds_sublist ev rest).subset hm)
  · rw [he]
    exact Rat.le_trans (h.tot_cov hj (htag ▸ ht)) htot

theorem sim_susOn (t : Rat) (c : CC)
    (hs : Sim notes T0 st a (⟨t, SUSTAIN_ON, .cc c⟩ :: rest)) :
    ∃ st', step st ⟨t, SUSTAIN_ON, .cc c⟩ = .ok st' ∧ st'.time = t ∧
      Sim notes T0 st' (fun j => astep notes j (a j) ⟨t, SUSTAIN_ON, .cc c⟩) rest := by
  refine ⟨{ st with time := t, sus := dset st.sus c.instrument true }, by simp [step, objInst], rfl,
    hs.step_of (fun j => ?_) hs.act_mem hs.act_nodup rfl hs.keys (Or.inl rfl)⟩
  rw [astep_susOn]
  by_cases hi : c.instrument = (notes j).instrument
  · rw [if_pos hi]
    exact (hs.simJ j).frame rfl rfl rfl (fun _ => Iff.rfl) rfl
      (fun _ => by rw [dget_dset, if_pos hi.symm]) Rat.le_refl
  · rw [if_neg hi]
    exact (hs.simJ j).frame rfl rfl rfl (fun _ => Iff.rfl) rfl
      (fun hj => by rw [dget_dset, if_neg (fun e => hi e.symm)]; exact hs.ped_eq j hj) Rat.le_refl

theorem sim_susOff (t : Rat) (c : CC)
    (hs : Sim notes T0 st a (⟨t, SUSTAIN_OFF, .cc c⟩ :: rest)) :
    ∃ st', step st ⟨t, SUSTAIN_OFF, .cc c⟩ = .ok st' ∧ st'.time = t ∧
      Sim notes T0 st' (fun j => astep notes j (a j) ⟨t, SUSTAIN_OFF, .cc c⟩) rest := by
  obtain ⟨hr1, hr2, hr3⟩ := offLoop_spec t (dget st.active c.instrument []) st.store st.total
    (hs.act_nodup c.instrument)
  generalize hr : offLoop t (dget st.active c.instrument []) st.store st.total = r at hr1 hr2 hr3
  have hge : st.total ≤ r.2.1 := by
    rw [hr2]; split
    · exact (raise_ge _ _).1
    · exact Rat.le_refl
  -- the notes the release ends: the active notes of its instrument that have ended before
  have hL : ∀ j, (j ∈ dget st.active c.instrument [] ∧ (st.store j).end_ < t) ↔
      ((notes j).isDrum = false ∧ c.instrument = (notes j).instrument ∧
        (a j).act = true ∧ (a j).e < t) := by
    intro j
    constructor
    · rintro ⟨hm, hlt⟩
      obtain ⟨hjd, hji⟩ := hs.act_mem _ j hm
      refine ⟨hjd, hji.symm, (hs.act_iff j hjd).mpr (by rw [hji]; exact hm), ?_⟩
      rw [← hs.e_eq j hjd]; exact hlt
    · rintro ⟨hjd, hji, hact, hlt⟩
      refine ⟨by rw [hji]; exact (hs.act_iff j hjd).mp hact, ?_⟩
      rw [hs.e_eq j hjd]; exact hlt
  refine ⟨{ st with time := t, sus := dset st.sus c.instrument false, store := r.1, total := r.2.1,
                    active := dset st.active c.instrument r.2.2 }, ?_, rfl,
    hs.step_of (fun j => ?_)
      (act_mem_dset hs _ _ (by
        rw [hr3]; exact fun j hm => hs.act_mem _ j (List.mem_filter.mp hm).1))
      (act_nodup_dset hs _ _ (by rw [hr3]; exact (hs.act_nodup _).sublist List.filter_sublist))
      rfl (dset_keys_nodup _ _ _ hs.keys) ?_⟩
  · simp [step, objInst, hr, Ne.symm t01]
  · have h := hs.simJ j
    rw [astep_susOff]
    by_cases hi : c.instrument = (notes j).instrument
    · rw [if_pos hi]
      have hsus : dget (dset st.sus c.instrument false) (notes j).instrument false = false := by
        rw [dget_dset, if_pos hi.symm]
      by_cases hc : (a j).act = true ∧ (a j).e < t
      · -- the pedal ends `j` now
        rw [if_pos hc]
        refine ⟨⟨fun hj => ⟨nofun, fun hm => ?_⟩, fun hj => ?_, fun _ => hsus, ?_, fun hj => ?_,
          fun _ hm => h.pending (Or.inl hc.1) ((onIds_sublist _ rest).subset hm), fun _ => rfl,
          fun hj _ => ?_⟩, fun ht => ?_⟩
        · have hm : j ∈ dget (dset st.active c.instrument r.2.2) (notes j).instrument [] := hm
          rw [dget_dset, if_pos hi.symm, hr3] at hm
          have := (List.mem_filter.mp hm).2
          rw [hs.e_eq j hj] at this
          simp [hc.2] at this
        · show (r.1 j).end_ = t
          rw [hr1, if_pos ((hL j).mpr ⟨hj, hi, hc⟩)]; rfl
        · show r.1 j = setEnd (notes j) (r.1 j).end_
          rw [hr1]; split
          · rw [setEnd_end, h.store_eq]; rfl
          · exact h.store_eq
        · show r.1 j = notes j
          rw [hr1, if_neg (fun hh => by have := ((hL j).mp hh).1; rw [hj] at this; cases this)]
          exact h.drum_eq hj
        · show t ≤ r.2.1
          obtain ⟨hm, hlt⟩ := (hL j).mpr ⟨hj, hi, hc⟩
          rw [hr2, if_pos ⟨j, hm, hlt⟩]
          exact (raise_ge _ _).2
        · have := h.closed (by rw [ht]; decide)
          rw [hc.1] at this; cases this
      · rw [if_neg hc]
        refine h.frame rfl rfl rfl (fun hj => mem_dget_dset_iff _ _ _ _ _ (fun _ => ?_)) ?_
          (fun _ => hsus) hge
        · rw [hr3, List.mem_filter]
          exact ⟨fun g => g.1, fun hm => ⟨hm, by
            simpa using fun hlt => hc ((hL j).mp ⟨hm, hlt⟩).2.2⟩⟩
        · show r.1 j = st.store j
          rw [hr1, if_neg (fun hh => hc ((hL j).mp hh).2.2)]
    · rw [if_neg hi]
      refine h.frame rfl rfl rfl
        (fun hj => mem_dget_dset_iff _ _ _ _ _ (fun e => absurd e.symm hi)) ?_
        (fun hj => ?_) hge
      · show r.1 j = st.store j
        rw [hr1, if_neg (fun hh => hi ((hL j).mp hh).2.1)]
      · show dget (dset st.sus c.instrument false) (notes j).instrument false = _
        rw [dget_dset, if_neg (fun e => hi e.symm)]; exact h.ped_eq hj
  · -- `total_time` is raised when an ended note ends after it
    show r.2.1 = st.total ∨ st.total ≤ r.2.1 ∧ _
    by_cases hex : ∃ j ∈ dget st.active c.instrument [], (st.store j).end_ < t
    · by_cases hlt : st.total < t
      · obtain ⟨j, hm, hjt⟩ := hex
        obtain ⟨hjd, hji, hact, he⟩ := (hL j).mp ⟨hm, hjt⟩
        have hT : r.2.1 = t := by rw [hr2, if_pos ⟨j, hm, hjt⟩, if_pos hlt]
        have hA : astep notes j (a j) ⟨t, SUSTAIN_OFF, .cc c⟩ = ⟨false, t, false, .byPed⟩ := by
          rw [astep_susOff, if_pos hji, if_pos ⟨hact, he⟩]
        exact Or.inr ⟨hge, j, hjd, by rw [hA], by rw [hA, hT]⟩
      · exact Or.inl (by rw [hr2, if_pos hex, if_neg hlt])
    · exact Or.inl (by rw [hr2, if_neg hex])

/-- `DistinctStarts` is what makes the by-value `remove` delete `k` itself: another active note
with `k`'s current value would have `k`'s pitch, instrument and start. -/
theorem sim_noteOff (hds : DistinctStarts notes)
    (t : Rat) (k : Fin n) (hk : (notes k).isDrum = false)
    (hs : Sim notes T0 st a (⟨t, NOTE_OFF, .note k⟩ :: rest)) :
    ∃ st', step st ⟨t, NOTE_OFF, .note k⟩ = .ok st' ∧ st'.time = t ∧
      Sim notes T0 st' (fun j => astep notes j (a j) ⟨t, NOTE_OFF, .note k⟩) rest := by
  have hinst : (st.store k).instrument = (notes k).instrument := store_inst hs k
  have hpk := hs.ped_eq k hk
  by_cases hsus : dget st.sus (notes k).instrument false = true
  · -- pedal down: nothing happens
    refine ⟨{ st with time := t }, ?_, rfl,
      hs.step_of (fun j => ?_) hs.act_mem hs.act_nodup rfl hs.keys (Or.inl rfl)⟩
    · simp [step, objInst, hinst, hsus, Ne.symm t03, Ne.symm t13, Ne.symm t23]
    rw [astep_noteOff, if_neg]
    · exact (hs.simJ j).frame rfl rfl rfl (fun _ => Iff.rfl) rfl (hs.ped_eq j) Rat.le_refl
    · rintro ⟨rfl, hp⟩
      rw [← hpk, hsus] at hp; cases hp
  · -- pedal up: the note leaves the active list
    have hsus' : dget st.sus (notes k).instrument false = false := by simpa using hsus
    have herase : eraseVal st.store (st.store k) (dget st.active (notes k).instrument []) =
        (dget st.active (notes k).instrument []).erase k := by
      apply eraseVal_eq_erase
      intro j hm hv
      apply Classical.byContradiction
      intro hne
      have hj := hs.act_mem _ j hm
      have h1 : (notes j).pitch = (notes k).pitch := by
        rw [← store_pitch hs j, ← store_pitch hs k, hv]
      have h2 : (notes j).start = (notes k).start := by
        rw [← store_start hs j, ← store_start hs k, hv]
      exact hds j k hne hj.1 hk hj.2 h1 h2
    refine ⟨{ st with time := t, active := (dset st.active (notes k).instrument
        ((dget st.active (notes k).instrument []).erase k)) }, ?_, rfl,
      hs.step_of (fun j => ?_)
        (act_mem_dset hs _ _ (fun j hm => hs.act_mem _ j (List.mem_of_mem_erase hm)))
        (act_nodup_dset hs _ _ ((hs.act_nodup _).erase k)) rfl (dset_keys_nodup _ _ _ hs.keys)
        (Or.inl rfl)⟩
    · simp [step, objInst, hinst, hsus', herase, Ne.symm t03, Ne.symm t13, Ne.symm t23]
    have h := hs.simJ j
    rw [astep_noteOff]
    by_cases hkj : k = j
    · subst hkj
      rw [if_pos ⟨rfl, by rw [← hpk]; exact hsus'⟩]
      refine ⟨⟨fun _ => ⟨nofun, fun hm => ?_⟩, h.e_eq, h.ped_eq, h.store_eq, h.drum_eq,
        fun hp hm => ?_, fun _ => rfl, h.tot_cov⟩, fun ht => ⟨ht, rfl⟩⟩
      · have hm : k ∈ dget (dset st.active (notes k).instrument
            ((dget st.active (notes k).instrument []).erase k)) (notes k).instrument [] := hm
        rw [dget_dset, if_pos rfl] at hm
        exact absurd hm (List.Nodup.not_mem_erase (hs.act_nodup _))
      · rcases hp with hp | hp
        · cases hp
        · exact h.pending (Or.inr hp) ((onIds_sublist _ rest).subset hm)
    · rw [if_neg (fun hh => hkj hh.1)]
      exact h.frame rfl rfl rfl (fun _ => mem_dget_dset_iff _ _ _ _ _
        (fun _ => List.mem_erase_of_ne (fun e => hkj e.symm))) rfl h.ped_eq Rat.le_refl

/-- the concrete `_NOTE_ON` step: with the pedal down the active notes of the same pitch end now
and leave the active list; in either case `k` joins it -/
theorem step_noteOn (hds : DistinctStarts notes)
    (t : Rat) (k : Fin n) (hk : (notes k).isDrum = false) (ht : t = (notes k).start)
    (hs : Sim notes T0 st a rest) (hkL : k ∉ dget st.active (notes k).instrument []) :
    ∃ (store' : Fin n → Note) (L' : List (Fin n)),
      step st ⟨t, NOTE_ON, .note k⟩ = .ok { st with
        time := t, store := store', active := dset st.active (notes k).instrument (L' ++ [k]) } ∧
      (∀ j, store' j = if dget st.sus (notes k).instrument false = true ∧
          j ∈ dget st.active (notes k).instrument [] ∧ (notes j).pitch = (notes k).pitch
        then setEnd (st.store j) t else st.store j) ∧
      (∀ j, j ∈ L' ↔ j ∈ dget st.active (notes k).instrument [] ∧
        ¬ (dget st.sus (notes k).instrument false = true ∧ (notes j).pitch = (notes k).pitch)) ∧
      L'.Nodup := by
  have hinst : (st.store k).instrument = (notes k).instrument := store_inst hs k
  by_cases hsus : dget st.sus (notes k).instrument false = true
  · have hnodel : ∀ j ∈ dget st.active (notes k).instrument [],
        (st.store j).pitch = (st.store k).pitch → (st.store j).start ≠ t := by
      intro j hm hp
      have hj := hs.act_mem _ j hm
      have hne : j ≠ k := fun e => hkL (e ▸ hm)
      rw [store_pitch hs j, store_pitch hs k] at hp
      rw [store_start hs j, ht]
      exact hds j k hne hj.1 hk hj.2 hp
    obtain ⟨store', hrun, hst'⟩ := strikeLoop_spec t k (dget st.active (notes k).instrument [])
      st.store st.seq (hs.act_nodup _) hnodel
    refine ⟨store', (dget st.active (notes k).instrument []).filter
      (fun j => ¬ ((st.store j).pitch = (st.store k).pitch)), ?_, fun j => ?_, fun j => ?_,
      (hs.act_nodup _).sublist List.filter_sublist⟩
    · simp [step, objInst, hinst, hsus, hrun, Ne.symm t02, Ne.symm t12]
    · rw [hst' j, store_pitch hs j, store_pitch hs k]
      simp only [hsus, true_and]
    · simp only [List.mem_filter, decide_eq_true_eq, store_pitch hs, hsus, true_and]
  · refine ⟨st.store, dget st.active (notes k).instrument [], ?_, fun j => ?_, fun j => ?_,
      hs.act_nodup _⟩
    · have hsus' : dget st.sus (notes k).instrument false = false := by simpa using hsus
      simp [step, objInst, hinst, hsus', Ne.symm t02, Ne.symm t12]
    · rw [if_neg (fun h => hsus h.1)]
    · exact ⟨fun hm => ⟨hm, fun h => hsus h.1⟩, fun h => h.1⟩

/-- `hnd` (no note has two note-ons in the list) with `pending` gives that `k` is neither
active nor ended when its note-on arrives; the concrete half is `step_noteOn`. -/
theorem sim_noteOn (hds : DistinctStarts notes)
    (t : Rat) (k : Fin n) (hk : (notes k).isDrum = false) (ht : t = (notes k).start)
    (hnd : (onIds (⟨t, NOTE_ON, .note k⟩ :: rest)).Nodup)
    (hs : Sim notes T0 st a (⟨t, NOTE_ON, .note k⟩ :: rest)) :
    ∃ st', step st ⟨t, NOTE_ON, .note k⟩ = .ok st' ∧ st'.time = t ∧
      Sim notes T0 st' (fun j => astep notes j (a j) ⟨t, NOTE_ON, .note k⟩) rest := by
  rw [onIds_cons_on] at hnd
  have hkrest : k ∉ onIds rest := (List.nodup_cons.mp hnd).1
  -- the note has not sounded before
  have hpk := hs.pending k
  rw [onIds_cons_on] at hpk
  have hkact : (a k).act = false := by
    cases h : (a k).act
    · rfl
    · exact absurd List.mem_cons_self (hpk (Or.inl h))
  have hktag : (a k).tag = .none :=
    Classical.byContradiction fun h => hpk (Or.inr h) List.mem_cons_self
  have hkL : k ∉ dget st.active (notes k).instrument [] := fun hm => by
    have := (hs.act_iff k hk).mpr hm
    rw [hkact] at this; cases this
  obtain ⟨store', L', hstep, hstore', hL', hnd'⟩ := step_noteOn hds t k hk ht hs hkL
  -- "`j` is struck" in concrete terms
  have hS : ∀ j, (notes j).isDrum = false →
      (((notes k).instrument = (notes j).instrument ∧ (notes k).pitch = (notes j).pitch ∧
        (a j).ped = true ∧ (a j).act = true) ↔
       (dget st.sus (notes k).instrument false = true ∧
        j ∈ dget st.active (notes k).instrument [] ∧ (notes j).pitch = (notes k).pitch)) := by
    intro j hj
    constructor
    · rintro ⟨h1, h2, h3, h4⟩
      exact ⟨by rw [h1, hs.ped_eq j hj]; exact h3, by rw [h1]; exact (hs.act_iff j hj).mp h4,
        h2.symm⟩
    · rintro ⟨h1, hm, hp⟩
      have hji := (hs.act_mem _ j hm).2
      exact ⟨hji.symm, hp.symm, by rw [← hs.ped_eq j hj, hji]; exact h1,
        by rw [hs.act_iff j hj, hji]; exact hm⟩
  refine ⟨_, hstep, rfl, hs.step_of (fun j => ?_)
    (act_mem_dset hs _ _ (fun j hm => (List.mem_append.mp hm).elim
      (fun hm => hs.act_mem _ j ((hL' j).mp hm).1)
      (fun hm => by rw [List.mem_singleton.mp hm]; exact ⟨hk, rfl⟩)))
    (act_nodup_dset hs _ _ (nodup_snoc hnd' (fun hm => hkL ((hL' k).mp hm).1))) rfl
    (dset_keys_nodup _ _ _ hs.keys) (Or.inl rfl)⟩
  have h := hs.simJ j
  rw [astep_noteOn]
  by_cases hkj : k = j
  · -- the note itself
    subst hkj
    rw [if_pos rfl]
    have hst : store' k = st.store k := by rw [hstore', if_neg (fun hh => hkL hh.2.1)]
    refine ⟨⟨fun _ => ⟨fun _ => ?_, fun _ => rfl⟩, fun hj => ?_, h.ped_eq, ?_, fun hj => ?_,
      fun _ => hkrest, fun ht => absurd hktag ht, h.tot_cov⟩, fun ht => ⟨ht, rfl⟩⟩
    · show k ∈ dget (dset st.active (notes k).instrument (L' ++ [k])) (notes k).instrument []
      rw [dget_dset, if_pos rfl]
      exact List.mem_append_right _ (List.mem_singleton.mpr rfl)
    · show (store' k).end_ = _
      rw [hst]; exact h.e_eq hj
    · show store' k = setEnd (notes k) (store' k).end_
      rw [hst]; exact h.store_eq
    · show store' k = notes k
      rw [hst]; exact h.drum_eq hj
  · rw [if_neg hkj]
    by_cases hst : (notes k).instrument = (notes j).instrument ∧
        (notes k).pitch = (notes j).pitch ∧ (a j).ped = true ∧ (a j).act = true
    · -- a held note of the same pitch: it ends now
      rw [if_pos hst]
      refine ⟨⟨fun hj => ⟨nofun, fun hm => ?_⟩, fun hj => ?_, h.ped_eq, ?_, fun hj => ?_,
        fun _ hm => h.pending (Or.inl hst.2.2.2) ((onIds_sublist _ rest).subset hm),
        fun _ => rfl, fun _ ht => by cases ht⟩, fun ht => ?_⟩
      · have hm : j ∈ dget (dset st.active (notes k).instrument (L' ++ [k]))
            (notes j).instrument [] := hm
        rw [dget_dset, if_pos hst.1.symm] at hm
        have hc := (hS j hj).mp hst
        rcases List.mem_append.mp hm with hm | hm
        · exact absurd ⟨hc.1, hc.2.2⟩ ((hL' j).mp hm).2
        · exact absurd (List.mem_singleton.mp hm).symm hkj
      · show (store' j).end_ = t
        rw [hstore', if_pos ((hS j hj).mp hst)]; rfl
      · show store' j = setEnd (notes j) (store' j).end_
        rw [hstore']; split
        · rw [setEnd_end, h.store_eq]; rfl
        · exact h.store_eq
      · show store' j = notes j
        rw [hstore', if_neg (fun hh => by
          have := (hs.act_mem _ j hh.2.1).1; rw [hj] at this; cases this)]
        exact h.drum_eq hj
      · have := h.closed (by rw [ht]; decide)
        rw [hst.2.2.2] at this; cases this
    · rw [if_neg hst]
      refine h.frame rfl rfl rfl (fun hj => mem_dget_dset_iff _ _ _ _ _ (fun _ => ?_)) ?_
        h.ped_eq Rat.le_refl
      · rw [List.mem_append, hL' j, List.mem_singleton]
        exact ⟨fun hh => hh.elim (fun g => g.1) (fun g => absurd g.symm hkj),
          fun hm => Or.inl ⟨hm, fun g => hst ((hS j hj).mpr ⟨g.1, hm, g.2⟩)⟩⟩
      · show store' j = st.store j
        rw [hstore', if_neg (fun hh => hst ((hS j (hs.act_mem _ j hh.2.1).1).mpr hh))]

theorem sim_step (hds : DistinctStarts notes) (ev : Ev n)
    (rest : List (Ev n)) (hev : EvOK notes ev) (hnd : (onIds (ev :: rest)).Nodup)
    (hs : Sim notes T0 st a (ev :: rest)) :
    ∃ st', step st ev = .ok st' ∧ st'.time = ev.time ∧
      Sim notes T0 st' (fun j => astep notes j (a j) ev) rest := by
  obtain ⟨t, typ, obj⟩ := ev
  cases obj with
  | cc c =>
    simp only [EvOK] at hev
    rcases hev with h | h
    · subst h; exact sim_susOn t c hs
    · subst h; exact sim_susOff t c hs
  | note k =>
    simp only [EvOK] at hev
    obtain ⟨hk, h | h⟩ := hev
    · obtain ⟨h1, h2⟩ := h; subst h1; exact sim_noteOn hds t k hk h2 hnd hs
    · obtain ⟨h1, _⟩ := h; subst h1; exact sim_noteOff hds t k hk hs

/-- the loop variable `time` after the loop -/
def lastTimeOf (t0 : Rat) (E : List (Ev n)) : Rat := E.foldl (fun _ e => e.time) t0

theorem sim_run (hds : DistinctStarts notes) (E : List (Ev n)) :
    ∀ {st : St n} {a : Fin n → Abs}, (∀ ev ∈ E, EvOK notes ev) → (onIds E).Nodup →
      Sim notes T0 st a E →
      ∃ stF, run st E = .ok stF ∧ stF.time = lastTimeOf st.time E ∧
        Sim notes T0 stF (fun j => E.foldl (astep notes j) (a j)) [] := by
  induction E with
  | nil => intro st a _ _ hs; exact ⟨st, rfl, rfl, hs⟩
  | cons ev rest ih =>
    intro st a hok hnd hs
    obtain ⟨st', h1, h2, h3⟩ := sim_step hds ev rest (hok ev (by simp)) hnd hs
    obtain ⟨stF, g1, g2, g3⟩ := ih (fun e he => hok e (List.mem_cons_of_mem _ he))
      (hnd.sublist (onIds_sublist ev rest)) h3
    refine ⟨stF, ?_, ?_, ?_⟩
    · simp only [run, h1]; exact g1
    · rw [g2, h2]; rfl
    · exact g3

/-- the abstract state of every note before the loop -/
def abs0 (notes : Fin n → Note) (j : Fin n) : Abs :=
  { act := false, e := (notes j).end_, ped := false, tag := .none }

theorem sim_init (E : List (Ev n)) : Sim notes T0 (init notes T0) (abs0 notes) E := by
  constructor <;> simp [init, abs0, dget]

/-- where a pitched note in the final state `a` ends: the close-out ends a note that is still
active at the time `LT` of the last event -/
def Abs.final (a : Abs) (LT : Rat) : Rat := if a.act = true then LT else a.e

/-- the final states of the notes that raise `total_time`: the close-out ends the note, or a pedal
release did -/
def Abs.raises (a : Abs) : Prop := a.act = true ∨ a.tag = .byPed

/-- layer 1 as one equation: on events as `sortedEvents` produces them the loop and the close-out
do not fail; every pitched note ends where its automaton leaves it, nothing else changes, and
`total_time` is the greatest of its old value and the ends of the notes that raise it -/
theorem applyCore_abs (hds : DistinctStarts notes) (ctl : Int) (ccs : List CC)
    (hok : ∀ ev ∈ sortedEvents ctl notes ccs, EvOK notes ev)
    (hnd : (onIds (sortedEvents ctl notes ccs)).Nodup) :
    let aF := fun j => (sortedEvents ctl notes ccs).foldl (astep notes j) (abs0 notes j)
    let LT := lastTimeOf 0 (sortedEvents ctl notes ccs)
    ∃ T, applyCore ctl notes ccs T0 = .ok ((List.finRange n).map (fun j =>
          if (notes j).isDrum = true then notes j else setEnd (notes j) ((aF j).final LT)), T) ∧
      T0 ≤ T ∧
      (T = T0 ∨ ∃ j, (notes j).isDrum = false ∧ (aF j).raises ∧ T = (aF j).final LT) ∧
      ∀ j, (notes j).isDrum = false → (aF j).raises → (aF j).final LT ≤ T := by
  intro aF LT
  obtain ⟨stF, hrun, htime, hsim⟩ := sim_run (T0 := T0) hds (sortedEvents ctl notes ccs) hok hnd
    (sim_init _)
  have hsim : Sim notes T0 stF aF [] := hsim
  have htime : stF.time = LT := htime
  obtain ⟨c1, c2, c3, _⟩ := foldl_closeNote (stF.active.flatMap (·.2)) stF
  have hids := hsim.mem_active
  -- `total_time`: the loop's value, raised to the time of the last event if a note is still active
  have hT : (closeOut stF).total = (if stF.active.flatMap (·.2) = [] then stF.total else
      if stF.total < LT then LT else stF.total) := by
    unfold closeOut; rw [c2, htime]
  have hge : stF.total ≤ (closeOut stF).total := by
    rw [hT]
    by_cases hne : stF.active.flatMap (·.2) = []
    · rw [if_pos hne]; exact Rat.le_refl
    · rw [if_neg hne]; exact (raise_ge stF.total LT).1
  have hclosed : ∀ j, (aF j).tag = .byPed → (aF j).final LT = (aF j).e := fun j htag => by
    unfold Abs.final; rw [if_neg (by rw [hsim.closed j (by rw [htag]; decide)]; simp)]
  refine ⟨(closeOut stF).total, ?_, Rat.le_trans hsim.tot_ge hge, ?_, fun j hj hr => ?_⟩
  · simp only [applyCore, hrun]
    congr 2
    show (closeOut stF).seq.map (closeOut stF).store = _
    unfold closeOut
    rw [c3, hsim.seq_eq]
    apply List.map_congr_left
    intro j _
    rw [c1 j]
    cases hd : (notes j).isDrum
    · have hst : stF.store j = setEnd (notes j) (aF j).e := by
        rw [← hsim.e_eq j hd]; exact hsim.store_eq j
      rw [if_neg Bool.false_ne_true, hst]
      unfold Abs.final
      cases hact : (aF j).act
      · rw [if_neg (fun h => by rw [hids j, hact] at h; cases h.2), if_neg Bool.false_ne_true]
      · rw [if_pos ((hids j).mpr ⟨hd, hact⟩), if_pos rfl, setEnd_setEnd, htime]
    · rw [if_pos rfl, if_neg (fun h => by rw [hids j, hd] at h; cases h.1), hsim.drum_eq j hd]
  · -- the loop's value is the old one or the end of a note a release has ended
    have hold : stF.total = T0 ∨ ∃ j, (notes j).isDrum = false ∧ (aF j).raises ∧
        stF.total = (aF j).final LT := by
      rcases hsim.tot_wit with h | ⟨j, hj, htag, he⟩
      · exact Or.inl h
      · exact Or.inr ⟨j, hj, Or.inr htag, by rw [hclosed j htag, he]⟩
    rw [hT]
    by_cases hne : stF.active.flatMap (·.2) = []
    · rw [if_pos hne]; exact hold
    · rw [if_neg hne]
      by_cases hlt : stF.total < LT
      · rw [if_pos hlt]
        obtain ⟨j, hjm⟩ := List.exists_mem_of_ne_nil _ hne
        obtain ⟨hj, hact⟩ := (hids j).mp hjm
        exact Or.inr ⟨j, hj, Or.inl hact, by unfold Abs.final; rw [if_pos hact]⟩
      · rw [if_neg hlt]; exact hold
  · rcases hr with hact | htag
    · unfold Abs.final
      rw [if_pos hact, hT, if_neg (List.ne_nil_of_mem ((hids j).mpr ⟨hj, hact⟩))]
      exact (raise_ge stF.total LT).2
    · rw [hclosed j htag]
      exact Rat.le_trans (hsim.tot_cov j hj htag) hge

end steps
end NSV.C14

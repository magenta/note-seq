import NoteSeqVerif.Model.C18
/-! C18, decoder side: the state of one pitch before a frame is a function of its column (`colState`), and the frame
loop emits, frame by frame and pitch by pitch, what the steps from those states emit (`scan_column`, a closed form;
the emission order `scan_sorted` is read off it); with onset predictions the step at frame `j` of a pitch emits exactly
its `IsNote` span that ends at `j` (`colScan_onsets`), without them the maximal run of its column that ends there —
the same loop on a column with an onset in every frame (`cellStep_plain`, `isNote_allOn`, `colScan_runs`). -/
namespace NSV.C18

/-- the loop state of pitch `p` before frame `i`, started in state `x`: a function of the column `col` alone -/
def colState (P : DParams) (p : Nat) (col : Nat → CellIn) (x : Cell) : Nat → Cell
  | 0 => x
  | i + 1 => (cellStep P i p (colState P p col x i) (col i)).1

/-- what frame `i` yields at pitch `p`: the note that ends there and the IndexError flag -/
def colScan (P : DParams) (p : Nat) (col : Nat → CellIn) (x : Cell) (i : Nat) : Option Emit × Bool :=
  (cellStep P i p (colState P p col x i) (col i)).2

theorem frameStep_eq (P : DParams) (i : Nat) (g : Nat → Cell) (c : Nat → CellIn) (w p0 : Nat) :
    frameStep P i p0 ((List.range' p0 w).map g) ((List.range' p0 w).map c) =
      ((List.range' p0 w).map fun p => (cellStep P i p (g p) (c p)).1,
       (List.range' p0 w).filterMap fun p => (cellStep P i p (g p) (c p)).2.1,
       (List.range' p0 w).any fun p => (cellStep P i p (g p) (c p)).2.2) := by
  induction w generalizing p0 with
  | zero => rfl
  | succ w ih =>
    simp only [List.range'_succ, List.map_cons, frameStep, ih, List.filterMap_cons, List.any_cons]
    cases (cellStep P i p0 (g p0) (c p0)).2.1 <;> rfl

/-- the frame loop over a matrix `f`, from frame `i` on with every pitch in the state its column has led it to: the
pitches do not interact, so the output is that of the per-pitch steps, frame by frame -/
theorem scan_column (P : DParams) (f : Nat → Nat → CellIn) (x : Cell) (w n i : Nat) :
    scan P i ((List.range' 0 w).map fun p => colState P p (f · p) x i)
        ((List.range' i n).map fun k => (List.range' 0 w).map (f k)) =
      ((List.range' i n).flatMap fun k => (List.range' 0 w).filterMap fun p => (colScan P p (f · p) x k).1,
       (List.range' i n).any fun k => (List.range' 0 w).any fun p => (colScan P p (f · p) x k).2) := by
  induction n generalizing i with
  | zero => rfl
  | succ n ih =>
    simp only [List.range'_succ, List.map_cons, scan, frameStep_eq, List.flatMap_cons, List.any_cons]
    exact congrArg (fun r : List Emit × Bool => (_ ++ r.1, _ || r.2)) (ih (i + 1))

/-- the loop over the prepared arrays, started with every pitch in state `x` -/
theorem scan_prepareWith (P : DParams) (F O X : Nat → Nat → Bool) (V : Nat → Nat → Option Rat) (n w : Nat)
    (x : Cell) :
    scan P 0 (List.replicate w x) (prepareWith F O X V n w) =
      ((List.range' 0 (n + 1)).flatMap fun k =>
        (List.range' 0 w).filterMap fun p => (colScan P p (mkCell F O X V · p) x k).1,
       (List.range' 0 (n + 1)).any fun k =>
        (List.range' 0 w).any fun p => (colScan P p (mkCell F O X V · p) x k).2) := by
  rw [← scan_column]
  simp [prepareWith, colState, List.range_eq_range', List.map_const']

/-- emission order: by end frame, then by pitch -/
def emitLt (a b : Emit) : Prop := a.e < b.e ∨ (a.e = b.e ∧ a.pitch < b.pitch)

/-- notes stamped with the frame and pitch that yield them, listed frame by frame and pitch by pitch, are ordered by
end frame, then pitch; in particular without repetition -/
theorem scan_sorted (g : Nat → Nat → Option Emit) (hg : ∀ {k p e}, g k p = some e → e.e = k ∧ e.pitch = p)
    (i n w : Nat) :
    ((List.range' i n).flatMap fun k => (List.range' 0 w).filterMap (g k)).Pairwise emitLt := by
  rw [List.pairwise_flatMap]
  constructor
  · intro k _
    rw [List.pairwise_filterMap]
    refine List.Pairwise.imp (fun hab b hb b' hb' => ?_) List.pairwise_lt_range'
    exact Or.inr ⟨by rw [(hg hb).1, (hg hb').1], by rw [(hg hb).2, (hg hb').2]; exact hab⟩
  · refine List.Pairwise.imp (fun hab a ha b hb => ?_) List.pairwise_lt_range'
    obtain ⟨_, _, ha⟩ := List.mem_filterMap.mp ha
    obtain ⟨_, _, hb⟩ := List.mem_filterMap.mp hb
    exact Or.inl (by rw [(hg ha).1, (hg hb).1]; exact hab)

theorem emitLt_irrefl (a : Emit) : ¬ emitLt a a := by unfold emitLt; omega

theorem nodup_of_pairwise_emitLt (l : List Emit) (h : l.Pairwise emitLt) : l.Nodup := by
  unfold List.Nodup
  exact h.imp (fun {a b} hab heq => by subst heq; exact emitLt_irrefl a hab)

theorem endEmit_fst (P : DParams) (p s e : Nat) (v : Int) :
    (endEmit P p s e v).1 = if P.keep s e then some ⟨p, s, e, v⟩ else none := by
  unfold endEmit; split <;> rfl

/-- what one iteration of the inner loop can do at frame `i`, pitch `p`, from the state `(o, v)` on the cell `c`: the
last index is the new state, the note emitted and the IndexError flag -/
inductive CellStep (P : DParams) (i p : Nat) (v : Int) (c : CellIn) : Option Nat → Cell × Option Emit × Bool → Prop
  | silent : c.active = false → CellStep P i p v c none ((none, v), none, false)
  | close (s : Nat) : c.active = false →
      CellStep P i p v c (some s) ((none, v), (endEmit P p s i v).1, (endEmit P p s i v).2)
  | open : P.hasOn = false → c.active = true → CellStep P i p v c none ((some i, v), none, false)
  | wait : P.hasOn = true → c.active = true → c.on = false → CellStep P i p v c none ((none, v), none, false)
  | start : P.hasOn = true → c.active = true → c.on = true →
      CellStep P i p v c none ((startCell P i p v c).1, none, (startCell P i p v c).2)
  | hold (s : Nat) : c.active = true → ¬ (P.hasOn = true ∧ c.on = true ∧ c.prevOn = false) →
      CellStep P i p v c (some s) ((some s, v), none, false)
  | restart (s : Nat) : c.active = true → P.hasOn = true → c.on = true → c.prevOn = false →
      CellStep P i p v c (some s)
        ((startCell P i p v c).1, (endEmit P p s i v).1, (endEmit P p s i v).2 || (startCell P i p v c).2)

theorem cellStep_step (P : DParams) (i p : Nat) (st : Cell) (c : CellIn) :
    CellStep P i p st.2 c st.1 (cellStep P i p st c) := by
  obtain ⟨o, v⟩ := st
  unfold cellStep
  cases hact : c.active <;> cases o <;> simp only [Bool.false_eq_true, if_false, if_true]
  · exact .silent hact
  · exact .close _ hact
  · cases hP : P.hasOn <;> simp only [Bool.false_eq_true, if_false, if_true]
    · exact .open hP hact
    · cases hon : c.on <;> simp only [Bool.false_eq_true, if_false, if_true]
      · exact .wait hP hact hon
      · exact .start hP hact hon
  · by_cases hc : P.hasOn = true ∧ c.on = true ∧ c.prevOn = false
    · rw [if_pos (by simp [hc])]
      exact .restart _ hact hc.1 hc.2.1 hc.2.2
    · rw [if_neg (by simpa [and_assoc] using hc)]
      exact .hold _ hact hc

variable {P : DParams} {i p : Nat} {v : Int} {c : CellIn} {o : Option Nat} {r : Cell × Option Emit × Bool}

/-- whatever is emitted comes from `endEmit`, which stamps it with the current frame and pitch -/
theorem CellStep.emit (h : CellStep P i p v c o r) {e : Emit} (he : r.2.1 = some e) : e.e = i ∧ e.pitch = p := by
  cases h with
  | close | restart => rw [endEmit_fst] at he; split at he <;> cases he; exact ⟨rfl, rfl⟩
  | _ => cases he

/-- without onsets only the closing of a run can fail: its velocity slot lies past the 128 there are -/
theorem CellStep.flag_plain (h : CellStep P i p v c o r) (hP : P.hasOn = false) (hf : r.2.2 = true) :
    Gen.VEL_SLOTS ≤ p := by
  cases h with
  | close =>
    unfold endEmit at hf
    split at hf
    · exact of_decide_eq_true hf
    · cases hf
  | wait h' | start h' | restart _ _ h' => rw [hP] at h'; cases h'
  | _ => cases hf

/-- what a closing step emits: the span `[s, j)` — the only one of `N` that ends at `j` — if it passes the
duration test -/
theorem endEmit_some_iff (P : DParams) (p s j : Nat) (N : Nat → Nat → Prop) (vel : Nat → Int)
    (hN : N s j) (huniq : ∀ s', N s' j → s' = s) (e : Emit) :
    (endEmit P p s j (vel s)).1 = some e ↔
      (e.pitch = p ∧ e.vel = vel e.s ∧ P.keep e.s e.e = true ∧ N e.s e.e) ∧ e.e = j := by
  rw [endEmit_fst]
  constructor
  · intro h
    split at h
    · cases h; exact ⟨⟨rfl, rfl, ‹_›, hN⟩, rfl⟩
    · cases h
  · rintro ⟨⟨rfl, hv, hk, hn⟩, rfl⟩
    obtain ⟨ep, es, ee, ev⟩ := e
    obtain rfl := huniq es hn
    dsimp only at hv hk
    rw [if_pos hk, hv]

/-- a note may begin at frame `s`: active, onset predicted, and not the continuation of a held onset -/
def IsStart (A O : Nat → Bool) (s : Nat) : Prop :=
  A s = true ∧ O s = true ∧ (s = 0 ∨ O (s - 1) = false ∨ A (s - 1) = false)

/-- `[s, e)` is a note of the onset-aware decoder: it begins at a start frame, stays active without a
new start, and ends at the first frame that is inactive or a new start -/
def IsNote (A O : Nat → Bool) (s e : Nat) : Prop :=
  IsStart A O s ∧ s < e ∧ (∀ k, s < k → k < e → A k = true ∧ ¬ IsStart A O k) ∧
    (A e = false ∨ IsStart A O e)

/-- no note is sounding just before frame `i` -/
def NotOpen (A O : Nat → Bool) (i : Nat) : Prop :=
  ∀ s, s < i → IsStart A O s → (∀ k, s < k → k < i → A k = true ∧ ¬ IsStart A O k) → False

theorem IsNote.start_unique {A O : Nat → Bool} {s s' e : Nat} (h : IsNote A O s e) (h' : IsNote A O s' e) :
    s = s' := by
  rcases Nat.lt_trichotomy s s' with hlt | heq | hgt
  · exact absurd h'.1 (h.2.2.1 s' hlt h'.2.1).2
  · exact heq
  · exact absurd h.1 (h'.2.2.1 s hgt h.2.1).2

/-- velocity of a note that starts at frame `s` -/
def velAt (P : DParams) (V : Nat → Option Rat) (v0 : Int) (s : Nat) : Int :=
  if P.hasVel then (match V s with | some x => P.unscale x | none => v0) else v0

theorem velAt_of_noVel {P : DParams} (V : Nat → Option Rat) (v0 : Int) (s : Nat) (h : P.hasVel = false) :
    velAt P V v0 s = v0 := by
  unfold velAt; simp [h]

/-- a note that starts at frame `i` gets the velocity read there -/
theorem startCell_fst {V : Nat → Option Rat} {v0 : Int} (hvel : c.vel = V i)
    (hV : P.hasVel = true → ∃ x, V i = some x) (hv : P.hasVel = false → v = v0) :
    (startCell P i p v c).1 = (some i, velAt P V v0 i) := by
  unfold startCell velAt
  cases hhv : P.hasVel with
  | false => simp [hv hhv]
  | true => obtain ⟨x, hx⟩ := hV hhv; simp [hvel, hx]

/-- what the decoder's per-pitch state means before frame `i`.  With no note open, frame `i - 1` was silent or had no
predicted onset (an active frame with an onset would have opened one): this is what makes an onset at an active frame
`i` an `IsStart`. -/
def OnsInv (P : DParams) (A O : Nat → Bool) (V : Nat → Option Rat) (v0 : Int) (i : Nat) (st : Cell) : Prop :=
  match st.1 with
  | some s => s < i ∧ IsStart A O s ∧ (∀ k, s < k → k < i → A k = true ∧ ¬ IsStart A O k) ∧
      st.2 = velAt P V v0 s
  | none => NotOpen A O i ∧ (i = 0 ∨ A (i - 1) = false ∨ O (i - 1) = false) ∧ (P.hasVel = false → st.2 = v0)

/-- with onset predictions, one pitch: frame `j` yields exactly the `IsNote` span that ends at `j`, with the velocity
read at its start frame, if it passes the duration test -/
theorem colScan_onsets (P : DParams) (hP : P.hasOn = true) (p : Nat) (A O : Nat → Bool)
    (V : Nat → Option Rat) (v0 : Int)
    (hV : P.hasVel = true → ∀ k, A k = true → O k = true → ∃ x, V k = some x)
    (col : Nat → CellIn)
    (hcol : ∀ j, (col j).active = A j ∧ (col j).on = O j ∧
      (col j).prevOn = (if j = 0 then false else O (j - 1)) ∧ (col j).vel = V j)
    (j : Nat) (e : Emit) :
    (colScan P p col (none, v0) j).1 = some e ↔
      (e.pitch = p ∧ e.vel = velAt P V v0 e.s ∧ P.keep e.s e.e = true ∧ IsNote A O e.s e.e) ∧ e.e = j := by
  -- every step from a state that means what `OnsInv` says leads to such a state and emits the span ending there
  suffices hstep : ∀ j o v r, CellStep P j p v (col j) o r → OnsInv P A O V v0 j (o, v) →
      OnsInv P A O V v0 (j + 1) r.1 ∧ ∀ e, r.2.1 = some e ↔
        (e.pitch = p ∧ e.vel = velAt P V v0 e.s ∧ P.keep e.s e.e = true ∧ IsNote A O e.s e.e) ∧ e.e = j by
    have hinv : ∀ j, OnsInv P A O V v0 j (colState P p col (none, v0) j) := fun j => by
      induction j with
      | zero => exact ⟨fun s hs => by omega, Or.inl rfl, fun _ => rfl⟩
      | succ j ih => exact (hstep j _ _ _ (cellStep_step P j p _ (col j)) ih).1
    exact (hstep j _ _ _ (cellStep_step P j p _ (col j)) (hinv j)).2 e
  intro j o v r hs ho
  obtain ⟨hc1, hc2, hc3, hc4⟩ := hcol j
  -- a frame at which no note ends emits nothing
  have noemit : (∀ s, ¬ IsNote A O s j) → ∀ e : Emit, (none : Option Emit) = some e ↔
      (e.pitch = p ∧ e.vel = velAt P V v0 e.s ∧ P.keep e.s e.e = true ∧ IsNote A O e.s e.e) ∧ e.e = j := by
    intro hno e
    refine ⟨nofun, ?_⟩
    rintro ⟨⟨_, _, _, hn⟩, rfl⟩
    exact absurd hn (hno _)
  -- the state after a frame that leaves the pitch silent
  have inv_silent : A j = false → ∀ v', (P.hasVel = false → v' = v0) →
      OnsInv P A O V v0 (j + 1) (none, v') := by
    intro hAj v' hv'
    refine ⟨fun s hs hst hall => ?_, Or.inr (Or.inl hAj), hv'⟩
    rcases Nat.lt_or_ge s j with h | h
    · have := (hall j h (by omega)).1; rw [hAj] at this; cases this
    · have := hst.1; rw [show s = j by omega, hAj] at this; cases this
  -- the state after a start at frame j
  have inv_start : IsStart A O j → OnsInv P A O V v0 (j + 1) (some j, velAt P V v0 j) :=
    fun hst => ⟨by omega, hst, fun k h1 h2 => by omega, rfl⟩
  have hstart : A j = true → O j = true → ∀ v', (P.hasVel = false → v' = v0) →
      (startCell P j p v' (col j)).1 = (some j, velAt P V v0 j) :=
    fun hAj hOj v' hv' => startCell_fst hc4 (fun hhv => hV hhv j hAj hOj) hv'
  -- with no note open none ends here; with the note from `s` open, frame `j - 1` belongs to it
  have hnone : OnsInv P A O V v0 j (none, v) → ∀ s, ¬ IsNote A O s j :=
    fun ho s hs => ho.1 s hs.2.1 hs.1 hs.2.2.1
  have hsome : ∀ s, OnsInv P A O V v0 j (some s, v) → j ≠ 0 ∧ A (j - 1) = true := by
    rintro s ⟨ho1, ho2, ho3, _⟩
    refine ⟨by omega, ?_⟩
    rcases Nat.lt_or_ge s (j - 1) with h | h
    · exact (ho3 (j - 1) h (by omega)).1
    · rw [← show s = j - 1 by omega]; exact ho2.1
  cases hs with
  | silent hact =>
    rw [hc1] at hact
    exact ⟨inv_silent hact v ho.2.2, noemit (hnone ho)⟩
  | close s hact =>
    rw [hc1] at hact
    obtain ⟨ho1, ho2, ho3, rfl⟩ := ho
    have hnote : IsNote A O s j := ⟨ho2, ho1, ho3, Or.inl hact⟩
    exact ⟨inv_silent hact _ (velAt_of_noVel V v0 s), endEmit_some_iff P p s j (IsNote A O) (velAt P V v0) hnote
      (fun s' h => h.start_unique hnote)⟩
  | «open» hP' => rw [hP] at hP'; cases hP'
  | wait _ hact hon =>
    rw [hc2] at hon
    refine ⟨⟨fun s hs hst hall => ?_, Or.inr (Or.inr hon), ho.2.2⟩, noemit (hnone ho)⟩
    rcases Nat.lt_or_ge s j with h | h
    · exact ho.1 s h hst (fun k h1 h2 => hall k h1 (by omega))
    · have := hst.2.1; rw [show s = j by omega, hon] at this; cases this
  | start _ hact hon =>
    rw [hc1] at hact; rw [hc2] at hon
    have hst : IsStart A O j := ⟨hact, hon, ho.2.1.imp_right Or.symm⟩
    rw [hstart hact hon v ho.2.2]
    exact ⟨inv_start hst, noemit (hnone ho)⟩
  | hold s hact hc =>
    obtain ⟨hj0, hAprev⟩ := hsome s ho
    obtain ⟨ho1, ho2, ho3, ho4⟩ := ho
    rw [hc1] at hact
    rw [hc2, hc3, if_neg hj0] at hc
    have hnotStart : ¬ IsStart A O j := by
      rintro ⟨_, hOj, h | h | h⟩
      · exact hj0 h
      · exact hc ⟨hP, hOj, h⟩
      · rw [hAprev] at h; cases h
    refine ⟨⟨by omega, ho2, fun k h1 h2 => ?_, ho4⟩, noemit fun s' hs' => ?_⟩
    · rcases Nat.lt_or_ge k j with h | h
      · exact ho3 k h1 h
      · rw [show k = j by omega]; exact ⟨hact, hnotStart⟩
    · rcases hs'.2.2.2 with h | h
      · rw [hact] at h; cases h
      · exact hnotStart h
  | restart s hact _ hon hpo =>
    obtain ⟨hj0, _⟩ := hsome s ho
    obtain ⟨ho1, ho2, ho3, rfl⟩ := ho
    rw [hc1] at hact; rw [hc2] at hon; rw [hc3, if_neg hj0] at hpo
    have hst : IsStart A O j := ⟨hact, hon, Or.inr (Or.inl hpo)⟩
    have hnote : IsNote A O s j := ⟨ho2, ho1, ho3, Or.inr hst⟩
    rw [hstart hact hon _ (velAt_of_noVel V v0 s)]
    exact ⟨inv_start hst, endEmit_some_iff P p s j (IsNote A O) (velAt P V v0) hnote
      (fun s' h => h.start_unique hnote)⟩

/-- `[s, e)` is a maximal run of active frames of the column `A` -/
def IsMaxRun (A : Nat → Bool) (s e : Nat) : Prop :=
  s < e ∧ (∀ k, s ≤ k → k < e → A k = true) ∧ (s = 0 ∨ A (s - 1) = false) ∧ A e = false

/-- the onset-aware parameters that read a plain column: onsets given, no velocity values -/
def withOn (P : DParams) : DParams := { P with hasOn := true, hasVel := false }

/-- a plain column read with an onset in every frame, held since the frame before except at frame 0 -/
def allOn (col : Nat → CellIn) (j : Nat) : CellIn := { col j with on := true, prevOn := decide (j ≠ 0) }

theorem cellStep_plain {P : DParams} (hP : P.hasOn = false) (c : CellIn) (i p : Nat) (st : Cell)
    (h : st.1.isSome → i ≠ 0) :
    cellStep P i p st c = cellStep (withOn P) i p st { c with on := true, prevOn := decide (i ≠ 0) } := by
  obtain ⟨o, v⟩ := st
  cases o with
  | none => simp [cellStep, hP, withOn, startCell]
  | some s => cases hc : c.active <;> simp [cellStep, hc, hP, h rfl] <;> exact ⟨rfl, rfl⟩

theorem colScan_plain {P : DParams} (hP : P.hasOn = false) (p : Nat) (col : Nat → CellIn) (v : Int) (j : Nat) :
    cellStep P j p (colState P p col (none, v) j) (col j) =
      cellStep (withOn P) j p (colState (withOn P) p (allOn col) (none, v) j) (allOn col j) := by
  induction j with
  | zero => exact cellStep_plain hP _ 0 p _ nofun
  | succ j ih =>
    show cellStep P (j + 1) p (cellStep P j p _ (col j)).1 _ = cellStep _ (j + 1) p (cellStep _ j p _ _).1 _
    rw [← ih]
    exact cellStep_plain hP _ (j + 1) p _ fun _ => Nat.succ_ne_zero j

/-- with an onset in every frame a note is a maximal run -/
theorem isNote_allOn (A : Nat → Bool) (s e : Nat) : IsNote A (fun _ => true) s e ↔ IsMaxRun A s e := by
  have hst : ∀ k, IsStart A (fun _ => true) k ↔ A k = true ∧ (k = 0 ∨ A (k - 1) = false) := fun k => by
    simp [IsStart]
  unfold IsNote IsMaxRun
  simp only [hst]
  constructor
  · rintro ⟨⟨h1, h2⟩, hse, hin, he⟩
    have hall : ∀ k, s ≤ k → k < e → A k = true := fun k hk1 hk2 => by
      rcases Nat.eq_or_lt_of_le hk1 with rfl | hlt
      · exact h1
      · exact (hin k hlt hk2).1
    refine ⟨hse, hall, h2, ?_⟩
    rcases he with he | ⟨_, he | he⟩
    · exact he
    · omega
    · rw [hall (e - 1) (by omega) (by omega)] at he; cases he
  · rintro ⟨hse, hall, h2, he⟩
    refine ⟨⟨hall s (Nat.le_refl _) hse, h2⟩, hse, fun k hk1 hk2 => ⟨hall k (by omega) hk2, ?_⟩, Or.inl he⟩
    rintro ⟨_, h0 | h0⟩
    · omega
    · rw [hall (k - 1) (by omega) (by omega)] at h0; cases h0

/-- without onset predictions, one pitch: frame `j` yields exactly the maximal run of the column `A` that ends at
`j`, if it passes the duration test -/
theorem colScan_runs (P : DParams) (hP : P.hasOn = false) (p : Nat) (A : Nat → Bool) (v : Int)
    (col : Nat → CellIn) (hA : ∀ j, (col j).active = A j) (j : Nat) (e : Emit) :
    (colScan P p col (none, v) j).1 = some e ↔
      (e.pitch = p ∧ e.vel = v ∧ P.keep e.s e.e = true ∧ IsMaxRun A e.s e.e) ∧ e.e = j := by
  rw [show colScan P p col (none, v) j = colScan (withOn P) p (allOn col) (none, v) j from
      congrArg Prod.snd (colScan_plain hP p col v j),
    colScan_onsets (withOn P) rfl p A (fun _ => true) (fun j => (col j).vel) v nofun (allOn col)
      (fun j => ⟨hA j, rfl, by cases j <;> rfl, rfl⟩) j e,
    velAt_of_noVel _ v e.s rfl, isNote_allOn]
  rfl

theorem exists_run_start (A : Nat → Bool) (f : Nat) (hf : A f = true) :
    ∃ s, s ≤ f ∧ (∀ k, s ≤ k → k ≤ f → A k = true) ∧ (s = 0 ∨ A (s - 1) = false) := by
  induction f with
  | zero => exact ⟨0, Nat.le_refl _, fun k h1 h2 => by have : k = 0 := (by omega); rw [this]; exact hf, Or.inl rfl⟩
  | succ f ih =>
    cases hA : A f with
    | false => exact ⟨f + 1, Nat.le_refl _, fun k h1 h2 => by have : k = f + 1 := (by omega); rw [this]; exact hf, Or.inr (by simpa using hA)⟩
    | true =>
      obtain ⟨s, h1, h2, h3⟩ := ih hA
      refine ⟨s, by omega, fun k hk1 hk2 => ?_, h3⟩
      rcases Nat.lt_or_ge k (f + 1) with h | h
      · exact h2 k hk1 (by omega)
      · have : k = f + 1 := by omega
        rw [this]; exact hf

theorem exists_run_end (A : Nat → Bool) (N : Nat) (hN : ∀ k, N ≤ k → A k = false) (m f : Nat)
    (hm : N ≤ f + m) (hf : A f = true) :
    ∃ e, f < e ∧ A e = false ∧ ∀ k, f ≤ k → k < e → A k = true := by
  induction m generalizing f with
  | zero => have := hN f (by omega); rw [this] at hf; cases hf
  | succ m ih =>
    cases hA : A (f + 1) with
    | false => exact ⟨f + 1, by omega, hA, fun k h1 h2 => by have : k = f := (by omega); rw [this]; exact hf⟩
    | true =>
      obtain ⟨e, h1, h2, h3⟩ := ih (f + 1) (by omega) hA
      refine ⟨e, by omega, h2, fun k hk1 hk2 => ?_⟩
      rcases Nat.lt_or_ge k (f + 1) with h | h
      · have : k = f := by omega
        rw [this]; exact hf
      · exact h3 k h hk2

theorem exists_maxRun (A : Nat → Bool) (N : Nat) (hN : ∀ k, N ≤ k → A k = false) (f : Nat)
    (hf : A f = true) : ∃ s e, IsMaxRun A s e ∧ s ≤ f ∧ f < e := by
  obtain ⟨s, hs1, hs2, hs3⟩ := exists_run_start A f hf
  obtain ⟨e, he1, he2, he3⟩ := exists_run_end A N hN N f (by omega) hf
  refine ⟨s, e, ⟨by omega, fun k h1 h2 => ?_, hs3, he2⟩, hs1, he1⟩
  rcases Nat.lt_or_ge k f with h | h
  · exact hs2 k h1 (by omega)
  · exact he3 k h h2

/-- maximal runs of a union of pairwise separated intervals (`S a b`: `[a, b)` is one of them) are exactly the
intervals -/
theorem maxRun_of_separated (A : Nat → Bool) (S : Nat → Nat → Prop)
    (hA : ∀ k, A k = true ↔ ∃ a b, S a b ∧ a ≤ k ∧ k < b)
    (hne : ∀ a b, S a b → a < b)
    (hsep : ∀ a b a' b', S a b → S a' b' → (a = a' ∧ b = b') ∨ b < a' ∨ b' < a) (s e : Nat) :
    IsMaxRun A s e ↔ S s e := by
  have hAf : ∀ k, A k = false ↔ ¬ ∃ a b, S a b ∧ a ≤ k ∧ k < b := by
    intro k
    rw [← hA k]
    cases A k <;> simp
  constructor
  · rintro ⟨h1, h2, h3, h4⟩
    -- the interval covering frame s
    obtain ⟨a, b, hab, ha1, ha2⟩ := (hA s).mp (h2 s (Nat.le_refl _) h1)
    have hane := hne _ _ hab
    have has : a = s := by
      rcases Nat.lt_or_ge a s with hlt | hge
      · exfalso
        rcases h3 with h0 | h0
        · omega
        · exact (hAf (s - 1)).mp h0 ⟨a, b, hab, by omega, by omega⟩
      · omega
    subst has
    have hbe : b = e := by
      rcases Nat.lt_trichotomy b e with hlt | heq | hgt
      · exfalso
        -- frame b is in the run, covered by another interval (a', b')
        obtain ⟨a', b', hab', h1', h2'⟩ := (hA b).mp (h2 b (by omega) hlt)
        rcases hsep _ _ _ _ hab hab' with ⟨_, _⟩ | hs | hs <;> omega
      · exact heq
      · exact absurd ⟨a, b, hab, by omega, by omega⟩ ((hAf e).mp h4)
    subst hbe
    exact hab
  · intro hmem
    have hlt := hne _ _ hmem
    -- no other interval reaches the frame before `s` or the frame `e`
    have hout : ∀ k, (k + 1 = s ∨ k = e) → A k = false := by
      intro k hk
      rw [hAf]
      rintro ⟨a', b', hab', h1', h2'⟩
      rcases hsep _ _ _ _ hmem hab' with ⟨_, _⟩ | hs | hs <;> omega
    refine ⟨hlt, fun k hk1 hk2 => (hA k).mpr ⟨s, e, hmem, hk1, hk2⟩, ?_, hout e (Or.inr rfl)⟩
    rcases Nat.eq_zero_or_pos s with h0 | hpos
    · exact Or.inl h0
    · exact Or.inr (hout (s - 1) (Or.inl (by omega)))

theorem getM_toMat {α} (m : List (List α)) (i p : Nat) : getM (toMat m) i p = (m[i]?).bind (·[p]?) := by
  unfold getM toMat
  simp only [List.getElem?_toArray, List.getElem?_map]
  cases m[i]? <;> simp

theorem isRect_iff {α} {m : List (List α)} {n w : Nat} :
    isRect m n w = true ↔ m.length = n ∧ ∀ r ∈ m, r.length = w := by
  simp [isRect]

theorem isRect_row {α} (m : List (List α)) (n w : Nat) (h : isRect m n w = true) (f : Nat) (hf : f < n) :
    ∃ row, m[f]? = some row ∧ row.length = w := by
  obtain ⟨hl, hall⟩ := isRect_iff.mp h
  have hfl : f < m.length := by omega
  exact ⟨m[f], List.getElem?_eq_getElem hfl, hall _ (List.getElem_mem hfl)⟩

theorem getB_true_lt (m : List (List Bool)) (k p : Nat) (h : getB (some (toMat m)) k p = true) :
    k < m.length := by
  unfold getB at h
  simp only [getM_toMat] at h
  rcases Nat.lt_or_ge k m.length with hk | hk
  · exact hk
  · rw [List.getElem?_eq_none hk] at h; simp at h

theorem getM_some_of_rect {α} (m : List (List α)) (n w k p : Nat) (h : isRect m n w = true) (hk : k < n)
    (hp : p < w) : ∃ x, getM (toMat m) k p = some x := by
  obtain ⟨row, hrow, hlen⟩ := isRect_row m n w h k hk
  exact ⟨row[p]'(by omega), by rw [getM_toMat, hrow]; exact List.getElem?_eq_getElem (by omega)⟩

/-- a column of the frame array as a function of the frame; row `n` (the appended silent frame) and beyond read
`false`, in the velocity array `none` -/
def frameCol (frames : List (List Bool)) (p : Nat) : Nat → Bool := fun k => getB (some (toMat frames)) k p
def onsCol (ons : List (List Bool)) (p : Nat) : Nat → Bool := fun k => getB (some (toMat ons)) k p
/-- the active column with onset predictions: onsets or-ed in, then predicted offsets cleared (`mkCell`) -/
def actCol (frames ons : List (List Bool)) (offs : Option (List (List Bool))) (p : Nat) : Nat → Bool :=
  fun k => (getB (some (toMat frames)) k p || getB (some (toMat ons)) k p) &&
    !((getB (some (toMat frames)) k p || getB (some (toMat ons)) k p) && getB (offs.map toMat) k p)
def velCol (vels : Option (List (List Rat))) (p : Nat) : Nat → Option Rat :=
  fun k => getV (vels.map toMat) k p

theorem mkCell_active_plain (F : Nat → Nat → Bool) (V : Nat → Nat → Option Rat) (i p : Nat) :
    (mkCell F (getB none) (getB none) V i p).active = F i p := by
  simp [mkCell, getB]

theorem IsMaxRun.end_le {m : List (List Bool)} {p s e : Nat}
    (h : IsMaxRun (fun k => getB (some (toMat m)) k p) s e) : e ≤ m.length := by
  obtain ⟨h1, h2, _, _⟩ := h
  have := getB_true_lt m (e - 1) p (h2 (e - 1) (by omega) (by omega))
  omega

theorem IsNote.end_le {frames ons : List (List Bool)} {offs : Option (List (List Bool))} {p s e : Nat}
    (h : IsNote (actCol frames ons offs p) (onsCol ons p) s e) (hol : ons.length = frames.length) :
    e ≤ frames.length := by
  obtain ⟨hs, hse, hin, _⟩ := h
  -- frame e - 1 is active (it is s, or lies strictly inside), so it is a real frame
  have hact : actCol frames ons offs p (e - 1) = true := by
    rcases Nat.lt_or_ge s (e - 1) with h | h
    · exact (hin (e - 1) h (by omega)).1
    · rw [← show s = e - 1 by omega]; exact hs.1
  unfold actCol at hact
  simp only [Bool.and_eq_true, Bool.or_eq_true] at hact
  rcases hact.1 with h | h
  · have := getB_true_lt frames _ p h; omega
  · have := getB_true_lt ons _ p h; omega

/-- without onset / offset predictions `decode` runs the loop on the width of the (rectangular) roll -/
theorem decode_plain_eq (R Rv : Rat → Rat) (d : DCfg) (frames : List (List Bool)) (w : Nat)
    (hfps : d.fps ≠ 0) (hne : frames ≠ []) (hrect : isRect frames frames.length w = true) :
    decode R Rv d frames none none none = decodeCore R Rv d frames none none none w := by
  unfold decode
  rw [if_neg hfps]
  cases frames with
  | nil => exact absurd rfl hne
  | cons row0 rest =>
    have hw : row0.length = w := (isRect_iff.mp hrect).2 row0 List.mem_cons_self
    simp only [hw]
    rw [if_pos (by unfold shapesOk; simp only [Bool.and_true]; exact hrect)]

/-- a successful `decode` ran the loop on rectangular inputs -/
theorem decode_ok_inv {R Rv : Rat → Rat} {d : DCfg} {frames : List (List Bool)}
    {ons offs : Option (List (List Bool))} {vels : Option (List (List Rat))} {res : List ONote × Rat}
    (h : decode R Rv d frames ons offs vels = .ok res) :
    d.fps ≠ 0 ∧ ∃ row0 rest, frames = row0 :: rest ∧
      shapesOk frames ons offs vels frames.length row0.length = true ∧
      decodeCore R Rv d frames ons offs vels row0.length = .ok res := by
  unfold decode at h
  split at h
  · cases h
  · rename_i hfps
    refine ⟨hfps, ?_⟩
    split at h
    · cases h
    · rename_i row0 rest
      split at h
      · rename_i hs; exact ⟨row0, rest, rfl, hs, h⟩
      · cases h

/-- a successful run of the loop, in terms of the per-pitch steps -/
theorem decodeCore_ok {R Rv : Rat → Rat} {d : DCfg} {frames : List (List Bool)}
    {ons offs : Option (List (List Bool))} {vels : Option (List (List Rat))} {w : Nat} {res : List ONote × Rat}
    (h : decodeCore R Rv d frames ons offs vels w = .ok res) :
    ∃ ems : List Emit,
      res = (ems.map (emitNote R (R (1 / d.fps)) d.minMidiPitch),
        R (((frames.length + 1 : Nat) : Rat) * R (1 / d.fps))) ∧
      ems.Pairwise emitLt ∧
      ∀ e, e ∈ ems ↔ ∃ k < frames.length + 1, ∃ p < w,
        (colScan (dparams R Rv d ons.isSome (ons.isSome && vels.isSome)) p
          (mkCell (getB (some (toMat frames))) (getB (ons.map toMat)) (getB (offs.map toMat))
            (getV (vels.map toMat)) · p) (none, d.velocity) k).1 = some e := by
  unfold decodeCore prepare at h
  simp only [scan_prepareWith] at h
  split at h
  · cases h
  · cases h
    exact ⟨_, rfl, scan_sorted _ (fun h => (cellStep_step ..).emit h) 0 _ w, fun e => by simp [List.mem_flatMap, List.mem_filterMap]⟩

/-- without onset predictions the only index that can be out of range is `onset_velocities[pitch]`, read when a
closed run is reported: the loop cannot fail on at most 128 pitches -/
theorem decodeCore_plain_ok (R Rv : Rat → Rat) (d : DCfg) (frames : List (List Bool)) {w : Nat}
    (hw : w ≤ Gen.VEL_SLOTS) : ∃ res, decodeCore R Rv d frames none none none w = .ok res := by
  unfold decodeCore prepare
  simp only [scan_prepareWith]
  rw [if_neg]
  · exact ⟨_, rfl⟩
  · simp only [List.any_eq_true, List.mem_range'_1]
    rintro ⟨k, _, p, hp, hf⟩
    have := (cellStep_step ..).flag_plain rfl hf
    omega

end NSV.C18

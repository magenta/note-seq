import NoteSeqVerif.Proofs.C05Sim
import NoteSeqVerif.Proofs.RoundingApps
/-! C05 — the timing clause in FLOATING POINT.

`R` is any rounding operator with the facts of `Proofs/Rounding.lean` (`Rounding R`; the executable
`rne53` is one, `rounding_rne53`).

* numbers: how the error of `R (R (R (d · R (PPQ / div)) / PPQ) · R (60 / qpm))` and of
  `R (cursor ± seconds)` propagates (relative `NearN` form without `<backup>`, absolute form with it),
  and when every operation is exact;
* the computed cursor `fcursor` against the exact `specCursor`, as instances of `cursors_rel`: `NearN` without
  `<backup>` (`fcursor_near`), within an absolute bound (`fcursor_abs`), equal on dyadic scores (`fcursor_exact`);
* two instances of `Sim`: the cursor is a non-negative float (`simSafe`) and never decreases (`simMono`). -/
namespace NSV.C05

/-- the unit roundoff of binary64 -/
abbrev u53 : ℚ := 1 / 2 ^ 53

theorem u53_pos : (0 : ℚ) < u53 := by unfold u53; positivity

theorem secF_zero {R : ℚ → ℚ} (hR : Rounding R) (ppq div spq : ℚ) : secF R ppq div spq 0 = 0 := by
  simp [secF, hR.zero]

/-- five roundings: `NearN 53 5` of the exact `d / div · 60 / qpm` -/
theorem secF_near {R : ℚ → ℚ} (hR : Rounding R) {ppq div qpm d : ℚ} (hp : 0 < ppq) (hd : 0 < div)
    (hq : 0 < qpm) (h : 0 ≤ d) : NearN 53 5 (secF R ppq div (R (60 / qpm)) d) (d / div * (60 / qpm)) := by
  have h53 : 1 ≤ 53 := by norm_num
  have lp : NearN 53 0 ppq ppq := .lit hp.le
  have := ((((NearN.lit h).mul ((lp.div h53 (.lit hd.le) hd).rnd hR.relErr)).rnd hR.relErr).div h53 lp hp
    |>.rnd hR.relErr).mul (((NearN.lit (show (0 : ℚ) ≤ 60 by norm_num)).div h53 (.lit hq.le) hq).rnd hR.relErr)
    |>.rnd hR.relErr
  rwa [show d * (ppq / div) / ppq * (60 / qpm) = d / div * (60 / qpm) by field_simp] at this

theorem secF_abs {R : ℚ → ℚ} (hR : Rounding R) {ppq div qpm d : ℚ} (hp : 0 < ppq) (hd : 0 < div)
    (hq : 0 < qpm) (h : 0 ≤ d) :
    |secF R ppq div (R (60 / qpm)) d - d / div * (60 / qpm)| ≤ d / div * (60 / qpm) * (6 * u53) := by
  have := (secF_near hR hp hd hq h).abs_le (by norm_num) (by norm_num)
  norm_num at this ⊢
  linarith

/-- one forward move of the cursor, relative form -/
theorem rel_step {R : ℚ → ℚ} (hR : Rounding R) {k : ℕ} {tp t s σ : ℚ} (h1 : NearN 53 (k + 5) tp t)
    (h2 : NearN 53 5 s σ) : NearN 53 (k + 1 + 5) (R (tp + s)) (t + σ) :=
  ((h1.add h2).rnd hR.relErr).mono (by omega)

/-- one move of the cursor in either direction, absolute form: `M` bounds the exact cursors and moves -/
theorem abs_step {R : ℚ → ℚ} (hR : Rounding R) {k : ℕ} {tp t s σ M : ℚ}
    (hE : |tp - t| ≤ 8 * (k : ℚ) * u53 * M) (hs : |s - σ| ≤ |σ| * (6 * u53)) (hσM : |σ| ≤ M)
    (ht' : |t + σ| ≤ M) (hk : 8 * k + 6 ≤ 2 ^ 53) :
    |R (tp + s) - (t + σ)| ≤ 8 * ((k + 1 : ℕ) : ℚ) * u53 * M := by
  have hu := u53_pos
  have hM : 0 ≤ M := (abs_nonneg σ).trans hσM
  -- the error before rounding: that of the cursor plus that of the move
  have he : |tp + s - (t + σ)| ≤ (8 * (k : ℚ) + 6) * u53 * M := by
    have h1 : |tp + s - (t + σ)| ≤ |tp - t| + |s - σ| := by
      rw [add_sub_add_comm]; exact abs_add_le _ _
    have h2 : |σ| * (6 * u53) ≤ M * (6 * u53) := mul_le_mul_of_nonneg_right hσM (by positivity)
    linarith
  -- it is at most `M`, so the sum that is rounded is at most `2 M`
  have hku : (8 * (k : ℚ) + 6) * u53 ≤ 1 := by
    have : ((8 * k + 6 : ℕ) : ℚ) ≤ ((2 ^ 53 : ℕ) : ℚ) := by exact_mod_cast hk
    push_cast at this
    unfold u53
    rw [mul_one_div, div_le_one (by positivity)]
    exact this
  have hx : |tp + s| ≤ 2 * M := by
    have h1 : |tp + s| ≤ |tp + s - (t + σ)| + |t + σ| := by
      simpa using abs_add_le (tp + s - (t + σ)) (t + σ)
    have h2 := mul_le_mul_of_nonneg_right hku hM
    linarith
  have hr : |R (tp + s) - (tp + s)| ≤ 2 * M * u53 :=
    (hR.rel_err (tp + s)).trans (mul_le_mul_of_nonneg_right hx hu.le)
  have h1 : |R (tp + s) - (t + σ)| ≤ |R (tp + s) - (tp + s)| + |tp + s - (t + σ)| := abs_sub_le _ _ _
  push_cast
  linarith

/-- a number the format holds exactly: `n · 2^k` with `|n| ≤ 2^53` -/
def Repr53 (x : ℚ) : Prop := ∃ n k : ℤ, n.natAbs ≤ 2 ^ 53 ∧ x = (n : ℚ) * 2 ^ k

theorem Repr53.fix {R : ℚ → ℚ} (hR : Rounding R) {x : ℚ} (h : Repr53 x) : R x = x := by
  obtain ⟨n, k, hn, rfl⟩ := h
  exact hR.exact_dyadic (by norm_num) n hn k

theorem repr53_zero : Repr53 0 := ⟨0, 0, by simp, by simp⟩

/-- divisions a power of two, tempo `60·2^i`: every operation of `secondsOf` is exact -/
theorem secF_exact {R : ℚ → ℚ} (hR : Rounding R) {ppq d : ℤ} {j : ℕ} {i : ℤ} (hp : 0 < ppq) (hd : 0 ≤ d)
    (hdp : d * ppq ≤ 2 ^ 53) :
    secF R ppq ((2 : ℚ) ^ j) (R (60 / (60 * (2 : ℚ) ^ i))) d = (d : ℚ) / (2 : ℚ) ^ j * (60 / (60 * (2 : ℚ) ^ i)) := by
  rcases hd.lt_or_eq with h | h
  · have hp' : (ppq : ℚ) ≠ 0 := by exact_mod_cast hp.ne'
    have h2j : ((2 : ℚ) ^ j) ≠ 0 := by positivity
    have h2i : ((2 : ℚ) ^ i) ≠ 0 := zpow_ne_zero _ (by norm_num)
    have hle : ppq ≤ d * ppq := by
      have : 1 * ppq ≤ d * ppq := Int.mul_le_mul_of_nonneg_right (by omega) hp.le
      omega
    have hppq : ppq.natAbs ≤ 2 ^ 53 := by omega
    have hdd : d.natAbs ≤ 2 ^ 53 := by
      have : d * 1 ≤ d * ppq := Int.mul_le_mul_of_nonneg_left (by omega) hd
      omega
    have hnj : (2 : ℚ) ^ (-(j : ℤ)) = 1 / 2 ^ j := by rw [zpow_neg, zpow_natCast, one_div]
    have e1 : R ((ppq : ℚ) / 2 ^ j) = (ppq : ℚ) / 2 ^ j :=
      Repr53.fix hR ⟨ppq, -(j : ℤ), hppq, by rw [hnj]; ring⟩
    have e2 : R ((d : ℚ) * ((ppq : ℚ) / 2 ^ j)) = (d : ℚ) * ((ppq : ℚ) / 2 ^ j) :=
      Repr53.fix hR ⟨d * ppq, -(j : ℤ), by omega, by rw [hnj]; push_cast; ring⟩
    have e3 : R ((d : ℚ) * ((ppq : ℚ) / 2 ^ j) / ppq) = (d : ℚ) / 2 ^ j :=
      (Repr53.fix hR ⟨d, -(j : ℤ), hdd, by rw [hnj]; field_simp⟩).trans (by field_simp)
    have e4 : R (60 / (60 * (2 : ℚ) ^ i)) = 60 / (60 * (2 : ℚ) ^ i) :=
      Repr53.fix hR ⟨1, -i, by norm_num, by rw [zpow_neg]; push_cast; field_simp⟩
    have e5 : R ((d : ℚ) / 2 ^ j * (60 / (60 * (2 : ℚ) ^ i))) = (d : ℚ) / 2 ^ j * (60 / (60 * (2 : ℚ) ^ i)) :=
      Repr53.fix hR ⟨d, -(j : ℤ) + -i, hdd, by
        rw [zpow_add₀ (by norm_num : (2 : ℚ) ≠ 0), hnj, zpow_neg]; field_simp⟩
    unfold secF
    rw [e1, e2, e3, e4, e5]
  · subst h
    rw [Int.cast_zero, secF_zero hR]; simp

def wfAttr : AttrChild → Bool
  | .divisions d => decide (0 < d)
  | _ => true

def wfSound (s : Sound) : Bool :=
  match s.tempo with
  | none => true
  | some q => decide (0 ≤ q)

/-- durations are not negative, declared divisions are positive, declared tempos are not negative
(`tempo="0"` stands for the default) -/
def wfEl : El → Bool
  | .attributes cs => cs.all wfAttr
  | .note n => match n.duration with
      | none => true
      | some d => decide (0 ≤ d)
  | .backup d => decide (0 ≤ d)
  | .forward d => decide (0 ≤ d)
  | .direction ss => ss.all wfSound
  | _ => true

def noBackup : El → Bool
  | .backup _ => false
  | _ => true

def PosCtx (c : Ctx) : Prop := 0 < c.div ∧ 0 < c.qpm

theorem ctxStep_pos {c : Ctx} {e : El} (hwf : wfEl e = true) (h : PosCtx c) : PosCtx (ctxStep c e) := by
  refine ctxStep_induct (P := PosCtx) h ?_ ?_
  · rintro cs rfl a ha c ⟨hd, hq⟩
    have hwf' : cs.all wfAttr = true := hwf
    have := List.all_eq_true.mp hwf' a ha
    cases a with
    | divisions d => exact ⟨by simpa [wfAttr, ctxAttr] using this, hq⟩
    | _ => exact ⟨hd, hq⟩
  · rintro ss rfl s hs c ⟨hd, hq⟩
    have hwf' : ss.all wfSound = true := hwf
    have := List.all_eq_true.mp hwf' s hs
    unfold ctxSound
    split
    · exact ⟨hd, hq⟩
    · rename_i q hq'
      simp only [wfSound, hq', decide_eq_true_eq] at this
      refine ⟨hd, ?_⟩
      show 0 < (if q = 0 then Gen.DEFAULT_QPM else q)
      split
      · simp [Gen.DEFAULT_QPM]
      · rename_i hne
        exact lt_of_le_of_ne this (Ne.symm hne)

theorem ppq_pos : (0 : ℚ) < (Gen.STANDARD_PPQ : ℚ) := by
  have : (0 : Int) < Gen.STANDARD_PPQ := by decide
  exact_mod_cast this

theorem InvF.init {R : ℚ → ℚ} (hR : Rounding R) : InvF R PState.init Ctx.init := by
  refine ⟨rfl, rfl, ?_⟩
  have : (60 : ℚ) / Ctx.init.qpm = 1 / 2 := by
    simp only [Ctx.init, Gen.INIT_QPM]; norm_num
  rw [this, hR.half (by norm_num)]
  simp only [PState.init, Gen.INIT_SPQ]

/-- the float state follows the context in force, and divisions and tempo are positive -/
structure Base (R : ℚ → ℚ) (st : PState) (c : Ctx) : Prop where
  inv : InvF R st c
  div : 0 < c.div
  qpm : 0 < c.qpm

theorem Base.init {R : ℚ → ℚ} (hR : Rounding R) : Base R PState.init Ctx.init :=
  ⟨InvF.init hR, by decide, by simp [Ctx.init, Gen.INIT_QPM]⟩

theorem Base.seconds {R : ℚ → ℚ} {st : PState} {c : Ctx} (hb : Base R st c) (d : Int) :
    secondsOf R st d = .ok (secF R (Gen.STANDARD_PPQ : ℚ) (c.div : ℚ) (R (60 / c.qpm)) (d : ℚ)) := by
  rw [secondsOf_eq R st d (by rw [hb.inv.div]; exact hb.div.ne'), hb.inv.div, hb.inv.spq]

theorem Base.pos {R : ℚ → ℚ} {st : PState} {c : Ctx} (hb : Base R st c) : PosCtx c := ⟨hb.div, hb.qpm⟩

theorem PosCtx.divq {c : Ctx} (h : PosCtx c) : (0 : ℚ) < (c.div : ℚ) := by
  exact_mod_cast h.1

theorem Base.divq {R : ℚ → ℚ} {st : PState} {c : Ctx} (hb : Base R st c) : (0 : ℚ) < (c.div : ℚ) := hb.pos.divq

theorem PosCtx.exact_nonneg {c : Ctx} (h : PosCtx c) {d : Int} (hd : 0 ≤ d) : 0 ≤ secs c d :=
  mul_nonneg (div_nonneg (by exact_mod_cast hd) h.divq.le) (div_nonneg (by norm_num) h.2.le)

theorem PosCtx.sec_near {R : ℚ → ℚ} (hR : Rounding R) {c : Ctx} (h : PosCtx c) {d : Int} (hd : 0 ≤ d) :
    NearN 53 5 (fsecs R c d) (secs c d) :=
  secF_near hR ppq_pos h.divq h.2 (by exact_mod_cast hd)

theorem PosCtx.sec_abs {R : ℚ → ℚ} (hR : Rounding R) {c : Ctx} (h : PosCtx c) {d : Int} (hd : 0 ≤ d) :
    |fsecs R c d - secs c d| ≤ secs c d * (6 * u53) :=
  secF_abs hR ppq_pos h.divq h.2 (by exact_mod_cast hd)

theorem Base.sec_nonneg {R : ℚ → ℚ} (hR : Rounding R) {st : PState} {c : Ctx} (hb : Base R st c) {d : Int}
    (hd : 0 ≤ d) : 0 ≤ fsecs R c d :=
  (hb.pos.sec_near hR hd).nonneg

theorem wfEl_mv {e : El} {fwd : Bool} {d : Int} (hwf : wfEl e = true) (h : mvOf e = some (fwd, d)) : 0 ≤ d := by
  rcases mvOf_some h with ⟨rfl, _⟩ | ⟨rfl, _⟩ | ⟨n, rfl, _, hd, _⟩
  · simpa [wfEl] using hwf
  · simpa [wfEl] using hwf
  · simpa [wfEl, hd] using hwf

theorem Base.step {R : ℚ → ℚ} {st : PState} {m : MState} {e : El} {st' : PState} {m' : MState} {c : Ctx}
    (hb : Base R st c) (hwf : wfEl e = true) (h : parseEl R st m e = .ok (st', m')) : Base R st' (ctxStep c e) :=
  ⟨parseEl_invF hb.inv h, (ctxStep_pos hwf hb.pos).1, (ctxStep_pos hwf hb.pos).2⟩

theorem Base.ts {R : ℚ → ℚ} {st : PState} {c : Ctx} (x : Option TSig) (hb : Base R st c) :
    Base R { st with ts := x } c := ⟨⟨hb.inv.div, hb.inv.qpm, hb.inv.spq⟩, hb.div, hb.qpm⟩

theorem Base.partStart {R : ℚ → ℚ} {st : PState} {c : Ctx} (sps : List ScorePartEl) (p : PartEl)
    (hb : Base R st c) : Base R (partStart sps st p) c :=
  ⟨⟨hb.inv.div, hb.inv.qpm, hb.inv.spq⟩, hb.div, hb.qpm⟩

theorem mvOf_noBackup {e : El} {fwd : Bool} {d : Int} (hnb : noBackup e = true) (h : mvOf e = some (fwd, d)) :
    fwd = true := by
  rcases mvOf_some h with ⟨rfl, _⟩ | ⟨_, hf⟩ | ⟨_, _, _, _, hf⟩
  · exact absurd hnb Bool.false_ne_true
  · exact hf
  · exact hf

/-- without `<backup>`: the computed cursor is `NearN 53 (k+5)` the exact cursor after `k` moves -/
theorem fcursor_near {R : ℚ → ℚ} (hR : Rounding R) {l : List El} {c : Ctx} (hc : PosCtx c)
    (hl : ∀ e ∈ l, wfEl e = true ∧ noBackup e = true) :
    PosCtx (ctxAfter c l) ∧ NearN 53 (moves l + 5) (fcursor R c 0 l) (specCursor c l) := by
  have := cursors_rel (R := R) (Rel := fun k tp t => NearN 53 (k + 5) tp t) (okc := PosCtx)
    (oke := fun e => wfEl e = true ∧ noBackup e = true) (Qt := fun _ => True)
    (fun c e hc he => ctxStep_pos he.1 hc)
    (fun c e fwd d k tp t hm hc he h _ => by
      obtain rfl := mvOf_noBackup he.2 hm
      rw [(curStep_some hm).1, (curStep_some (R := R) (c := c) (tp := tp) hm).2]
      exact rel_step hR h (hc.sec_near hR (wfEl_mv he.1 hm)))
    l c 0 0 0 hc hl (fun _ _ _ => trivial) ((NearN.lit le_rfl).mono (Nat.zero_le _))
  simpa only [zero_add] using this

/-- with `<backup>`: while the exact cursors stay in `[0, M]`, the computed cursor is within `8·k·2^-53·M` of the
exact one after `k` moves -/
theorem fcursor_abs {R : ℚ → ℚ} (hR : Rounding R) {l : List El} {c : Ctx} {M : ℚ} (hc : PosCtx c)
    (hwf : ∀ e ∈ l, wfEl e = true) (hM : ∀ a b, l = a ++ b → 0 ≤ specCursor c a ∧ specCursor c a ≤ M)
    (hk : 8 * moves l + 6 ≤ 2 ^ 53) :
    PosCtx (ctxAfter c l) ∧ |fcursor R c 0 l - specCursor c l| ≤ 8 * (moves l : ℚ) * u53 * M := by
  -- the count `k` enters the relation as "while `k ≤ moves l`", which is what keeps `8 k + 6 ≤ 2^53` at every move
  have := cursors_rel (R := R)
    (Rel := fun k tp t => (0 ≤ t ∧ t ≤ M) ∧ (k ≤ moves l → |tp - t| ≤ 8 * (k : ℚ) * u53 * M)) (okc := PosCtx)
    (oke := fun e => wfEl e = true) (Qt := fun x => 0 ≤ x ∧ x ≤ M)
    (fun c e hc he => ctxStep_pos he hc)
    (fun c e fwd d k tp t hm hc he h hq => by
      refine ⟨hq, fun hkl => ?_⟩
      obtain ⟨a, b⟩ := curStep_some (R := R) (c := c) (tp := tp) hm
      have hd := wfEl_mv he hm
      have hσ := hc.exact_nonneg hd
      have hS := hc.sec_abs hR hd
      have hE := h.2 (by omega)
      have hk' : 8 * k + 6 ≤ 2 ^ 53 := by omega
      rw [b] at hq
      rw [a, b]
      cases fwd with
      | true =>
        simp only [if_true] at hq ⊢
        exact abs_step hR hE (by rwa [abs_of_nonneg hσ]) (by rw [abs_of_nonneg hσ]; linarith [h.1.1])
          (by rw [abs_of_nonneg hq.1]; exact hq.2) hk'
      | false =>
        simp only [Bool.false_eq_true, if_false, secs_neg] at hq ⊢
        rw [sub_eq_add_neg tp]
        exact abs_step hR hE (by rw [neg_sub_neg, abs_sub_comm, abs_neg, abs_of_nonneg hσ]; exact hS)
          (by rw [abs_neg, abs_of_nonneg hσ]; linarith [h.1.2]) (by rw [abs_of_nonneg hq.1]; exact hq.2) hk')
    l c 0 0 0 hc hwf (by simpa only [zero_add] using hM)
    ⟨by simpa [specCursor] using hM [] l rfl, fun _ => by simp⟩
  simp only [zero_add] at this
  exact ⟨this.1, this.2.2 (le_refl _)⟩

def DyCtx (c : Ctx) : Prop := (∃ j : ℕ, c.div = 2 ^ j) ∧ (∃ i : ℤ, c.qpm = 60 * (2 : ℚ) ^ i)

def dyAttr : AttrChild → Prop
  | .divisions d => ∃ j : ℕ, d = 2 ^ j
  | _ => True

def dySound (s : Sound) : Prop := ∀ q, s.tempo = some q → q = 0 ∨ ∃ i : ℤ, q = 60 * (2 : ℚ) ^ i

/-- a duration whose tick count `d · STANDARD_PPQ` fits the significand -/
def dyDur (d : Int) : Prop := 0 ≤ d ∧ d * Gen.STANDARD_PPQ ≤ 2 ^ 53

/-- declared divisions are powers of two, declared tempos are `60·2^i` (or 0 = default), durations are
non-negative with `d · STANDARD_PPQ ≤ 2^53` -/
def dyEl : El → Prop
  | .attributes cs => ∀ a ∈ cs, dyAttr a
  | .direction ss => ∀ s ∈ ss, dySound s
  | .note n => ∀ d, n.duration = some d → dyDur d
  | .backup d => dyDur d
  | .forward d => dyDur d
  | _ => True

theorem DyCtx.init : DyCtx Ctx.init :=
  ⟨⟨0, rfl⟩, ⟨1, by simp only [Ctx.init, Gen.INIT_QPM]; norm_num⟩⟩

theorem DyCtx.pos {c : Ctx} (h : DyCtx c) : 0 < c.div ∧ 0 < c.qpm := by
  obtain ⟨⟨j, hj⟩, ⟨i, hi⟩⟩ := h
  refine ⟨by rw [hj]; positivity, ?_⟩
  rw [hi]
  have : (0 : ℚ) < (2 : ℚ) ^ i := zpow_pos (by norm_num) i
  positivity

theorem dyEl_wf {e : El} (h : dyEl e) : wfEl e = true := by
  cases e with
  | attributes cs =>
    simp only [wfEl, List.all_eq_true]
    intro a ha
    have := h a ha
    cases a with
    | divisions d =>
      obtain ⟨j, rfl⟩ := this
      simp only [wfAttr, decide_eq_true_eq]; positivity
    | _ => rfl
  | direction ss =>
    simp only [wfEl, List.all_eq_true]
    intro s hs
    have := h s hs
    unfold wfSound
    split
    · rfl
    · rename_i q hq
      simp only [decide_eq_true_eq]
      rcases this q hq with rfl | ⟨i, rfl⟩
      · exact le_refl _
      · have : (0 : ℚ) < (2 : ℚ) ^ i := zpow_pos (by norm_num) i
        positivity
  | note n =>
    simp only [wfEl]
    split
    · rfl
    · rename_i d hd
      simpa using (h d hd).1
  | backup d | forward d => simpa [wfEl] using h.1
  | harmony _ | other => rfl

theorem ctxStep_dy {c : Ctx} {e : El} (he : dyEl e) (hc : DyCtx c) : DyCtx (ctxStep c e) := by
  refine ctxStep_induct hc ?_ ?_
  · rintro cs rfl a ha c hc
    have := he a ha
    cases a with
    | divisions d => exact ⟨this, hc.2⟩
    | _ => exact hc
  · rintro ss rfl s hs c hc
    have ha := he s hs
    unfold ctxSound
    split
    · exact hc
    · rename_i q hq
      refine ⟨hc.1, ?_⟩
      show ∃ i : ℤ, (if q = 0 then Gen.DEFAULT_QPM else q) = 60 * (2 : ℚ) ^ i
      rcases ha q hq with rfl | ⟨i, rfl⟩
      · exact ⟨1, by simp only [if_true, Gen.DEFAULT_QPM]; norm_num⟩
      · refine ⟨i, ?_⟩
        rw [if_neg]
        have : (0 : ℚ) < (2 : ℚ) ^ i := zpow_pos (by norm_num) i
        positivity

theorem dyEl_mv {e : El} {fwd : Bool} {d : Int} (he : dyEl e) (h : mvOf e = some (fwd, d)) : dyDur d := by
  rcases mvOf_some h with ⟨rfl, _⟩ | ⟨rfl, _⟩ | ⟨n, rfl, _, hd, _⟩
  · exact he
  · exact he
  · exact he d hd

theorem DyCtx.secF {R : ℚ → ℚ} (hR : Rounding R) {c : Ctx} (hdy : DyCtx c) {d : Int} (hd : dyDur d) :
    fsecs R c d = secs c d := by
  obtain ⟨⟨j, hj⟩, ⟨i, hi⟩⟩ := hdy
  have hdiv : (c.div : ℚ) = (2 : ℚ) ^ j := by rw [hj]; push_cast; rfl
  unfold fsecs secs
  rw [hdiv, hi]
  exact secF_exact hR (by decide) hd.1 hd.2

/-- on a dyadic score whose exact cursors are representable the computed cursor IS the exact cursor -/
theorem fcursor_exact {R : ℚ → ℚ} (hR : Rounding R) {l : List El} {c : Ctx} (hc : DyCtx c)
    (hl : ∀ e ∈ l, dyEl e) (hrep : ∀ a b, l = a ++ b → Repr53 (specCursor c a)) :
    DyCtx (ctxAfter c l) ∧ fcursor R c 0 l = specCursor c l := by
  have := cursors_rel (R := R) (Rel := fun _ tp t => tp = t) (okc := DyCtx) (oke := dyEl) (Qt := Repr53)
    (fun c e hc he => ctxStep_dy he hc)
    (fun c e fwd d k tp t hm hc he h hq => by
      subst h
      rw [(curStep_some hm).1, hc.secF hR (dyEl_mv he hm), move_signed tp hm]
      exact hq.fix hR)
    l c 0 0 0 hc hl (by simpa only [zero_add] using hrep) rfl
  simpa only [zero_add] using this

/-- a `<backup>` does not go back further than the cursor, as computed in floating point -/
def backupFits (R : ℚ → ℚ) (st : PState) : El → Prop
  | .backup d => ∀ sec, secondsOf R st d = .ok sec → sec ≤ st.tp
  | _ => True

def noGrace : El → Bool
  | .note n => n.duration.isSome
  | _ => true

/-- the cursor is a non-negative float; so is the onset kept in `previous_note`, whose duration is not negative -/
structure Safe (R : ℚ → ℚ) (st : PState) : Prop where
  fix : R st.tp = st.tp
  nonneg : 0 ≤ st.tp
  prev : ∀ pd pt, st.prev = some (pd, pt) → 0 ≤ pd ∧ R pt = pt ∧ 0 ≤ pt

def NoteOK (R : ℚ → ℚ) (pn : PNote) : Prop := R pn.time = pn.time ∧ 0 ≤ pn.time ∧ 0 ≤ pn.seconds

theorem Safe.init {R : ℚ → ℚ} (hR : Rounding R) : Safe R PState.init :=
  ⟨hR.zero, le_refl _, fun _ _ h => by simp [PState.init] at h⟩

theorem Safe.partStart {R : ℚ → ℚ} (hR : Rounding R) {st : PState} (sps : List ScorePartEl) (p : PartEl)
    (hs : Safe R st) : Safe R (partStart sps st p) := ⟨hR.zero, le_refl _, hs.prev⟩

/-- `lo`: a lower bound of the cursor and of the previous onset is one of the note's onset, unless it is a grace
note (whose onset is 0) -/
theorem safe_note {R : ℚ → ℚ} (hR : Rounding R) {st st1 : PState} {c : Ctx} {n : NoteEl} {pn : PNote}
    (hb : Base R st c) (hs : Safe R st) (hwf : wfEl (.note n) = true) (h : parseNote R st n = .ok (st1, pn)) :
    0 ≤ pn.duration ∧ NoteOK R pn ∧
    ∀ lo, noGrace (.note n) = true → (∀ pd pt, st.prev = some (pd, pt) → lo ≤ pt) → lo ≤ st.tp → lo ≤ pn.time := by
  obtain ⟨g1, g2, g3⟩ := parseNote_float h
  cases hd : n.duration with
  | none =>
    obtain ⟨_, t0, s0, d0⟩ := g1 hd
    exact ⟨d0.ge, ⟨by rw [t0, hR.zero], t0.ge, s0.ge⟩, fun lo hg => by simp [noGrace, hd] at hg⟩
  | some d =>
    have hd0 : 0 ≤ d := by simpa [wfEl, hd] using hwf
    cases hc : n.chord with
    | true =>
      obtain ⟨pd, pt, hprev, _, t0, d0, hsec, _⟩ := g2 d hd hc
      obtain ⟨p1, p2, p3⟩ := hs.prev pd pt hprev
      rw [hb.seconds pd] at hsec
      rw [NoteOK, t0, d0, ← Except.ok.inj hsec]
      exact ⟨p1, ⟨p2, p3, hb.sec_nonneg hR p1⟩, fun lo _ hp _ => hp pd pt hprev⟩
    | false =>
      obtain ⟨_, t0, d0, hsec, _⟩ := g3 d hd hc
      rw [hb.seconds d] at hsec
      rw [NoteOK, t0, d0, ← Except.ok.inj hsec]
      exact ⟨hd0, ⟨hs.fix, hs.nonneg, hb.sec_nonneg hR hd0⟩, fun lo _ _ hlo => hlo⟩

theorem safe_cursor {R : ℚ → ℚ} (hR : Rounding R) {st : PState} {m : MState} {e : El} {st' : PState} {m' : MState}
    {c : Ctx} (hb : Base R st c) (hs : Safe R st) (hwf : wfEl e = true) (hfit : backupFits R st e)
    (h : parseEl R st m e = .ok (st', m')) :
    R st'.tp = st'.tp ∧ 0 ≤ st'.tp ∧ (noBackup e = true → st.tp ≤ st'.tp) := by
  rw [parseEl_cur hb.inv h]
  cases hm : mvOf e with
  | none =>
    rw [(curStep_none hm).1]
    exact ⟨hs.fix, hs.nonneg, fun _ => le_refl _⟩
  | some x =>
    obtain ⟨fwd, d⟩ := x
    have h0 := hb.sec_nonneg hR (wfEl_mv hwf hm)
    rw [(curStep_some hm).1]
    rcases mvOf_some hm with ⟨rfl, rfl⟩ | ⟨_, rfl⟩ | ⟨_, _, _, _, rfl⟩
    · have hle : fsecs R c d ≤ st.tp := hfit _ (hb.seconds d)
      exact ⟨hR.idem _, hR.nonneg (by simpa using hle), fun hnb => absurd hnb Bool.false_ne_true⟩
    all_goals
      refine ⟨hR.idem _, hR.nonneg (add_nonneg hs.nonneg h0), fun _ => ?_⟩
      have := hR.mono st.tp _ (le_add_of_nonneg_right h0)
      rwa [hs.fix] at this

theorem safe_step {R : ℚ → ℚ} (hR : Rounding R) {st : PState} {m : MState} {e : El} {st' : PState} {m' : MState}
    {c : Ctx} (hb : Base R st c) (hs : Safe R st) (hwf : wfEl e = true) (hfit : backupFits R st e)
    (h : parseEl R st m e = .ok (st', m')) :
    Base R st' (ctxStep c e) ∧ Safe R st' ∧ ∃ new, m'.notes = m.notes ++ new ∧ (∀ pn ∈ new, NoteOK R pn) ∧
      (noBackup e = true → st.tp ≤ st'.tp) ∧
      (∀ lo, noGrace e = true → (∀ pd pt, st.prev = some (pd, pt) → lo ≤ pt) → lo ≤ st.tp →
        (∀ pd pt, st'.prev = some (pd, pt) → lo ≤ pt) ∧ ∀ pn ∈ new, lo ≤ pn.time) := by
  have hb' := hb.step hwf h
  obtain ⟨c1, c2, c3⟩ := safe_cursor hR hb hs hwf hfit h
  obtain ⟨_, _, _, hf⟩ := parseEl_float h
  refine ⟨hb', ?_⟩
  cases e with
  | note n =>
    obtain ⟨st1, pn, hn, rfl, hnotes⟩ := hf
    obtain ⟨n1, n2, n3⟩ := safe_note hR hb hs hwf hn
    refine ⟨⟨c1, c2, ?_⟩, [pn], hnotes, by simpa using n2, c3,
      fun lo hg hp hlo => ⟨?_, by simpa using n3 lo hg hp hlo⟩⟩
    · intro pd pt hp
      simp only [Option.some.injEq, Prod.mk.injEq] at hp
      obtain ⟨rfl, rfl⟩ := hp
      exact ⟨n1, n2.1, n2.2.1⟩
    · intro pd pt hp'
      simp only [Option.some.injEq, Prod.mk.injEq] at hp'
      rw [← hp'.2]
      exact n3 lo hg hp hlo
  | _ =>
    obtain ⟨new, hnew, hlen, hprev, _⟩ := parseEl_notes h
    obtain rfl := List.eq_nil_of_length_eq_zero hlen
    have hp := hprev rfl
    exact ⟨⟨c1, c2, by rw [hp]; exact hs.prev⟩, [], hnew, by simp, c3,
      fun lo _ hpl _ => ⟨by rw [hp]; exact hpl, by simp⟩⟩

/-- cursors and onsets are non-negative floats as long as every `<backup>` fits -/
def simSafe (R : ℚ → ℚ) (hR : Rounding R) : Sim R Ctx where
  gs := ctxStep
  P c st := Base R st c ∧ Safe R st
  ok _ st e := wfEl e = true ∧ backupFits R st e
  Q pn := NoteOK R pn
  ts x h := ⟨h.1.ts x, ⟨h.2.fix, h.2.nonneg, h.2.prev⟩⟩
  step := by
    intro g st m e st' m' ⟨hb, hs⟩ ⟨hwf, hfit⟩ h
    obtain ⟨a, b, new, c, d, _⟩ := safe_step hR hb hs hwf hfit h
    exact ⟨⟨a, b⟩, new, c, d⟩

theorem backupFits_of_noBackup (R : ℚ → ℚ) (st : PState) {e : El} (h : noBackup e = true) : backupFits R st e := by
  cases e <;> trivial

/-- without `<backup>` (and grace notes) the cursor never decreases: it stays `≥ hi`, and every onset is `≥ lo` -/
def simMono (R : ℚ → ℚ) (hR : Rounding R) (lo hi : ℚ) (hle : lo ≤ hi) : Sim R Ctx where
  gs := ctxStep
  P c st := Base R st c ∧ Safe R st ∧ hi ≤ st.tp ∧ ∀ pd pt, st.prev = some (pd, pt) → lo ≤ pt
  ok _ _ e := wfEl e = true ∧ noBackup e = true ∧ noGrace e = true
  Q pn := NoteOK R pn ∧ lo ≤ pn.time
  ts x h := ⟨h.1.ts x, ⟨h.2.1.fix, h.2.1.nonneg, h.2.1.prev⟩, h.2.2⟩
  step := by
    intro g st m e st' m' ⟨hb, hs, hhi, hp⟩ ⟨hwf, hnb, hng⟩ h
    obtain ⟨a, b, new, c, d, e1, e2⟩ := safe_step hR hb hs hwf (backupFits_of_noBackup R st hnb) h
    obtain ⟨f1, f2⟩ := e2 lo hng hp (hle.trans hhi)
    exact ⟨⟨a, b, hhi.trans (e1 hnb), f1⟩, new, c, fun pn hpn => ⟨d pn hpn, f2 pn hpn⟩⟩

/-! ### decidable sufficient conditions for the hypotheses of the exactness theorem (for concrete scores) -/

def isPow2 (n : ℕ) : Bool := decide (2 ^ Nat.log2 n = n)

theorem isPow2_spec {n : ℕ} (h : isPow2 n = true) : ∃ j : ℕ, n = 2 ^ j :=
  ⟨Nat.log2 n, (of_decide_eq_true h).symm⟩

theorem isPow2_int {d : Int} (h0 : 0 < d) (h : isPow2 d.toNat = true) : ∃ j : ℕ, d = 2 ^ j := by
  obtain ⟨j, hj⟩ := isPow2_spec h
  refine ⟨j, ?_⟩
  rw [← Int.toNat_of_nonneg h0.le, hj]
  push_cast
  rfl

/-- `x = num / 2^k` with `|num| ≤ 2^53` -/
def repr53B (x : ℚ) : Bool := decide (x.num.natAbs ≤ 2 ^ 53) && isPow2 x.den

theorem repr53_of_B {x : ℚ} (h : repr53B x = true) : Repr53 x := by
  simp only [repr53B, Bool.and_eq_true, decide_eq_true_eq] at h
  obtain ⟨j, hj⟩ := isPow2_spec h.2
  refine ⟨x.num, -(j : ℤ), h.1, ?_⟩
  have hx : x = (x.num : ℚ) / (x.den : ℚ) := (Rat.num_div_den x).symm
  rw [zpow_neg, zpow_natCast, ← div_eq_mul_inv]
  conv_lhs => rw [hx, hj]
  push_cast
  rfl

/-- a positive rational that is a power of two (numerator and denominator are) -/
def pow2RatB (x : ℚ) : Bool := decide (0 < x.num) && isPow2 x.num.toNat && isPow2 x.den

theorem pow2Rat_spec {x : ℚ} (h : pow2RatB x = true) : ∃ i : ℤ, x = (2 : ℚ) ^ i := by
  simp only [pow2RatB, Bool.and_eq_true, decide_eq_true_eq] at h
  obtain ⟨⟨h0, h1⟩, h2⟩ := h
  obtain ⟨a, ha⟩ := isPow2_int h0 h1
  obtain ⟨b, hb⟩ := isPow2_spec h2
  refine ⟨(a : ℤ) - (b : ℤ), ?_⟩
  have hn : (x.num : ℚ) = (2 : ℚ) ^ a := by rw [ha]; push_cast; rfl
  have hx : x = (x.num : ℚ) / (x.den : ℚ) := (Rat.num_div_den x).symm
  rw [zpow_sub₀ (by norm_num : (2 : ℚ) ≠ 0), zpow_natCast, zpow_natCast]
  conv_lhs => rw [hx, hn, hb]
  push_cast
  rfl

def dyAttrB : AttrChild → Bool
  | .divisions d => decide (0 < d) && isPow2 d.toNat
  | _ => true

def dySoundB (s : Sound) : Bool :=
  match s.tempo with
  | none => true
  | some q => decide (q = 0) || pow2RatB (q / 60)

def dyDurB (d : Int) : Bool := decide (0 ≤ d) && decide (d * Gen.STANDARD_PPQ ≤ 2 ^ 53)

def dyElB : El → Bool
  | .attributes cs => cs.all dyAttrB
  | .direction ss => ss.all dySoundB
  | .note n => match n.duration with
      | none => true
      | some d => dyDurB d
  | .backup d => dyDurB d
  | .forward d => dyDurB d
  | _ => true

theorem dyDur_of_B {d : Int} (h : dyDurB d = true) : dyDur d := by
  simpa [dyDurB, dyDur] using h

theorem dyEl_of_B {e : El} (h : dyElB e = true) : dyEl e := by
  cases e with
  | attributes cs =>
    simp only [dyElB, List.all_eq_true] at h
    intro a ha
    have := h a ha
    cases a with
    | divisions d =>
      simp only [dyAttrB, Bool.and_eq_true, decide_eq_true_eq] at this
      exact isPow2_int this.1 this.2
    | _ => trivial
  | direction ss =>
    simp only [dyElB, List.all_eq_true] at h
    intro s hs q hq
    have := h s hs
    simp only [dySoundB, hq, Bool.or_eq_true, decide_eq_true_eq] at this
    rcases this with h0 | h1
    · exact Or.inl h0
    · obtain ⟨i, hi⟩ := pow2Rat_spec h1
      exact Or.inr ⟨i, by rw [← hi]; ring⟩
  | note n =>
    intro d hd
    simp only [dyElB, hd] at h
    exact dyDur_of_B h
  | backup d | forward d => exact dyDur_of_B h
  | harmony _ | other => trivial

theorem DyCtx_of_B {c : Ctx} (h1 : (decide (0 < c.div) && isPow2 c.div.toNat) = true)
    (h2 : pow2RatB (c.qpm / 60) = true) : DyCtx c := by
  simp only [Bool.and_eq_true, decide_eq_true_eq] at h1
  obtain ⟨i, hi⟩ := pow2Rat_spec h2
  exact ⟨isPow2_int h1.1 h1.2, ⟨i, by rw [← hi]; ring⟩⟩

/-- every exact cursor reached in the run (counted from `t`) passes `repr53B` -/
def prefixesB (c : Ctx) (t : ℚ) : List El → Bool
  | [] => true
  | e :: es => repr53B (t + secs c (moveOf e)) && prefixesB (ctxStep c e) (t + secs c (moveOf e)) es

theorem prefixes_of_B : ∀ (els : List El) (c : Ctx) (t : ℚ), Repr53 t → prefixesB c t els = true →
    ∀ a b, els = a ++ b → Repr53 (t + specCursor c a) := by
  intro els
  induction els with
  | nil =>
    intro c t ht _ a b hab
    have : a = [] := by
      cases a with
      | nil => rfl
      | cons x xs => simp at hab
    subst this
    simpa [specCursor] using ht
  | cons e es ih =>
    intro c t ht h a b hab
    simp only [prefixesB, Bool.and_eq_true] at h
    cases a with
    | nil => simpa [specCursor] using ht
    | cons x xs =>
      simp only [List.cons_append, List.cons.injEq] at hab
      obtain ⟨rfl, hes⟩ := hab
      have := ih _ _ (repr53_of_B h.1) h.2 xs b hes
      simpa only [specCursor, add_assoc] using this

/-! ### "every `<backup>` fits": trivial without `<backup>`, decidable on concrete scores -/

theorem measuresFit_noBackup (R : ℚ → ℚ) (mss : List (List El)) (st : PState)
    (h : ∀ e ∈ flatEls mss, noBackup e = true) : measuresFit R (backupFits R) st mss :=
  measuresFit_of_forall (okp := fun e => noBackup e = true) (fun st _ he => backupFits_of_noBackup R st he) mss st h

def backupFitsB (R : ℚ → ℚ) (st : PState) : El → Bool
  | .backup d => match secondsOf R st d with
      | .ok sec => decide (sec ≤ st.tp)
      | .error _ => true
  | _ => true

theorem backupFits_of_B {R : ℚ → ℚ} {st : PState} {e : El} (h : backupFitsB R st e = true) : backupFits R st e := by
  cases e with
  | backup d =>
    intro sec hsec
    simp only [backupFitsB, hsec, decide_eq_true_eq] at h
    exact h
  | _ => trivial

/-- run the parser and check every `<backup>` on the way -/
def elsFitB (R : ℚ → ℚ) : PState → MState → List El → Bool
  | _, _, [] => true
  | st, m, e :: es => backupFitsB R st e && (match parseEl R st m e with
      | .ok (st', m') => elsFitB R st' m' es
      | .error _ => true)

theorem elsFit_of_B {R : ℚ → ℚ} : ∀ (els : List El) (st : PState) (m : MState), elsFitB R st m els = true →
    elsFit R (backupFits R) st m els := by
  intro els
  induction els with
  | nil => intro st m _; trivial
  | cons e es ih =>
    intro st m h
    simp only [elsFitB, Bool.and_eq_true] at h
    refine ⟨backupFits_of_B h.1, fun st' m' hp => ?_⟩
    have h2 := h.2
    rw [hp] at h2
    exact ih st' m' h2

def measuresFitB (R : ℚ → ℚ) : PState → List (List El) → Bool
  | _, [] => true
  | st, l :: rest => elsFitB R st {} (repairMeasure l) && (match parseMeasure R st (repairMeasure l) with
      | .ok (st', _) => measuresFitB R st' rest
      | .error _ => true)

theorem measuresFit_of_B {R : ℚ → ℚ} : ∀ (mss : List (List El)) (st : PState), measuresFitB R st mss = true →
    measuresFit R (backupFits R) st mss := by
  intro mss
  induction mss with
  | nil => intro st _; trivial
  | cons l rest ih =>
    intro st h
    simp only [measuresFitB, Bool.and_eq_true] at h
    refine ⟨elsFit_of_B _ _ _ h.1, fun st' mi hp => ?_⟩
    have h2 := h.2
    rw [hp] at h2
    exact ih st' h2

end NSV.C05

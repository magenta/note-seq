import NoteSeqVerif.Proofs.C14Bridge
/-! C14 — assembly: the model's result on a well-formed sequence without same-pitch overlaps is
the specification's, with the facts about `total_time` that the corollaries need. -/
namespace NSV.C14

theorem heldEnd_drum (ctl : Int) (s : NoteSeq) (nt : Note) (h : nt.isDrum = true) :
    heldEnd ctl s nt = nt.end_ := by
  unfold heldEnd; rw [if_pos (Or.inl h)]

theorem heldEnd_noPedal (ctl : Int) (s : NoteSeq) (nt : Note)
    (h : ¬ pedalDown ctl s.ccs nt.instrument nt.end_) : heldEnd ctl s nt = nt.end_ := by
  unfold heldEnd; rw [if_pos (Or.inr h)]

theorem heldEnd_ge (ctl : Int) (s : NoteSeq) (nt : Note) (hnt : nt ∈ s.notes) :
    nt.end_ ≤ heldEnd ctl s nt := by
  unfold heldEnd
  split
  · exact Rat.le_refl
  · rename_i h
    refine (le_foldl_min _ _ _).mpr ⟨(lastEventTime_spec ctl s _ ?_).1, fun t ht => ?_⟩
    · simp only [eventTimes, List.mem_append, List.mem_map, List.mem_filter]
      exact Or.inl (Or.inr ⟨nt, ⟨hnt, by simpa using fun hd => h (Or.inl hd)⟩, rfl⟩)
    · simp only [releaseTimes, restrikeTimes, List.mem_append, List.mem_map, List.mem_filter,
        decide_eq_true_eq] at ht
      rcases ht with ⟨c, ⟨_, _, _, _, hlt⟩, rfl⟩ | ⟨m, ⟨_, _, _, _, _, hle⟩, rfl⟩
      · exact Rat.le_of_lt hlt
      · exact hle

/-- the pedal, not a re-strike, ends the pitched note `nt`: at a later release of its pedal, or,
never released nor re-struck, with the piece.  These are the notes that raise `total_time`. -/
def PedalEnds (ctl : Int) (s : NoteSeq) (nt : Note) : Prop :=
  nt.isDrum = false ∧ pedalDown ctl s.ccs nt.instrument nt.end_ ∧
    (heldEnd ctl s nt ∈ releaseTimes ctl s nt ∨
      (releaseTimes ctl s nt = [] ∧ restrikeTimes s nt = []))

/-- the final abstract state `a` of the pitched note `nt`, in the specification's terms: where the
note ends (the close-out ends a note still active at the time of the last event), which final
states belong to the notes the pedal ends, and what holds of the others -/
structure NoteFinal (ctl : Int) (s : NoteSeq) (nt : Note) (a : Abs) : Prop where
  end_eq : a.final (lastEventTime ctl s) = heldEnd ctl s nt
  pedalEnds_iff : PedalEnds ctl s nt ↔ a.raises
  alt : PedalEnds ctl s nt ∨ heldEnd ctl s nt = nt.end_ ∨
    ∃ m ∈ s.notes, m.isDrum = false ∧ m.start = heldEnd ctl s nt

/-- layer 2 for the pitched note `j` of the sequence: the four ways it can go -/
theorem note_final (ctl : Int) (s : NoteSeq) (hw : WellFormed s) (ho : NoSamePitchOverlap s)
    (j : Fin s.notes.length) (hj : (notesOf s j).isDrum = false) :
    NoteFinal ctl s (notesOf s j)
      ((sortedEvents ctl (notesOf s) s.ccs).foldl (astep (notesOf s) j) (abs0 (notesOf s) j)) := by
  have hF := abs_final (notes := notesOf s) (j := j)
    { ok := sorted_ok ctl (notesOf s) s.ccs
      on_mem := (mem_sorted ctl _ _ _).mpr (Or.inl ⟨j, hj, Or.inl rfl⟩)
      off_mem := (mem_sorted ctl _ _ _).mpr (Or.inl ⟨j, hj, Or.inr rfl⟩)
      nondrum := hj
      wf := hw _ (notesOf_mem s j) hj
      noov := fun k hkj hkd hki hkp => by
        have := idx_noov s ho j k (fun e => hkj e.symm) hj hkd hki.symm hkp.symm
        exact ⟨fun e => this.1 e.symm, this.2⟩ }
    (sorted_pairwise ctl (notesOf s) s.ccs) (sorted_onIds_nodup ctl (notesOf s) s.ccs)
  generalize (sortedEvents ctl (notesOf s) s.ccs).foldl _ _ = a at hF
  have hpd := pedAtEnd_iff ctl s j
  rcases hF with h | h
  · -- still held when the events run out
    have hnone := (noClosing_iff ctl s ho j hj).mp h.noClosing
    have hp : PedalEnds ctl s (notesOf s j) := ⟨hj, hpd.mp h.pd, Or.inr hnone⟩
    refine ⟨?_, ⟨fun _ => Or.inl h.act, fun _ => hp⟩, Or.inl hp⟩
    rw [Abs.final, if_pos h.act, heldEnd_pedal ctl s _ hj hp.2.1, hnone.1, hnone.2]; rfl
  · have hact : ¬ a.act = true := by rw [h.act]; simp
    have hnr : a.tag ≠ .byPed → ¬ a.raises := fun ht hr => hr.elim hact ht
    cases htag : a.tag with
    | none =>
      -- its own note-off, the pedal up
      have hn : ¬ pedalDown ctl s.ccs (notesOf s j).instrument (notesOf s j).end_ :=
        fun g => (h.none htag).2 (hpd.mpr g)
      have hH := heldEnd_noPedal ctl s _ hn
      exact ⟨by rw [Abs.final, if_neg hact, (h.none htag).1, hH],
        ⟨fun hp => absurd hp.2.1 hn, fun hh => absurd hh (hnr (by rw [htag]; decide))⟩,
        Or.inr (Or.inl hH)⟩
    | byPed =>
      obtain ⟨g, y, hfc, hoff, he⟩ := h.byPed htag
      have hH := heldEnd_firstClosing ctl s ho j hj (hpd.mp g) hfc
      have hp : PedalEnds ctl s (notesOf s j) := ⟨hj, hpd.mp g, Or.inl
        ((pedOffAt_iff ctl s j _).mp ⟨y, hfc.1, hoff, hfc.2.1.lt_of_pedOff hoff, hH.symm⟩)⟩
      exact ⟨by rw [Abs.final, if_neg hact, he, hH], ⟨fun _ => Or.inr htag, fun _ => hp⟩, Or.inl hp⟩
    | byStrike =>
      obtain ⟨g, y, hfc, hst, he, hno⟩ := h.byStrike htag
      have hH := heldEnd_firstClosing ctl s ho j hj (hpd.mp g) hfc
      refine ⟨by rw [Abs.final, if_neg hact, he, hH],
        ⟨fun hp => ?_, fun hh => absurd hh (hnr (by rw [htag]; decide))⟩, Or.inr (Or.inr ?_)⟩
      · -- no release at the time of the re-strike, and the re-strike closes the note
        rcases hp.2.2 with hrel | hnone
        · obtain ⟨z, hz, hoff, hlt, hzt⟩ := (pedOffAt_iff ctl s j _).mpr hrel
          exact absurd (hzt.trans hH) (hno z hz hoff hlt)
        · exact absurd hfc.2.1 ((noClosing_iff ctl s ho j hj).mpr hnone y hfc.1)
      · obtain ⟨k, _, hkd, _, _, rfl⟩ := (mem_strike ctl s j y).mp ⟨hfc.1, hst⟩
        exact ⟨notesOf s k, notesOf_mem s k, hkd, hH.symm⟩

/-- a note that the pedal does not end keeps its end or ends where another pitched note starts -/
theorem heldEnd_cases (ctl : Int) (s : NoteSeq) (hw : WellFormed s) (ho : NoSamePitchOverlap s)
    (nt : Note) (hnt : nt ∈ s.notes) :
    PedalEnds ctl s nt ∨ heldEnd ctl s nt = nt.end_ ∨
      ∃ m ∈ s.notes, m.isDrum = false ∧ m.start = heldEnd ctl s nt := by
  obtain ⟨k, rfl⟩ := exists_notesOf s hnt
  cases hd : (notesOf s k).isDrum
  · exact (note_final ctl s hw ho k hd).alt
  · exact Or.inr (Or.inl (heldEnd_drum ctl s _ hd))

/-- the event loop and the close-out: the notes come out as specified, and `total_time` is the
greatest of its old value and the held ends of the notes the pedal ends (the loop raises it at
every release that ends a note, the close-out when a note is still active). -/
theorem core_run (ctl : Int) (s : NoteSeq) (hw : WellFormed s) (ho : NoSamePitchOverlap s) :
    ∃ T, applyCore ctl (notesOf s) s.ccs s.totalTime = .ok (specNotes ctl s, T) ∧
      s.totalTime ≤ T ∧
      (T = s.totalTime ∨ ∃ nt ∈ s.notes, PedalEnds ctl s nt ∧ T = heldEnd ctl s nt) ∧
      (∀ nt ∈ s.notes, PedalEnds ctl s nt → heldEnd ctl s nt ≤ T) := by
  obtain ⟨T, hres, hge, hwit, hcov⟩ := applyCore_abs (T0 := s.totalTime) (distinctStarts_of s ho)
    ctl s.ccs (sorted_ok ctl (notesOf s) s.ccs) (sorted_onIds_nodup ctl (notesOf s) s.ccs)
  rw [← lastEventTime_eq] at hres hwit hcov
  have hfin := note_final ctl s hw ho
  refine ⟨T, ?_, hge, ?_, fun nt hnt hp => ?_⟩
  · rw [hres, specNotes]
    congr 2
    conv => rhs; rw [← finRange_map_get s.notes]
    rw [List.map_map]
    apply List.map_congr_left
    intro j _
    show _ = setEnd (notesOf s j) (heldEnd ctl s (notesOf s j))
    cases hd : (notesOf s j).isDrum
    · rw [if_neg Bool.false_ne_true, (hfin j hd).end_eq]
    · rw [if_pos rfl, heldEnd_drum ctl s _ hd, setEnd_self]
  · exact hwit.imp_right fun ⟨j, hj, hr, e⟩ => ⟨notesOf s j, notesOf_mem s j,
      (hfin j hj).pedalEnds_iff.mpr hr, e.trans (hfin j hj).end_eq⟩
  · obtain ⟨k, rfl⟩ := exists_notesOf s hnt
    rw [← (hfin k hp.1).end_eq]
    exact hcov k hp.1 ((hfin k hp.1).pedalEnds_iff.mp hp)

theorem applySustain_of_core {ctl : Int} {s : NoteSeq} {r : List Note × Rat}
    (hq : s.isQuantized = false) (h : applyCore ctl (notesOf s) s.ccs s.totalTime = .ok r) :
    applySustain ctl s = .ok { s with notes := r.1, totalTime := r.2 } := by
  have h' : applyCore ctl (fun (i : Fin s.notes.length) => s.notes[i]) s.ccs s.totalTime = .ok r := h
  simp only [applySustain, hq, Bool.false_eq_true, if_false, h']

end NSV.C14

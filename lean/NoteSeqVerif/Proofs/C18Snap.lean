import Mathlib.Tactic.Linarith
import Mathlib.Tactic.Positivity
import Mathlib.Tactic.NormNum
import Mathlib.Algebra.Order.Field.Rat
import Mathlib.Algebra.Order.Ring.Abs
import NoteSeqVerif.Proofs.C18Frames
import NoteSeqVerif.Proofs.RoundingInt
/-! C18: Python `round` is `rnE`, and how far the snap of `time_to_frames` moves a position (absolute values: the Mathlib
side of `Proofs/C18Frames`). -/
namespace NSV.C18

theorem rabs_eq_abs (x : Rat) : rabs x = |x| := by
  unfold rabs
  split
  · rw [abs_of_neg (by assumption)]
  · rw [abs_of_nonneg (by linarith)]

theorem le_rmax_left (a b : Rat) : a ≤ rmax a b := by unfold rmax; split <;> linarith
theorem le_rmax_right (a b : Rat) : b ≤ rmax a b := by unfold rmax; split <;> linarith

/-- Python `round` as the model transcribes it is the round-half-even `rnE` of Proofs/RoundingInt -/
theorem roundHalfEven_eq_rnE (x : Rat) : roundHalfEven x = rnE x := (rnE_eq_round x).symm

theorem roundHalfEven_near (x : Rat) : |x - (roundHalfEven x : Rat)| ≤ 1 / 2 := by
  rw [roundHalfEven_eq_rnE, abs_sub_comm]; exact rnE_abs_sub_le x

theorem snap_close (eps x : Rat) (he : 0 ≤ eps) : |snap eps x - x| ≤ eps * rmax 1 (rabs x) := by
  unfold snap
  split
  · rename_i h
    rw [rabs_eq_abs] at h
    rw [abs_sub_comm]; exact h
  · simp only [sub_self, abs_zero]
    have := le_rmax_left 1 (rabs x)
    positivity

theorem snap_int (eps : Rat) (k : Int) : snap eps (k : Rat) = (k : Rat) := by
  have : roundHalfEven (k : Rat) = k := (roundHalfEven_eq_rnE _).trans (rnE_intCast k)
  unfold snap
  rw [this]; simp

end NSV.C18

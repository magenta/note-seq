import NoteSeqVerif.Proofs.RoundingApps
/-! C07 — the floating-point bar length `spq * ((4.0 / den) * num)` of
`steps_per_bar_in_quantized_sequence`, for every rounding operator `R` with the `Rounding` facts
(`rounding_rne53 : Rounding rne53`).

`spb_float_int_sound`: for ANY positive denominator, if the float result is an integer then it is
the exact `spq·4·num/den` (three roundings: relative error ≤ 2^-49, and a non-integer exact value
is at least `1/den` away from every integer). -/
namespace NSV.C07

theorem spb_float_int_sound {R : ℚ → ℚ} (hR : Rounding R) (spq num den : ℤ) (hq : 0 < spq)
    (hn : 0 < num) (hd : 0 < den) (hb : spq * 4 * num < 2 ^ 49) (m : ℤ)
    (hm : R ((spq : ℚ) * R (R (4 / (den : ℚ)) * (num : ℚ))) = (m : ℚ)) :
    spq * 4 * num = m * den := by
  have hq' : (0 : ℚ) < (spq : ℚ) := by exact_mod_cast hq
  have hn' : (0 : ℚ) < (num : ℚ) := by exact_mod_cast hn
  have hd' : (0 : ℚ) < (den : ℚ) := by exact_mod_cast hd
  have hb' : (spq : ℚ) * 4 * (num : ℚ) < 2 ^ 49 := by exact_mod_cast hb
  have h := FExpr.chain_rel_err hR
    (.mul (.lit (spq : ℚ)) (.mul (.div (.lit 4) (.lit (den : ℚ))) (.lit (num : ℚ))))
    ⟨hq', ⟨(by norm_num : (0 : ℚ) < 4), hd'⟩, hn'⟩ (by simp [FExpr.ops])
  simp only [FExpr.rounded, FExpr.exact] at h
  rw [hm] at h
  have hx : (spq : ℚ) * (4 / (den : ℚ) * (num : ℚ)) * (den : ℚ) = (spq : ℚ) * 4 * (num : ℚ) := by
    field_simp
  have h2 : |(m : ℚ) * (den : ℚ) - (spq : ℚ) * 4 * (num : ℚ)| < 1 := by
    have : |(m : ℚ) - (spq : ℚ) * (4 / (den : ℚ) * (num : ℚ))| * (den : ℚ) =
        |(m : ℚ) * (den : ℚ) - (spq : ℚ) * 4 * (num : ℚ)| := by
      rw [← abs_of_pos hd', ← abs_mul, abs_of_pos hd', sub_mul, hx]
    rw [← this]
    calc |(m : ℚ) - (spq : ℚ) * (4 / (den : ℚ) * (num : ℚ))| * (den : ℚ)
        ≤ (spq : ℚ) * (4 / (den : ℚ) * (num : ℚ)) * (1 / 2 ^ 49) * (den : ℚ) :=
          mul_le_mul_of_nonneg_right h hd'.le
      _ = (spq : ℚ) * 4 * (num : ℚ) * (1 / 2 ^ 49) := by rw [← hx]; ring
      _ < 1 := by
          rw [mul_one_div, div_lt_one (by positivity)]; exact hb'
  have h3 : |m * den - spq * 4 * num| < 1 := by
    have : ((|m * den - spq * 4 * num| : ℤ) : ℚ) < ((1 : ℤ) : ℚ) := by
      push_cast; exact h2
    exact_mod_cast this
  have := Int.abs_lt_one_iff.mp h3
  omega

end NSV.C07

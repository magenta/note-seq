import NoteSeqVerif.Proofs.C03Float
import Mathlib.Tactic.Linarith
import Mathlib.Tactic.Ring
import Mathlib.Tactic.FieldSimp
import Mathlib.Tactic.NormNum
/-! The float round trip time → tick → time on a GENERAL piecewise tick map
(any number of tempo segments), for every `Rounding R`.

Route: every array entry is `R (b + R (c₀ · x))` for the array's entry `b` at the start tick of its segment, the scale `c₀`
of the segment and the distance `x` to that tick (`ttAux_seg`, `ttAux_tail` in Proofs/C03Tick), hence within two
roundings of the exact `b + c₀ · x` (`seg_near`, in terms of `Near 53 2`):
`tickToTime_seg` says so for two consecutive ticks, `tickToTime_tail` for all ticks from the last tempo change on; the
numeric lemmas `inside_num` / `beyond_num` / `beyond_grid_num` bound the distance to the chosen tick in those terms. -/
namespace NSV.C03

variable {R : ℚ → ℚ}

theorem seg_near (hR : Rounding R) {b c x : ℚ} (hb : 0 ≤ b) (hc : 0 ≤ c) (hx : 0 ≤ x) :
    Near 53 2 (R (b + R (c * x))) (b + c * x) :=
  (((NearN.lit hb).add (((NearN.lit hc).mul (.lit hx)).rnd hR.relErr)).rnd hR.relErr).2

/-- ticks `j`, `j + 1` of the segment that starts at tick `s` with time `base` and scale `c` -/
theorem seg_pair (hR : Rounding R) {base c : ℚ} (hb : 0 ≤ base) (hc : 0 ≤ c) {s j : Int} (hj : s ≤ j) :
    Near 53 2 (R (base + R (c * ((j - s : Int) : ℚ)))) (base + c * ((j - s : Int) : ℚ)) ∧
    Near 53 2 (R (base + R (c * ((j + 1 - s : Int) : ℚ)))) (base + c * ((j - s : Int) : ℚ) + c) := by
  have hx : (0 : ℚ) ≤ ((j - s : Int) : ℚ) := by exact_mod_cast (sub_nonneg.mpr hj)
  refine ⟨seg_near hR hb hc hx, ?_⟩
  rw [show base + c * ((j - s : Int) : ℚ) + c = base + c * ((j + 1 - s : Int) : ℚ) by push_cast; ring]
  exact seg_near hR hb hc (by exact_mod_cast (show 0 ≤ j + 1 - s by omega))

/-- two consecutive ticks `j`, `j + 1`: their times are within two roundings of `V` and `V + c₀` for the scale `c₀` of the
segment they are computed from -/
theorem tickToTime_seg (hR : Rounding R) (m : TickMap) (hw : WF0 m) (j : Int) (hj : 0 ≤ j) :
    ∃ V c0 : ℚ, c0 ≤ maxScale m ∧ Near 53 2 (tickToTime R m j) V ∧ Near 53 2 (tickToTime R m (j + 1)) (V + c0) := by
  obtain ⟨s₀, c₀, hs, hc, e⟩ := ttAux_seg hR.zero hR.idem m.rest 0 0 m.c0 hR.zero hw.sorted j
  obtain ⟨h1, h2⟩ := seg_pair hR (arr_nonneg_R hR m hw (hs hj).1) (hw.scale_nonneg hc) (hs hj).2
  unfold tickToTime
  rw [e j (Or.inl rfl), e _ (Or.inr rfl)]
  exact ⟨_, c₀, le_maxScaleOf hc, h1, h2⟩

/-- from the last tempo tick on, the array is one segment with the final scale -/
theorem tickToTime_tail (hR : Rounding R) (m : TickMap) (hw : WF0 m) {k : Int} (hk : maxScaleTick m ≤ k) :
    Near 53 2 (tickToTime R m k)
      (tickToTime R m (maxScaleTick m) + lastScale m * ((k : ℚ) - (maxScaleTick m : ℚ))) := by
  have e := ttAux_tail hR.zero hR.idem m.rest 0 0 m.c0 hR.zero hw.sorted hk
  unfold tickToTime at e ⊢
  rw [e, ← Int.cast_sub]
  exact seg_near hR (arr_nonneg_R hR m hw (maxScaleTick_nonneg m)) (hw.scale_nonneg (lastOf_mem _ _))
    (by exact_mod_cast sub_nonneg.mpr hk)

/-! ### numeric lemmas

The roundings on the way are counted with `Near` (within `n` roundings of the exact value); each lemma then unfolds
the relations it has and is left with a linear problem over the rounded values. -/

/-- the float `z = R (M + R (R d / ls))` that `round()` sees beyond the array, in units of time: `ls · z` is within three
roundings of `ls · M + d` -/
theorem beyond_z (hR : Rounding R) {ls Mq d : ℚ} (hls : 0 < ls) (hM : 0 ≤ Mq) (hd : 0 ≤ d) :
    Near 53 3 (ls * R (Mq + R (R d / ls))) (ls * Mq + d) := by
  have h := (NearN.lit hls.le).mul (((NearN.lit hM).add
    ((((NearN.lit hd).rnd hR.relErr).div (by norm_num) (.lit hls.le) hls).rnd hR.relErr)).rnd hR.relErr)
  rw [show ls * (Mq + d / ls) = ls * Mq + d by field_simp] at h
  exact h.2

/-- inside the array: `A = arr (i-1) < t ≤ A' = arr i`, both from the same segment; whichever of the two ticks
`time_to_tick`'s comparison of the rounded distances picks, it is within half a tick (plus roundings) of `t` -/
theorem inside_num (hR : Rounding R) {V c0 C E A A' t : ℚ} (hcC : c0 ≤ C) (hE : 0 ≤ E)
    (hA : Near 53 2 A V) (hA' : Near 53 2 A' (V + c0)) (h1 : A < t) (h2 : t ≤ A') :
    (absR (R (t - A)) < absR (R (t - A')) → |A - t| ≤ C / 2 * (1 + 1 / 2 ^ 49) + (t + E) * (1 / 2 ^ 49)) ∧
    (¬ absR (R (t - A)) < absR (R (t - A')) → |A' - t| ≤ C / 2 * (1 + 1 / 2 ^ 49) + (t + E) * (1 / 2 ^ 49)) := by
  obtain ⟨al, au⟩ := hA.clear_denoms
  obtain ⟨al', au'⟩ := hA'.clear_denoms
  have hd1 : 0 ≤ t - A := sub_nonneg.mpr h1.le
  have hd2 : 0 ≤ A' - t := sub_nonneg.mpr h2
  obtain ⟨l1, u1⟩ := hR.bounds hd1
  obtain ⟨l2, u2⟩ := hR.bounds hd2
  have e2 : R (t - A') = - R (A' - t) := by rw [← hR.neg, neg_sub]
  rw [absR_of_nonneg (hR.nonneg hd1), e2, absR_of_nonpos (neg_nonpos.mpr (hR.nonneg hd2)), neg_neg,
    abs_sub_comm, abs_of_nonneg hd1, abs_of_nonneg hd2]
  generalize R (t - A) = d1 at *
  generalize R (A' - t) = d2 at *
  -- the lower tick wins only if `d1 < d2`, which bounds `t - A` by half the width; otherwise `d2 ≤ d1` bounds `A' - t`
  constructor
  · intro hlt
    linarith
  · intro hge
    linarith

/-- beyond the array: `K = round (R (M + R (R (t - arr M) / ls)))`, with `aM = arr M`, `aK = arr K` from the last
segment (start tick `s`, base time `b`) -/
theorem beyond_num (hR : Rounding R) {b ls C t Mq Kq sq aM aK : ℚ} (hls : 0 < ls) (hlC : ls ≤ C)
    (hs : 0 ≤ sq) (hsM : sq ≤ Mq) (hMK : Mq ≤ Kq) (hM : Near 53 2 aM (b + ls * (Mq - sq))) (hK : Near 53 2 aK (b + ls * (Kq - sq)))
    (hgt : aM < t) (hK1 : Kq ≤ R (Mq + R (R (t - aM) / ls)) + 1 / 2) (hK2 : R (Mq + R (R (t - aM) / ls)) - 1 / 2 ≤ Kq) :
    |aK - t| ≤ C / 2 * (1 + 1 / 2 ^ 49) + (t + ls * Mq) * (1 / 2 ^ 49) := by
  obtain ⟨ml, mu⟩ := hM.clear_denoms
  obtain ⟨kl, ku⟩ := hK.clear_denoms
  obtain ⟨zl, zu⟩ := (beyond_z hR hls (hs.trans hsM) (sub_nonneg.mpr hgt.le)).clear_denoms
  have lK1 := mul_le_mul_of_nonneg_left hK1 hls.le
  have lK2 := mul_le_mul_of_nonneg_left hK2 hls.le
  have lMK := mul_le_mul_of_nonneg_left hMK hls.le
  have lsM := mul_le_mul_of_nonneg_left hsM hls.le
  have ls0 := mul_nonneg hls.le hs
  generalize R (Mq + R (R (t - aM) / ls)) = z at *
  rw [abs_le]
  constructor <;> linarith

/-- beyond the array, on a grid time `ak = arr k`: the float `z` that `round()` sees is closer than 1/2 to the tick -/
theorem beyond_grid_num (hR : Rounding R) {b ls Mq kq sq aM ak : ℚ} (hls : 0 < ls) (hs : 0 ≤ sq)
    (hsM : sq ≤ Mq) (hMk : Mq ≤ kq) (hM : Near 53 2 aM (b + ls * (Mq - sq))) (hk : Near 53 2 ak (b + ls * (kq - sq)))
    (hgt : aM < ak) (hbound : ak + ls * kq ≤ 2 ^ 47 * ls) :
    |R (Mq + R (R (ak - aM) / ls)) - kq| < 1 / 2 := by
  obtain ⟨ml, mu⟩ := hM.clear_denoms
  obtain ⟨kl, ku⟩ := hk.clear_denoms
  obtain ⟨zl, zu⟩ := (beyond_z hR hls (hs.trans hsM) (sub_nonneg.mpr hgt.le)).clear_denoms
  have lMk := mul_le_mul_of_nonneg_left hMk hls.le
  have lsM := mul_le_mul_of_nonneg_left hsM hls.le
  have ls0 := mul_nonneg hls.le hs
  generalize R (Mq + R (R (ak - aM) / ls)) = z at *
  -- compare after multiplying by the tick length
  have key : |ls * z - ls * kq| < ls * (1 / 2) := by
    rw [abs_lt]
    constructor <;> linarith
  rwa [← mul_sub, abs_mul, abs_of_pos hls, mul_lt_mul_iff_right₀ hls] at key

end NSV.C03

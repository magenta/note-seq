import NoteSeqVerif.Model.C13Spec
import NoteSeqVerif.Proofs.Basics
/-! C13 — each model function as a function of its input (`shiftR_eq`, `stretchR_eq`, `catLoop_eq` / `concatR_eq`,
`adjustR_eq`, `repeatR_def`: the forms the property files of C13, C11 and C12 rewrite with), and the order facts of the
`np.interp` scan over an abstract per-segment arithmetic (`SegOK`).  Core Lean only; linear arithmetic on `Rat` by `grind`. -/
namespace NSV.C13
open List

theorem dropAux_sublist {α} (same : α → α → Bool) : ∀ (prev : α) (l : List α), (dropAux same prev l).Sublist l
  | _, [] => by simp [dropAux]
  | prev, b :: l => by
    unfold dropAux
    split
    · exact (dropAux_sublist same b l).trans (sublist_cons_self b l)
    · exact (dropAux_sublist same b l).cons_cons b

theorem dropRepeats_sublist {α} (same : α → α → Bool) (l : List α) : (dropRepeats same l).Sublist l := by
  cases l with
  | nil => simp [dropRepeats]
  | cons a l => exact (dropAux_sublist same a l).cons_cons a

theorem dropAux_eq_filterMap {α} (same : α → α → Bool) : ∀ (prev : α) (l : List α),
    dropAux same prev l = (withPred prev l).filterMap (fun pb => if same pb.1 pb.2 then none else some pb.2)
  | _, [] => by simp [dropAux, withPred]
  | prev, b :: l => by
    have ih := dropAux_eq_filterMap same b l
    unfold withPred at *
    unfold dropAux
    by_cases h : same prev b <;> simp [h, ih]

/-- `P` is `same` read as a proposition -/
theorem dropRepeats_cons_eq {α} (same : α → α → Bool) (P : α × α → Prop) [DecidablePred P]
    (hP : ∀ pb, same pb.1 pb.2 = true ↔ P pb) (a : α) (l : List α) :
    dropRepeats same (a :: l) = a :: (withPred a l).filterMap (fun pb => if P pb then none else some pb.2) := by
  rw [dropRepeats, dropAux_eq_filterMap]
  simp only [hP]

/-- invariant of the walk over a time-ordered list: once `prev` is at or before `t`, the remembered value
`c` is `prev`'s — so an event that repeats `prev` can be skipped without changing what is in force -/
theorem inEffect_dropAux {α β} (time : α → Rat) (val : α → β) (same : α → α → Bool)
    (hv : ∀ a b, same a b = true → val a = val b) (t : Rat) :
    ∀ (l : List α) (prev : α) (c : Option β), (prev :: l).Pairwise (fun a b => time a ≤ time b) →
      (time prev ≤ t → c = some (val prev)) →
      inEffect time val t (dropAux same prev l) c = inEffect time val t l c
  | [], _, _, _, _ => rfl
  | b :: l, prev, c, hs, hc => by
    have hs' : (b :: l).Pairwise (fun a b => time a ≤ time b) := (pairwise_cons.mp hs).2
    have hpb : time prev ≤ time b := (pairwise_cons.mp hs).1 b mem_cons_self
    have ih := inEffect_dropAux time val same hv t l b
    unfold dropAux
    split
    · -- `b` repeats `prev`: when `b` is in force so is `prev`, and `c` already holds their common value
      next h =>
      have hc' : time b ≤ t → c = some (val b) := fun ht => by rw [hc (Rat.le_trans hpb ht), hv _ _ h]
      rw [ih c hs' hc', inEffect]
      split
      · rw [← hc' ‹_›]
      · rfl
    · simp only [inEffect]
      split
      · exact ih _ hs' (fun _ => rfl)
      · exact ih c hs' (fun h' => absurd h' ‹_›)

theorem inEffect_dropRepeats {α β} (time : α → Rat) (val : α → β) (same : α → α → Bool)
    (hv : ∀ a b, same a b = true → val a = val b) (t : Rat) (l : List α)
    (hs : l.Pairwise (fun a b => time a ≤ time b)) (c : Option β) :
    inEffect time val t (dropRepeats same l) c = inEffect time val t l c := by
  cases l with
  | nil => simp [dropRepeats]
  | cons a l =>
    simp only [dropRepeats, inEffect]
    split
    · exact inEffect_dropAux time val same hv t l a _ hs (fun _ => rfl)
    · exact inEffect_dropAux time val same hv t l a c hs (fun h' => absurd h' ‹_›)

theorem inForce_dropRepeats_sort {α β} (time : α → Rat) (val : α → β) (same : α → α → Bool)
    (hv : ∀ a b, same a b = true → val a = val b) (l : List α) (t : Rat) :
    inForce time val (dropRepeats same (sortByRat time l)) t = inForce time val l t := by
  unfold inForce
  have hs := sortByRat_pairwise time l
  have hs' : (dropRepeats same (sortByRat time l)).Pairwise (fun a b => time a ≤ time b) :=
    hs.sublist (dropRepeats_sublist same _)
  rw [sortByRat_of_pairwise time _ hs']
  exact inEffect_dropRepeats time val same hv t _ hs none

theorem dedupGo_sublist : ∀ (l seen : List String), (dedupGo seen l).Sublist l
  | [], _ => by simp [dedupGo]
  | x :: r, seen => by
    unfold dedupGo
    split
    · exact (dedupGo_sublist r seen).trans (sublist_cons_self x r)
    · exact (dedupGo_sublist r (x :: seen)).cons_cons x

theorem mem_dedupGo : ∀ (l seen : List String) (y : String), y ∈ dedupGo seen l ↔ y ∈ l ∧ y ∉ seen
  | [], _, _ => by simp [dedupGo]
  | x :: r, seen, y => by
    unfold dedupGo
    by_cases h : seen.contains x
    · simp only [h, if_true, mem_dedupGo r seen y, mem_cons]
      have : x ∈ seen := by simpa using h
      grind
    · simp only [h, Bool.false_eq_true, if_false, mem_cons, mem_dedupGo r (x :: seen) y]
      have : x ∉ seen := by simpa using h
      grind

theorem dedupGo_nodup : ∀ (l seen : List String), (dedupGo seen l).Nodup
  | [], _ => by simp [dedupGo]
  | x :: r, seen => by
    unfold dedupGo
    split
    · exact dedupGo_nodup r seen
    · refine nodup_cons.mpr ⟨?_, dedupGo_nodup r (x :: seen)⟩
      simp [mem_dedupGo]

/-- right-to-left reading: first occurrences are kept -/
theorem dedupGo_append_singleton : ∀ (l seen : List String) (x : String),
    dedupGo seen (l ++ [x]) = if x ∈ seen ∨ x ∈ l then dedupGo seen l else dedupGo seen l ++ [x]
  | [], seen, x => by
    by_cases h : x ∈ seen <;> simp [dedupGo, h]
  | y :: r, seen, x => by
    simp only [cons_append, dedupGo]
    by_cases h : seen.contains y
    · simp only [h, if_true, dedupGo_append_singleton r seen x, mem_cons]
      have : y ∈ seen := by simpa using h
      grind
    · simp only [h, Bool.false_eq_true, if_false, dedupGo_append_singleton r (y :: seen) x, mem_cons]
      grind

/-- every note and event time of `s` moved by `g`, every tempo value by `q`, nothing else changed: the witness of
`Moved g q s` (`movedSeq_moved`); `shiftSeq R d` is this for `g t = R (t + d)`, `q = id`, with `subsequence_info` cleared -/
def movedSeq (g q : Rat → Rat) (s : NoteSeq) : NoteSeq :=
  { s with
    notes := mapNotes g s.notes
    tempos := s.tempos.map (fun e => { time := g e.time, qpm := q e.qpm })
    timeSigs := s.timeSigs.map (fun e => { e with time := g e.time })
    keySigs := s.keySigs.map (fun e => { e with time := g e.time })
    texts := s.texts.map (fun e => { e with time := g e.time })
    ccs := s.ccs.map (fun e => { e with time := g e.time })
    bends := s.bends.map (fun e => { e with time := g e.time })
    sectionAnns := s.sectionAnns.map (fun e => { e with time := g e.time })
    totalTime := g s.totalTime }

theorem movedSeq_moved (g q : Rat → Rat) (s : NoteSeq) : Moved g q s (movedSeq g q s) := by
  constructor <;> rfl

theorem shiftSeq_moved (R : Rat → Rat) (d : Rat) (s : NoteSeq) :
    Moved (fun t => R (t + d)) id s (shiftSeq R d s) := by
  constructor <;> rfl

theorem shiftR_eq (R : Rat → Rat) (d : Rat) (s : NoteSeq) :
    shiftR R d s =
      if d ≤ 0 then .error .valueError
      else if s.isQuantized then .error .quantizationStatusError
      else .ok (shiftSeq R d s) := by
  unfold shiftR
  split; · rfl
  split; · rfl
  simp [shiftSeq, mapEv, mapNotes, Gen.shiftEventFields]

theorem stretchR_eq (R : Rat → Rat) (f : Rat) (s : NoteSeq) :
    stretchR R f s =
      if s.isQuantized then .error .quantizationStatusError
      else if f = 1 then .ok s
      else if f = 0 ∧ s.tempos ≠ [] then .error (.other "ZeroDivisionError")
      else .ok (movedSeq (fun t => R (t * f)) (fun q => R (q / f)) s) := by
  unfold stretchR
  split; · rfl
  split; · rfl
  simp [movedSeq, mapEv, Gen.stretchEventFields, Function.comp_def]

theorem shiftR_ok (R : Rat → Rat) (d : Rat) (s : NoteSeq) (hd : 0 < d) (hq : s.isQuantized = false) :
    shiftR R d s = .ok (shiftSeq R d s) := by
  rw [shiftR_eq, if_neg (Rat.not_le.mpr hd), hq]; rfl

theorem stretchR_ok (R : Rat → Rat) (f : Rat) (s : NoteSeq) (hq : s.isQuantized = false) (h1 : f ≠ 1)
    (h0 : f ≠ 0 ∨ s.tempos = []) :
    stretchR R f s = .ok (movedSeq (fun t => R (t * f)) (fun q => R (q / f)) s) := by
  rw [stretchR_eq, hq, if_neg Bool.false_ne_true, if_neg h1, if_neg]
  rintro ⟨hf, ht⟩
  exact h0.elim (fun h => h hf) ht

theorem place_eq (R : Rat → Rat) (cur : Rat) (s : MSeq) :
    (if 0 < cur then shiftM R cur s else .ok s) =
      if 0 < cur ∧ s.ns.isQuantized = true then .error .quantizationStatusError else .ok (placed R cur s) := by
  by_cases h : 0 < cur
  · by_cases hq : s.ns.isQuantized
    · have hd' : ¬ cur ≤ 0 := by grind
      simp [h, hq, shiftM, shiftR, hd']
    · simp only [Bool.not_eq_true] at hq
      simp [h, hq, shiftM, shiftR_ok R cur s.ns h hq, placed]
  · simp [h, placed]

/-- in exact arithmetic a piece placed at `o ≥ 0` is the input with every time moved by `o` (also at `o = 0`,
where it is the input itself) -/
theorem placed_moved (o : Rat) (m : MSeq) (ho : 0 ≤ o) : Moved (· + o) id m.ns (placed id o m).ns := by
  unfold placed
  by_cases h : 0 < o
  · rw [if_pos h]; exact shiftSeq_moved id o m.ns
  · have h0 : o = 0 := by grind
    subst h0
    rw [if_neg h]
    constructor <;> simp [Rat.add_zero]

theorem catLoop_cons (R : Rat → Rat) (useD : Bool) (cur : Rat) (cat s : MSeq) (d : Rat) (rest : List (MSeq × Rat)) :
    catLoop R useD cur cat ((s, d) :: rest) =
      if useD = true ∧ d < s.ns.totalTime then .error .valueError
      else if 0 < cur ∧ s.ns.isQuantized = true then .error .quantizationStatusError
      else catLoop R useD (if useD = true then R (cur + d) else (mergeFromM cat (placed R cur s)).ns.totalTime)
        (mergeFromM cat (placed R cur s)) rest := by
  rw [catLoop, place_eq]
  split
  · rfl
  · by_cases h2 : 0 < cur ∧ s.ns.isQuantized = true
    · rw [if_pos h2, if_pos h2]
    · rw [if_neg h2, if_neg h2]

/-- the error a piece raises at offset `o`, if any: the two cases of `pieceProblem`, in the order the loop tests them -/
def pieceErr (useD : Bool) (p : MSeq × Rat) (o : Rat) : Option Err :=
  if useD = true ∧ p.2 < p.1.ns.totalTime then some .valueError
  else if 0 < o ∧ p.1.ns.isQuantized = true then some .quantizationStatusError else none

theorem pieceErr_eq_none {useD : Bool} {p : MSeq × Rat} {o : Rat} :
    pieceErr useD p o = none ↔ ¬ pieceProblem useD p o := by
  unfold pieceErr pieceProblem
  by_cases h1 : useD = true ∧ p.2 < p.1.ns.totalTime
  · simp [h1]
  · by_cases h2 : 0 < o ∧ p.1.ns.isQuantized = true <;> simp [h1, h2]

/-- the loop as a function of its input: the error of the first piece that has a problem at its offset, else the `MergeFrom` of
the placed pieces -/
theorem catLoop_eq (R : Rat → Rat) (useD : Bool) : ∀ (pairs : List (MSeq × Rat)) (cur : Rat) (cat : MSeq),
    catLoop R useD cur cat pairs =
      match (pairs.zip (catOffsets R useD cur cat.ns.totalTime pairs)).findSome? (fun po => pieceErr useD po.1 po.2) with
      | some e => .error e
      | none => .ok ((placedList R pairs (catOffsets R useD cur cat.ns.totalTime pairs)).foldl mergeFromM cat)
  | [], cur, cat => rfl
  | (s, d) :: rest, cur, cat => by
    -- the running `total_time` after this piece, as `catOffsets` computes it
    have htot : (mergeFromM cat (placed R cur s)).ns.totalTime =
        (if (if 0 < cur then R (s.ns.totalTime + cur) else s.ns.totalTime) ≠ 0
          then (if 0 < cur then R (s.ns.totalTime + cur) else s.ns.totalTime) else cat.ns.totalTime) := by
      by_cases hc : 0 < cur <;> simp [mergeFromM, mergeFrom, placed, hc, shiftSeq]
    rw [catLoop_cons]
    simp only [catOffsets, zip_cons_cons, findSome?_cons, pieceErr, placedList, map_cons, foldl_cons]
    by_cases h1 : useD = true ∧ d < s.ns.totalTime
    · rw [if_pos h1, if_pos h1]
    rw [if_neg h1, if_neg h1]
    by_cases h2 : 0 < cur ∧ s.ns.isQuantized = true
    · rw [if_pos h2, if_pos h2]
    rw [if_neg h2, if_neg h2, catLoop_eq R useD rest, htot]
    rfl

theorem concatR_def (R : Rat → Rat) (mm : List String → String) (seqs : List MSeq) (durs : List Rat) :
    concatR R mm seqs durs =
      if (!durs.isEmpty) = true ∧ seqs.length ≠ durs.length then .error .valueError
      else
        match catLoop R (!durs.isEmpty) 0 emptyM (catPairs seqs durs) with
        | .error e => .error e
        | .ok cat => .ok (finishCat mm seqs cat) := rfl

theorem concatR_eq (R : Rat → Rat) (mm : List String → String) (seqs : List MSeq) (durs : List Rat) :
    concatR R mm seqs durs =
      if durs ≠ [] ∧ seqs.length ≠ durs.length then .error .valueError
      else
        match ((catPairs seqs durs).zip (catOffs R seqs durs)).findSome? (fun po => pieceErr (!durs.isEmpty) po.1 po.2) with
        | some e => .error e
        | none => .ok (finishCat mm seqs ((catPieces R seqs durs).foldl mergeFromM emptyM)) := by
  have key : catLoop R (!durs.isEmpty) 0 emptyM (catPairs seqs durs) =
      match ((catPairs seqs durs).zip (catOffs R seqs durs)).findSome? (fun po => pieceErr (!durs.isEmpty) po.1 po.2) with
      | some e => .error e
      | none => .ok ((catPieces R seqs durs).foldl mergeFromM emptyM) := catLoop_eq R _ _ 0 emptyM
  rw [concatR_def, key]
  simp only [Bool.not_eq_true', isEmpty_eq_false_iff]
  split
  · rfl
  · cases ((catPairs seqs durs).zip (catOffs R seqs durs)).findSome? _ <;> rfl

theorem catOffsets_length (R : Rat → Rat) (useD : Bool) : ∀ (pairs : List (MSeq × Rat)) (c t : Rat),
    (catOffsets R useD c t pairs).length = pairs.length
  | [], _, _ => rfl
  | (_, _) :: rest, _, _ => by simp [catOffsets, catOffsets_length R useD rest]

/-- every piece meets its offset in the list the loop walks -/
theorem exists_mem_zip_catOffs (R : Rat → Rat) (seqs : List MSeq) (durs : List Rat) {p : MSeq × Rat}
    (hp : p ∈ catPairs seqs durs) : ∃ o, (p, o) ∈ (catPairs seqs durs).zip (catOffs R seqs durs) := by
  obtain ⟨i, hi, rfl⟩ := getElem_of_mem hp
  have ho : i < (catOffs R seqs durs).length := by rw [catOffs, catOffsets_length]; exact hi
  exact ⟨(catOffs R seqs durs)[i], mem_iff_getElem.mpr ⟨i, by rw [length_zip]; omega, by simp⟩⟩

/-- where a pair the loop walks comes from -/
theorem mem_catPairs {seqs : List MSeq} {durs : List Rat} {p : MSeq × Rat} (hp : p ∈ catPairs seqs durs) :
    p.1 ∈ seqs ∧ (durs ≠ [] → p ∈ seqs.zip durs) := by
  unfold catPairs at hp
  split at hp
  · exact ⟨(of_mem_zip hp).1, fun _ => hp⟩
  · next hu =>
    obtain ⟨s, hs, rfl⟩ := mem_map.mp hp
    exact ⟨hs, fun hd => absurd (by simpa using hd) hu⟩

theorem catPairs_fst {seqs : List MSeq} {durs : List Rat} (hl : durs ≠ [] → seqs.length = durs.length) :
    (catPairs seqs durs).map (·.1) = seqs := by
  unfold catPairs
  split
  · next hu => exact map_fst_zip (Nat.le_of_eq (hl (by simpa using hu)))
  · simp [Function.comp_def]

theorem catOffsets_durations_exact : ∀ (pairs : List (MSeq × Rat)) (cur tot : Rat),
    catOffsets id true cur tot pairs = prefixSums cur (pairs.map (·.2))
  | [], _, _ => by simp [catOffsets, prefixSums]
  | (s, d) :: rest, cur, tot => by
    simp [catOffsets, prefixSums, catOffsets_durations_exact rest]

/-- exact arithmetic, running total `c ≥ 0`, piece length `t ≥ 0`: the piece ends at `t + c` when it is
shifted and at `t` when it is not (`c = 0`), and a zero end does not overwrite the total -/
theorem total_step_exact (c t : Rat) (hc : 0 ≤ c) (ht : 0 ≤ t) :
    (if (if 0 < c then id (t + c) else t) ≠ 0 then (if 0 < c then id (t + c) else t) else c) = c + t := by
  simp only [id]; split <;> split <;> grind

theorem catOffsets_totals_exact : ∀ (pairs : List (MSeq × Rat)) (cur : Rat),
    0 ≤ cur → (∀ p ∈ pairs, 0 ≤ p.1.ns.totalTime) →
    catOffsets id false cur cur pairs = prefixSums cur (pairs.map (·.1.ns.totalTime))
  | [], _, _, _ => by simp [catOffsets, prefixSums]
  | (s, d) :: rest, cur, hc, h => by
    have hs : 0 ≤ s.ns.totalTime := h (s, d) mem_cons_self
    simp only [catOffsets, prefixSums, map_cons, Bool.false_eq_true, if_false]
    rw [total_step_exact cur s.ns.totalTime hc hs,
      catOffsets_totals_exact rest (cur + s.ns.totalTime) (by grind) (fun p hp => h p (mem_cons_of_mem _ hp))]

theorem foldl_merge_append {α} (π : MSeq → List α) (hπ : ∀ a b, π (mergeFromM a b) = π a ++ π b) :
    ∀ (ms : List MSeq) (cat : MSeq), π (ms.foldl mergeFromM cat) = π cat ++ ms.flatMap π
  | [], cat => by simp
  | m :: ms, cat => by rw [foldl_cons, foldl_merge_append π hπ ms, hπ, flatMap_cons, append_assoc]

theorem foldl_merge_lastNZ {α} [DecidableEq α] [OfNat α 0] (π : MSeq → α)
    (hπ : ∀ a b, π (mergeFromM a b) = if π b ≠ 0 then π b else π a) :
    ∀ (ms : List MSeq) (cat : MSeq), π (ms.foldl mergeFromM cat) = lastNZ (π cat) (ms.map π)
  | [], cat => rfl
  | m :: ms, cat => by rw [foldl_cons, foldl_merge_lastNZ π hπ ms, hπ]; rfl

/-- `finishCat` after the `MergeFrom` loop over `ms`, container by container: repeated fields are appended
(tempos and signatures then pass through `remove_redundant_data`, composers and genres through the
de-duplication), scalars keep the last non-default value, `subsequence_info` is cleared -/
theorem finishCat_foldl (mm : List String → String) (seqs ms : List MSeq) (r : MSeq)
    (hr : r = finishCat mm seqs (ms.foldl mergeFromM emptyM)) :
    r.ns.notes = ms.flatMap (·.ns.notes) ∧
    r.ns.texts = ms.flatMap (·.ns.texts) ∧
    r.ns.ccs = ms.flatMap (·.ns.ccs) ∧
    r.ns.bends = ms.flatMap (·.ns.bends) ∧
    r.ns.sectionAnns = ms.flatMap (·.ns.sectionAnns) ∧
    r.ns.sgroups = ms.flatMap (·.ns.sgroups) ∧
    r.ns.tempos = redTempos (ms.flatMap (·.ns.tempos)) ∧
    r.ns.timeSigs = redTimeSigs (ms.flatMap (·.ns.timeSigs)) ∧
    r.ns.keySigs = redKeySigs (ms.flatMap (·.ns.keySigs)) ∧
    r.composers = dedup (ms.flatMap (·.composers)) ∧
    r.genres = dedup (ms.flatMap (·.genres)) ∧
    r.ns.totalTime = lastNZ 0 (ms.map (·.ns.totalTime)) ∧
    r.ns.tpq = lastNZ 0 (ms.map (·.ns.tpq)) ∧
    r.ns.hasSub = false ∧
    r.ns.subStart = 0 ∧
    r.ns.subEnd = 0 ∧
    r.ns.metaTag = mm (seqs.map (·.ns.metaTag)) := by
  subst hr
  exact ⟨foldl_merge_append (·.ns.notes) (fun _ _ => rfl) ms emptyM,
   foldl_merge_append (·.ns.texts) (fun _ _ => rfl) ms emptyM,
   foldl_merge_append (·.ns.ccs) (fun _ _ => rfl) ms emptyM,
   foldl_merge_append (·.ns.bends) (fun _ _ => rfl) ms emptyM,
   foldl_merge_append (·.ns.sectionAnns) (fun _ _ => rfl) ms emptyM,
   foldl_merge_append (·.ns.sgroups) (fun _ _ => rfl) ms emptyM,
   congrArg redTempos (foldl_merge_append (·.ns.tempos) (fun _ _ => rfl) ms emptyM),
   congrArg redTimeSigs (foldl_merge_append (·.ns.timeSigs) (fun _ _ => rfl) ms emptyM),
   congrArg redKeySigs (foldl_merge_append (·.ns.keySigs) (fun _ _ => rfl) ms emptyM),
   congrArg dedup (foldl_merge_append (·.composers) (fun _ _ => rfl) ms emptyM),
   congrArg dedup (foldl_merge_append (·.genres) (fun _ _ => rfl) ms emptyM),
   foldl_merge_lastNZ (·.ns.totalTime) (fun _ _ => rfl) ms emptyM,
   foldl_merge_lastNZ (·.ns.tpq) (fun _ _ => rfl) ms emptyM, rfl, rfl, rfl, rfl⟩

/-- after merging, each of the two `resolution` fields is one of the merged values or `0`, so a
property of all of those is inherited -/
theorem foldl_merge_resolution (P : Int → Prop) (h0 : P 0) : ∀ (ms : List MSeq) (cat : MSeq),
    P cat.ns.spq → P cat.ns.sps → (∀ m ∈ ms, P m.ns.spq ∧ P m.ns.sps) →
    P (ms.foldl mergeFromM cat).ns.spq ∧ P (ms.foldl mergeFromM cat).ns.sps
  | [], _, h1, h2, _ => ⟨h1, h2⟩
  | m :: ms, cat, h1, h2, h => by
    have hm := h m mem_cons_self
    refine foldl_merge_resolution P h0 ms (mergeFromM cat m) ?_ ?_ (fun x hx => h x (mem_cons_of_mem _ hx))
    · show P (if m.ns.spq ≠ 0 then m.ns.spq else if m.ns.sps ≠ 0 then 0 else cat.ns.spq)
      split
      · exact hm.1
      · split
        · exact h0
        · exact h1
    · show P (if m.ns.spq ≠ 0 then 0 else if m.ns.sps ≠ 0 then m.ns.sps else cat.ns.sps)
      split
      · exact h0
      · split
        · exact hm.2
        · exact h2

theorem foldl_merge_unquantized : ∀ (ms : List MSeq) (cat : MSeq),
    cat.ns.spq = 0 → cat.ns.sps = 0 → (∀ m ∈ ms, m.ns.spq = 0 ∧ m.ns.sps = 0) →
    (ms.foldl mergeFromM cat).ns.spq = 0 ∧ (ms.foldl mergeFromM cat).ns.sps = 0 :=
  foldl_merge_resolution (· = 0) rfl

theorem ratMax_is_max (l : List Rat) (a : Rat) :
    a ≤ ratMax a l ∧ (∀ x ∈ l, x ≤ ratMax a l) ∧ (ratMax a l = a ∨ ratMax a l ∈ l) :=
  have ⟨h1, h2, h3⟩ := foldl_max_spec id l a
  ⟨h1, h2, h3.imp_right fun ⟨_, hn, (h : ratMax a l = _)⟩ => h ▸ hn⟩

theorem ite_ite_same {α} {a b : Prop} [Decidable a] [Decidable b] (e x : α) :
    (if a then e else if b then e else x) = if a ∨ b then e else x := by
  by_cases a <;> by_cases b <;> simp [*]

theorem adjNotes_cons (f R : Rat → Rat) (md : Rat) (n : Note) (ns : List Note) (tot : Rat) (sk : Nat) :
    adjNotes f R md (n :: ns) tot sk =
      match adjNote f R md n with
      | none => adjNotes f R md ns tot (sk + 1)
      | some m =>
        if m.end_ < m.start ∨ m.start < 0 ∨ m.end_ < 0 then .error .invalidTimeAdjustmentError
        else
          match adjNotes f R md ns (if tot < m.end_ then m.end_ else tot) sk with
          | .ok (r, t, k) => .ok (m :: r, t, k)
          | .error e => .error e := by
  rw [adjNotes, adjNote]
  by_cases hc : f n.start = f n.end_ ∧ md = 0
  · rw [if_pos hc, if_pos hc]
  · -- the three tests of the loop, one after the other, are the disjunction
    rw [if_neg hc, if_neg hc]
    simp only [adjImage, adjEnd, ite_ite_same]
    rfl

open Classical in
theorem adjNotes_eq (f R : Rat → Rat) (md : Rat) : ∀ (l : List Note) (tot : Rat) (sk : Nat),
    adjNotes f R md l tot sk =
      if ∀ n ∈ l, ¬ adjBad f R md n then
        .ok (l.filterMap (adjNote f R md), maxEnd tot (l.filterMap (adjNote f R md)),
          sk + l.countP (fun n => (adjNote f R md n).isNone))
      else .error .invalidTimeAdjustmentError
  | [], tot, sk => by simp [adjNotes, maxEnd]
  | n :: ns, tot, sk => by
    rw [adjNotes_cons]
    cases hn : adjNote f R md n with
    | none =>
      have hb : ¬ adjBad f R md n := by simp [adjBad, hn]
      simp only [adjNotes_eq f R md ns, mem_cons, forall_eq_or_imp, hb, not_false_eq_true, true_and,
        filterMap_cons, hn, countP_cons, Option.isNone_none, if_true, Nat.add_assoc, Nat.add_comm 1]
    | some m =>
      have hb : adjBad f R md n ↔ (m.end_ < m.start ∨ m.start < 0 ∨ m.end_ < 0) := by
        simp [adjBad, hn]
      simp only [adjNotes_eq f R md ns, mem_cons, forall_eq_or_imp, hb, filterMap_cons, hn, countP_cons,
        Option.isNone_some, Bool.false_eq_true, if_false, Nat.add_zero, maxEnd, foldl_cons]
      by_cases hbad : m.end_ < m.start ∨ m.start < 0 ∨ m.end_ < 0
      · simp only [hbad, if_true, not_true_eq_false, false_and, if_false]
      · simp only [hbad, if_false, not_false_eq_true, true_and]
        by_cases hall : ∀ x ∈ ns, ¬ adjBad f R md x
        · rw [if_pos hall, if_pos hall]
        · rw [if_neg hall, if_neg hall]

open Classical in
theorem adjustR_eq (f R : Rat → Rat) (md : Rat) (s : NoteSeq) :
    adjustR f R md s =
      if (∀ n ∈ s.notes, ¬ adjBad f R md n) ∧ ∀ t ∈ adjustedTimes s, ¬ f t < 0 then
        .ok (adjusted f R md s, s.notes.countP (fun n => (adjNote f R md n).isNone))
      else .error .invalidTimeAdjustmentError := by
  unfold adjustR
  rw [adjNotes_eq]
  by_cases hb : ∀ n ∈ s.notes, ¬ adjBad f R md n
  · rw [if_pos hb]
    have hct : ∀ notes tot, chainTimes Gen.adjustEventFields { s with notes := notes, totalTime := tot } =
        adjustedTimes s := by
      intro _ _; simp [chainTimes, kindTimes, Gen.adjustEventFields, adjustedTimes]
    simp only [hct]
    by_cases hneg : ∀ t ∈ adjustedTimes s, ¬ f t < 0
    · rw [if_neg (by simpa using hneg), if_pos ⟨hb, hneg⟩]
      simp [mapEv, Gen.adjustEventFields, adjusted]
    · rw [if_pos (by simpa using hneg), if_neg (fun h => hneg h.2)]
  · rw [if_neg hb, if_neg (fun h => hb h.1)]

theorem maxEnd_is_max (l : List Note) (tot : Rat) :
    tot ≤ maxEnd tot l ∧ (∀ n ∈ l, n.end_ ≤ maxEnd tot l) ∧ (maxEnd tot l = tot ∨ ∃ n ∈ l, maxEnd tot l = n.end_) :=
  foldl_max_spec Note.end_ l tot

theorem knots_ge : ∀ (p : Rat × Rat) (rest : List (Rat × Rat)), KnotsOK p rest → ∀ k ∈ rest, p.1 < k.1 ∧ p.2 ≤ k.2
  | _, [], _, k, hk => by simp at hk
  | p, q :: rest, h, k, hk => by
    obtain ⟨h1, h2, h3⟩ := h
    rcases mem_cons.mp hk with rfl | hk'
    · exact ⟨h1, h2⟩
    · have := knots_ge q rest h3 k hk'
      exact ⟨by grind, Rat.le_trans h2 this.2⟩

theorem knots_le_lastY : ∀ (p : Rat × Rat) (rest : List (Rat × Rat)), KnotsOK p rest → p.2 ≤ lastY p rest
  | _, [], _ => Rat.le_refl
  | _, q :: rest, h => Rat.le_trans h.2.1 (knots_le_lastY q rest h.2.2)

theorem KnotsOK.xinc : ∀ (p : Rat × Rat) (rest : List (Rat × Rat)), KnotsOK p rest → XInc p rest
  | _, [], _ => trivial
  | _, q :: rest, h => ⟨h.1, KnotsOK.xinc q rest h.2.2⟩

theorem xinc_gt : ∀ (p : Rat × Rat) (rest : List (Rat × Rat)), XInc p rest → ∀ k ∈ rest, p.1 < k.1
  | _, [], _, k, hk => by simp at hk
  | p, q :: rest, h, k, hk => by
    obtain ⟨h1, h3⟩ := h
    rcases mem_cons.mp hk with rfl | hk'
    · exact h1
    · have := xinc_gt q rest h3 k hk'; grind

theorem xinc_first_le (p : Rat × Rat) (rest : List (Rat × Rat)) (h : XInc p rest) :
    ∀ k ∈ p :: rest, p.1 ≤ k.1 := by
  intro k hk
  rcases mem_cons.mp hk with rfl | hk'
  · exact Rat.le_refl
  · exact Rat.le_of_lt (xinc_gt p rest h k hk')

theorem xinc_le_last : ∀ (p : Rat × Rat) (rest : List (Rat × Rat)), XInc p rest → ∀ k ∈ p :: rest, k.1 ≤ lastX p rest
  | p, [], _, k, hk => by simp at hk; subst hk; simp [lastX]
  | p, q :: rest, h, k, hk => by
    obtain ⟨h1, h3⟩ := h
    simp only [lastX]
    rcases mem_cons.mp hk with rfl | hk'
    · have := xinc_le_last q rest h3 q (by simp); grind
    · exact xinc_le_last q rest h3 k hk'

theorem xinc_of_pairwise : ∀ (p : Rat × Rat) (rest : List (Rat × Rat)),
    ((p :: rest).map (·.1)).Pairwise (· < ·) → XInc p rest
  | _, [], _ => trivial
  | p, q :: rest, h => by
    simp only [map_cons, pairwise_cons] at h
    exact ⟨h.1 q.1 (by simp), xinc_of_pairwise q rest (by simp only [map_cons, pairwise_cons]; exact h.2)⟩

/-- the arithmetic branch of numpy's `arr_interp` on the segment from `p` to `q` -/
def segR (R : Rat → Rat) (p q : Rat × Rat) (x : Rat) : Rat :=
  R (R (R (R (q.2 - p.2) / R (q.1 - p.1)) * R (x - p.1)) + p.2)

theorem interpGo_cons (R : Rat → Rat) (p q : Rat × Rat) (rest : List (Rat × Rat)) (x : Rat) :
    interpGo R p (q :: rest) x =
      if q.1 ≤ x then interpGo R q rest x else if p.1 = x then p.2 else segR R p q x := by
  rw [interpGo]; rfl

/-- no arithmetic at a knot, so any `R` -/
theorem interpGo_knot (R : Rat → Rat) : ∀ (p : Rat × Rat) (rest : List (Rat × Rat)), XInc p rest →
    ∀ k ∈ p :: rest, interpGo R p rest k.1 = k.2
  | p, [], _, k, hk => by simp at hk; subst hk; simp [interpGo]
  | p, q :: rest, h, k, hk => by
    obtain ⟨h1, h3⟩ := h
    rw [interpGo_cons]
    rcases mem_cons.mp hk with rfl | hk'
    · rw [if_neg (Rat.not_le.mpr h1), if_pos rfl]
    · rw [if_pos (xinc_first_le q rest h3 k hk')]
      exact interpGo_knot R q rest h3 k hk'

theorem interpGo_at_last (R : Rat → Rat) : ∀ (rest : List (Rat × Rat)) (p : Rat × Rat), XInc p rest →
    interpGo R p rest (lastX p rest) = lastY p rest
  | [], _, _ => rfl
  | q :: rest, p, h => by
    rw [interpGo_cons, lastX, lastY, if_pos (xinc_le_last q rest h.2 q mem_cons_self)]
    exact interpGo_at_last R rest q h.2

theorem interpR_cases (R : Rat → Rat) (p : Rat × Rat) (rest : List (Rat × Rat)) (left right x : Rat) :
    (lastX p rest < x ∧ interpR R p rest left right x = right) ∨
    (x < p.1 ∧ x ≤ lastX p rest ∧ interpR R p rest left right x = left) ∨
    (p.1 ≤ x ∧ x ≤ lastX p rest ∧ interpR R p rest left right x = interpGo R p rest x) := by
  unfold interpR
  by_cases h1 : lastX p rest < x
  · exact Or.inl ⟨h1, if_pos h1⟩
  · rw [if_neg h1]
    by_cases h2 : x < p.1
    · exact Or.inr (Or.inl ⟨h2, Rat.not_lt.mp h1, if_pos h2⟩)
    · exact Or.inr (Or.inr ⟨Rat.not_lt.mp h2, Rat.not_lt.mp h1, if_neg h2⟩)

theorem interpR_inside (R : Rat → Rat) (p : Rat × Rat) (rest : List (Rat × Rat)) (left right : Rat) {x : Rat}
    (h1 : p.1 ≤ x) (h2 : x ≤ lastX p rest) : interpR R p rest left right x = interpGo R p rest x := by
  unfold interpR
  rw [if_neg (Rat.not_lt.mpr h2), if_neg (Rat.not_lt.mpr h1)]

/-- what the scan over the knots needs of the arithmetic on one segment `p`, `q` whose ordinates are fixed by `R` and at or above
`lo`: between the two knots the result is not below `p.2`, monotone, and not above `q.2 * c`; and a value at or above `lo` is not
lowered by the factor `c`.  Exact arithmetic: `c = 1`, any `lo` (`segOK_id`); a rounding operator: `c = (1 + 2^-53)^4`, `lo = 0`
(`segOK_rounding`, Proofs/C13Interp.lean) -/
structure SegOK (R : Rat → Rat) (lo c : Rat) : Prop where
  seg : ∀ {p q : Rat × Rat} {x y : Rat}, p.1 < q.1 → p.2 ≤ q.2 → R p.2 = p.2 → p.1 ≤ x → x ≤ y → y ≤ q.1 →
    p.2 ≤ segR R p q x ∧ segR R p q x ≤ segR R p q y ∧ (lo ≤ p.2 → segR R p q y ≤ q.2 * c)
  le_mul : ∀ {v : Rat}, lo ≤ v → v ≤ v * c
  c_nonneg : 0 ≤ c

theorem segOK_id (lo : Rat) : SegOK id lo 1 where
  seg {p q x y} h1 h2 _ hx hxy hy := by
    simp only [segR, id, Rat.mul_one]
    have hd : 0 < q.1 - p.1 := by grind
    have hs : 0 ≤ (q.2 - p.2) / (q.1 - p.1) := by
      rw [Rat.div_def]; exact Rat.mul_nonneg (by grind) (Rat.le_of_lt (Rat.inv_pos.mpr hd))
    have hm : (q.2 - p.2) / (q.1 - p.1) * (q.1 - p.1) = q.2 - p.2 := by
      have : q.1 - p.1 ≠ 0 := by grind
      grind
    generalize (q.2 - p.2) / (q.1 - p.1) = s at *
    have a := Rat.mul_le_mul_of_nonneg_left (a := 0) (b := x - p.1) (c := s) (by grind) hs
    have b := Rat.mul_le_mul_of_nonneg_left (a := x - p.1) (b := y - p.1) (c := s) (by grind) hs
    have c := Rat.mul_le_mul_of_nonneg_left (a := y - p.1) (b := q.1 - p.1) (c := s) (by grind) hs
    grind
  le_mul _ := by rw [Rat.mul_one]; exact Rat.le_refl
  c_nonneg := by decide

section scan
variable {R : Rat → Rat} {lo c : Rat}

theorem interpGo_ge_knot (hS : SegOK R lo c) : ∀ (rest : List (Rat × Rat)) (p : Rat × Rat), KnotsOK p rest →
    (∀ k ∈ p :: rest, R k.2 = k.2) → ∀ k ∈ p :: rest, ∀ x, k.1 ≤ x → k.2 ≤ interpGo R p rest x
  | [], p, _, _, k, hk, x, _ => by
    rw [mem_singleton.mp hk]; exact Rat.le_refl
  | q :: rest, p, h, hy, k, hk, x, hkx => by
    have ih := interpGo_ge_knot hS rest q h.2.2 (fun k hk => hy k (mem_cons_of_mem _ hk))
    rw [interpGo_cons]
    rcases mem_cons.mp hk with rfl | hk'
    · split
      · exact Rat.le_trans h.2.1 (ih q mem_cons_self x ‹_›)
      · split
        · exact Rat.le_refl
        · exact (hS.seg h.1 h.2.1 (hy k mem_cons_self) hkx Rat.le_refl (Rat.le_of_lt (Rat.not_le.mp ‹_›))).1
    · rw [if_pos (Rat.le_trans (xinc_first_le q rest (KnotsOK.xinc q rest h.2.2) k hk') hkx)]
      exact ih k hk' x hkx

theorem interpGo_first_seg_mono (hS : SegOK R lo c) (p q : Rat × Rat) (rest : List (Rat × Rat)) (h1 : p.1 < q.1)
    (h2 : p.2 ≤ q.2) (hy : R p.2 = p.2) (x y : Rat) (hx : p.1 ≤ x) (hxy : x ≤ y) (hyq : y < q.1) :
    interpGo R p (q :: rest) x ≤ interpGo R p (q :: rest) y := by
  have hs := hS.seg h1 h2 hy hx hxy (Rat.le_of_lt hyq)
  rw [interpGo_cons, interpGo_cons, if_neg (show ¬ q.1 ≤ x by grind), if_neg (Rat.not_le.mpr hyq)]
  by_cases hpx : p.1 = x
  · rw [if_pos hpx]
    split
    · exact Rat.le_refl
    · exact Rat.le_trans hs.1 hs.2.1
  · rw [if_neg hpx, if_neg (show ¬ p.1 = y by grind)]
    exact hs.2.1

/-- monotone up to the factor `c`: exactly so inside a segment; across a knot `q` the left point is at most `q.2 * c` and the
right point at least `q.2` -/
theorem interpGo_le_mul (hS : SegOK R lo c) : ∀ (rest : List (Rat × Rat)) (p : Rat × Rat), KnotsOK p rest →
    (∀ k ∈ p :: rest, R k.2 = k.2) → lo ≤ p.2 → ∀ x y, p.1 ≤ x → x ≤ y →
    interpGo R p rest x ≤ interpGo R p rest y * c
  | [], _, _, _, hlo, _, _, _, _ => hS.le_mul hlo
  | q :: rest, p, h, hy, hlo, x, y, hx, hxy => by
    obtain ⟨h1, h2, h3⟩ := h
    have hy' : ∀ k ∈ q :: rest, R k.2 = k.2 := fun k hk => hy k (mem_cons_of_mem _ hk)
    have hlo' := Rat.le_trans hlo h2
    by_cases hqy : q.1 ≤ y
    · rw [interpGo_cons R p q rest y, if_pos hqy]
      by_cases hqx : q.1 ≤ x
      · rw [interpGo_cons, if_pos hqx]
        exact interpGo_le_mul hS rest q h3 hy' hlo' x y hqx hxy
      · refine Rat.le_trans ?_ (Rat.mul_le_mul_of_nonneg_right
          (interpGo_ge_knot hS rest q h3 hy' q mem_cons_self y hqy) hS.c_nonneg)
        rw [interpGo_cons, if_neg hqx]
        split
        · exact Rat.le_trans h2 (hS.le_mul hlo')
        · exact (hS.seg h1 h2 (hy p mem_cons_self) hx Rat.le_refl (Rat.le_of_lt (Rat.not_le.mp hqx))).2.2 hlo
    · have hge := interpGo_ge_knot hS (q :: rest) p ⟨h1, h2, h3⟩ hy p mem_cons_self y (Rat.le_trans hx hxy)
      exact Rat.le_trans (interpGo_first_seg_mono hS p q rest h1 h2 (hy p mem_cons_self) x y hx hxy
        (Rat.not_le.mp hqy)) (hS.le_mul (Rat.le_trans hlo hge))

/-- the same on the whole line, when the clamps continue the knots monotonically -/
theorem interpR_le_mul (hS : SegOK R lo c) (p : Rat × Rat) (rest : List (Rat × Rat)) (left right x y : Rat)
    (h : KnotsOK p rest) (hy : ∀ k ∈ p :: rest, R k.2 = k.2) (hl0 : lo ≤ left) (hl : left ≤ p.2)
    (hr : lastY p rest ≤ right) (hxy : x ≤ y) :
    interpR R p rest left right x ≤ interpR R p rest left right y * c := by
  have h0 : lo ≤ p.2 := Rat.le_trans hl0 hl
  have hlr : left ≤ right := Rat.le_trans hl (Rat.le_trans (knots_le_lastY p rest h) hr)
  -- `x` beyond, left of, inside the knots; for each, `y` the same three ways (`x ≤ y` rules three out)
  rcases interpR_cases R p rest left right x with ⟨hx, ex⟩ | ⟨hx, _, ex⟩ | ⟨hx, hx', ex⟩ <;>
    rcases interpR_cases R p rest left right y with ⟨hy', ey⟩ | ⟨hy', _, ey⟩ | ⟨hy', hy'', ey⟩ <;>
    rw [ex, ey]
  · exact hS.le_mul (Rat.le_trans hl0 hlr)
  · exfalso; grind
  · exfalso; grind
  · exact Rat.le_trans hlr (hS.le_mul (Rat.le_trans hl0 hlr))
  · exact hS.le_mul hl0
  · have hge := interpGo_ge_knot hS rest p h hy p mem_cons_self y hy'
    exact Rat.le_trans (Rat.le_trans hl hge) (hS.le_mul (Rat.le_trans h0 hge))
  · have := interpGo_le_mul hS rest p h hy h0 x (lastX p rest) hx hx'
    rw [interpGo_at_last R rest p (KnotsOK.xinc p rest h)] at this
    exact Rat.le_trans this (Rat.mul_le_mul_of_nonneg_right hr hS.c_nonneg)
  · exfalso; grind
  · exact interpGo_le_mul hS rest p h hy h0 x y hx hxy

end scan

theorem uniqGo_facts : ∀ (l : List Rat) (prev : Rat), (prev :: l).Pairwise (· ≤ ·) →
    (∀ x, x ∈ uniqGo prev l ↔ x ∈ l ∧ prev < x) ∧ (uniqGo prev l).Pairwise (· < ·)
  | [], _, _ => by simp [uniqGo]
  | b :: l, prev, hs => by
    have hs' : (b :: l).Pairwise (· ≤ ·) := (pairwise_cons.mp hs).2
    have hpb : prev ≤ b := (pairwise_cons.mp hs).1 b mem_cons_self
    have hbl : ∀ x ∈ l, b ≤ x := (pairwise_cons.mp hs').1
    obtain ⟨ih1, ih2⟩ := uniqGo_facts l b hs'
    unfold uniqGo
    -- the list is sorted, so every element of `l` is `≥ b ≥ prev`; the membership claims are order bookkeeping
    split
    · refine ⟨fun x => ?_, pairwise_cons.mpr ⟨fun x hx => ((ih1 x).mp hx).2, ih2⟩⟩
      simp only [mem_cons, ih1]; grind
    · refine ⟨fun x => ?_, ih2⟩
      simp only [mem_cons, ih1]; grind

theorem uniqBeats_facts (l : List Rat) (hs : l.Pairwise (· ≤ ·)) :
    (∀ x, x ∈ uniqBeats l ↔ x ∈ l) ∧ (uniqBeats l).Pairwise (· < ·) := by
  cases l with
  | nil => simp [uniqBeats]
  | cons a l =>
    obtain ⟨h1, h2⟩ := uniqGo_facts l a hs
    have hal : ∀ x ∈ l, a ≤ x := (pairwise_cons.mp hs).1
    refine ⟨fun x => ?_, pairwise_cons.mpr ⟨fun x hx => ((h1 x).mp hx).2, h2⟩⟩
    simp only [uniqBeats, mem_cons, h1]; grind

/-- `d = sequence_duration or sequence.total_time` -/
def repDur (m : MSeq) (sd : Rat) : Rat := if sd = 0 then m.ns.totalTime else sd

/-- `int(math.ceil(duration / d))` as a list length -/
def repCount (R : Rat → Rat) (m : MSeq) (dur sd : Rat) : Nat := (R (dur / repDur m sd)).ceil.toNat

/-- the call as one chain, for any `extract_subsequence`: `d = 0 → ZeroDivisionError`, else the errors of the concatenation of
`⌈R (D/d)⌉` copies, else those of the cut `[0, D)`, else the cut with `subsequence_info` cleared -/
theorem repeatR_def (R : Rat → Rat) (extract : NoteSeq → Rat → Rat → Except Err NoteSeq) (mm : List String → String)
    (m : MSeq) (dur sd : Rat) :
    repeatR R extract mm m dur sd =
      if repDur m sd = 0 then .error (.other "ZeroDivisionError")
      else
        match concatR R mm (replicate (repCount R m dur sd) m) (replicate (repCount R m dur sd) (repDur m sd)) with
        | .error e => .error e
        | .ok c =>
          match extract c.ns 0 dur with
          | .error e => .error e
          | .ok t => .ok { c with ns := { t with hasSub := false, subStart := 0, subEnd := 0 } } := by
  unfold repeatR repeatConcatR repCount repDur
  simp only []
  by_cases hd : (if sd = 0 then m.ns.totalTime else sd) = 0
  · rw [if_pos hd, if_pos hd]
  · rw [if_neg hd, if_neg hd]
    generalize concatR R mm _ _ = c
    cases c <;> rfl

end NSV.C13

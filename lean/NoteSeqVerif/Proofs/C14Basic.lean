import NoteSeqVerif.Model.C14Spec
/-! C14 — closed forms of the model's inner loops (`offLoop`, `strikeLoop`, `eraseVal`, the
close-out) under the facts the simulation invariant of `C14Sim` supplies: duplicate-free active
lists, and no active note of the struck pitch starting at the strike time (which is what keeps
`sequence.notes.remove` from ever running).  Core Lean only. -/
namespace NSV.C14

@[simp] theorem setEnd_end (nt : Note) (t : Rat) : (setEnd nt t).end_ = t := rfl
@[simp] theorem setEnd_pitch (nt : Note) (t : Rat) : (setEnd nt t).pitch = nt.pitch := rfl
@[simp] theorem setEnd_start (nt : Note) (t : Rat) : (setEnd nt t).start = nt.start := rfl
@[simp] theorem setEnd_instrument (nt : Note) (t : Rat) : (setEnd nt t).instrument = nt.instrument := rfl
@[simp] theorem setEnd_isDrum (nt : Note) (t : Rat) : (setEnd nt t).isDrum = nt.isDrum := rfl
@[simp] theorem setEnd_setEnd (nt : Note) (a b : Rat) : setEnd (setEnd nt a) b = setEnd nt b := rfl
@[simp] theorem setEnd_self (nt : Note) : setEnd nt nt.end_ = nt := rfl

theorem upd_apply {n} (s : Fin n → Note) (j i : Fin n) (v : Note) :
    upd s j v i = if i = j then v else s i := rfl

theorem dget_dset {β : Type} (d : List (Int × β)) (k k' : Int) (v x : β) :
    dget (dset d k v) k' x = if k' = k then v else dget d k' x := by
  induction d with
  | nil => simp [dset, dget]; grind
  | cons e r ih =>
    obtain ⟨k0, v0⟩ := e
    simp only [dset]
    split <;> simp [dget] <;> grind

/-- a property of every entry survives `defaultdict[k] = v` if `v` has it -/
theorem dget_dset_forall {β : Type} (p : Int → β → Prop) (d : List (Int × β)) (k : Int) (v x : β)
    (h : ∀ k', p k' (dget d k' x)) (hv : p k v) : ∀ k', p k' (dget (dset d k v) k' x) := by
  intro k'
  rw [dget_dset]
  split
  · rename_i e; rw [e]; exact hv
  · exact h k'

/-- membership in an entry is unchanged by `defaultdict[i] = L` if it is unchanged at key `i` -/
theorem mem_dget_dset_iff {α : Type} (d : List (Int × List α)) (i k : Int) (L : List α) (x : α)
    (h : k = i → (x ∈ L ↔ x ∈ dget d i [])) : x ∈ dget (dset d i L) k [] ↔ x ∈ dget d k [] := by
  rw [dget_dset]
  split
  · rename_i e; subst e; exact h rfl
  · exact Iff.rfl

theorem mem_snoc {α} {y x : α} {P : List α} : y ∈ P ++ [x] ↔ y ∈ P ∨ y = x := by simp

theorem mem_snoc_of_ne {α} {y x : α} {P : List α} (h : x ≠ y) : y ∈ P ++ [x] ↔ y ∈ P := by
  rw [mem_snoc]; exact ⟨fun h' => h'.elim id (fun e => absurd e.symm h), Or.inl⟩

theorem nodup_snoc {α} {L : List α} {k : α} (h : L.Nodup) (hk : k ∉ L) : (L ++ [k]).Nodup := by
  rw [List.nodup_append]
  refine ⟨h, by simp, fun x hx y hy => ?_⟩
  rw [List.mem_singleton.mp hy]
  exact fun e => hk (e ▸ hx)

theorem finRange_map_get {α} (l : List α) : (List.finRange l.length).map (fun i => l[i]) = l := by
  apply List.ext_getElem <;> simp

/-- `if time > total_time: total_time = time` -/
theorem raise_ge (a t : Rat) : a ≤ (if a < t then t else a) ∧ t ≤ (if a < t then t else a) := by
  split
  · exact ⟨Rat.le_of_lt ‹_›, Rat.le_refl⟩
  · exact ⟨Rat.le_refl, Rat.not_lt.mp ‹_›⟩

/-- `Nodup` because the loop reads the heap it is updating: a second occurrence of a note would
see the end `t` it was just given and stay in the list. -/
theorem offLoop_spec {n} (t : Rat) (L : List (Fin n)) (store : Fin n → Note) (total : Rat)
    (hnd : L.Nodup) :
    (∀ i, (offLoop t L store total).1 i =
        if i ∈ L ∧ (store i).end_ < t then setEnd (store i) t else store i) ∧
    (offLoop t L store total).2.1 =
        (if ∃ j ∈ L, (store j).end_ < t then (if total < t then t else total) else total) ∧
    (offLoop t L store total).2.2 = L.filter (fun j => ¬ ((store j).end_ < t)) := by
  induction L generalizing store total with
  | nil => simp [offLoop]
  | cons j js ih =>
    have hj : j ∉ js := (List.nodup_cons.mp hnd).1
    have hjs : js.Nodup := (List.nodup_cons.mp hnd).2
    simp only [offLoop]
    split
    · rename_i hlt
      obtain ⟨h1, h2, h3⟩ := ih (upd store j (setEnd (store j) t)) (if total < t then t else total) hjs
      have hsame : ∀ x ∈ js, (upd store j (setEnd (store j) t) x).end_ = (store x).end_ := by
        intro x hx
        have : x ≠ j := fun h => hj (h ▸ hx)
        simp [upd_apply, this]
      refine ⟨?_, ?_, ?_⟩
      · intro i
        rw [h1 i]
        by_cases hij : i = j
        · subst hij; simp [upd_apply, hj, hlt]
        · simp [upd_apply, hij]
      · rw [h2]
        have e1 : (∃ x ∈ js, (upd store j (setEnd (store j) t) x).end_ < t) ↔ (∃ x ∈ js, (store x).end_ < t) := by
          constructor
          · rintro ⟨x, hx, h⟩; exact ⟨x, hx, by rw [← hsame x hx]; exact h⟩
          · rintro ⟨x, hx, h⟩; exact ⟨x, hx, by rw [hsame x hx]; exact h⟩
        have e2 : (∃ x ∈ j :: js, (store x).end_ < t) := ⟨j, by simp, hlt⟩
        have key : (if (if total < t then t else total) < t then t else (if total < t then t else total))
            = (if total < t then t else total) := by
          by_cases h : total < t <;> simp [h]
        simp only [e1, e2, if_true, key, ite_self]
      · rw [h3]
        simp only [List.filter_cons, hlt, not_true_eq_false, decide_false]
        apply List.filter_congr
        intro x hx
        simp [hsame x hx]
    · rename_i hlt
      obtain ⟨h1, h2, h3⟩ := ih store total hjs
      refine ⟨?_, ?_, ?_⟩
      · intro i
        simp only [h1 i]
        by_cases hij : i = j
        · subst hij; simp [hj, hlt]
        · simp [hij]
      · simp only [h2]
        have e : (∃ x ∈ j :: js, (store x).end_ < t) ↔ (∃ x ∈ js, (store x).end_ < t) := by
          constructor
          · rintro ⟨x, hx, h⟩
            rcases List.mem_cons.mp hx with rfl | hx
            · exact absurd h hlt
            · exact ⟨x, hx, h⟩
          · rintro ⟨x, hx, h⟩; exact ⟨x, List.mem_cons_of_mem _ hx, h⟩
        simp only [e]
      · simp only [h3]; simp [hlt]

/-- `hno` keeps the zero-length branch, and with it `sequence.notes.remove`, from running: the
sequence comes back as it was and the loop cannot fail. -/
theorem strikeLoop_spec {n} (t : Rat) (k : Fin n) (L : List (Fin n)) (store : Fin n → Note)
    (seq : List (Fin n)) (hnd : L.Nodup)
    (hno : ∀ j ∈ L, (store j).pitch = (store k).pitch → (store j).start ≠ t) :
    ∃ store', strikeLoop t k L store seq =
        .ok (store', seq, L.filter (fun j => ¬ ((store j).pitch = (store k).pitch))) ∧
      ∀ i, store' i =
        if i ∈ L ∧ (store i).pitch = (store k).pitch then setEnd (store i) t else store i := by
  induction L generalizing store with
  | nil => exact ⟨store, by simp [strikeLoop], by simp⟩
  | cons j js ih =>
    have hj : j ∉ js := (List.nodup_cons.mp hnd).1
    have hjs : js.Nodup := (List.nodup_cons.mp hnd).2
    simp only [strikeLoop]
    split
    · rename_i hp
      have hst : (store j).start ≠ t := hno j (by simp) hp
      have hpitch : ∀ x, (upd store j (setEnd (store j) t) x).pitch = (store x).pitch := by
        intro x; by_cases h : x = j <;> simp [upd_apply, h]
      have hstart : ∀ x, (upd store j (setEnd (store j) t) x).start = (store x).start := by
        intro x; by_cases h : x = j <;> simp [upd_apply, h]
      obtain ⟨s', h1, h2⟩ := ih (upd store j (setEnd (store j) t)) hjs (by
        intro x hx hpx
        rw [hstart x]
        rw [hpitch x, hpitch k] at hpx
        exact hno x (List.mem_cons_of_mem _ hx) hpx)
      have hne : ¬ ((upd store j (setEnd (store j) t) j).start = (upd store j (setEnd (store j) t) j).end_) := by
        simp [upd_apply, hst]
      simp only [hne, if_false]
      refine ⟨s', ?_, ?_⟩
      · rw [h1]
        simp only [hpitch, List.filter_cons, hp, not_true_eq_false, decide_false]
        rfl
      · intro i
        rw [h2 i]
        simp only [hpitch]
        by_cases hij : i = j
        · subst hij; simp [upd_apply, hj, hp]
        · simp [upd_apply, hij]
    · rename_i hp
      obtain ⟨s', h1, h2⟩ := ih store hjs (fun x hx => hno x (List.mem_cons_of_mem _ hx))
      refine ⟨s', ?_, ?_⟩
      · rw [h1]; simp [hp]
      · intro i
        rw [h2 i]
        by_cases hij : i = j
        · subst hij; simp [hj, hp]
        · simp [hij]

/-- Python's `remove` compares messages by value; it deletes the object `k` itself as soon as no
other listed object currently has `k`'s value. -/
theorem eraseVal_eq_erase {n} (store : Fin n → Note) (k : Fin n) (L : List (Fin n))
    (h : ∀ j ∈ L, store j = store k → j = k) : eraseVal store (store k) L = L.erase k := by
  induction L with
  | nil => simp [eraseVal]
  | cons j js ih =>
    simp only [eraseVal]
    by_cases hv : store j = store k
    · have : j = k := h j (by simp) hv
      subst this; simp
    · have hne : j ≠ k := fun e => hv (e ▸ rfl)
      simp only [hv, if_false]
      rw [ih (fun x hx => h x (List.mem_cons_of_mem _ hx))]
      rw [List.erase_cons_tail (by simpa using hne)]

/-- `closeNote` leaves `time` alone, so every visited note gets the same end and `total_time` is
raised at most once. -/
theorem foldl_closeNote {n} (ids : List (Fin n)) (st : St n) :
    (∀ i, (ids.foldl closeNote st).store i =
        if i ∈ ids then setEnd (st.store i) st.time else st.store i) ∧
    (ids.foldl closeNote st).total =
        (if ids = [] then st.total else if st.total < st.time then st.time else st.total) ∧
    (ids.foldl closeNote st).seq = st.seq ∧ (ids.foldl closeNote st).time = st.time := by
  induction ids generalizing st with
  | nil => simp
  | cons j js ih =>
    obtain ⟨h1, h2, h3, h4⟩ := ih (closeNote st j)
    simp only [List.foldl_cons]
    refine ⟨?_, ?_, ?_, ?_⟩
    · intro i
      rw [h1 i]
      by_cases hij : i = j
      · subst hij; simp [closeNote, upd_apply]
      · simp [closeNote, upd_apply, hij]
    · rw [h2]
      simp only [closeNote, reduceCtorEq, if_false]
      by_cases h : st.total < st.time <;> by_cases h' : js = [] <;> simp [h, h']
    · rw [h3]; rfl
    · rw [h4]; rfl

/-! The close-out walks the *entries* of `active_notes` while the loop body reads it through
`dget`; with distinct keys (which `dset` preserves) every entry is what `dget` returns for its key. -/
theorem dset_keys {β : Type} (d : List (Int × β)) (k : Int) (v : β) :
    (dset d k v).map (·.1) = if k ∈ d.map (·.1) then d.map (·.1) else d.map (·.1) ++ [k] := by
  induction d with
  | nil => simp [dset]
  | cons e r ih =>
    obtain ⟨k0, v0⟩ := e
    simp only [dset]
    by_cases h : k0 = k
    · subst h; simp
    · have h' : ¬ k = k0 := fun e => h e.symm
      simp only [h, if_false, List.map_cons, ih, List.mem_cons, h', false_or]
      split <;> simp

theorem dset_keys_nodup {β : Type} (d : List (Int × β)) (k : Int) (v : β)
    (h : (d.map (·.1)).Nodup) : ((dset d k v).map (·.1)).Nodup := by
  rw [dset_keys]
  split
  · exact h
  · exact nodup_snoc h ‹_›

theorem dget_of_mem {β : Type} (d : List (Int × β)) (k : Int) (v x : β)
    (h : (d.map (·.1)).Nodup) (hm : (k, v) ∈ d) : dget d k x = v := by
  induction d with
  | nil => simp at hm
  | cons e r ih =>
    obtain ⟨k0, v0⟩ := e
    simp only [List.map_cons, List.nodup_cons] at h
    rcases List.mem_cons.mp hm with heq | hm
    · cases heq; simp [dget]
    · have : k0 ≠ k := by
        intro e; subst e
        exact h.1 (List.mem_map.mpr ⟨(k0, v), hm, rfl⟩)
      simp [dget, this, ih h.2 hm]

theorem mem_of_dget_ne {β : Type} (d : List (Int × β)) (k : Int) (x : β) (h : dget d k x ≠ x) :
    (k, dget d k x) ∈ d := by
  induction d with
  | nil => simp [dget] at h
  | cons e r ih =>
    obtain ⟨k0, v0⟩ := e
    by_cases hk : k0 = k
    · subst hk; simp [dget]
    · simp only [dget, hk, if_false] at h ⊢
      exact List.mem_cons_of_mem _ (ih h)

end NSV.C14

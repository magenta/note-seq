import NoteSeqVerif.Model.C04
import NoteSeqVerif.Proofs.Lib
/-! C04 — the tune as one item list (`Item`, `runItems`), the parser as a transition system (`Step`: what
one accepted item does, with the state it leaves; `Run`: steps chained; `stepItem_step`, `runItems_run` tie
them to the model), the backward scans behind the pitch theorems, the header read as "the last field of
each kind wins", the tunebook loop and the repeat errors (core Lean only). -/
namespace NSV.C04

inductive Item
  | field (f : Field)     -- an information field line
  | start                 -- the beginning of a music line
  | tok (t : Tok)         -- a token of a music line
deriving DecidableEq, Repr

def flattenLine : Line → List Item
  | .field f => [.field f]
  | .music toks => .start :: toks.map .tok

def flatten (ls : List Line) : List Item := ls.flatMap flattenLine

def stepItem (R : Rat → Rat) (st : St) : Item → Except Err St
  | .field f => parseField R st f
  | .start => startMusic R st
  | .tok t => stepTok R st t

def runItems (R : Rat → Rat) : St → List Item → Except Err St
  | st, [] => .ok st
  | st, i :: r =>
    match stepItem R st i with
    | .error e => .error e
    | .ok st' => runItems R st' r

def isNote : Item → Bool
  | .tok (.note _ _ _ _) => true
  | _ => false

def noteCount (l : List Item) : Nat := (l.filter isNote).length

/-- the note a NOTE_PATTERN token appends -/
def newNote (p : Int) (s e : Rat) : Note := { pitch := p, vel := Gen.DEFAULT_VELOCITY, start := s, end_ := e }

def accInt : Acc → Option Int
  | .sharp => some 1
  | .flat => some (-1)
  | .natural => some 0
  | _ => none

/-- the accidental the ABC rules put on a note: explicit, else bar-scoped, else from the key -/
def effectiveAcc (a : Acc) (bar : Option Int) (key : Option Int) : Option Int :=
  match accInt a with
  | some v => some v
  | none => match bar with
    | some v => some v
    | none => key

/-- effect of one item on "the explicit accidental on letter `L` since the last bar line" -/
def barStep (L : Char) (cur : Option Int) : Item → Option Int
  | .tok (.bar _ _ _) => none
  | .tok (.colons _) => none
  | .tok (.note a l _ _) =>
    if upperC l = L then (match accInt a with | some v => some v | none => cur) else cur
  | _ => cur

/-- the most recent explicit accidental on `L` since the last bar-line token (`|`, `||`, `|:`, `:|`,
`::`, …), scanning the already processed items from the most recent one backwards; `c` if the scan
reaches the beginning -/
def barAccOf (L : Char) (c : Option Int) : List Item → Option Int
  | [] => c
  | .tok (.bar _ _ _) :: _ => none
  | .tok (.colons _) :: _ => none
  | .tok (.note a l _ _) :: r =>
    if upperC l = L then (match accInt a with | some v => some v | none => barAccOf L c r) else barAccOf L c r
  | .tok .chord :: r | .tok (.broken _ _) :: r | .tok (.inline _) :: r | .tok .variantEnding :: r
  | .tok (.annot _) :: r | .tok .deco :: r | .tok .slur :: r | .tok .tie :: r | .tok .cont :: r
  | .tok .tuplet :: r | .tok .invalid :: r | .field _ :: r | .start :: r => barAccOf L c r

/-- the accidentals of the key in force: those of the most recent `K:` field (line or inline) -/
def keyStep (cur : Accs) : Item → Accs
  | .field (.key k) | .tok (.inline (.key k)) =>
    match parseKey k with
    | .ok (a, _, _) => a
    | .error _ => cur
  | _ => cur

def keyAccOf (c : Accs) : List Item → Accs
  | [] => c
  | i :: r => keyStep (keyAccOf c r) i

def meterOf : Field → Option (Rat × Int × Int)
  | .meterC => some (0, 4, 4)
  | .meterCut => some (0, 2, 2)
  | .meter n d => some (0, n, d)
  | _ => none

/-- the time signatures the header's `M:` fields declare (`C` = 4/4, `C|` = 2/2, `none` = none) -/
def hdrMeters (fs : List Field) : List (Rat × Int × Int) := fs.filterMap meterOf

def keySigOf : Field → Option (Rat × Nat × Nat)
  | .key k => match parseKey k with
    | .ok (_, pk, pm) => some (0, pk, pm)
    | .error _ => none
  | _ => none

/-- the key signatures (tonic pitch class, mode) the header's `K:` fields declare -/
def hdrKeys (fs : List Field) : List (Rat × Nat × Nat) := fs.filterMap keySigOf

def unitStep (c : Option Rat) : Field → Option Rat
  | .unitLen n d => some ((n : Rat) / (d : Rat))
  | _ => c

def hdrUnit (c : Option Rat) (fs : List Field) : Option Rat := fs.foldl unitStep c

def tempoStep (c : Option (Option Rat × Nat)) : Field → Option (Option Rat × Nat)
  | .tempo beats rate =>
    (match sumBeats beats with
     | .ok u => some (some u, rate)
     | .error _ => c)
  | .tempoOld rate => some (none, rate)
  | _ => c

/-- beat length (`none`: the deprecated `Q:r`, counted in unit note lengths) and rate of the last `Q:` -/
def hdrTempo (c : Option (Option Rat × Nat)) (fs : List Field) : Option (Option Rat × Nat) := fs.foldl tempoStep c

def refStep (c : Int) : Field → Int
  | .refnum n => n
  | _ => c

def hdrRef (c : Int) (fs : List Field) : Int := fs.foldl refStep c

def hdrKeyAcc (c : Accs) (fs : List Field) : Accs := keyAccOf c (fs.map Item.field).reverse

def pendingTempo (st : St) : Option (Option Rat × Nat) := st.hdrTempoRate.map (fun r => (st.hdrTempoUnit, r))

/-- Everything one accepted item can do, with the state it leaves: the parser as a labelled transition
system.  The invariants of a run (accidentals, clock, pending broken rhythm, sections) are proved by `cases`
on this relation; `stepItem_step` is the one place that reads `stepItem` / `stepTok` / `stepNote`. -/
inductive Step (R : Rat → Rat) (st : St) : Item → St → Prop
  | field {f st'} (h : parseField R st f = .ok st') : Step R st (.field f) st'
  | inline {f st'} (h : parseField R st f = .ok st') : Step R st (.tok (.inline f)) st'
  | start (u t) (hbody : st.inHeader = false → u = st.unit ∧ t = st.tempos)
      (hhdr : st.inHeader = true → finishHeader R st = .ok { st with unit := u, tempos := t }) :
      Step R st .start { st with unit := u, tempos := t, inHeader := false, broken := none }
  | note {a l o len base delta barAcc' u ln dt notes'} (hbase : lookup l Gen.ABC_NOTE_TO_MIDI = some base)
      (hacc : noteAccidental st a (upperC l) = .ok (delta, barAcc'))
      (hlo : Gen.MIN_MIDI_PITCH ≤ base + delta + octaveShift o)
      (hhi : base + delta + octaveShift o ≤ Gen.MAX_MIDI_PITCH)
      (hu : st.unit = some u) (hln : noteLength u len = .ok ln) (hdt : seconds R (qpm st) ln = .ok dt)
      (hn : match st.broken with
        | none => notes' = st.notes ++ [newNote (base + delta + octaveShift o) st.time (R (st.time + dt))]
        | some (gt, n) => applyBroken R (st.notes ++ [newNote (base + delta + octaveShift o) st.time
                            (R (st.time + dt))]) gt n = .ok notes') :
      Step R st (.tok (.note a l o len))
        { st with notes := notes', barAcc := barAcc', time := R (st.time + dt), broken := none }
  | bar {c1 len c2 secs g e}
      (h : stepBar st c1 len c2 = .ok { st with barAcc := [], sections := secs, groups := g, expected := e }) :
      Step R st (.tok (.bar c1 len c2)) { st with barAcc := [], sections := secs, groups := g, expected := e }
  | colons {n secs g e}
      (h : stepColons st n = .ok { st with barAcc := [], sections := secs, groups := g, expected := e }) :
      Step R st (.tok (.colons n)) { st with barAcc := [], sections := secs, groups := g, expected := e }
  | broken (gt n) (h : st.broken = none) : Step R st (.tok (.broken gt n)) { st with broken := some (gt, n) }
  | annot (s) : Step R st (.tok (.annot s)) { st with texts := st.texts ++ [(st.time, annotType s, s)] }
  | deco : Step R st (.tok .deco) st
  | slur : Step R st (.tok .slur) st
  | tie : Step R st (.tok .tie) st
  | cont : Step R st (.tok .cont) st

inductive Run (R : Rat → Rat) : St → List Item → St → Prop
  | nil (st) : Run R st [] st
  | cons {st i st1 r st'} (h : Step R st i st1) (t : Run R st1 r st') : Run R st (i :: r) st'

theorem lookup_upsert {α β} [DecidableEq α] (k k' : α) (v : β) (l : List (α × β)) :
    lookup k' (upsert k v l) = if k = k' then some v else lookup k' l := by
  induction l with
  | nil => simp [upsert, lookup]
  | cons p r ih =>
    obtain ⟨a, w⟩ := p
    by_cases h1 : a = k <;> by_cases h2 : a = k' <;> by_cases h3 : k = k' <;>
      simp_all [upsert, lookup]

/-- `parse_key` succeeds exactly when its three table lookups do and no accidental is doubled -/
theorem parseKey_eq_ok {k : KeyTok} {a : Accs} {pk pm : Nat} :
    parseKey k = .ok (a, pk, pm) ↔
      ∃ sig a0, lookup (([k.tonic] ++ k.acc ++ normMode k.mode).map lowerC) Gen.KEY_TO_SIG = some sig ∧
        sigToAccs (if k.exp then 0 else sig) = .ok a0 ∧ applyKeyAccs k.accs a0 = .ok a ∧
        lookup (([k.tonic] ++ k.acc).map lowerC) Gen.KEY_TO_PROTO_KEY = some pk ∧
        lookup (normMode k.mode) Gen.MODE_TO_PROTO = some pm := by
  unfold parseKey
  simp only
  repeat' split
  all_goals simp_all

theorem applyKeyAccs_single {accs : List (Acc × Char)} {a0 a : Accs} (h : applyKeyAccs accs a0 = .ok a) :
    ∀ p ∈ accs, p.1 ≠ .dsharp ∧ p.1 ≠ .dflat := by
  induction accs generalizing a0 with
  | nil => simp
  | cons p r ih =>
    obtain ⟨ac, c⟩ := p
    simp only [applyKeyAccs] at h
    have hac : ac ≠ .dsharp ∧ ac ≠ .dflat := by
      constructor <;> rintro rfl <;> simp [accValue] at h
    intro q hq
    rcases List.mem_cons.mp hq with rfl | hq
    · exact hac
    · split at h
      · simp at h
      · exact ih h q hq
      · exact ih h q hq

theorem runItems_map_tok (R : Rat → Rat) (st : St) (toks : List Tok) :
    runItems R st (toks.map .tok) = runToks R st toks := by
  induction toks generalizing st with
  | nil => rfl
  | cons t r ih =>
    simp only [List.map_cons, runItems, stepItem, runToks]
    cases stepTok R st t <;> simp [ih]

theorem runItems_append (R : Rat → Rat) (st : St) (a b : List Item) :
    runItems R st (a ++ b) =
      match runItems R st a with
      | .error e => .error e
      | .ok st' => runItems R st' b := by
  induction a generalizing st with
  | nil => simp [runItems]
  | cons i r ih =>
    simp only [List.cons_append, runItems]
    cases h : stepItem R st i with
    | error e => simp
    | ok st' => simp [ih]

theorem runItems_flattenLine (R : Rat → Rat) (st : St) (l : Line) :
    runItems R st (flattenLine l) = stepLine R st l := by
  cases l with
  | field f =>
    simp only [flattenLine, runItems, stepItem, stepLine]
    cases parseField R st f <;> rfl
  | music toks =>
    simp only [flattenLine, runItems, stepItem, stepLine, runItems_map_tok]
    cases startMusic R st <;> rfl

theorem runLines_eq_runItems (R : Rat → Rat) (st : St) (ls : List Line) :
    runLines R st ls = runItems R st (flatten ls) := by
  induction ls generalizing st with
  | nil => rfl
  | cons l r ih =>
    simp only [runLines, flatten, List.flatMap_cons, runItems_append, runItems_flattenLine]
    cases stepLine R st l with
    | error e => rfl
    | ok st' => exact ih st'

theorem addTempo_shape {R st u r st'} (h : addTempo R st u r = .ok st') :
    ∃ t, st' = { st with tempos := t } := by
  unfold addTempo at h
  split at h
  · simp at h
  · simp only [Except.ok.injEq] at h
    exact ⟨_, h.symm⟩

theorem setTempo_shape {R st u r st'} (h : setTempo R st u r = .ok st') :
    ∃ t hu hr, st' = { st with tempos := t, hdrTempoUnit := hu, hdrTempoRate := hr } := by
  unfold setTempo at h
  split at h
  · simp only [Except.ok.injEq] at h
    exact ⟨_, _, _, h.symm⟩
  · obtain ⟨t, rfl⟩ := addTempo_shape h
    exact ⟨t, _, _, rfl⟩

theorem keyStep_inline (c : Accs) (f : Field) : keyStep c (.tok (.inline f)) = keyStep c (.field f) := by
  cases f <;> rfl

theorem parseField_frame {R st f st'} (h : parseField R st f = .ok st') :
    st'.notes = st.notes ∧ st'.barAcc = st.barAcc ∧ st'.broken = st.broken ∧ st'.time = st.time ∧
    st'.sections = st.sections ∧ st'.groups = st.groups ∧ st'.expected = st.expected ∧
    st'.inHeader = st.inHeader ∧ st'.texts = st.texts ∧ st'.keyAcc = keyStep st.keyAcc (.field f) := by
  cases f with
  | tempo beats rate =>
    simp only [parseField] at h
    split at h
    · simp at h
    · obtain ⟨t, hu, hr, rfl⟩ := setTempo_shape h
      simp [keyStep]
  | tempoOld rate =>
    simp only [parseField] at h
    obtain ⟨t, hu, hr, rfl⟩ := setTempo_shape h
    simp [keyStep]
  | key k =>
    simp only [parseField] at h
    split at h
    · simp at h
    · rename_i a pk pm hk
      simp only [Except.ok.injEq] at h; subst h; simp [keyStep, hk]
  | title s =>
    simp only [parseField] at h
    split at h <;> (simp only [Except.ok.injEq] at h; subst h; simp [keyStep])
  | unitLen n d =>
    simp only [parseField] at h
    split at h
    · simp at h
    · simp only [Except.ok.injEq] at h; subst h; simp [keyStep]
  | refnum _ | composer _ | meterC | meterCut | meterNone | meter _ _ | tempoStr | other =>
    simp only [parseField, Except.ok.injEq] at h; subst h; simp [keyStep]
  | refBad | meterBad | unitBad | tempoBad | keyBad | part | voice =>
    simp [parseField] at h

theorem addSection_shape (st : St) (t : Rat) : ∃ secs, (addSection st t).1 = { st with sections := secs } := by
  unfold addSection
  simp only
  split
  · split <;> exact ⟨_, rfl⟩
  · exact ⟨_, rfl⟩

theorem addGroup_shape {st n st'} (h : addGroup st n = .ok st') : ∃ g, st' = { st with groups := g } := by
  unfold addGroup at h
  split at h
  · simp at h
  · simp only [Except.ok.injEq] at h
    exact ⟨_, h.symm⟩

theorem playPreviousOnce_shape {st i f st'} (h : playPreviousOnce st i f = .ok st') :
    ∃ g, st' = { st with groups := g, expected := f } := by
  unfold playPreviousOnce at h
  split at h
  · split at h
    · simp at h
    · rename_i st2 h2
      obtain ⟨g, rfl⟩ := addGroup_shape h2
      simp only [Except.ok.injEq] at h
      exact ⟨g, h.symm⟩
  · simp only [Except.ok.injEq] at h
    exact ⟨st.groups, h.symm⟩

theorem closeRepeat_shape {st b f st'} (h : closeRepeat st b f = .ok st') :
    ∃ g, st' = { st with groups := g, expected := f } := by
  unfold closeRepeat at h
  split at h
  · simp at h
  · split at h
    · simp at h
    · rename_i st2 h2
      obtain ⟨g, rfl⟩ := addGroup_shape h2
      simp only [Except.ok.injEq] at h
      exact ⟨g, h.symm⟩

theorem doRepeat_shape {st b f st'} (h : doRepeat st b f = .ok st') :
    ∃ secs g, st' = { st with sections := secs, groups := g, expected := f } := by
  unfold doRepeat at h
  split at h
  · simp at h
  · obtain ⟨secs, hs⟩ := addSection_shape st st.time
    simp only at h
    split at h
    · split at h
      · obtain ⟨g, rfl⟩ := closeRepeat_shape h
        exact ⟨secs, g, by rw [hs]⟩
      · obtain ⟨g, rfl⟩ := playPreviousOnce_shape h
        exact ⟨secs, g, by rw [hs]⟩
    · obtain ⟨g, rfl⟩ := playPreviousOnce_shape h
      exact ⟨secs, g, by rw [hs]⟩

theorem stepBar_shape {st c1 len c2 st'} (h : stepBar st c1 len c2 = .ok st') :
    ∃ secs g e, st' = { st with barAcc := [], sections := secs, groups := g, expected := e } := by
  unfold stepBar at h
  simp only at h
  split at h
  · split at h
    · obtain ⟨secs, hs⟩ := addSection_shape { st with barAcc := [] } st.time
      simp only at hs
      split at h
      · obtain ⟨g, rfl⟩ := addGroup_shape h
        exact ⟨secs, g, st.expected, by rw [hs]⟩
      · simp only [Except.ok.injEq] at h
        exact ⟨secs, st.groups, st.expected, by rw [← h, hs]⟩
    · simp only [Except.ok.injEq] at h
      exact ⟨st.sections, st.groups, st.expected, h.symm⟩
  · obtain ⟨secs, g, rfl⟩ := doRepeat_shape h
    exact ⟨secs, g, _, rfl⟩

theorem stepColons_shape {st n st'} (h : stepColons st n = .ok st') :
    ∃ secs g e, st' = { st with barAcc := [], sections := secs, groups := g, expected := e } := by
  unfold stepColons at h
  split at h
  · simp at h
  · obtain ⟨secs, g, rfl⟩ := doRepeat_shape h
    exact ⟨secs, g, _, rfl⟩

theorem applyBroken_pitches {R notes gt n notes'} (h : applyBroken R notes gt n = .ok notes') :
    notes'.map (·.pitch) = notes.map (·.pitch) ∧ notes'.length = notes.length := by
  unfold applyBroken at h
  split at h
  · rename_i n2 n1 rest hr
    have hn : notes = rest.reverse ++ [n1, n2] := by
      have := congrArg List.reverse hr
      simpa using this
    simp only at h
    split at h
    · simp at h
    · split at h <;> (simp only [Except.ok.injEq] at h; subst h; subst hn; simp)
  · simp at h

theorem setUnitFromHeader_shape {R st st'} (h : setUnitFromHeader R st = .ok st') :
    ∃ u, st' = { st with unit := some u } := by
  unfold setUnitFromHeader at h
  split at h
  · rename_i hs
    simp only [Except.ok.injEq] at h
    cases hu : st.unit with
    | none => simp [unitSet, hu] at hs
    | some x => exact ⟨x, by rw [← h, ← hu]⟩
  · split at h
    · simp only [Except.ok.injEq] at h; exact ⟨_, h.symm⟩
    · split at h
      · simp at h
      · split at h <;> (simp only [Except.ok.injEq] at h; exact ⟨_, h.symm⟩)
    · simp at h

theorem finishHeader_shape {R st st'} (h : finishHeader R st = .ok st') :
    ∃ u t, st' = { st with unit := u, tempos := t } := by
  unfold finishHeader at h
  split at h
  · simp at h
  · rename_i st1 h1
    obtain ⟨u, rfl⟩ := setUnitFromHeader_shape h1
    simp only at h
    split at h
    · split at h
      · obtain ⟨t, rfl⟩ := addTempo_shape h
        exact ⟨_, t, rfl⟩
      · simp only [Except.ok.injEq] at h; exact ⟨_, st.tempos, h.symm⟩
    · simp only [Except.ok.injEq] at h; exact ⟨_, st.tempos, h.symm⟩

theorem barAccOf_cons (L : Char) (c : Option Int) (i : Item) (r : List Item) :
    barAccOf L c (i :: r) = barStep L (barAccOf L c r) i := by
  cases i with
  | tok t => cases t <;> simp [barAccOf, barStep]
  | field f => simp [barAccOf, barStep]
  | start => simp [barAccOf, barStep]

theorem barAccOf_snoc (L : Char) (c : Option Int) (l : List Item) (i : Item) :
    barAccOf L c (l ++ [i]) = barAccOf L (barStep L c i) l := by
  induction l with
  | nil => simp [barAccOf_cons, barAccOf]
  | cons x r ih => simp [barAccOf_cons, ih]

theorem keyAccOf_snoc (c : Accs) (l : List Item) (i : Item) :
    keyAccOf c (l ++ [i]) = keyAccOf (keyStep c i) l := by
  induction l with
  | nil => simp [keyAccOf]
  | cons x r ih => simp [keyAccOf, ih]

theorem stepItem_step {R st i st'} (h : stepItem R st i = .ok st') : Step R st i st' := by
  cases i with
  | field f => exact .field h
  | start =>
    simp only [stepItem, startMusic] at h
    cases hh : st.inHeader with
    | true =>
      simp only [hh, ↓reduceIte] at h
      split at h
      · cases h
      · rename_i st1 h1
        obtain ⟨u, t, rfl⟩ := finishHeader_shape h1
        obtain rfl := Except.ok.inj h
        exact .start u t (fun hf => by simp [hh] at hf) (fun _ => h1)
    | false =>
      simp only [hh, Bool.false_eq_true, ↓reduceIte, Except.ok.injEq] at h
      have := Step.start (R := R) (st := st) st.unit st.tempos (fun _ => ⟨rfl, rfl⟩) (fun ht => by simp [hh] at ht)
      rwa [← h]
  | tok t =>
    cases t <;> simp only [stepItem, stepTok] at h
    case note a l o n =>
      unfold stepNote at h
      split at h
      · cases h
      rename_i base hbase
      split at h
      · cases h
      rename_i delta barAcc' hacc
      simp only at h
      split at h
      · cases h
      rename_i hrange
      split at h
      · cases h
      rename_i u hu
      split at h
      · cases h
      rename_i ln hln
      split at h
      · cases h
      rename_i dt hdt
      have hr : Gen.MIN_MIDI_PITCH ≤ base + delta + octaveShift o ∧ base + delta + octaveShift o ≤ Gen.MAX_MIDI_PITCH := by
        constructor <;> omega
      split at h
      · rename_i hb
        obtain rfl := Except.ok.inj h
        have := Step.note (R := R) (o := o) (len := n) hbase hacc hr.1 hr.2 hu hln hdt (by rw [hb])
        rw [hb]
        exact this
      · rename_i gt k hb
        split at h
        · cases h
        rename_i notes' hn
        obtain rfl := Except.ok.inj h
        exact .note hbase hacc hr.1 hr.2 hu hln hdt (by rw [hb]; exact hn)
    case inline f => exact .inline h
    case bar a b c => obtain ⟨secs, g, e, rfl⟩ := stepBar_shape h; exact .bar h
    case colons n => obtain ⟨secs, g, e, rfl⟩ := stepColons_shape h; exact .colons h
    case broken gt n =>
      split at h
      · cases h
      · rename_i hb
        obtain rfl := Except.ok.inj h
        exact .broken gt n (by simpa using hb)
    case annot s => obtain rfl := Except.ok.inj h; exact .annot s
    case deco => obtain rfl := Except.ok.inj h; exact .deco
    case slur => obtain rfl := Except.ok.inj h; exact .slur
    case tie => obtain rfl := Except.ok.inj h; exact .tie
    case cont => obtain rfl := Except.ok.inj h; exact .cont
    all_goals cases h

theorem runItems_run {R st items st'} (h : runItems R st items = .ok st') : Run R st items st' := by
  induction items generalizing st with
  | nil => obtain rfl := Except.ok.inj h; exact .nil _
  | cons i r ih =>
    simp only [runItems] at h
    split at h
    · cases h
    · rename_i st1 h1; exact .cons (stepItem_step h1) (ih h)

theorem Run.split {R st pre i post st'} (h : Run R st (pre ++ i :: post) st') :
    ∃ st1 st2, Run R st pre st1 ∧ Step R st1 i st2 ∧ Run R st2 post st' := by
  induction pre generalizing st with
  | nil => obtain _ | ⟨hs, ht⟩ := h; exact ⟨_, _, .nil _, hs, ht⟩
  | cons j r ih =>
    obtain _ | ⟨hs, ht⟩ := h
    obtain ⟨st1, st2, a, b, c⟩ := ih ht
    exact ⟨st1, st2, .cons hs a, b, c⟩

theorem noteAccidental_eq_ok {st : St} {a : Acc} {n : Char} {v : Int} {b : Accs} :
    noteAccidental st a n = .ok (v, b) ↔
      effectiveAcc a (lookup n st.barAcc) (lookup n st.keyAcc) = some v ∧ a ≠ .dsharp ∧ a ≠ .dflat ∧
      b = match accInt a with
        | some w => upsert n w st.barAcc
        | none => st.barAcc := by
  cases a <;> simp only [noteAccidental, accValue, effectiveAcc, accInt]
  · cases lookup n st.barAcc <;> cases lookup n st.keyAcc <;> simp [eq_comm]
  all_goals simp [eq_comm]

/-- one step against the backward scans: the bar accidentals, the accidentals of the key, and the
pitches (a step that is not a note keeps them; a note token appends the pitch the rules give) -/
theorem Step.pitches {R st i st'} (h : Step R st i st') :
    (∀ L, lookup L st'.barAcc = barStep L (lookup L st.barAcc) i) ∧ st'.keyAcc = keyStep st.keyAcc i ∧
    ((∃ a l o n base v, i = .tok (.note a l o n) ∧ lookup l Gen.ABC_NOTE_TO_MIDI = some base ∧
        effectiveAcc a (lookup (upperC l) st.barAcc) (lookup (upperC l) st.keyAcc) = some v ∧
        Gen.MIN_MIDI_PITCH ≤ base + v + octaveShift o ∧ base + v + octaveShift o ≤ Gen.MAX_MIDI_PITCH ∧
        st'.notes.map (·.pitch) = st.notes.map (·.pitch) ++ [base + v + octaveShift o]) ∨
     (isNote i = false ∧ st'.notes.map (·.pitch) = st.notes.map (·.pitch))) := by
  cases h with
  | field hf | inline hf =>
    obtain ⟨hn, hb, _, _, _, _, _, _, _, hk⟩ := parseField_frame hf
    exact ⟨fun L => by simp [barStep, hb], by simpa only [keyStep_inline] using hk, .inr ⟨rfl, by rw [hn]⟩⟩
  | note hbase hacc hlo hhi _ _ _ hn =>
    obtain ⟨heff, _, _, rfl⟩ := noteAccidental_eq_ok.mp hacc
    refine ⟨fun L => ?_, by simp [keyStep], .inl ⟨_, _, _, _, _, _, rfl, hbase, heff, hlo, hhi, ?_⟩⟩
    · simp only [barStep]
      cases accInt _ <;> simp [lookup_upsert]
    · simp only
      split at hn
      · subst hn; simp [newNote]
      · rw [(applyBroken_pitches hn).1]; simp [newNote]
  | start | bar | colons | broken | annot | deco | slur | tie | cont =>
    exact ⟨fun L => by simp [barStep, lookup], by simp [keyStep], .inr ⟨rfl, rfl⟩⟩

/-- invariant of a successful run: the two accidental tables are what the backward scans say, and
the pitches only grow, one per note token -/
theorem Run.pitches {R st items st'} (h : Run R st items st') :
    (∀ L, lookup L st'.barAcc = barAccOf L (lookup L st.barAcc) items.reverse) ∧
    st'.keyAcc = keyAccOf st.keyAcc items.reverse ∧
    (∃ suffix, st'.notes.map (·.pitch) = st.notes.map (·.pitch) ++ suffix ∧ suffix.length = noteCount items) := by
  induction h with
  | nil => simp [barAccOf, keyAccOf, noteCount]
  | @cons st i st1 r st' h1 _ ih =>
    obtain ⟨ihb, ihk, suffix, ihs, ihl⟩ := ih
    obtain ⟨hbar, hkey, hpitch⟩ := h1.pitches
    refine ⟨fun L => ?_, ?_, ?_⟩
    · rw [ihb L, List.reverse_cons, barAccOf_snoc, hbar L]
    · rw [ihk, List.reverse_cons, keyAccOf_snoc, hkey]
    · rcases hpitch with ⟨a, l, o, n, base, v, rfl, _, _, _, _, hp⟩ | ⟨hn, hp⟩
      · refine ⟨(base + v + octaveShift o) :: suffix, ?_, ?_⟩
        · rw [ihs, hp]; simp
        · have : noteCount (Item.tok (Tok.note a l o n) :: r) = noteCount r + 1 := by
            simp [noteCount, List.filter_cons, isNote]
          rw [this]; simp [ihl]
      · refine ⟨suffix, by rw [ihs, hp], ?_⟩
        have : noteCount (i :: r) = noteCount r := by
          simp [noteCount, hn]
        rw [this]; exact ihl

theorem runItems_error_of_step {R st pre i post st1 e} (hpre : runItems R st pre = .ok st1)
    (hstep : stepItem R st1 i = .error e) : runItems R st (pre ++ i :: post) = .error e := by
  rw [runItems_append, hpre]
  simp [runItems, hstep]

theorem finalizeSections_notes {st st'} (h : finalizeSections st = .ok st') : st'.notes = st.notes := by
  unfold finalizeSections at h
  simp only at h
  split at h
  · simp at h
  rename_i st1 h1
  have e1 : st1.notes = st.notes := by
    split at h1
    · simp only [Except.ok.injEq] at h1; rw [← h1]
    · split at h1
      · simp at h1
      · split at h1 <;> (simp only [Except.ok.injEq] at h1; rw [← h1])
  split at h
  · split at h <;> (simp only [Except.ok.injEq] at h; rw [← h]; exact e1)
  · simp only [Except.ok.injEq] at h; rw [← h]; exact e1

theorem parseField_header {R st f st'} (hh : st.inHeader = true) (ht : st.time = 0)
    (h : parseField R st f = .ok st') :
    st'.tempos = st.tempos ∧ st'.timeSigs = st.timeSigs ++ (meterOf f).toList ∧
    st'.keySigs = st.keySigs ++ (keySigOf f).toList ∧ st'.unit = unitStep st.unit f ∧
    st'.refnum = refStep st.refnum f ∧ pendingTempo st' = tempoStep (pendingTempo st) f := by
  cases f with
  | tempo beats rate =>
    simp only [parseField] at h
    split at h
    · simp at h
    rename_i u hu
    simp only [setTempo, hh, ↓reduceIte, Except.ok.injEq] at h; subst h
    simp [meterOf, keySigOf, unitStep, refStep, tempoStep, pendingTempo, hu]
  | tempoOld rate =>
    simp only [parseField, setTempo, hh, ↓reduceIte, Except.ok.injEq] at h; subst h
    simp [meterOf, keySigOf, unitStep, refStep, tempoStep, pendingTempo]
  | key k =>
    simp only [parseField] at h
    split at h
    · simp at h
    rename_i a pk pm hk
    simp only [Except.ok.injEq] at h; subst h
    simp [meterOf, keySigOf, unitStep, refStep, tempoStep, pendingTempo, hk, ht]
  | title s =>
    simp only [parseField] at h
    split at h <;>
      (simp only [Except.ok.injEq] at h; subst h
       simp [meterOf, keySigOf, unitStep, refStep, tempoStep, pendingTempo])
  | unitLen n d =>
    simp only [parseField] at h
    split at h
    · simp at h
    · simp only [Except.ok.injEq] at h; subst h
      simp [meterOf, keySigOf, unitStep, refStep, tempoStep, pendingTempo]
  | refnum _ | composer _ | meterC | meterCut | meterNone | meter _ _ | tempoStr | other =>
    simp only [parseField, Except.ok.injEq] at h; subst h
    simp [meterOf, keySigOf, unitStep, refStep, tempoStep, pendingTempo, ht]
  | refBad | meterBad | unitBad | tempoBad | keyBad | part | voice =>
    simp [parseField] at h

theorem Run.header {R st fs st'} (hh : st.inHeader = true) (ht : st.time = 0)
    (h : Run R st (fs.map .field) st') :
    st'.inHeader = true ∧ st'.time = 0 ∧ st'.notes = st.notes ∧ st'.tempos = st.tempos ∧
    st'.sections = st.sections ∧ st'.groups = st.groups ∧ st'.expected = st.expected ∧
    st'.timeSigs = st.timeSigs ++ hdrMeters fs ∧ st'.keySigs = st.keySigs ++ hdrKeys fs ∧
    st'.unit = hdrUnit st.unit fs ∧ st'.refnum = hdrRef st.refnum fs ∧
    pendingTempo st' = hdrTempo (pendingTempo st) fs := by
  induction fs generalizing st with
  | nil =>
    cases h
    simp [hh, ht, hdrMeters, hdrKeys, hdrUnit, hdrRef, hdrTempo]
  | cons f r ih =>
    obtain _ | @⟨_, _, st1, _, _, ⟨h1⟩, h⟩ := h
    obtain ⟨hn, _, _, htm, hsec, hgr, hex, hih, _⟩ := parseField_frame h1
    obtain ⟨j1, j2, j3, j4, j5, j6⟩ := parseField_header hh ht h1
    have hh1 : st1.inHeader = true := by rw [hih, hh]
    have ht1 : st1.time = 0 := by rw [htm, ht]
    obtain ⟨i1, i2, i3, i4, i5, i6, i7, i8, i9, i10, i11, i12⟩ := ih hh1 ht1 h
    refine ⟨i1, i2, by rw [i3, hn], by rw [i4, j1], by rw [i5, hsec], by rw [i6, hgr], by rw [i7, hex],
      ?_, ?_, ?_, ?_, ?_⟩
    · rw [i8, j2]; cases hm : meterOf f <;> simp [hdrMeters, hm]
    · rw [i9, j3]; cases hm : keySigOf f <;> simp [hdrKeys, hm]
    · rw [i10, j4]; simp [hdrUnit]
    · rw [i11, j5]; simp [hdrRef]
    · rw [i12, j6]; simp [hdrTempo]

theorem bookLoop_excs (R : Rat → Rat) (hdr : List Line) (ts : List (List Line)) (T : List Tune) (E : List String) :
    bookLoop R hdr ts T E =
      match bookLoop R hdr ts T [] with
      | .ok (T', X) => .ok (T', E ++ X)
      | .error e => .error e := by
  induction ts generalizing T E with
  | nil => simp [bookLoop]
  | cons t r ih =>
    simp only [bookLoop]
    split
    · rename_i c hc
      rw [ih T (E ++ [c]), ih T ([] ++ [c])]
      cases bookLoop R hdr r T [] with
      | error e => rfl
      | ok p => obtain ⟨T', X⟩ := p; simp
    · rfl
    · rename_i tn htn
      split
      · rfl
      · exact ih _ E

theorem bookLoop_append (R : Rat → Rat) (hdr : List Line) (a b : List (List Line)) (T : List Tune) (E : List String) :
    bookLoop R hdr (a ++ b) T E =
      match bookLoop R hdr a T E with
      | .ok (T', E') => bookLoop R hdr b T' E'
      | .error e => .error e := by
  induction a generalizing T E with
  | nil => simp [bookLoop]
  | cons t r ih =>
    simp only [List.cons_append, bookLoop]
    split
    · exact ih _ _
    · rfl
    · split
      · rfl
      · exact ih _ _

theorem addSection_time (st : St) (t : Rat) : (addSection st t).1.time = st.time := by
  obtain ⟨secs, hs⟩ := addSection_shape st t
  rw [hs]

theorem addGroup_ne_repeat (st : St) (n : Nat) : addGroup st n ≠ .error eRepeat := by
  unfold addGroup
  split <;> simp [eRepeat]

theorem doRepeat_mismatch (st : St) (b f : Option Nat) (he : truthy st.expected = true) (hne : b ≠ st.expected) :
    doRepeat st b f = .error eRepeat := by
  unfold doRepeat
  rw [if_pos ⟨he, hne⟩]

theorem doRepeat_time_zero (st : St) (b : Nat) (f : Option Nat)
    (he : truthy st.expected = true → some b = st.expected) (hb : b ≠ 0) (h0 : st.time = 0) :
    doRepeat st (some b) f = .error eRepeat := by
  unfold doRepeat
  rw [if_neg (by intro ⟨h1, h2⟩; exact h2 (he h1))]
  simp only [hb, ne_eq, not_false_eq_true, ↓reduceIte, closeRepeat, addSection_time, h0]

theorem playPreviousOnce_ne_repeat (st : St) (i : Option Int) (f : Option Nat) :
    playPreviousOnce st i f ≠ .error eRepeat := by
  unfold playPreviousOnce
  have := addGroup_ne_repeat st 1
  split
  · cases h : addGroup st 1 <;> simp_all
  · simp

theorem doRepeat_no_repeat_error (st : St) (b f : Option Nat)
    (he : truthy st.expected = true → b = st.expected) (ht : ∀ x, b = some x → x ≠ 0 → st.time ≠ 0) :
    doRepeat st b f ≠ .error eRepeat := by
  unfold doRepeat
  rw [if_neg (by intro ⟨h1, h2⟩; exact h2 (he h1))]
  simp only
  split
  · rename_i x
    split
    · rename_i hx
      unfold closeRepeat
      rw [if_neg (by rw [addSection_time]; exact ht x rfl hx)]
      have := addGroup_ne_repeat (addSection st st.time).1 x
      cases h : addGroup (addSection st st.time).1 x <;> simp_all
    · exact playPreviousOnce_ne_repeat _ _ _
  · exact playPreviousOnce_ne_repeat _ _ _

end NSV.C04

import NoteSeqVerif.Model.C03
import NoteSeqVerif.Proofs.Basics
/-! `maxEnd` (the `max([n.end_time …] or [0])` of the drop cut-off) is the end of the note
that ends last. -/
namespace NSV.C03

theorem maxEnd_ge (l : List Note) (n : Note) (h : n ∈ l) : n.end_ ≤ maxEnd l := by
  cases l with
  | nil => cases h
  | cons x t =>
    obtain ⟨h1, h2, -⟩ := foldl_max_spec Note.end_ t x.end_
    rcases List.mem_cons.mp h with rfl | h
    · exact h1
    · exact h2 n h

theorem maxEnd_mem (l : List Note) (hl : l ≠ []) : ∃ n ∈ l, maxEnd l = n.end_ := by
  cases l with
  | nil => exact absurd rfl hl
  | cons x t =>
    rcases (foldl_max_spec Note.end_ t x.end_).2.2 with h | ⟨n, hn, h⟩
    · exact ⟨x, by simp, h⟩
    · exact ⟨n, by simp [hn], h⟩

end NSV.C03

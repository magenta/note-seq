import NoteSeqVerif.Proofs.C12
import NoteSeqVerif.Proofs.C07
/-! C12 — the event extractors (C07 models) on two storage orders.  Each extractor sorts its notes / chords by a tuple
key and then reads them only through a few fields (`melKey`, `perfKey`, `evKey`).  Under the extractor's tie predicate
(`ChordTiesAgree`, `MelTiesAgree`, `PerfTiesAgree`: elements the sort key does not separate agree on those fields) the
two sorted lists have the same image under the fields (`TotalPre.map_mergeSort_perm`), and a loop that reads its
elements only through them returns the same (`map_eq_map_induction`). -/
namespace NSV.C12
open NSV.C07

theorem map_mergeSort_perm {α β} {le : α → α → Bool} {f : α → β}
    (h : TotalPre le) {l l' : List α} (hperm : l.Perm l')
    (hanti : ∀ a ∈ l, ∀ b ∈ l, le a b = true → le b a = true → f a = f b) :
    (l.mergeSort le).map f = (l'.mergeSort le).map f :=
  h.map_mergeSort_perm hperm hanti

/-- a Python `frozenset` does not depend on the order (or multiplicity) of what it is built from -/
theorem canonSet_ext {l l' : List Int} (hm : ∀ x, x ∈ l ↔ x ∈ l') : canonSet l = canonSet l' :=
  sorted_ext (canonSet_sorted l) (canonSet_sorted l') (by intro x; rw [mem_canonSet, mem_canonSet]; exact hm x)

theorem canonSet_perm {l l' : List Int} (h : l.Perm l') : canonSet l = canonSet l' :=
  canonSet_ext (fun _ => h.mem_iff)

/-- induction over two lists with the same image under `key`: what a loop that reads its elements only
through `key` needs -/
theorem map_eq_map_induction {α κ : Type} {key : α → κ} {C : List α → List α → Prop} (nil : C [] [])
    (cons : ∀ a b as bs, key a = key b → C as bs → C (a :: as) (b :: bs)) :
    ∀ l l', l.map key = l'.map key → C l l'
  | [], [], _ => nil
  | a :: as, b :: bs, h => by
    simp only [List.map_cons, List.cons.injEq] at h
    exact cons a b as bs h.1 (map_eq_map_induction nil cons as bs h.2)
  | [], _ :: _, h => by simp at h
  | _ :: _, [], h => by simp at h

/-- all stored time signatures have the same numerator and denominator (what `quantize_note_sequence` enforces:
it raises `MultipleTimeSignatureError` otherwise).  `steps_per_bar_in_quantized_sequence` reads
`time_signatures[0]`, so without this the bar length depends on which signature is stored first. -/
def BarAgree (s : NoteSeq) : Prop :=
  ∀ a ∈ s.timeSigs, ∀ b ∈ s.timeSigs, a.num = b.num ∧ a.den = b.den

instance (s : NoteSeq) : Decidable (BarAgree s) := by unfold BarAgree; infer_instance

theorem BarAgree.perm {s s' : NoteSeq} (h : NSPerm s s') (hb : BarAgree s) : BarAgree s' :=
  fun a ha b hb' => hb a (h.timeSigs.mem_iff.mpr ha) b (h.timeSigs.mem_iff.mpr hb')

theorem stepsPerBarR_perm (R : Rat → Rat) {s s' : NoteSeq} (h : NSPerm s s') (hb : BarAgree s) :
    stepsPerBarR R s = stepsPerBarR R s' := by
  have hf : stepsPerBarFloatR R s = stepsPerBarFloatR R s' := by
    unfold stepsPerBarFloatR
    rw [← h.spq]
    have hp := h.timeSigs
    cases hl : s.timeSigs with
    | nil => rw [hl] at hp; rw [hp.symm.eq_nil]
    | cons a as =>
      cases hl' : s'.timeSigs with
      | nil => rw [hl, hl'] at hp; exact absurd hp.eq_nil (by simp)
      | cons b bs =>
        have ha : a ∈ s.timeSigs := by rw [hl]; simp
        have hb' : b ∈ s.timeSigs := h.timeSigs.mem_iff.mpr (by rw [hl']; simp)
        obtain ⟨e1, e2⟩ := hb a ha b hb'
        simp only [e1, e2]
  unfold stepsPerBarR
  rw [hf]

theorem stepsPerBar_perm {s s' : NoteSeq} (h : NSPerm s s') (hb : BarAgree s) :
    stepsPerBar s = stepsPerBar s' := stepsPerBarR_perm rne53 h hb

theorem programAndIsDrum_perm {s s' : NoteSeq} (h : NSPerm s s') (inst : Option Int) :
    programAndIsDrum s inst = programAndIsDrum s' inst := by
  unfold programAndIsDrum
  have hp : (s.notes.filter (instOk inst)).Perm (s'.notes.filter (instOk inst)) := h.notes.filter _
  simp only [hp.all_eq, canonSet_perm (hp.map (·.program))]

/-- painting in start order: the roll is a function of the *set* of notes -/
theorem rollFrames_perm (c : RollCfg) {l l' : List Note} (hp : l.Perm l')
    (h1 : l.Pairwise (fun a b => a.qs ≤ b.qs)) (h2 : l'.Pairwise (fun a b => a.qs ≤ b.qs)) :
    rollFrames c (l.foldl (paint c) (fun _ _ => false)) = rollFrames c (l'.foldl (paint c) (fun _ _ => false)) := by
  unfold rollFrames
  apply List.map_congr_left
  intro f _
  congr 1
  apply List.filter_congr
  intro p _
  rw [paint_foldl c _ _ l h1, paint_foldl c _ _ l' h2, hp.any_eq, hp.any_eq]

theorem pitchesAt_perm {sel sel' : List Note} (hp : sel.Perm sel') (t : Int) :
    pitchesAt sel t = pitchesAt sel' t :=
  canonSet_perm ((hp.filter _).map _)

theorem drumLoop_perm {sel sel' : List Note} (hp : sel.Perm sel') (trackStart gap : Int) :
    ∀ (steps : List Int) (ev : List (List Int)) (gsi : Int),
      drumLoop sel trackStart gap steps ev gsi = drumLoop sel' trackStart gap steps ev gsi := by
  intro steps
  induction steps with
  | nil => intro ev gsi; rfl
  | cons t ts ih =>
    intro ev gsi
    simp only [drumLoop, pitchesAt_perm hp, ih]

/-- chord symbols stored with one (step, time) *before* `startStep` carry the same text.  (`from_quantized_sequence`
sorts by `(quantized_step, time)` and keeps the last one in sorted — for ties in both: storage — order as the chord in
force at `start_step`; chords on one step with different times are ordered by time whatever the storage order; two
different symbols on one step inside `[start_step, end_step)` raise `CoincidentChordsError` in either order, so no
condition is needed there.) -/
def ChordTiesAgree (s : NoteSeq) (startStep : Int) : Prop :=
  ∀ a ∈ s.texts, ∀ b ∈ s.texts, a.kind = Gen.CHORD_SYMBOL → b.kind = Gen.CHORD_SYMBOL →
    a.qstep = b.qstep → a.time = b.time → a.qstep < startStep → a.text = b.text

instance (s : NoteSeq) (startStep : Int) : Decidable (ChordTiesAgree s startStep) := by
  unfold ChordTiesAgree; infer_instance

theorem ChordTiesAgree.perm {s s' : NoteSeq} (h : NSPerm s s') {startStep : Int}
    (ht : ChordTiesAgree s startStep) : ChordTiesAgree s' startStep :=
  fun a ha b hb => ht a (h.texts.mem_iff.mpr ha) b (h.texts.mem_iff.mpr hb)

theorem chordsCoincident_perm {s s' : NoteSeq} (h : NSPerm s s') (start end_ : Int) :
    ChordsCoincident s start end_ ↔ ChordsCoincident s' start end_ := by
  unfold ChordsCoincident
  simp only [h.texts.mem_iff]

theorem chordAt_eq (d : String) (cs : List TextAnn) (t : Int) :
    chordAt d cs t = (((cs.filter (fun c => decide (c.qstep ≤ t))).getLast?).map (·.text)).getD d := by
  unfold chordAt
  cases (cs.filter (fun c => decide (c.qstep ≤ t))).getLast? <;> rfl

theorem chordAt_perm (d : String) {s s' : NoteSeq} (h : NSPerm s s') (t : Int)
    (hties : ∀ a ∈ s.texts, ∀ b ∈ s.texts, a.kind = Gen.CHORD_SYMBOL → b.kind = Gen.CHORD_SYMBOL →
      a.qstep = b.qstep → a.time = b.time → a.qstep ≤ t → a.text = b.text) :
    chordAt d (chordAnns s) t = chordAt d (chordAnns s') t := by
  have key : ((chordAnns s).filter (fun c => decide (c.qstep ≤ t))).map TextAnn.text =
      ((chordAnns s').filter (fun c => decide (c.qstep ≤ t))).map TextAnn.text := by
    refine map_eq_of_sorted_perm (le := ChordOrd) ((chordAnns_sorted s).filter _) ((chordAnns_sorted s').filter _)
      (List.Perm.filter _ (mergeSort_perm_of_perm _ (h.texts.filter _))) ?_
    · intro a ha b hb hab hba
      simp only [List.mem_filter, decide_eq_true_eq, mem_chordAnns] at ha hb
      obtain ⟨hq, h1, h2⟩ := lex_tie TextAnn.qstep (le := fun x y => decide (x.time ≤ y.time))
        ((chordLe_iff a b).mpr hab) ((chordLe_iff b a).mpr hba)
      exact hties a ha.1.1 b hb.1.1 ha.1.2 hb.1.2 hq (Rat.le_antisymm (of_decide_eq_true h1) (of_decide_eq_true h2)) ha.2
  rw [chordAt_eq, chordAt_eq, ← List.getLast?_map, ← List.getLast?_map, key]

/-- what `Melody.from_quantized_sequence` looks at in a note -/
def melKey (fd : Bool) (n : Note) : Int × Int × Int × Bool × Bool :=
  (n.qs, n.pitch, n.qe, fd && n.isDrum, decide (n.velocity = 0))

/-- selected notes that share start step, pitch and (unquantized) start time also share the end step.  (The sort key is
`(quantized_start_step, -pitch, start_time)`; with `ignore_polyphonic_notes` the first note of an onset in sorted — for
ties in all three: storage — order is kept and the others are dropped, so their end steps matter.  Notes of one pitch on
one step with different start times are ordered by start time whatever the storage order.) -/
def MelTiesAgree (s : NoteSeq) (searchStart inst : Int) (filterDrums : Bool) : Prop :=
  ∀ a ∈ s.notes, ∀ b ∈ s.notes, melSel searchStart inst filterDrums a = true →
    melSel searchStart inst filterDrums b = true → a.qs = b.qs → a.pitch = b.pitch → a.start = b.start → a.qe = b.qe

instance (s : NoteSeq) (ss inst : Int) (fd : Bool) : Decidable (MelTiesAgree s ss inst fd) := by
  unfold MelTiesAgree; infer_instance

theorem MelTiesAgree.perm {s s' : NoteSeq} (h : NSPerm s s') {ss inst : Int} {fd : Bool}
    (ht : MelTiesAgree s ss inst fd) : MelTiesAgree s' ss inst fd :=
  fun a ha b hb => ht a (h.notes.mem_iff.mpr ha) b (h.notes.mem_iff.mpr hb)

theorem melLoop_key (fd ip : Bool) (gap mstart : Int) (l l' : List Note) (ev : List Int)
    (h : l.map (melKey fd) = l'.map (melKey fd)) :
    melLoop fd ip gap mstart l ev = melLoop fd ip gap mstart l' ev := by
  revert ev
  refine map_eq_map_induction (C := fun l l' => ∀ ev, melLoop fd ip gap mstart l ev = melLoop fd ip gap mstart l' ev)
    (fun _ => rfl) (fun a b as bs hk ih ev => ?_) l l' h
  simp only [melKey, Prod.mk.injEq, decide_eq_decide] at hk
  obtain ⟨h1, h2, h3, h4, h5⟩ := hk
  rw [melLoop, melLoop]
  simp only [h1, h2, h3, h4, h5, ih]

theorem melSorted_key {s s' : NoteSeq} (h : NSPerm s s') {ss inst : Int} {fd : Bool}
    (ht : MelTiesAgree s ss inst fd) :
    ((s.notes.filter (melSel ss inst fd)).mergeSort melLe).map (melKey fd) =
      ((s'.notes.filter (melSel ss inst fd)).mergeSort melLe).map (melKey fd) := by
  refine map_mergeSort_perm melLe_pre (h.notes.filter _) ?_
  intro a ha b hb hab hba
  rw [List.mem_filter] at ha hb
  -- the key is `(quantized_start_step, -pitch, start_time)`
  obtain ⟨hq, h1, h2⟩ := lex_tie Note.qs (le := fun x y =>
    decide (y.pitch < x.pitch) || (y.pitch == x.pitch && decide (x.start ≤ y.start))) hab hba
  obtain ⟨hp, h3, h4⟩ := lex_tie Note.pitch (le := fun x y => decide (y.start ≤ x.start)) h2 h1
  have he := ht a ha.1 b hb.1 ha.2 hb.2 hq hp (Rat.le_antisymm (of_decide_eq_true h4) (of_decide_eq_true h3))
  have sa := ha.2
  have sb := hb.2
  simp only [melSel, Bool.and_eq_true, beq_iff_eq, decide_eq_true_eq, Bool.not_eq_true', bne_iff_ne, ne_eq] at sa sb
  simp only [melKey, hq, hp, he, sa.1.2, sb.1.2, sa.2, sb.2]

/-- what the performance extractors look at in a note (`binOf nb 0` = its velocity bin, `0` when bins are off) -/
def perfKey (nb : Int) (n : Note) : Rat × Int × Int × Int × Int :=
  (n.start, n.pitch, n.qs, n.qe, binOf nb 0 n)

/-- selected notes that share start time and pitch also share start step, end step and velocity bin.  (The
extractors sort by `(start_time, pitch)`; ties keep storage order.) -/
def PerfTiesAgree (s : NoteSeq) (startStep nb : Int) (inst : Option Int) : Prop :=
  ∀ a ∈ s.notes, ∀ b ∈ s.notes, (startStep ≤ a.qs ∧ instOk inst a = true) → (startStep ≤ b.qs ∧ instOk inst b = true) →
    a.start = b.start → a.pitch = b.pitch → a.qs = b.qs ∧ a.qe = b.qe ∧ binOf nb 0 a = binOf nb 0 b

instance (s : NoteSeq) (ss nb : Int) (inst : Option Int) : Decidable (PerfTiesAgree s ss nb inst) := by
  unfold PerfTiesAgree; infer_instance

theorem PerfTiesAgree.perm {s s' : NoteSeq} (h : NSPerm s s') {ss nb : Int} {inst : Option Int}
    (ht : PerfTiesAgree s ss nb inst) : PerfTiesAgree s' ss nb inst :=
  fun a ha b hb => ht a (h.notes.mem_iff.mpr ha) b (h.notes.mem_iff.mpr hb)

theorem sortedNotes_key {s s' : NoteSeq} (h : NSPerm s s') {ss nb : Int} {inst : Option Int}
    (ht : PerfTiesAgree s ss nb inst) :
    (sortedNotes s ss inst).map (perfKey nb) = (sortedNotes s' ss inst).map (perfKey nb) := by
  unfold sortedNotes selectNotes
  refine map_mergeSort_perm timePitchLe_pre (h.notes.filter _) ?_
  intro a ha b hb hab hba
  rw [List.mem_filter] at ha hb
  have sa := ha.2
  have sb := hb.2
  simp only [Bool.and_eq_true, decide_eq_true_eq] at sa sb
  obtain ⟨hs, h1, h2⟩ := lex_tie Note.start (le := fun x y => decide (x.pitch ≤ y.pitch)) hab hba
  have hp := Int.le_antisymm (of_decide_eq_true h1) (of_decide_eq_true h2)
  obtain ⟨e1, e2, e3⟩ := ht a ha.1 b hb.1 sa sb hs hp
  simp only [perfKey, hs, hp, e1, e2, e3]

/-- what the event loop looks at in a note event -/
def evKey (nb : Int) (e : NEv) : Int × Nat × Bool × Int × Int :=
  (e.step, e.idx, e.isOff, e.note.pitch, binOf nb 0 e.note)

def evKeyLe (a b : Int × Nat × Bool × Int × Int) : Bool :=
  decide (a.1 < b.1) || (a.1 == b.1 &&
    (decide (a.2.1 < b.2.1) || (a.2.1 == b.2.1 && (!a.2.2.1 || b.2.2.1))))

theorem nevLe_key (nb : Int) (a b : NEv) : nevLe a b = evKeyLe (evKey nb a) (evKey nb b) := rfl

theorem onsets_key (nb : Int) (l : List Note) :
    (onsets l).map (evKey nb) = ((l.map (perfKey nb)).zipIdx).map
      (fun p => (p.1.2.2.1, p.2, false, p.1.2.1, p.1.2.2.2.2)) := by
  rw [List.zipIdx_map, onsets, List.map_map, List.map_map]
  apply List.map_congr_left
  rintro ⟨n, i⟩ _
  rfl

theorem offsets_key (nb : Int) (l : List Note) :
    (offsets l).map (evKey nb) = ((l.map (perfKey nb)).zipIdx).map
      (fun p => (p.1.2.2.2.1, p.2, true, p.1.2.1, p.1.2.2.2.2)) := by
  rw [List.zipIdx_map, offsets, List.map_map, List.map_map]
  apply List.map_congr_left
  rintro ⟨n, i⟩ _
  rfl

theorem noteEvents_key (nb : Int) {l l' : List Note} (h : l.map (perfKey nb) = l'.map (perfKey nb)) :
    (noteEvents l).map (evKey nb) = (noteEvents l').map (evKey nb) := by
  unfold noteEvents
  rw [List.map_mergeSort (s := evKeyLe) (fun a _ b _ => nevLe_key nb a b),
      List.map_mergeSort (s := evKeyLe) (fun a _ b _ => nevLe_key nb a b),
      List.map_append, List.map_append, onsets_key, offsets_key, onsets_key, offsets_key, h]

theorem perfStep_key (nb ms : Int) (st : PState) {a b : NEv} (h : evKey nb a = evKey nb b) :
    perfStep nb ms st a = perfStep nb ms st b := by
  simp only [evKey, Prod.mk.injEq] at h
  obtain ⟨h1, _, h3, h4, h5⟩ := h
  have hv : ∀ st1, perfVelocity nb st1 a = perfVelocity nb st1 b := by
    intro st1
    unfold perfVelocity
    by_cases hn : nb = 0
    · simp only [hn, if_true]
    · simp only [binOf, hn, if_false] at h5
      simp only [hn, if_false, h5, h3]
  have hn : ∀ st2, perfNote st2 a = perfNote st2 b := by
    intro st2; unfold perfNote; simp only [h3, h4]
  unfold perfStep
  simp only [h1, hv, hn]

theorem perfLoop_key (nb ms : Int) (l l' : List NEv) (st : PState) (h : l.map (evKey nb) = l'.map (evKey nb)) :
    perfLoop nb ms st l = perfLoop nb ms st l' := by
  revert st
  refine map_eq_map_induction (C := fun l l' => ∀ st, perfLoop nb ms st l = perfLoop nb ms st l')
    (fun _ => rfl) (fun a b as bs hk ih st => ?_) l l' h
  rw [perfLoop, perfLoop, perfStep_key nb ms st hk]
  cases perfStep nb ms st b with
  | error x => rfl
  | ok st' => exact ih st'

theorem perfEvents_perm {s s' : NoteSeq} (h : NSPerm s s') {ss nb : Int} {inst : Option Int}
    (ht : PerfTiesAgree s ss nb inst) (ms : Int) :
    perfEvents s ss nb ms inst = perfEvents s' ss nb ms inst := by
  unfold perfEvents
  rw [perfLoop_key nb ms _ _ _ (noteEvents_key nb (sortedNotes_key h ht))]

theorem notePerfLoop_key (nb ms md : Int) (l l' : List Note) (cur : Int)
    (h : l.map (perfKey nb) = l'.map (perfKey nb)) :
    notePerfLoop nb ms md cur l = notePerfLoop nb ms md cur l' := by
  revert cur
  refine map_eq_map_induction (C := fun l l' => ∀ cur, notePerfLoop nb ms md cur l = notePerfLoop nb ms md cur l')
    (fun _ => rfl) (fun a b as bs hk ih cur => ?_) l l' h
  simp only [perfKey, Prod.mk.injEq] at hk
  obtain ⟨_, h2, h3, h4, h5⟩ := hk
  rw [notePerfLoop, notePerfLoop]
  by_cases hn : nb = 0
  · simp only [hn, if_true, h2, h3]
  · simp only [binOf, hn, if_false] at h5
    simp only [h2, h3, h4, h5, ih]

def revAll (s : NoteSeq) : NoteSeq :=
  { s with notes := s.notes.reverse, tempos := s.tempos.reverse, timeSigs := s.timeSigs.reverse,
           keySigs := s.keySigs.reverse, texts := s.texts.reverse, ccs := s.ccs.reverse,
           bends := s.bends.reverse, sectionAnns := s.sectionAnns.reverse }

theorem nsperm_revAll (s : NoteSeq) : NSPerm s (revAll s) := by
  constructor <;> first | rfl | exact (List.reverse_perm _).symm

end NSV.C12

import NoteSeqVerif.Proofs.C06PGrid
import Batteries.Data.List.Lemmas
/-! C06 (performance half) — NotePerformance: its renderer as a list of notes (`npSpec`) and its extractor loop as
the inverse, tuple by tuple. -/
namespace NSV.C06P
open NSV.C07

/-- the notes `NotePerformance.to_sequence` renders (`notePerfNotes` where it does not raise) -/
def npSpec (nb : Int) : Int → List NPTuple → List RNote
  | _, [] => []
  | step, t :: ts =>
    ⟨t.pitch, step + t.shift, step + t.shift + t.dur, C07.Gen.velocityBinToVelocity t.bin nb⟩ ::
      npSpec nb (step + t.shift) ts

theorem notePerfNotes_ok (nb : Int) (hnb : nb ≠ 0) :
    ∀ (ts : List NPTuple) (step : Int), notePerfNotes nb step ts = .ok (npSpec nb step ts) := by
  intro ts
  induction ts with
  | nil => intro step; rfl
  | cons t ts ih => intro step; simp only [notePerfNotes, hnb, ↓reduceIte, ih, npSpec]

/-- total number of steps a tuple list can reach: every note ends at or before `step + npSpan` -/
def npSpan : List NPTuple → Int
  | [] => 0
  | t :: ts => t.shift + t.dur + npSpan ts

theorem npSpan_nonneg (ms md : Int) : ∀ ts : List NPTuple, (∀ t ∈ ts, npTupleOk ms md t = true) → 0 ≤ npSpan ts := by
  intro ts
  induction ts with
  | nil => intro _; simp [npSpan]
  | cons t ts ih =>
    intro h
    have h1 := h t (List.mem_cons_self ..)
    have h2 := ih (fun x hx => h x (List.mem_cons_of_mem _ hx))
    simp only [npTupleOk, Bool.and_eq_true, decide_eq_true_eq] at h1
    simp only [npSpan]; omega

theorem npSpec_bounds (nb ms md : Int) : ∀ (ts : List NPTuple) (step : Int),
    (∀ t ∈ ts, npTupleOk ms md t = true) →
    ∀ r ∈ npSpec nb step ts, step ≤ r.s ∧ r.s < r.e ∧ r.e ≤ step + npSpan ts := by
  intro ts
  induction ts with
  | nil => intro step _ r hr; simp [npSpec] at hr
  | cons t ts ih =>
    intro step h r hr
    have h1 := h t (List.mem_cons_self ..)
    simp only [npTupleOk, Bool.and_eq_true, decide_eq_true_eq] at h1
    have hsp := npSpan_nonneg ms md ts (fun x hx => h x (List.mem_cons_of_mem _ hx))
    simp only [npSpec, List.mem_cons] at hr
    rcases hr with rfl | hr
    · simp only [npSpan]; omega
    · have := ih (step + t.shift) (fun x hx => h x (List.mem_cons_of_mem _ hx)) r hr
      simp only [npSpan]; omega

theorem npSpec_chain (nb ms md : Int) : ∀ (ts : List NPTuple) (step : Int),
    (∀ t ∈ ts, npTupleOk ms md t = true) → npOrdered ts = true →
    (npSpec nb step ts).IsChain (fun a b => rnLe a b = true) := by
  intro ts
  induction ts with
  | nil => intro step _ _; exact List.IsChain.nil
  | cons t ts ih =>
    intro step h hord
    cases ts with
    | nil => exact List.IsChain.singleton _
    | cons b ts' =>
      have hb := h b (List.mem_cons_of_mem _ (List.mem_cons_self ..))
      simp only [npTupleOk, Bool.and_eq_true, decide_eq_true_eq] at hb
      simp only [npOrdered, Bool.and_eq_true, Bool.or_eq_true, bne_iff_ne, ne_eq, decide_eq_true_eq] at hord
      refine List.isChain_cons_cons.mpr ⟨?_, ih (step + t.shift) (fun x hx => h x (List.mem_cons_of_mem _ hx)) hord.2⟩
      rw [rnLe_iff]
      simp only
      rcases hord.1 with h0 | hp
      · left; omega
      · by_cases h0 : b.shift = 0
        · right; exact ⟨by omega, hp⟩
        · left; omega

theorem npSpec_sorted (nb ms md : Int) (ts : List NPTuple) (step : Int)
    (h : ∀ t ∈ ts, npTupleOk ms md t = true) (hord : npOrdered ts = true) :
    (npSpec nb step ts).Pairwise (fun a b => rnLe a b = true) := by
  have : Trans (fun a b : RNote => rnLe a b = true) (fun a b => rnLe a b = true) (fun a b => rnLe a b = true) :=
    ⟨rnLe_pre.trans _ _ _⟩
  exact List.isChain_iff_pairwise.mp (npSpec_chain nb ms md ts step h hord)

/-- the tuple the extractor's loop builds for note `n` when it stands at step `cur` -/
def npTupleOf (nb cur : Int) (n : Note) : NPTuple :=
  ⟨n.qs - cur, n.pitch, C07.Gen.velocityToBin n.velocity nb, n.qe - n.qs⟩

/-- the checks of one round (shift in `0..max`, duration in `1..max`, pitch and bin through the event validator) are
`npTupleOk` of the tuple it builds -/
theorem notePerfLoop_cons_ok {nb ms md cur : Int} {n : Note} {ns : List Note} {r : List NPTuple} (hnb : 0 < nb)
    (hok : npTupleOk ms md (npTupleOf nb cur n) = true) (hr : notePerfLoop nb ms md n.qs ns = .ok r) :
    notePerfLoop nb ms md cur (n :: ns) = .ok (npTupleOf nb cur n :: r) := by
  simp only [npTupleOk, Bool.and_eq_true, decide_eq_true_eq] at hok
  simp only [npTupleOf] at hok
  obtain ⟨⟨⟨⟨⟨⟨⟨s0, s1⟩, p0⟩, p1⟩, b0⟩, b1⟩, d0⟩, d1⟩ := hok
  have v1 : (PEvent.timeShift (n.qs - cur)).valid = true := by simp [PEvent.valid]; omega
  have v2 : (PEvent.noteOn n.pitch).valid = true := by
    simp [PEvent.valid, C07.Gen.MIN_MIDI_PITCH, C07.Gen.MAX_MIDI_PITCH, p0, p1]
  have v3 : (PEvent.velocity (C07.Gen.velocityToBin n.velocity nb)).valid = true := by
    simp [PEvent.valid, C07.Gen.MAX_NUM_VELOCITY_BINS, b0, b1]
  have v4 : (PEvent.duration (n.qe - n.qs)).valid = true := by simp [PEvent.valid, d0]
  simp only [notePerfLoop, show ¬ n.qs - cur > ms by omega, v1, v2, v3, v4, show ¬ nb = 0 by omega,
    show ¬ nb < 0 by omega, show ¬ n.qe - n.qs > md by omega, ↓reduceIte, not_true_eq_false, hr, npTupleOf]

theorem notePerfLoop_cons_inv {nb ms md cur : Int} {n : Note} {ns : List Note} {evs : List NPTuple}
    (h : notePerfLoop nb ms md cur (n :: ns) = .ok evs) :
    npTupleOk ms md (npTupleOf nb cur n) = true ∧
      ∃ r, notePerfLoop nb ms md n.qs ns = .ok r ∧ evs = npTupleOf nb cur n :: r := by
  unfold notePerfLoop at h
  simp only at h
  -- one check after the other: a failed one makes the loop raise
  by_cases c1 : n.qs - cur > ms
  · rw [if_pos c1] at h; cases h
  rw [if_neg c1] at h
  by_cases c2 : (PEvent.timeShift (n.qs - cur)).valid = true
  rotate_left
  · rw [if_pos c2] at h; cases h
  rw [if_neg (not_not_intro c2)] at h
  by_cases c3 : (PEvent.noteOn n.pitch).valid = true
  rotate_left
  · rw [if_pos c3] at h; cases h
  rw [if_neg (not_not_intro c3)] at h
  by_cases c4 : nb = 0
  · rw [if_pos c4] at h; cases h
  rw [if_neg c4] at h
  by_cases c5 : nb < 0
  · rw [if_pos c5] at h; cases h
  rw [if_neg c5] at h
  by_cases c6 : (PEvent.velocity (C07.Gen.velocityToBin n.velocity nb)).valid = true
  rotate_left
  · rw [if_pos c6] at h; cases h
  rw [if_neg (not_not_intro c6)] at h
  by_cases c7 : n.qe - n.qs > md
  · rw [if_pos c7] at h; cases h
  rw [if_neg c7] at h
  by_cases c8 : (PEvent.duration (n.qe - n.qs)).valid = true
  rotate_left
  · rw [if_pos c8] at h; cases h
  rw [if_neg (not_not_intro c8)] at h
  cases hr : notePerfLoop nb ms md n.qs ns with
  | error x => rw [hr] at h; cases h
  | ok r =>
    rw [hr] at h
    refine ⟨?_, r, rfl, (Except.ok.inj h).symm⟩
    simp [PEvent.valid, C07.Gen.MIN_MIDI_PITCH, C07.Gen.MAX_MIDI_PITCH, C07.Gen.MAX_NUM_VELOCITY_BINS] at c2 c3 c6 c8
    simp only [npTupleOk, Bool.and_eq_true, decide_eq_true_eq]
    simp only [npTupleOf]
    exact ⟨⟨⟨⟨⟨⟨⟨by omega, by omega⟩, of_decide_eq_true c3.1⟩, of_decide_eq_true c3.2⟩, c6.1⟩, of_decide_eq_true c6.2⟩, c8⟩,
      by omega⟩

theorem notePerfLoop_roundtrip {R : Rat → Rat} (c : RenderCfg) (S nb ms md : Int) (hnb : 1 ≤ nb) :
    ∀ (ts : List NPTuple) (step : Int), (∀ t ∈ ts, npTupleOk ms md t = true) →
    notePerfLoop nb ms md (S + step) ((npSpec nb step ts).map (qnote R c S)) = .ok ts := by
  intro ts
  induction ts with
  | nil => intro step _; rfl
  | cons t ts ih =>
    intro step h
    have ihh := ih (step + t.shift) (fun x hx => h x (List.mem_cons_of_mem _ hx))
    -- the loop rebuilds `t` from the note rendered for `t`
    have ht : npTupleOf nb (S + step) (qnote R c S ⟨t.pitch, step + t.shift, step + t.shift + t.dur,
        C07.Gen.velocityBinToVelocity t.bin nb⟩) = t := by
      obtain ⟨sh, p, b, d⟩ := t
      simp only [npTupleOf, qnote, mkNote, velocityToBin_binToVelocity nb b hnb, NPTuple.mk.injEq, true_and]
      omega
    have := notePerfLoop_cons_ok (nb := nb) (ms := ms) (md := md) (cur := S + step) (by omega)
      (by rw [ht]; exact h t (List.mem_cons_self ..)) ihh
    rw [ht] at this
    exact this

/-- the tuples the extractor's loop returns when no check fails: one per note, its shift counted from the note before -/
def npTuples (nb : Int) : Int → List Note → List NPTuple
  | _, [] => []
  | cur, n :: ns => npTupleOf nb cur n :: npTuples nb n.qs ns

theorem notePerfLoop_ok {nb ms md : Int} : ∀ (l : List Note) (cur : Int) (evs : List NPTuple),
    notePerfLoop nb ms md cur l = .ok evs → evs = npTuples nb cur l ∧ ∀ t ∈ evs, npTupleOk ms md t = true := by
  intro l
  induction l with
  | nil =>
    intro cur evs h
    obtain rfl : [] = evs := Except.ok.inj h
    exact ⟨rfl, by simp⟩
  | cons n ns ih =>
    intro cur evs h
    obtain ⟨hok, r, hr, rfl⟩ := notePerfLoop_cons_inv h
    obtain ⟨rfl, i1⟩ := ih n.qs r hr
    exact ⟨rfl, List.forall_mem_cons.mpr ⟨hok, i1⟩⟩

/-- a tuple with shift 0 belongs to a note on the same step as its predecessor, so notes of one step in pitch order
give ordered tuples -/
theorem npTuples_ordered (nb : Int) : ∀ (l : List Note) (cur : Int),
    l.Pairwise (fun a b => a.qs = b.qs → a.pitch ≤ b.pitch) → npOrdered (npTuples nb cur l) = true
  | [], _, _ => rfl
  | [_], _, _ => rfl
  | n :: m :: ns, cur, hpw => by
    rw [List.pairwise_cons] at hpw
    simp only [npTuples, npOrdered, npTupleOf, Bool.and_eq_true, Bool.or_eq_true, bne_iff_ne, ne_eq, decide_eq_true_eq]
    refine ⟨?_, npTuples_ordered nb (m :: ns) n.qs hpw.2⟩
    by_cases h0 : m.qs - n.qs = 0
    · exact .inr (hpw.1 m (List.mem_cons_self ..) (by omega))
    · exact .inl h0

end NSV.C06P

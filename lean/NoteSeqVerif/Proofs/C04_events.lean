import NoteSeqVerif.Model.C04Full
import NoteSeqVerif.Proofs.C04_tiled
import NoteSeqVerif.Props.C13
import NoteSeqVerif.Props.C02
import Mathlib.Tactic.Linarith
import Mathlib.Tactic.Ring
import Mathlib.Tactic.Conv
/-! C04 — every container of `expand_section_groups` on a tune whose section annotations are those of a
block list (`parsed_sectioned`: those of a parsed ABC tune with positive durations and broken-rhythm pairs
inside a bar are): the section table, the lookup in playing order and the
concatenation, assembled from the closed forms of properties C02 (`extract_subsequence`) and C13
(`concatenate_sequences`).  Exact arithmetic (`R = id`). -/
namespace NSV.C04

def spanOf (bs : List Block) (T : Rat) (i : Int) : Rat × Rat :=
  match bs[i.toNat]? with
  | some (s, _) => (s, endOf (bs.drop (i.toNat + 1)) T)
  | none => (0, 0)

/-- one play of a section: its id, start, end, and the time it is played at -/
structure Copy where
  id : Int
  s : Rat
  e : Rat
  off : Rat

/-- the plays in order, each after the summed lengths of the ones before it -/
def copiesOf (bs : List Block) (T : Rat) : Rat → List Int → List Copy
  | _, [] => []
  | off, i :: r =>
    ⟨i, (spanOf bs T i).1, (spanOf bs T i).2, off⟩ :: copiesOf bs T (off + ((spanOf bs T i).2 - (spanOf bs T i).1)) r

/-- section `sid` cut out of the tune: `extract_subsequence` (C02's closed form) with the section groups
removed and the single annotation `(0, sid)` -/
def pieceOf (t : Tune) (sid : Int) (a b : Rat) : C13.MSeq :=
  { ns := { C02.specPiece id C02.Gen.PRESERVE (toNS t) (a, b) with sgroups := [], sectionAnns := [⟨0, sid⟩] } }

def spansFrom : List Block → Int → Rat → List (Int × Rat × Rat)
  | [], _, _ => []
  | (s, _) :: rest, i0, T => (i0, s, endOf rest T) :: spansFrom rest (i0 + 1) T

theorem sectionSpans_blocks (bs : List Block) (i0 : Int) (T : Rat) :
    C13.sectionSpans T ((blockSections bs i0).map (fun p => (⟨p.1, p.2⟩ : SectionAnn))) = spansFrom bs i0 T := by
  induction bs generalizing i0 with
  | nil => rfl
  | cons b rest ih =>
    obtain ⟨s, ns⟩ := b
    cases rest with
    | nil => rfl
    | cons b2 r =>
      obtain ⟨s2, ns2⟩ := b2
      have := ih (i0 + 1)
      simp only [blockSections, List.map_cons, C13.sectionSpans, spansFrom, endOf] at this ⊢
      rw [this]

theorem mem_spansFrom {bs : List Block} {i0 : Int} {T : Rat} {x : Int × Rat × Rat} (h : x ∈ spansFrom bs i0 T) :
    ∃ (k : Nat) (s : Rat) (ns : List Note), bs[k]? = some (s, ns) ∧ x = (i0 + k, s, endOf (bs.drop (k + 1)) T) := by
  induction bs generalizing i0 with
  | nil => simp [spansFrom] at h
  | cons b rest ih =>
    obtain ⟨s, ns⟩ := b
    simp only [spansFrom, List.mem_cons] at h
    rcases h with rfl | h
    · exact ⟨0, s, ns, rfl, by simp⟩
    · obtain ⟨k, s', ns', hk, rfl⟩ := ih h
      refine ⟨k + 1, s', ns', by simpa using hk, ?_⟩
      simp only [List.drop_succ_cons, Prod.mk.injEq, and_true]
      push_cast; ring

theorem spansFrom_mem {bs : List Block} {i0 : Int} {T : Rat} {k : Nat} {s : Rat} {ns : List Note}
    (hk : bs[k]? = some (s, ns)) : (i0 + k, s, endOf (bs.drop (k + 1)) T) ∈ spansFrom bs i0 T := by
  induction bs generalizing i0 k with
  | nil => simp at hk
  | cons b rest ih =>
    obtain ⟨s0, ns0⟩ := b
    cases k with
    | zero =>
      simp only [List.getElem?_cons_zero, Option.some.injEq, Prod.mk.injEq] at hk
      obtain ⟨rfl, rfl⟩ := hk
      simp [spansFrom]
    | succ k =>
      simp only [List.getElem?_cons_succ] at hk
      have := ih (i0 := i0 + 1) hk
      simp only [spansFrom, List.mem_cons, List.drop_succ_cons]
      right
      have e : i0 + ((k + 1 : Nat) : Int) = i0 + 1 + (k : Int) := by push_cast; ring
      rw [e]; exact this

theorem toNS_unquantized (t : Tune) : (toNS t).isQuantized = false := by
  simp [NoteSeq.isQuantized, toNS]

/-- the dict-building loop of `expand_section_groups`: every section is cut out with
`extract_subsequence`, which succeeds on spans that start before their end and before the total time -/
theorem buildSections_spans (t : Tune) (spans : List (Int × Rat × Rat)) (acc : List (Int × C13.MSeq × Rat))
    (h : ∀ sp ∈ spans, sp.2.1 ≤ sp.2.2 ∧ sp.2.1 < t.totalTime) :
    C13.buildSections id (C13.extractC02 id) { ns := toNS t } spans acc =
      .ok ((spans.map (fun sp => (sp.1, pieceOf t sp.1 sp.2.1 sp.2.2, sp.2.2 - sp.2.1))).reverse ++ acc) := by
  induction spans generalizing acc with
  | nil => simp [C13.buildSections]
  | cons sp rest ih =>
    obtain ⟨sid, a, b⟩ := sp
    obtain ⟨h1, h2⟩ := h (sid, a, b) (by simp)
    simp only at h1 h2
    unfold C13.buildSections
    have hex : C13.extractC02 id (toNS t) a b = .ok (C02.specPiece id C02.Gen.PRESERVE (toNS t) (a, b)) := by
      unfold C13.extractC02
      rw [C02.extract_subsequence_spec, toNS_unquantized]
      have : ¬ (a > b ∨ (toNS t).totalTime ≤ a) := by
        rintro (hc | hc)
        · exact absurd h1 (not_le.mpr hc)
        · exact absurd h2 (not_lt.mpr hc)
      simp [this]
    simp only [hex]
    rw [ih _ (fun sp hsp => h sp (by simp [hsp]))]
    simp [pieceOf]

theorem find?_of_unique {α : Type} (L : List (Int × α)) (x : Int × α) (hx : x ∈ L)
    (hu : ∀ y ∈ L, y.1 = x.1 → y = x) : L.find? (fun e => e.1 == x.1) = some x := by
  induction L with
  | nil => simp at hx
  | cons y r ih =>
    by_cases hy : y.1 = x.1
    · have := hu y (by simp) hy
      subst this
      simp
    · have hxr : x ∈ r := by
        rcases List.mem_cons.mp hx with h | h
        · subst h; exact absurd rfl hy
        · exact h
      rw [List.find?_cons_of_neg (by simpa using hy)]
      exact ih hxr (fun z hz => hu z (by simp [hz]))

theorem lookupSections_ok (tab : List (Int × C13.MSeq × Rat)) (ids : List Int) (f : Int → C13.MSeq × Rat)
    (h : ∀ i ∈ ids, tab.find? (fun e => e.1 == i) = some (i, f i)) : C13.lookupSections tab ids = .ok (ids.map f) := by
  induction ids with
  | nil => rfl
  | cons i r ih =>
    unfold C13.lookupSections
    rw [h i (by simp), ih (fun j hj => h j (by simp [hj]))]
    rfl

def entryOf (t : Tune) (bs : List Block) (T : Rat) (i : Int) : C13.MSeq × Rat :=
  (pieceOf t i (spanOf bs T i).1 (spanOf bs T i).2, (spanOf bs T i).2 - (spanOf bs T i).1)

theorem find_entry (t : Tune) (bs : List Block) (T : Rat) (i : Int) (h0 : 0 ≤ i) (h1 : i < bs.length) :
    ((spansFrom bs 0 T).map (fun sp => (sp.1, pieceOf t sp.1 sp.2.1 sp.2.2, sp.2.2 - sp.2.1))).reverse.find?
      (fun e => e.1 == i) = some (i, entryOf t bs T i) := by
  obtain ⟨s, ns, hb⟩ := block_at h0 h1
  have hi : (0 : Int) + (i.toNat : Int) = i := by omega
  have hmem := spansFrom_mem (i0 := 0) (T := T) hb
  rw [hi] at hmem
  have hsp : spanOf bs T i = (s, endOf (bs.drop (i.toNat + 1)) T) := by simp [spanOf, hb]
  have := find?_of_unique
    ((spansFrom bs 0 T).map (fun sp => (sp.1, pieceOf t sp.1 sp.2.1 sp.2.2, sp.2.2 - sp.2.1))).reverse
    (i, entryOf t bs T i) (by
      rw [List.mem_reverse, List.mem_map]
      exact ⟨_, hmem, by simp [entryOf, hsp]⟩) (by
      intro y hy hyi
      rw [List.mem_reverse, List.mem_map] at hy
      obtain ⟨sp, hsp', rfl⟩ := hy
      obtain ⟨k, s', ns', hk', rfl⟩ := mem_spansFrom hsp'
      simp only [zero_add] at hyi ⊢
      have hki : k = i.toNat := by omega
      subst hki
      rw [hb] at hk'
      simp only [Option.some.injEq, Prod.mk.injEq] at hk'
      obtain ⟨rfl, rfl⟩ := hk'
      simp [entryOf, hsp, hyi])
  exact this

theorem pieceTotal_le (s : NoteSeq) (a b : Rat) (hab : a ≤ b) :
    C02.pieceTotal (C02.specNotes id s a b) ≤ b - a := by
  obtain ⟨_, _, h3⟩ := C02.pieceTotal_spec (C02.specNotes id s a b)
  rcases h3 with h3 | ⟨n, hn, h3⟩
  · rw [h3]; linarith
  · rw [← h3]
    obtain ⟨m, _, _, rfl⟩ := C02.mem_specNotes.mp hn
    simp only [C02.clipR, id]
    have := min_le_right m.end_ b
    linarith

/-- the pieces as they are merged: section by section in playing order, each at its offset -/
theorem catPieces_copies (t : Tune) (bs : List Block) (T : Rat) (play : List Int) (off : Rat) :
    (((play.map (fun i => (entryOf t bs T i).1)).zip (play.map (fun i => (entryOf t bs T i).2))).zip
        (C13.prefixSums off (play.map (fun i => (entryOf t bs T i).2)))).map (fun po => C13.placed id po.2 po.1.1) =
      (copiesOf bs T off play).map (fun c => C13.placed id c.off (pieceOf t c.id c.s c.e)) := by
  induction play generalizing off with
  | nil => rfl
  | cons i r ih =>
    simp only [List.map_cons, C13.prefixSums, List.zip_cons_cons, copiesOf]
    rw [ih]
    rfl

theorem copiesOf_off_nonneg (bs : List Block) (T : Rat) (play : List Int) (off : Rat) (h0 : 0 ≤ off)
    (hd : ∀ i ∈ play, (spanOf bs T i).1 ≤ (spanOf bs T i).2) : ∀ c ∈ copiesOf bs T off play, 0 ≤ c.off := by
  induction play generalizing off with
  | nil => simp [copiesOf]
  | cons i r ih =>
    intro c hc
    simp only [copiesOf, List.mem_cons] at hc
    rcases hc with rfl | hc
    · exact h0
    · have := hd i (by simp)
      exact ih _ (by linarith) (fun j hj => hd j (by simp [hj])) c hc

/-- `concatenate_sequences` on the table entries in playing order: it succeeds, and what it merges -/
theorem concat_entries (t : Tune) (bs : List Block) (T : Rat) (play : List Int) (hne : play ≠ [])
    (hd : ∀ i ∈ play, (spanOf bs T i).1 ≤ (spanOf bs T i).2) :
    ∃ r, C13.concatR id (fun _ => "-") ((play.map (entryOf t bs T)).map (·.1)) ((play.map (entryOf t bs T)).map (·.2)) = .ok r ∧
      C13.catPieces id ((play.map (entryOf t bs T)).map (·.1)) ((play.map (entryOf t bs T)).map (·.2)) =
        (copiesOf bs T 0 play).map (fun c => C13.placed id c.off (pieceOf t c.id c.s c.e)) := by
  have hseqs : (play.map (entryOf t bs T)).map (·.1) = play.map (fun i => (entryOf t bs T i).1) := by
    simp [List.map_map, Function.comp_def]
  have hdurs : (play.map (entryOf t bs T)).map (·.2) = play.map (fun i => (entryOf t bs T i).2) := by
    simp [List.map_map, Function.comp_def]
  rw [hseqs, hdurs]
  have hdne : play.map (fun i => (entryOf t bs T i).2) ≠ [] := by simpa using hne
  have hlen : (play.map (fun i => (entryOf t bs T i).1)).length = (play.map (fun i => (entryOf t bs T i).2)).length := by simp
  have hemp : (!(play.map (fun i => (entryOf t bs T i).2)).isEmpty) = true := by
    cases hp : play.map (fun i => (entryOf t bs T i).2) with
    | nil => exact absurd hp hdne
    | cons a l => rfl
  have hpieces : C13.catPieces id (play.map (fun i => (entryOf t bs T i).1)) (play.map (fun i => (entryOf t bs T i).2)) =
      (copiesOf bs T 0 play).map (fun c => C13.placed id c.off (pieceOf t c.id c.s c.e)) := by
    unfold C13.catPieces C13.placedList
    rw [C13.concat_offsets_exact_durations _ _ hdne hlen]
    unfold C13.catPairs
    rw [hemp]
    simp only [↓reduceIte]
    exact catPieces_copies t bs T play 0
  refine ⟨_, C13.concat_ok_of id _ _ _ (fun _ => hlen) (fun p hp => ?_) (fun s hs => ?_), hpieces⟩
  · -- the explicit duration covers the piece
    rw [List.zip_map'] at hp
    obtain ⟨i, hi, rfl⟩ := List.mem_map.mp hp
    simp only [entryOf, pieceOf, C02.specPiece]
    have := pieceTotal_le (toNS t) _ _ (hd i hi)
    linarith
  · -- no piece is quantized
    obtain ⟨i, _, rfl⟩ := List.mem_map.mp hs
    simp [entryOf, pieceOf, C02.specPiece, C02.emptied, NoteSeq.isQuantized, toNS]


theorem span_valid {bs : List Block} {T : Rat} (hwf : BlocksWF bs T) (k : Nat) (s : Rat) (ns : List Note)
    (hb : bs[k]? = some (s, ns)) : s < endOf (bs.drop (k + 1)) T ∧ endOf (bs.drop (k + 1)) T ≤ T := by
  have hsuf := BlocksWF_at hwf hb
  exact ⟨hsuf.1, endOf_le_T hsuf.2.2⟩

theorem spanOf_valid {bs : List Block} {T : Rat} (hwf : BlocksWF bs T) (i : Int) (h0 : 0 ≤ i) (h1 : i < bs.length) :
    (spanOf bs T i).1 < (spanOf bs T i).2 ∧ (spanOf bs T i).2 ≤ T := by
  obtain ⟨s, ns, hb⟩ := block_at h0 h1
  simp only [spanOf, hb]
  exact span_valid hwf _ s ns hb


/-! ## the two models of the expansion give the same notes -/

/-- C02's closed form of the notes of a section, on notes that are partitioned by the sections -/
theorem specNotes_block (t : Tune) (pre ns post : List Note) (s e : Rat) (hnotes : t.notes = pre ++ (ns ++ post))
    (hsorted : t.notes.Pairwise (fun a b => a.start ≤ b.start)) (hpre : ∀ n ∈ pre, n.start < s)
    (hns : ∀ n ∈ ns, s ≤ n.start ∧ n.start < e ∧ n.end_ ≤ e) (hpost : ∀ n ∈ post, e ≤ n.start) :
    C02.specNotes id (toNS t) s e = (shiftBlock s ns).map toNote := by
  unfold C02.specNotes
  have hn : (toNS t).notes = t.notes.map toNote := rfl
  rw [hn, NSV.sortByRat_of_pairwise _ _ (by
    rw [List.pairwise_map]
    exact hsorted.imp (fun h => h)), hnotes]
  simp only [List.map_append, List.filter_append]
  have h1 : (pre.map toNote).filter (fun n => decide (s ≤ n.start) && decide (n.start < e)) = [] := by
    rw [List.filter_eq_nil_iff]
    intro x hx
    obtain ⟨n, hn', rfl⟩ := List.mem_map.mp hx
    have := hpre n hn'
    simp only [toNote, Bool.and_eq_true]
    rintro ⟨a, _⟩
    have a' : s ≤ n.start := of_decide_eq_true a
    linarith
  have h2 : (ns.map toNote).filter (fun n => decide (s ≤ n.start) && decide (n.start < e)) = ns.map toNote := by
    rw [List.filter_eq_self]
    intro x hx
    obtain ⟨n, hn', rfl⟩ := List.mem_map.mp hx
    obtain ⟨a, b, _⟩ := hns n hn'
    simp [toNote, a, b]
  have h3 : (post.map toNote).filter (fun n => decide (s ≤ n.start) && decide (n.start < e)) = [] := by
    rw [List.filter_eq_nil_iff]
    intro x hx
    obtain ⟨n, hn', rfl⟩ := List.mem_map.mp hx
    have := hpost n hn'
    simp only [toNote, Bool.and_eq_true]
    rintro ⟨_, b⟩
    have b' : n.start < e := of_decide_eq_true b
    linarith
  rw [h1, h2, h3]
  simp only [List.map_nil, List.nil_append, List.append_nil, shiftBlock, List.map_map]
  apply List.map_congr_left
  intro n hn'
  obtain ⟨_, _, c⟩ := hns n hn'
  simp [Function.comp, C02.clipR, toNote, min_eq_left c]

/-- … for section `i` of well-formed blocks -/
theorem specNotes_blocks (bs : List Block) (T : Rat) (groups : List (Int × Nat)) (base : Tune)
    (hwf : BlocksWF bs T) (hsorted : (blockNotes bs).Pairwise (fun a b => a.start ≤ b.start))
    (i : Int) (h0 : 0 ≤ i) (h1 : i < bs.length) :
    C02.specNotes id (toNS (tuneOfBlocks bs T groups base)) (spanOf bs T i).1 (spanOf bs T i).2 =
      (blockEntry bs T i).1.map toNote ∧
    (blockEntry bs T i).2.2 = (spanOf bs T i).2 - (spanOf bs T i).1 := by
  obtain ⟨s, ns, hb⟩ := block_at h0 h1
  have hsplit := split_at hb
  have hwf' : BlocksWF (bs.take i.toNat ++ (s, ns) :: bs.drop (i.toNat + 1)) T := hsplit ▸ hwf
  have hsuf := BlocksWF_at hwf hb
  simp only [spanOf, blockEntry, hb, and_true]
  apply specNotes_block (tuneOfBlocks bs T groups base) (blockNotes (bs.take i.toNat)) ns
    (blockNotes (bs.drop (i.toNat + 1))) s _ ?_ hsorted (earlier_notes_lt hwf') hsuf.2.1
    (later_notes_ge hsuf.2.2)
  show blockNotes bs = _
  conv_lhs => rw [hsplit]
  simp [blockNotes]

theorem placed_copies (bs : List Block) (T : Rat) (groups : List (Int × Nat)) (base : Tune)
    (hwf : BlocksWF bs T) (hsorted : (blockNotes bs).Pairwise (fun a b => a.start ≤ b.start))
    (play : List Int) (hplay : ∀ i ∈ play, 0 ≤ i ∧ i < bs.length) (off : Rat) :
    (placed off (play.map (blockEntry bs T))).map toNote =
      (copiesOf bs T off play).flatMap (fun c =>
        (C02.specNotes id (toNS (tuneOfBlocks bs T groups base)) c.s c.e).map
          (fun n => { n with start := n.start + c.off, end_ := n.end_ + c.off })) := by
  induction play generalizing off with
  | nil => rfl
  | cons i r ih =>
    obtain ⟨h0, h1⟩ := hplay i (by simp)
    obtain ⟨e1, e2⟩ := specNotes_blocks bs T groups base hwf hsorted i h0 h1
    simp only [List.map_cons, copiesOf, List.flatMap_cons]
    rw [← ih (fun j hj => hplay j (by simp [hj])), e1]
    cases hbe : blockEntry bs T i with
    | mk ns' rest =>
      obtain ⟨tot, d⟩ := rest
      rw [hbe] at e2
      simp only at e2
      simp only [placed, List.map_append, List.map_map, e2]
      congr 1

end NSV.C04

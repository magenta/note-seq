import NoteSeqVerif.Model.C11
/-! C11 (a) — soundness of the purity checker (core Lean only).  Everything is stated relative to the
allocation watermark `w0` of the heap in which the entry operation was called: an object is pre-existing
iff its address is `< w0`.  `Gam` reads a provenance as a bound on the addresses occurring in a value,
`Inv` says that no cell below `w0` has changed and that ownership never crosses `w0` (so navigating from a
value cannot leave its side), and `exec_sound` carries both through every execution. -/
namespace NSV.C11

theorem AbsVal.le_refl (a : AbsVal) : a.le a = true := by
  cases a with | mk i f => cases i <;> cases f <;> rfl

theorem AbsVal.le_join_left (a b : AbsVal) : a.le (a.join b) = true := by
  cases a with | mk i f => cases b with | mk j g => cases i <;> cases f <;> cases j <;> cases g <;> rfl

theorem AbsVal.le_join_right (a b : AbsVal) : b.le (a.join b) = true := by
  cases a with | mk i f => cases b with | mk j g => cases i <;> cases f <;> cases j <;> cases g <;> rfl

theorem AbsVal.bot_le (a : AbsVal) : AbsVal.bot.le a = true := by
  cases a with | mk i f => cases i <;> cases f <;> rfl

theorem AbsVal.le_inp {a b : AbsVal} (h : a.le b = true) (hi : a.inp = true) : b.inp = true := by
  cases a with | mk i f => cases b with | mk j g => cases i <;> cases f <;> cases j <;> cases g <;> simp_all [AbsVal.le]

theorem AbsVal.le_fr {a b : AbsVal} (h : a.le b = true) (hi : a.fr = true) : b.fr = true := by
  cases a with | mk i f => cases b with | mk j g => cases i <;> cases f <;> cases j <;> cases g <;> simp_all [AbsVal.le]

theorem AbsVal.join_absorb (a b : AbsVal) : (a.join b).join b = a.join b := by
  cases a with | mk i f => cases b with | mk j g => cases i <;> cases f <;> cases j <;> cases g <;> rfl

theorem AbsVal.join_self (a : AbsVal) : a.join a = a := by
  cases a with | mk i f => cases i <;> cases f <;> rfl

theorem AEnv.get_nil (x : Nat) : AEnv.get [] x = AbsVal.bot := by simp [AEnv.get]

theorem AEnv.get_cons_zero (a : AbsVal) (σ : AEnv) : AEnv.get (a :: σ) 0 = a := by simp [AEnv.get]

theorem AEnv.get_cons_succ (a : AbsVal) (σ : AEnv) (x : Nat) : AEnv.get (a :: σ) (x + 1) = AEnv.get σ x := by
  simp [AEnv.get]

theorem AEnv.get_set (σ : AEnv) (x : Nat) (a : AbsVal) (y : Nat) :
    (σ.set x a).get y = if y = x then a else σ.get y := by
  -- `AEnv.set` recurses on the index in all four of its equations
  induction x generalizing σ y with
  | zero => cases σ <;> cases y <;> simp [AEnv.set, AEnv.get_cons_zero, AEnv.get_cons_succ, AEnv.get_nil]
  | succ x ih => cases σ <;> cases y <;> simp [AEnv.set, AEnv.get_cons_zero, AEnv.get_cons_succ, AEnv.get_nil, ih]

theorem AEnv.get_join (σ τ : AEnv) (x : Nat) : (σ.join τ).get x = (σ.get x).join (τ.get x) := by
  induction σ generalizing τ x with
  | nil => cases τ <;> simp [AEnv.join, AEnv.get_nil, AbsVal.join, AbsVal.bot]
  | cons a σ ih =>
    cases τ with
    | nil => simp [AEnv.join, AEnv.get_nil, AbsVal.join, AbsVal.bot]
    | cons b τ =>
      cases x with
      | zero => simp [AEnv.join, AEnv.get_cons_zero]
      | succ x => simp [AEnv.join, AEnv.get_cons_succ, ih]

theorem AEnv.le_get {σ τ : AEnv} (h : σ.le τ = true) (x : Nat) : (σ.get x).le (τ.get x) = true := by
  induction σ generalizing τ x with
  | nil => simp [AEnv.get_nil, AbsVal.bot_le]
  | cons a σ ih =>
    cases τ with
    | nil =>
      simp only [AEnv.le, Bool.and_eq_true] at h
      cases x with
      | zero => simpa [AEnv.get_cons_zero, AEnv.get_nil] using h.1
      | succ x => simpa [AEnv.get_cons_succ, AEnv.get_nil] using ih h.2 x
    | cons b τ =>
      simp only [AEnv.le, Bool.and_eq_true] at h
      cases x with
      | zero => simpa [AEnv.get_cons_zero] using h.1
      | succ x => simpa [AEnv.get_cons_succ] using ih h.2 x

theorem AEnv.get_topPre {n i : Nat} (h : i < n) : AEnv.get (topPre n) i = AbsVal.both := by
  simp [AEnv.get, topPre, List.getD, h]

theorem AEnv.le_refl (σ : AEnv) : σ.le σ = true := by
  induction σ with
  | nil => rfl
  | cons a σ ih => simp [AEnv.le, AbsVal.le_refl, ih]

theorem AEnv.join_nil (σ : AEnv) : σ.join [] = σ := by cases σ <;> rfl

theorem AEnv.join_self (σ : AEnv) : σ.join σ = σ := by
  induction σ with
  | nil => rfl
  | cons a σ ih => simp [AEnv.join, AbsVal.join_self, ih]

/-- the loop-head environment is stable under joining the invariant again -/
theorem AEnv.join_absorb (σ τ : AEnv) : (σ.join τ).join τ = σ.join τ := by
  induction σ generalizing τ with
  | nil => simp [AEnv.join, AEnv.join_self]
  | cons a σ ih =>
    cases τ with
    | nil => simp [AEnv.join_nil]
    | cons b τ => simp [AEnv.join, AbsVal.join_absorb, ih]

theorem checkList_get {cs : List Contract} {ds : List OpDef} {cs' : List Contract}
    (h : checkList cs ds cs' = true) {f : Nat} {d : OpDef} {c : Contract}
    (hd : ds[f]? = some d) (hc : cs'[f]? = some c) : checkOp cs d c = true := by
  induction ds generalizing cs' f with
  | nil => simp at hd
  | cons d0 ds ih =>
    cases cs' with
    | nil => simp at hc
    | cons c0 cs' =>
      simp only [checkList, Bool.and_eq_true] at h
      cases f with
      | zero =>
        simp at hd hc
        subst hd; subst hc
        exact h.1
      | succ f =>
        simp at hd hc
        exact ih h.2 hd hc

theorem Sub.trans {a b c : Val} (h1 : Sub a b) (h2 : Sub b c) : Sub a c := by
  induction h1 with
  | refl => exact h2
  | left _ ih => exact Sub.left (ih h2)
  | right _ ih => exact Sub.right (ih h2)

theorem Sub.scalar_ref {o : Nat} : ¬ Sub .scalar (.ref o) := by
  intro h; cases h

theorem Sub.ref_ref {o p : Nat} (h : Sub (.ref o) (.ref p)) : p = o := by
  cases h; rfl

theorem Sub.pair_ref {a b : Val} {o : Nat} (h : Sub (.pair a b) (.ref o)) : Sub a (.ref o) ∨ Sub b (.ref o) := by
  cases h with
  | left h => exact Or.inl h
  | right h => exact Or.inr h

/-- `v` contains pre-existing objects (`< w0`) only if `a.inp`, new ones only if `a.fr` -/
def Gam (w0 : Nat) (a : AbsVal) (v : Val) : Prop :=
  ∀ o, Sub v (.ref o) → (o < w0 → a.inp = true) ∧ (w0 ≤ o → a.fr = true)

def GamEnv (w0 : Nat) (σ : AEnv) (ρ : Env) : Prop := ∀ x, Gam w0 (σ.get x) (ρ x)

def GamArgs (w0 : Nat) (σ : AEnv) (vs : List Val) : Prop := ∀ i, Gam w0 (σ.get i) (vs.getD i .scalar)

theorem Gam.scalar (w0 : Nat) (a : AbsVal) : Gam w0 a .scalar := fun _ h => absurd h Sub.scalar_ref

theorem Gam.mono {w0 : Nat} {a b : AbsVal} {v : Val} (hab : a.le b = true) (h : Gam w0 a v) : Gam w0 b v :=
  fun o ho => ⟨fun hlt => AbsVal.le_inp hab ((h o ho).1 hlt), fun hge => AbsVal.le_fr hab ((h o ho).2 hge)⟩

theorem Gam.sub {w0 : Nat} {a : AbsVal} {v c : Val} (hs : Sub v c) (h : Gam w0 a v) : Gam w0 a c :=
  fun o ho => h o (hs.trans ho)

theorem Gam.pair {w0 : Nat} {a b : AbsVal} {va vb : Val} (ha : Gam w0 a va) (hb : Gam w0 b vb) :
    Gam w0 (a.join b) (.pair va vb) := by
  intro o ho
  rcases Sub.pair_ref ho with h | h
  · exact (Gam.mono (AbsVal.le_join_left a b) ha) o h
  · exact (Gam.mono (AbsVal.le_join_right a b) hb) o h

theorem Gam.both (w0 : Nat) (v : Val) : Gam w0 AbsVal.both v := fun _ _ => ⟨fun _ => rfl, fun _ => rfl⟩

theorem Gam.fresh_ref {w0 o : Nat} (h : w0 ≤ o) : Gam w0 AbsVal.fresh (.ref o) := by
  intro p hp
  have := Sub.ref_ref hp
  subst this
  refine ⟨fun hlt => ?_, fun _ => rfl⟩
  exfalso; omega

theorem GamEnv.empty (w0 : Nat) (σ : AEnv) : GamEnv w0 σ Env.empty := fun _ => Gam.scalar _ _

theorem GamEnv.upd {w0 : Nat} {σ : AEnv} {ρ : Env} {a : AbsVal} {v : Val} (h : GamEnv w0 σ ρ) (x : Var)
    (hv : Gam w0 a v) : GamEnv w0 (σ.set x a) (ρ.upd x v) := by
  intro y
  rw [AEnv.get_set]
  unfold Env.upd
  by_cases hy : y = x
  · simp [hy]; exact hv
  · simp [hy]; exact h y

theorem GamEnv.mono {w0 : Nat} {σ τ : AEnv} {ρ : Env} (hle : σ.le τ = true) (h : GamEnv w0 σ ρ) : GamEnv w0 τ ρ :=
  fun x => Gam.mono (AEnv.le_get hle x) (h x)

theorem GamEnv.join_left {w0 : Nat} {σ : AEnv} {ρ : Env} (τ : AEnv) (h : GamEnv w0 σ ρ) : GamEnv w0 (σ.join τ) ρ := by
  intro x; rw [AEnv.get_join]; exact Gam.mono (AbsVal.le_join_left _ _) (h x)

theorem GamEnv.join_right {w0 : Nat} {τ : AEnv} {ρ : Env} (σ : AEnv) (h : GamEnv w0 τ ρ) : GamEnv w0 (σ.join τ) ρ := by
  intro x; rw [AEnv.get_join]; exact Gam.mono (AbsVal.le_join_right _ _) (h x)

theorem GamArgs.mono {w0 : Nat} {σ τ : AEnv} {vs : List Val} (hle : σ.le τ = true) (h : GamArgs w0 σ vs) :
    GamArgs w0 τ vs :=
  fun i => Gam.mono (AEnv.le_get hle i) (h i)

theorem GamArgs.top {w0 : Nat} {vs : List Val} {n : Nat} (h : vs.length = n) : GamArgs w0 (topPre n) vs := by
  intro i
  by_cases hi : i < n
  · rw [AEnv.get_topPre hi]; exact Gam.both _ _
  · have : vs.getD i .scalar = .scalar := by
      have hle : vs.length ≤ i := by omega
      simp [List.getD, List.getElem?_eq_none hle]
    rw [this]; exact Gam.scalar _ _

/-- relative to the watermark `w0` and the heap `h0` at the time the entry operation was called:
no pre-existing object has changed; owners and kids are on the same side of `w0`. -/
structure Inv (w0 : Nat) (h0 h : Heap) : Prop where
  same : ∀ o, o < w0 → h.cell o = h0.cell o
  own : ∀ o k, k ∈ (h.cell o).kids → (o < w0 ↔ k < w0)
  le : w0 ≤ h.next

theorem Inv.init {h : Heap} (hwf : h.WF) : Inv h.next h h :=
  ⟨fun _ _ => rfl, hwf, Nat.le_refl _⟩

theorem Inv.alloc {w0 : Nat} {h0 h h' : Heap} (hi : Inv w0 h0 h) (ha : Alloc h h') : Inv w0 h0 h' := by
  refine ⟨fun o ho => ?_, fun o k hk => ?_, Nat.le_trans hi.le ha.mono⟩
  · rw [ha.old o (Nat.lt_of_lt_of_le ho hi.le)]; exact hi.same o ho
  · by_cases ho : o < h.next
    · rw [ha.old o ho] at hk; exact hi.own o k hk
    · have h1 : h.next ≤ o := Nat.le_of_not_lt ho
      have h2 := ha.own o k h1 hk
      have := hi.le
      constructor <;> intro hh <;> omega

theorem Inv.write {w0 : Nat} {h0 h h' : Heap} {o : Nat} (hi : Inv w0 h0 h) (ho : o < h.next) (hw0 : w0 ≤ o)
    (hw : WriteAt h o h') : Inv w0 h0 h' := by
  refine ⟨fun p hp => ?_, fun p k hk => ?_, Nat.le_trans hi.le hw.mono⟩
  · have hne : p ≠ o := by omega
    rw [hw.old p (Nat.lt_of_lt_of_le hp hi.le) hne]; exact hi.same p hp
  · by_cases hpo : p = o
    · subst hpo
      rcases hw.kids k hk with hk' | hk'
      · exact hi.own p k hk'
      · have := hi.le
        constructor <;> intro hh <;> omega
    · by_cases hp : p < h.next
      · rw [hw.old p hp hpo] at hk; exact hi.own p k hk
      · have h1 : h.next ≤ p := Nat.le_of_not_lt hp
        have h2 := hw.own p k h1 hk
        have := hi.le
        constructor <;> intro hh <;> omega

theorem Gam.nav {w0 : Nat} {h0 h : Heap} {a : AbsVal} {v c : Val} (hi : Inv w0 h0 h) (hn : Nav h v c)
    (hg : Gam w0 a v) : Gam w0 a c := by
  cases hn with
  | sub hs => exact hg.sub hs
  | scalar => exact Gam.scalar _ _
  | kid hs hk =>
    rename_i o k
    intro p hp
    have := Sub.ref_ref hp
    subst this
    have hside := hi.own o p hk
    have hgo := hg o hs
    exact ⟨fun hlt => hgo.1 (hside.2 hlt),
      fun hge => hgo.2 (Nat.le_of_not_lt fun hlt => Nat.not_lt.mpr hge (hside.1 hlt))⟩

theorem eval_sound {args : List Val} {h : Heap} {ρ : Env} {e : Expr} {v : Val} {h' : Heap}
    (hev : Eval args h ρ e v h') {w0 : Nat} {h0 : Heap} {aargs σ : AEnv} (hi : Inv w0 h0 h)
    (ha : GamArgs w0 aargs args) (hρ : GamEnv w0 σ ρ) :
    Inv w0 h0 h' ∧ Gam w0 (absExpr aargs σ e) v := by
  induction hev with
  | param => exact ⟨hi, ha _⟩
  | var => exact ⟨hi, hρ _⟩
  | scalar => exact ⟨hi, Gam.scalar _ _⟩
  | fresh hal hlo _ => exact ⟨hi.alloc hal, Gam.fresh_ref (Nat.le_trans hi.le hlo)⟩
  | copyOf _ hal hlo _ ih =>
    have h1 := (ih hi hρ).1
    exact ⟨h1.alloc hal, Gam.fresh_ref (Nat.le_trans h1.le hlo)⟩
  | field _ hn ih =>
    have h1 := ih hi hρ
    exact ⟨h1.1, Gam.nav h1.1 hn h1.2⟩
  | elem _ hn ih =>
    have h1 := ih hi hρ
    exact ⟨h1.1, Gam.nav h1.1 hn h1.2⟩
  | proj _ hs ih =>
    have h1 := ih hi hρ
    exact ⟨h1.1, h1.2.sub hs⟩
  | pair _ _ iha ihb =>
    have h1 := iha hi hρ
    have h2 := ihb h1.1 hρ
    exact ⟨h2.1, Gam.pair h1.2 h2.2⟩

theorem evalList_sound {args : List Val} {h : Heap} {ρ : Env} {es : List Expr} {vs : List Val} {h' : Heap}
    (hev : EvalList args h ρ es vs h') {w0 : Nat} {h0 : Heap} {aargs σ : AEnv} (hi : Inv w0 h0 h)
    (ha : GamArgs w0 aargs args) (hρ : GamEnv w0 σ ρ) :
    Inv w0 h0 h' ∧ GamArgs w0 (es.map (absExpr aargs σ)) vs := by
  induction hev with
  | nil => exact ⟨hi, fun i => by simp [List.getD]; exact Gam.scalar _ _⟩
  | cons he _ ih =>
    have h1 := eval_sound he hi ha hρ
    have h2 := ih h1.1 hρ
    refine ⟨h2.1, fun i => ?_⟩
    cases i with
    | zero => simpa [AEnv.get] using h1.2
    | succ i => simpa [AEnv.get] using h2.2 i

/-- what the abstract result `out` promises about a concrete result -/
def ResOK (w0 : Nat) (out : AOut) : Res → Prop
  | .norm ρ' => ∃ σ', out.env = some σ' ∧ GamEnv w0 σ' ρ'
  | .ret v => Gam w0 out.ret v
  | .exc => True

/-- an analysis whose environment and returned provenance cover those of `o` promises what `o` promises -/
theorem ResOK.mono {w0 : Nat} {o out : AOut} {r : Res} (h : ResOK w0 o r)
    (henv : ∀ {σ ρ}, o.env = some σ → GamEnv w0 σ ρ → ∃ σ', out.env = some σ' ∧ GamEnv w0 σ' ρ)
    (hret : o.ret.le out.ret = true) : ResOK w0 out r := by
  cases r with
  | norm ρ => obtain ⟨σ, hσ, hρ⟩ := h; exact henv hσ hρ
  | ret v => exact Gam.mono hret h
  | exc => trivial

theorem ResOK.of_not_norm {w0 : Nat} {o1 out : AOut} {r : Res} (hn : r.isNorm = false)
    (hret : o1.ret.le out.ret = true) (h : ResOK w0 o1 r) : ResOK w0 out r := by
  cases r with
  | norm ρ => simp [Res.isNorm] at hn
  | ret v => exact Gam.mono hret h
  | exc => trivial

theorem optJoin_left {a b : Option AEnv} {σ : AEnv} {w0 : Nat} {ρ : Env} (ha : a = some σ) (h : GamEnv w0 σ ρ) :
    ∃ σ', optJoin a b = some σ' ∧ GamEnv w0 σ' ρ := by
  subst ha
  cases b with
  | none => exact ⟨σ, rfl, h⟩
  | some τ => exact ⟨σ.join τ, rfl, h.join_left τ⟩

theorem optJoin_right {a b : Option AEnv} {τ : AEnv} {w0 : Nat} {ρ : Env} (hb : b = some τ) (h : GamEnv w0 τ ρ) :
    ∃ σ', optJoin a b = some σ' ∧ GamEnv w0 σ' ρ := by
  subst hb
  cases a with
  | none => exact ⟨τ, rfl, h⟩
  | some σ => exact ⟨σ.join τ, rfl, h.join_right σ⟩

/-- **Soundness of the abstract interpretation.**  If every operation honours its contract
(`checkList`), a statement analysed without a failing obligation (`bad = []`) preserves the heap
invariant — no pre-existing object changes — whatever way it ends, and its result has the computed
provenance.  The induction is on the execution, not on the statement: at a `callOp` the body of the callee
is a sub-derivation, checked against the callee's own contract by `checkList`, so calls (recursive ones
included) need no separate argument; a `loop` is re-analysed from its own head environment
(`AEnv.join_absorb`) for the remaining iterations. -/
theorem exec_sound {ops : List OpDef} {cs : List Contract} (hcs : checkList cs ops cs = true)
    {args : List Val} {h : Heap} {ρ : Env} {s : Stmt} {h' : Heap} {r : Res}
    (hex : Exec ops args h ρ s h' r) {w0 : Nat} {h0 : Heap} {aargs σ : AEnv}
    (hb : (absStmt cs aargs s σ).bad = []) (hi : Inv w0 h0 h) (ha : GamArgs w0 aargs args)
    (hρ : GamEnv w0 σ ρ) : Inv w0 h0 h' ∧ ResOK w0 (absStmt cs aargs s σ) r := by
  induction hex generalizing aargs σ with
  | skip => exact ⟨hi, σ, rfl, hρ⟩
  | throw => exact ⟨hi, trivial⟩
  | assign hev =>
    have h1 := eval_sound hev hi ha hρ
    exact ⟨h1.1, _, rfl, hρ.upd _ h1.2⟩
  | @write args h ρ ln e o h1 h2 hev hlt hw =>
    have h1 := eval_sound hev hi ha hρ
    -- a target that may be pre-existing would have been reported
    have hge : w0 ≤ o := Nat.le_of_not_lt fun hlt' => by
      simp [absStmt, (h1.2 o (Sub.refl _)).1 hlt'] at hb
    exact ⟨h1.1.write hlt hge hw, σ, rfl, hρ⟩
  | writeNone hev =>
    exact ⟨(eval_sound hev hi ha hρ).1, σ, rfl, hρ⟩
  | @seq args h ρ s t h1 ρ1 h2 r _ _ ih1 ih2 =>
    cases hE : (absStmt cs aargs s σ).env with
    | none =>
      have hb1 : (absStmt cs aargs s σ).bad = [] := by simpa [absStmt, hE] using hb
      obtain ⟨_, σ', hσ', _⟩ := ih1 hb1 hi ha hρ
      rw [hE] at hσ'; cases hσ'
    | some σ1 =>
      have hb' : (absStmt cs aargs s σ).bad = [] ∧ (absStmt cs aargs t σ1).bad = [] := by
        simpa [absStmt, hE] using hb
      obtain ⟨hi1, σ', hσ', hρ1⟩ := ih1 hb'.1 hi ha hρ
      rw [hE] at hσ'; cases hσ'
      obtain ⟨hi2, hr⟩ := ih2 hb'.2 hi1 ha hρ1
      exact ⟨hi2, hr.mono (fun hσ2 hρ2 => ⟨_, by simp [absStmt, hE, hσ2], hρ2⟩)
        (by simp [absStmt, hE, AbsVal.le_join_right])⟩
  | @seqStop args h ρ s t h1 r _ hn ih =>
    cases hE : (absStmt cs aargs s σ).env with
    | none =>
      have hb1 : (absStmt cs aargs s σ).bad = [] := by simpa [absStmt, hE] using hb
      obtain ⟨hi1, hr⟩ := ih hb1 hi ha hρ
      refine ⟨hi1, ?_⟩
      have : absStmt cs aargs (.seq s t) σ = absStmt cs aargs s σ := by simp [absStmt, hE]
      rw [this]; exact hr
    | some σ1 =>
      have hb' : (absStmt cs aargs s σ).bad = [] ∧ (absStmt cs aargs t σ1).bad = [] := by
        simpa [absStmt, hE] using hb
      obtain ⟨hi1, hr⟩ := ih hb'.1 hi ha hρ
      refine ⟨hi1, ResOK.of_not_norm hn ?_ hr⟩
      simp [absStmt, hE, AbsVal.le_join_left]
  | @iteL args h ρ s t h1 r _ ih =>
    have hb' : (absStmt cs aargs s σ).bad = [] ∧ (absStmt cs aargs t σ).bad = [] := by
      simpa [absStmt] using hb
    obtain ⟨hi1, hr⟩ := ih hb'.1 hi ha hρ
    exact ⟨hi1, hr.mono optJoin_left (AbsVal.le_join_left _ _)⟩
  | @iteR args h ρ s t h1 r _ ih =>
    have hb' : (absStmt cs aargs s σ).bad = [] ∧ (absStmt cs aargs t σ).bad = [] := by
      simpa [absStmt] using hb
    obtain ⟨hi1, hr⟩ := ih hb'.2 hi ha hρ
    exact ⟨hi1, hr.mono optJoin_right (AbsVal.le_join_right _ _)⟩
  | @loopDone args h ρ inv s =>
    exact ⟨hi, _, rfl, hρ.join_left inv⟩
  | @loopStep args h ρ inv s h1 ρ1 h2 r _ _ ih1 ih2 =>
    have hb' := hb
    simp only [absStmt, List.append_eq_nil_iff] at hb'
    obtain ⟨hbody, hchk⟩ := hb'
    have hc : (absStmt cs aargs s (σ.join inv)).post.le (σ.join inv) = true := by
      split at hchk
      · assumption
      · simp at hchk
    have hρi : GamEnv w0 (σ.join inv) ρ := hρ.join_left inv
    obtain ⟨hi1, σ1, hσ1, hρ1⟩ := ih1 hbody hi ha hρi
    have hpost : (absStmt cs aargs s (σ.join inv)).post = σ1 := by simp [AOut.post, hσ1]
    have hρ1i : GamEnv w0 (σ.join inv) ρ1 := hρ1.mono (by rw [← hpost]; exact hc)
    -- analysing the loop again from its own head environment gives the same result
    have hsame : absStmt cs aargs (.loop inv s) (σ.join inv) = absStmt cs aargs (.loop inv s) σ := by
      simp only [absStmt, AEnv.join_absorb]
    obtain ⟨hi2, hr⟩ := ih2 (by rw [hsame]; exact hb) hi1 ha hρ1i
    rw [hsame] at hr
    exact ⟨hi2, hr⟩
  | @loopStop args h ρ inv s h1 r _ hn ih =>
    have hb' := hb
    simp only [absStmt, List.append_eq_nil_iff] at hb'
    obtain ⟨hi1, hr⟩ := ih hb'.1 hi ha (hρ.join_left inv)
    refine ⟨hi1, ResOK.of_not_norm hn ?_ hr⟩
    simp [absStmt, AbsVal.le_refl]
  | raise => exact ⟨hi, trivial⟩
  | ret hev =>
    have h1 := eval_sound hev hi ha hρ
    exact ⟨h1.1, h1.2⟩
  | @call args h ρ ln x f es vs h1 d h2 r hel hd _ ih =>
    cases hcf : cs[f]? with
    | none => simp [absStmt, hcf] at hb
    | some c =>
      have hle : AEnv.le (es.map (absExpr aargs σ)) c.pre = true := by
        cases hl : AEnv.le (es.map (absExpr aargs σ)) c.pre with
        | true => rfl
        | false => simp [absStmt, hcf, hl] at hb
      obtain ⟨hi1, hargs⟩ := evalList_sound hel hi ha hρ
      have hchk := checkList_get hcs hd hcf
      simp only [checkOp, Bool.and_eq_true, List.isEmpty_iff] at hchk
      obtain ⟨hi2, hr⟩ := ih hchk.1 hi1 (hargs.mono hle) (GamEnv.empty w0 [])
      refine ⟨hi2, ?_⟩
      cases r with
      | norm ρ' => exact ⟨σ.set x c.ret, by simp [absStmt, hcf], hρ.upd x (Gam.scalar _ _)⟩
      | ret v => exact ⟨σ.set x c.ret, by simp [absStmt, hcf], hρ.upd x (Gam.mono hchk.2 hr)⟩
      | exc => trivial

end NSV.C11

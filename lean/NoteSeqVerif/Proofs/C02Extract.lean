import NoteSeqVerif.Proofs.C02
import NoteSeqVerif.Proofs.Basics
/-! C02 — `_extract_subsequences` equals the list of closed-form pieces (`extract_eq_spec`). -/
namespace NSV.C02

theorem pairs_getElem? (st : List Rat) (i : Nat) (a b : Rat) :
    (pairs st)[i]? = some (a, b) ↔ st[i]? = some a ∧ st[i + 1]? = some b := by
  simp [pairs_eq_zip, List.getElem?_zip_eq_some]

theorem pairs_map_fst (st : List Rat) : (pairs st).map (·.1) = st.dropLast := by
  rw [pairs_eq_zip, List.zip_eq_zip_take_min, List.map_fst_zip (by simp), List.dropLast_eq_take]
  simp [Nat.min_eq_right]

theorem pairs_sorted_iff (st : List Rat) :
    (pairs st).any (fun p => decide (p.1 > p.2)) = false ↔ SortedLE st := by
  induction st with
  | nil => simp [pairs]
  | cons x l ih =>
    cases l with
    | nil => simp [pairs]
    | cons y r =>
      simp only [pairs, List.any_cons, Bool.or_eq_false_iff, ih]
      constructor
      · rintro ⟨h1, h2⟩
        have hxy : x ≤ y := by simp at h1; exact Rat.not_lt.mp h1
        refine List.pairwise_cons.mpr ⟨?_, h2⟩
        intro z hz
        rcases List.mem_cons.mp hz with h | h
        · subst h; exact hxy
        · exact Rat.le_trans hxy ((List.pairwise_cons.mp h2).1 z h)
      · intro h
        have h' := List.pairwise_cons.mp h
        refine ⟨?_, h'.2⟩
        have := h'.1 y (by simp)
        simp; exact Rat.not_lt.mpr this

theorem pairs_pastEnd_iff (st : List Rat) (total : Rat) :
    (pairs st).any (fun p => decide (p.1 ≥ total)) = true ↔ ∃ t ∈ st.dropLast, total ≤ t := by
  rw [← pairs_map_fst]
  simp [List.any_eq_true]


/-- notes of the piece `[a, b)`: the stably start-sorted notes starting in `[a, b)`, clipped -/
def specNotes (R : Rat → Rat) (s : NoteSeq) (a b : Rat) : List Note :=
  ((sortByRat (·.start) s.notes).filter (fun n => decide (a ≤ n.start) && decide (n.start < b))).map (clipR R a b)

/-- state events of the piece `[a, b)`: the last event at or before `a` (stable time order) moved to
time 0, then the events strictly inside `(a, b)` shifted by `-a` -/
def specState {α : Type} (R : Rat → Rat) (time : α → Rat) (setTime : α → Rat → α) (evs : List α)
    (a b : Rat) : List α :=
  (match ((sortByRat time evs).filter (fun e => decide (time e ≤ a))).getLast? with
    | none => []
    | some e => [setTime e 0]) ++
  ((sortByRat time evs).filter (fun e => decide (a < time e) && decide (time e < b))).map
    (fun e => setTime e (R (time e - a)))

def specBeats (R : Rat → Rat) (s : NoteSeq) (a b : Rat) : List TextAnn :=
  ((sortByRat (·.time) (beats s)).filter (fun e => decide (a ≤ e.time) && decide (e.time < b))).map
    (fun e => TextAnn.setTime e (R (e.time - a)))

def specPedals (R : Rat → Rat) (preserve : List Int) (s : NoteSeq) (a b : Rat) : List CC :=
  pieceSpec (pedalL R) [] (sortByRat (·.time) (pedals preserve s)) (a, b)

def specPiece (R : Rat → Rat) (preserve : List Int) (s : NoteSeq) (ab : Rat × Rat) : NoteSeq :=
  { emptied s with
    notes := specNotes R s ab.1 ab.2
    totalTime := pieceTotal (specNotes R s ab.1 ab.2)
    timeSigs := specState R (·.time) TimeSig.setTime s.timeSigs ab.1 ab.2
    keySigs := specState R (·.time) KeySig.setTime s.keySigs ab.1 ab.2
    tempos := specState R (·.time) Tempo.setTime s.tempos ab.1 ab.2
    texts := specState R (·.time) TextAnn.setTime (chords s) ab.1 ab.2 ++ specBeats R s ab.1 ab.2
    ccs := specPedals R preserve s ab.1 ab.2
    hasSub := true
    subStart := ab.1
    subEnd := R (R (s.totalTime - ab.1) - pieceTotal (specNotes R s ab.1 ab.2)) }

theorem foldl_some_getLast? {α : Type} (l : List α) (m : Option α) :
    l.foldl (fun _ e => some e) m = l.getLast?.or m := by
  induction l generalizing m with
  | nil => simp
  | cons e es ih =>
    simp only [List.foldl_cons, ih, List.getLast?_cons]
    cases es.getLast? <;> simp

theorem pieceSpec_notes (R : Rat → Rat) (s : NoteSeq) (ab : Rat × Rat) :
    pieceSpec (notesL R) () (sortByRat (·.start) s.notes) ab = specNotes R s ab.1 ab.2 := by
  simp [pieceSpec, notesL, inside, within, specNotes]
  rfl

theorem pieceSpec_beats (R : Rat → Rat) (s : NoteSeq) (ab : Rat × Rat) :
    pieceSpec (beatL R) () (sortByRat (·.time) (beats s)) ab = specBeats R s ab.1 ab.2 := by
  simp [pieceSpec, beatL, inside, within, specBeats]
  rfl

/-- the piece of the generic state loop over events `S` taken in the order given, written out -/
theorem pieceSpec_stateL {α : Type} (R : Rat → Rat) (time : α → Rat) (setTime : α → Rat → α)
    (S : List α) (a b : Rat) :
    pieceSpec (stateL R time setTime) none S (a, b) =
      (match (S.filter (fun e => decide (time e ≤ a))).getLast? with
        | none => []
        | some e => [setTime e 0]) ++
      (S.filter (fun e => decide (a < time e) && decide (time e < b))).map
        (fun e => setTime e (R (time e - a))) := by
  simp only [pieceSpec, stateL, inside, within, memAt, before, foldl_some_getLast?]
  simp only [↓reduceIte, Option.or_none]
  rfl

theorem pieceSpec_state {α : Type} (R : Rat → Rat) (time : α → Rat) (setTime : α → Rat → α)
    (evs : List α) (ab : Rat × Rat) :
    pieceSpec (stateL R time setTime) none (sortByRat time evs) ab = specState R time setTime evs ab.1 ab.2 :=
  pieceSpec_stateL R time setTime _ ab.1 ab.2

theorem zipWith_map_map {α β γ δ : Type} (f : β → γ → δ) (g : α → β) (h : α → γ) (l : List α) :
    List.zipWith f (l.map g) (l.map h) = l.map (fun x => f (g x) (h x)) := by
  rw [List.zipWith_map, List.zipWith_self]

theorem zipWith_map_self {α β δ : Type} (f : β → α → δ) (g : α → β) (l : List α) :
    List.zipWith f (l.map g) l = l.map (fun x => f (g x) x) := by
  have := zipWith_map_map f g id l
  simpa using this

theorem assemble_eq_spec (R : Rat → Rat) (preserve : List Int) (s : NoteSeq) (t0 : Rat) (r : List Rat)
    (hst : SortedLE (t0 :: r)) :
    assemble R preserve s (t0 :: r) t0 = (pairs (t0 :: r)).map (specPiece R preserve s) := by
  have loop {α μ : Type} (L : Loop α μ) (m0 : μ) {E : List α}
      (hE : E.Pairwise fun x y => L.time x ≤ L.time y) := run_eq_spec L m0 t0 r E hst hE
  rw [assemble, show notePieces R s _ t0 = _ from loop _ _ (sortByRat_pairwise _ _),
    show timeSigPieces R s _ t0 = _ from loop _ _ (sortByRat_pairwise _ _),
    show keySigPieces R s _ t0 = _ from loop _ _ (sortByRat_pairwise _ _),
    show tempoPieces R s _ t0 = _ from loop _ _ (sortByRat_pairwise _ _),
    show chordPieces R s _ t0 = _ from loop _ _ (sortByRat_pairwise _ _),
    show beatPieces R s _ t0 = _ from loop _ _ (sortByRat_pairwise _ _),
    show pedalPieces R preserve s _ t0 = _ from loop _ _ (sortByRat_pairwise _ _)]
  simp only [zipWith_map_map, zipWith_map_self]
  apply List.map_congr_left
  intro ab _
  simp only [pieceSpec_notes, pieceSpec_beats, pieceSpec_state, specPiece, specPedals, emptied]

/-- the inputs the extractor accepts -/
structure Valid (s : NoteSeq) (st : List Rat) : Prop where
  unquantized : s.isQuantized = false
  two : 2 ≤ st.length
  sorted : SortedLE st
  inside : ∀ t ∈ st.dropLast, t < s.totalTime

theorem valid_iff {s : NoteSeq} {st : List Rat} : Valid s st ↔
    s.isQuantized = false ∧ 2 ≤ st.length ∧ SortedLE st ∧ ∀ t ∈ st.dropLast, t < s.totalTime :=
  ⟨fun ⟨a, b, c, d⟩ => ⟨a, b, c, d⟩, fun ⟨a, b, c, d⟩ => ⟨a, b, c, d⟩⟩

theorem Valid.le {s : NoteSeq} {st : List Rat} (hv : Valid s st) {i : Nat} {a b : Rat}
    (ha : st[i]? = some a) (hb : st[i + 1]? = some b) : a ≤ b := by
  obtain ⟨hi, rfl⟩ := List.getElem?_eq_some_iff.mp ha
  obtain ⟨hi', rfl⟩ := List.getElem?_eq_some_iff.mp hb
  exact List.pairwise_iff_getElem.mp hv.sorted i (i + 1) hi hi' (by omega)

/-- `_extract_subsequences` in closed form: which inputs raise what, and the pieces otherwise -/
theorem extract_cases (R : Rat → Rat) (preserve : List Int) (s : NoteSeq) (st : List Rat) :
    extractSubsequencesR R preserve s st =
      if s.isQuantized then .error .quantizationStatusError
      else if 2 ≤ st.length ∧ SortedLE st ∧ ∀ t ∈ st.dropLast, t < s.totalTime then
        .ok ((pairs st).map (specPiece R preserve s))
      else .error .valueError := by
  unfold extractSubsequencesR
  split
  · rfl
  · match st with
    | [] => simp
    | [_] => simp
    | t0 :: t1 :: r =>
      dsimp only
      have h1 := pairs_sorted_iff (t0 :: t1 :: r)
      have h3 := pairs_pastEnd_iff (t0 :: t1 :: r) s.totalTime
      by_cases hv : 2 ≤ (t0 :: t1 :: r).length ∧ SortedLE (t0 :: t1 :: r) ∧
          ∀ t ∈ (t0 :: t1 :: r).dropLast, t < s.totalTime
      · obtain ⟨_, hs, hin⟩ := hv
        have c1 : ¬ (pairs (t0 :: t1 :: r)).any (fun p => decide (p.1 > p.2)) = true := by
          rw [h1.mpr hs]; simp
        have c3 : ¬ (pairs (t0 :: t1 :: r)).any (fun p => decide (p.1 ≥ s.totalTime)) = true := by
          rw [h3]
          rintro ⟨t, ht, hle⟩
          exact absurd (hin t ht) (Rat.not_lt.mpr hle)
        rw [if_neg c1, if_neg c3, if_pos ⟨by simp, hs, hin⟩, assemble_eq_spec R preserve s t0 (t1 :: r) hs]
      · rw [if_neg hv]
        split
        next => rfl
        next c1 =>
          split
          next => rfl
          next c3 =>
            exact absurd ⟨by simp, h1.mp ((Bool.not_eq_true _).mp c1),
              fun t ht => Rat.not_le.mp fun hle => c3 (h3.mpr ⟨t, ht, hle⟩)⟩ hv

theorem extract_eq_spec (R : Rat → Rat) (preserve : List Int) (s : NoteSeq) (st : List Rat)
    (hv : Valid s st) :
    extractSubsequencesR R preserve s st = .ok ((pairs st).map (specPiece R preserve s)) := by
  rw [extract_cases, if_neg (by simp [hv.unquantized]), if_pos ⟨hv.two, hv.sorted, hv.inside⟩]

end NSV.C02

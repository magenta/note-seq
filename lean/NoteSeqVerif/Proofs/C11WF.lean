import NoteSeqVerif.Model.C11WF
/-! C11 (b) — what the operations that rewrite every note in place (times, steps, pitch) have in common.

Trap for whoever adds a family file `Props/C11_<family>.lean`: `harness/c11.py` registers the theorems a family file
names on `-- THEOREMS:` lines among its first twelve lines; a theorem not named there is not audited. -/
namespace NSV.C11

theorem no_invention_map (f : Note → Note) (hf : ∀ n, SameNote n (f n)) (l : List Note) :
    NoInvention l (l.map f) ∧ NoDuplication l (l.map f) ∧ (l.map f).length = l.length :=
  ⟨NoInvention.map f hf l, NoDuplication.map f (fun n => (hf n).1) l, List.length_map f⟩

/-- a partial per-note map that keeps identity, over a selection of the input notes, taken in any order, each at
most once: what `trim`, `extract_subsequence`, `transpose` (a map over a filter) and `adjust` (a `filterMap`) do -/
theorem no_invention_filterMap (f : Note → Option Note) (hf : ∀ a b, f a = some b → SameNote a b)
    {inp inp' mid : List Note} (hs : mid.Sublist inp') (hp : inp'.Perm inp) :
    NoInvention inp (mid.filterMap f) ∧ NoDuplication inp (mid.filterMap f) := by
  refine ⟨fun n hn => ?_, fun t => ?_⟩
  · obtain ⟨m, hm, hmn⟩ := List.mem_filterMap.mp hn
    exact ⟨m, hp.subset (hs.subset hm), hf m n hmn⟩
  · have key : ∀ l : List Note, ((l.filterMap f).filter (fun n => n.voice = t)).length ≤
        (l.filter (fun n => n.voice = t)).length := by
      intro l
      induction l with
      | nil => exact Nat.le_refl _
      | cons a l ih =>
        rw [List.filterMap_cons]
        cases ha : f a with
        | none => exact Nat.le_trans ih (((List.Sublist.refl l).cons a).filter _).length_le
        | some b =>
          simp only [List.filter_cons, (hf a b ha).1]
          split
          · exact Nat.succ_le_succ ih
          · exact ih
    rw [← (hp.filter _).length_eq]
    exact Nat.le_trans (key mid) (hs.filter _).length_le

theorem no_invention_map_sublist (g : Note → Note) (hg : ∀ n, SameNote n (g n)) {inp inp' mid : List Note}
    (hs : mid.Sublist inp') (hp : inp'.Perm inp) :
    NoInvention inp (mid.map g) ∧ NoDuplication inp (mid.map g) :=
  List.filterMap_eq_map ▸ no_invention_filterMap (some ∘ g) (fun a _ h => Option.some.inj h ▸ hg a) hs hp

end NSV.C11

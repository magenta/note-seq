import NoteSeqVerif.Proofs.RoundingApps
import NoteSeqVerif.Model.C01
/-! `quantize_to_step` (`C01.qstepR`, cutoff 1/2) in floating point, for any `Rounding R`: it agrees with the exact
`⌊t·s + 1/2⌋` away from half-step boundaries (`qstep_float`), is never off by more than one step (`qstep_near`), and
is exact on an exact tie (`qstep_tie`) and near an integer product (`qstep_of_near_int`). -/
namespace NSV
open C01

namespace RoundingP
variable {p : ℕ} {R : ℚ → ℚ}

/-- `quantize_to_step` with cutoff 1/2: the constant `1 - cutoff` is exact -/
theorem qstepR_half (h : RoundingP p R) (hp : 1 ≤ p) (t s : ℚ) :
    qstepR R (1 / 2) t s = truncR (R (R (t * s) + 1 / 2)) := by
  unfold qstepR
  rw [show (1 : ℚ) - 1 / 2 = 1 / 2 by norm_num, h.half hp]

end RoundingP

/-- Unconditionally (no margin), for `|t·s| < 2^52` the floating-point `quantize_to_step`
(cutoff 1/2) is within one step of the exact `⌊t·s + 1/2⌋`. -/
theorem qstep_near {R : ℚ → ℚ} (hR : Rounding R) (t s : ℚ) (hx : |t * s| < 2 ^ 52) :
    |qstepR R (1 / 2) t s - ⌊t * s + 1 / 2⌋| ≤ 1 := by
  have hp : 1 ≤ 53 := by norm_num
  rw [hR.qstepR_half hp]
  generalize t * s = x at *
  obtain ⟨hxl, hxu⟩ := abs_lt.mp hx
  set N : ℤ := ⌊x + 1 / 2⌋
  have hN1 : (N : ℚ) ≤ x + 1 / 2 := Int.floor_le _
  have hN2 : x + 1 / 2 < (N : ℚ) + 1 := Int.lt_floor_add_one _
  -- `2x` lies in `[2N - 1, 2N + 1]` and has magnitude below `2^53`, so does `R (2x) = 2 R x`
  have hx2 : |x * 2| ≤ 2 ^ 53 := by rw [abs_mul, abs_two]; linarith only [hx]
  have e2 : R (x * 2) = R x * 2 := by simpa using hR.exact_pow2_mul x 1
  have hL := hR.intCast_le hp hx2 (n := 2 * N - 1) (by push_cast; linarith only [hN1])
  have hU := hR.le_intCast hp hx2 (n := 2 * N + 1) (by push_cast; linarith only [hN2])
  rw [e2] at hL hU
  push_cast at hL hU
  -- hence `R x + 1/2` lies in `[N, N + 1]`, and so does its rounding
  have hz : |R x + 1 / 2| ≤ 2 ^ 53 :=
    abs_le.mpr ⟨by linarith only [hL, hN2, hxl], by linarith only [hU, hN1, hxu]⟩
  have hyL := hR.intCast_le hp hz (n := N) (by linarith only [hL])
  have hyU := hR.le_intCast hp hz (n := N + 1) (by push_cast; linarith only [hU])
  push_cast at hyU
  obtain ⟨a, b⟩ := truncR_between hyL hyU
  rw [abs_le]; constructor <;> omega

/-- sharp form of `qstep_float`: the margin `(x+1)·2^-52`, `x = t·s`, is just above the error `(2x+1)·2^-53` of the two
roundings (`add_half_err`) -/
theorem qstep_float_sharp {R : ℚ → ℚ} (hR : Rounding R) (t s : ℚ) (h0 : 0 ≤ t * s)
    (hlt : t * s < 2 ^ 52)
    (hfar : ∀ n : ℤ, (t * s + 1) / 2 ^ 52 < |t * s - ((n : ℚ) + 1 / 2)|) :
    qstepR R (1 / 2) t s = ⌊t * s + 1 / 2⌋ := by
  rw [hR.qstepR_half (by norm_num)]
  generalize t * s = x at *
  have herr := hR.add_half_err h0 (by linarith)
  have hd : (2 * x + 1) / 2 ^ 53 < (x + 1) / 2 ^ 52 := by
    rw [div_lt_div_iff₀ (by positivity) (by positivity)]; linarith
  have hy0 : 0 ≤ R (R x + 1 / 2) := hR.nonneg (add_nonneg (hR.nonneg h0) (by norm_num))
  rw [truncR_eq_of_floor hy0 (Int.floor_le _) (Int.lt_floor_add_one _)]
  exact floor_eq_of_far_from_half (herr.trans_lt hd) fun n => (hfar n).le

/-- away from half-step boundaries, with the round margin `2^-51·(x+1)` -/
theorem qstep_float {R : ℚ → ℚ} (hR : Rounding R) (t s : ℚ) (h0 : 0 ≤ t * s)
    (hlt : t * s < 2 ^ 52)
    (hfar : ∀ n : ℤ, (t * s + 1) / 2 ^ 51 < |t * s - ((n : ℚ) + 1 / 2)|) :
    qstepR R (1 / 2) t s = ⌊t * s + 1 / 2⌋ := by
  refine qstep_float_sharp hR t s h0 hlt fun n => lt_of_le_of_lt ?_ (hfar n)
  exact div_le_div_of_nonneg_left (add_nonneg h0 zero_le_one) (by positivity) (by norm_num)

/-- a product within `2^-9` of an integer `K ≤ 2^40` quantizes to `K` in floating point: the two
roundings move `t·s + 1/2` by less than `1/4` -/
theorem qstep_of_near_int {R : ℚ → ℚ} (hR : Rounding R) (t s : ℚ) (K : ℤ) (h0 : 0 ≤ t * s)
    (hK : (K : ℚ) ≤ 2 ^ 40) (h : |t * s - K| ≤ 1 / 2 ^ 9) : qstepR R (1 / 2) t s = K := by
  rw [hR.qstepR_half (by norm_num)]
  generalize t * s = x at *
  obtain ⟨hlo, hhi⟩ := abs_le.mp h
  obtain ⟨e1, e2⟩ := abs_le.mp (hR.add_half_err h0 (by linarith only [hhi, hK]))
  have hd : (2 * x + 1) / 2 ^ 53 < 1 / 4 := by
    rw [div_lt_iff₀ (by positivity)]; linarith only [hhi, hK]
  exact truncR_eq_of_floor (hR.nonneg (add_nonneg (hR.nonneg h0) (by norm_num)))
    (by linarith only [hlo, e1, hd]) (by linarith only [hhi, e2, hd])

/-- An exact half-step tie `t·s = k + 1/2` (`0 ≤ k < 2^52`) rounds up in floating point as well:
the product, the sum with 0.5 and the truncation are all exact. -/
theorem qstep_tie {R : ℚ → ℚ} (hR : Rounding R) (t s : ℚ) (k : ℤ) (h0 : 0 ≤ k) (hlt : k < 2 ^ 52)
    (htie : t * s = (k : ℚ) + 1 / 2) : qstepR R (1 / 2) t s = k + 1 := by
  have hp : 1 ≤ 53 := by norm_num
  rw [hR.qstepR_half hp, htie, show (k : ℚ) + 1 / 2 = ((2 * k + 1 : ℤ) : ℚ) / 2 by push_cast; ring,
    hR.exact_half_int hp _ (by omega),
    show ((2 * k + 1 : ℤ) : ℚ) / 2 + 1 / 2 = ((k + 1 : ℤ) : ℚ) by push_cast; ring,
    hR.exact_int_le hp _ (by omega)]
  exact truncR_eq_of_floor (by exact_mod_cast (by omega : 0 ≤ k + 1)) le_rfl (by linarith)

theorem qstep_float_rne53 (t s : ℚ) (h0 : 0 ≤ t * s) (hlt : t * s < 2 ^ 52)
    (hfar : ∀ n : ℤ, (t * s + 1) / 2 ^ 51 < |t * s - ((n : ℚ) + 1 / 2)|) :
    C01.qstepR rne53 (1 / 2) t s = ⌊t * s + 1 / 2⌋ := qstep_float rounding_rne53 t s h0 hlt hfar

theorem qstep_near_rne53 (t s : ℚ) (hx : |t * s| < 2 ^ 52) :
    |C01.qstepR rne53 (1 / 2) t s - ⌊t * s + 1 / 2⌋| ≤ 1 := qstep_near rounding_rne53 t s hx

/-- non-vacuity of `qstep_float`: `t·s = 13/4` satisfies the margin hypothesis -/
example : C01.qstepR rne53 (1 / 2) (13 / 8) 2 = 3 := by
  have h := qstep_float_rne53 (13 / 8) 2 (by norm_num) (by norm_num) (by
    intro n
    rcases le_or_gt n 2 with h | h
    · have : (n : ℚ) ≤ 2 := by exact_mod_cast h
      exact lt_abs.mpr (.inl (by norm_num; linarith))
    · have : (3 : ℚ) ≤ n := by exact_mod_cast h
      exact lt_abs.mpr (.inr (by norm_num; linarith)))
  rw [h]; norm_num

/-- the margin hypothesis of `qstep_float` cannot be dropped, and `qstep_near` is tight:
`x = 1/2 - 2^-54` is a float64, `x + 1/2` rounds (tie to even) up to `1`, so the float
computation gives step 1 while `⌊x + 1/2⌋ = 0` -/
example : C01.qstepR rne53 (1 / 2) (1 / 2 - 1 / 2 ^ 54) 1 = 1 ∧
    ⌊(1 / 2 - 1 / 2 ^ 54 : ℚ) * 1 + 1 / 2⌋ = 0 := by
  refine ⟨by decide +kernel, ?_⟩
  rw [Int.floor_eq_iff]; norm_num

end NSV

import NoteSeqVerif.Props.C07
import NoteSeqVerif.Proofs.C06Quant
/-! C06 — ChordProgression, discrete half: re-extraction over `[start, start + len)` (C07 model, through its
specification `chords_steps`) of a sequence whose chord annotations are exactly the rendered changes returns the
event list.  (core Lean only) -/
namespace NSV.C06
open NSV.C07

theorem chordChangesFrom_bounds : ∀ (fs : List String) (k : Int) (cur : String),
    ∀ c ∈ chordChangesFrom k cur fs, k ≤ c.1 ∧ c.1 < k + fs.length := by
  intro fs
  induction fs with
  | nil => intro k cur c hc; simp [chordChangesFrom] at hc
  | cons f fs ih =>
    intro k cur c hc
    unfold chordChangesFrom at hc
    simp only [List.length_cons]
    split at hc
    · rcases List.mem_cons.mp hc with rfl | h
      · exact ⟨Int.le_refl _, by show k < k + ((fs.length + 1 : Nat) : Int); omega⟩
      · have := ih (k + 1) f c h; push_cast; omega
    · have := ih (k + 1) cur c hc; push_cast; omega

theorem chordChangesFrom_sorted : ∀ (fs : List String) (k : Int) (cur : String),
    (chordChangesFrom k cur fs).Pairwise (fun a b => a.1 < b.1) := by
  intro fs
  induction fs with
  | nil => intro k cur; simp [chordChangesFrom]
  | cons f fs ih =>
    intro k cur
    unfold chordChangesFrom
    split
    · refine List.pairwise_cons.mpr ⟨?_, ih (k + 1) f⟩
      intro c hc
      have := (chordChangesFrom_bounds fs (k + 1) f c hc).1
      show k < c.1
      omega
    · exact ih (k + 1) cur

theorem chordAt_rendered (tm : Int → Rat) (S : Int) : ∀ (fs : List String) (k : Int) (cur : String) (i : Nat)
    (hi : i < fs.length),
    chordAt cur ((chordChangesFrom k cur fs).map (qChord tm S)) (S + k + i) = fs[i] := by
  intro fs
  induction fs with
  | nil => intro k cur i hi; simp at hi
  | cons f fs ih =>
    intro k cur i hi
    -- from step `S + k` on the figure in force is `f`, whether or not it was a change
    have step : chordAt cur ((chordChangesFrom k cur (f :: fs)).map (qChord tm S)) (S + k + i) =
        chordAt f ((chordChangesFrom (k + 1) f fs).map (qChord tm S)) (S + k + i) := by
      rw [chordChangesFrom]
      split
      · rw [List.map_cons, chordAt_cons_le (by show S + k ≤ S + k + (i : Int); omega)]; rfl
      · rename_i heq
        rw [show f = cur by simpa using heq]
    rw [step]
    cases i with
    | zero =>
      rw [chordAt_all_gt]; rfl
      intro c hc
      obtain ⟨x, hx, rfl⟩ := List.mem_map.mp hc
      have := (chordChangesFrom_bounds fs (k + 1) f x hx).1
      show S + k + ((0 : Nat) : Int) < S + x.1
      omega
    | succ j =>
      rw [show S + k + ((j + 1 : Nat) : Int) = S + (k + 1) + (j : Int) by push_cast; omega,
        ih (k + 1) f j (by simpa using hi)]
      rfl

/-- two rendered annotations on one step are the same annotation -/
theorem sorted_fst_inj {l : List (Int × String)} (h : l.Pairwise (fun a b => a.1 < b.1)) :
    ∀ a ∈ l, ∀ b ∈ l, a.1 = b.1 → a = b := fun _ ha _ hb =>
  List.Pairwise.forall_of_forall_of_flip (R := fun a b : Int × String => a.1 = b.1 → a = b) (fun _ _ _ => rfl)
    (h.imp fun hlt e => by omega) (h.imp fun hlt e => by omega) ha hb

/-- **discrete half for ChordProgression**: `s` is any quantized sequence whose text annotations are the rendered
chord changes of the non-empty list `ev` started at step `S`, in the rendered order. -/
theorem chords_discrete (s : NoteSeq) (tm : Int → Rat) (ev : List String) (S spb : Int)
    (hspb : stepsPerBar s = .ok spb)
    (hs : s.texts = (chordChanges ev).map (qChord tm S))
    (hne : ev ≠ []) :
    chordsFromQuantized s S (S + ev.length) = .ok ⟨ev, S, S + ev.length, spb, s.spq⟩ := by
  have hlen : 0 < ev.length := List.length_pos_iff.mpr hne
  have hse : S < S + (ev.length : Int) := by omega
  have hsorted := chordChangesFrom_sorted ev 0 Gen.NO_CHORD
  have hnc : ¬ ChordsCoincident s S (S + ev.length) := by
    rintro ⟨a, ha, b, hb, _, _, hq, _, _, hne'⟩
    rw [hs] at ha hb
    obtain ⟨x, hx, rfl⟩ := List.mem_map.mp ha
    obtain ⟨y, hy, rfl⟩ := List.mem_map.mp hb
    have hxy : x.1 = y.1 := by
      have : S + x.1 = S + y.1 := hq
      omega
    have := sorted_fst_inj hsorted x hx y hy hxy
    subst this
    exact hne' rfl
  obtain ⟨E, hE, hElen, hEi⟩ := chords_steps s S (S + ev.length) spb hspb hse hnc
  have hanns : chordAnns s = (chordChanges ev).map (qChord tm S) := by
    unfold chordAnns
    have hf : s.texts.filter (fun a => a.kind == Gen.CHORD_SYMBOL) = s.texts := by
      rw [List.filter_eq_self]; intro a ha
      rw [hs] at ha
      obtain ⟨x, _, rfl⟩ := List.mem_map.mp ha
      simp [qChord, rChord]
    rw [hf, hs]
    apply List.mergeSort_of_pairwise
    rw [List.pairwise_map]
    apply List.Pairwise.imp _ hsorted
    intro a b hab
    rw [chordLe_iff]
    left
    show S + a.1 < S + b.1
    omega
  have : E = ev := by
    apply List.ext_getElem?
    intro i
    by_cases hi : i < ev.length
    · rw [hEi i (by omega), hanns]
      have := chordAt_rendered tm S ev 0 Gen.NO_CHORD i hi
      simp only [Int.add_zero] at this
      rw [chordChanges, this, List.getElem?_eq_getElem hi]
    · have hEl : E.length = ev.length := by
        have : (E.length : Int) = ev.length := by rw [hElen]; omega
        exact_mod_cast this
      rw [List.getElem?_eq_none (by omega), List.getElem?_eq_none (by omega)]
  rw [hE, this]

end NSV.C06

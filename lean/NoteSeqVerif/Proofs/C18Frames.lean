import NoteSeqVerif.Model.C18
import NoteSeqVerif.Proofs.Basics
/-! C18: the snap of `time_to_frames` in exact arithmetic, and sign and grid facts about `time_to_frames` /
`frames_from_times` for any rounding.  Core Lean only. -/
namespace NSV.C18

/-- the snap of `time_to_frames` in exact arithmetic -/
def snap (eps x : Rat) : Rat :=
  if rabs (x - (roundHalfEven x : Rat)) ≤ eps * rmax 1 (rabs x) then (roundHalfEven x : Rat) else x

theorem timeToFrames_id (eps fps t : Rat) : timeToFrames id eps fps t = snap eps (t * fps) := rfl

theorem floor_nonneg_of_nonneg (x : Rat) (hx : 0 ≤ x) : (0 : Int) ≤ x.floor := by
  rw [Rat.le_floor_iff]; exact_mod_cast hx

theorem roundHalfEven_nonneg (x : Rat) (hx : 0 ≤ x) : 0 ≤ roundHalfEven x := by
  have := floor_nonneg_of_nonneg x hx
  unfold roundHalfEven
  grind  -- every branch is `⌊x⌋` or `⌊x⌋ + 1`

theorem snap_nonneg (eps x : Rat) (hx : 0 ≤ x) : 0 ≤ snap eps x := by
  unfold snap
  split
  · exact_mod_cast roundHalfEven_nonneg x hx
  · exact hx

theorem timeToFrames_nonneg {R : Rat → Rat} (hR0 : ∀ x : Rat, 0 ≤ x → 0 ≤ R x) (eps fps t : Rat)
    (hf : 0 ≤ fps) (ht : 0 ≤ t) : 0 ≤ timeToFrames R eps fps t := by
  unfold timeToFrames
  simp only
  have h0 : 0 ≤ R (t * fps) := hR0 _ (Rat.mul_nonneg ht hf)
  split
  · exact_mod_cast roundHalfEven_nonneg _ h0
  · exact h0

theorem framesFromTimes_nonneg {R : Rat → Rat} (hR0 : ∀ x : Rat, 0 ≤ x → 0 ≤ R x) (eps fps occ s e : Rat)
    (hf : 0 ≤ fps) (hs : 0 ≤ s) :
    0 ≤ (framesFromTimes R eps fps occ s e).1 ∧ 1 ≤ (framesFromTimes R eps fps occ s e).2 := by
  have h0 := timeToFrames_nonneg hR0 eps fps s hf hs
  have h1 : 0 ≤ truncR (timeToFrames R eps fps s) := by
    rw [truncR_of_nonneg _ h0]; exact floor_nonneg_of_nonneg _ h0
  unfold framesFromTimes
  simp only
  constructor
  · split <;> omega
  · split <;> omega

theorem framesFromTimes_occ0 (R : Rat → Rat) (eps fps s e : Rat) :
    framesFromTimes R eps fps 0 s e =
      (truncR (timeToFrames R eps fps s),
       max (truncR (timeToFrames R eps fps s) + 1) (timeToFrames R eps fps e).ceil) := by
  unfold framesFromTimes
  simp

theorem framesFromTimes_grid (R : Rat → Rat) (eps fps ts te : Rat) (s e : Nat) (hse : s < e)
    (hs : timeToFrames R eps fps ts = (s : Rat)) (he : timeToFrames R eps fps te = (e : Rat)) :
    framesFromTimes R eps fps 0 ts te = ((s : Int), (e : Int)) := by
  rw [framesFromTimes_occ0, hs, he, truncR_natCast, show (e : Rat) = ((e : Int) : Rat) by norm_cast,
    Rat.ceil_intCast]
  congr 1
  omega

theorem numRows_id (fps total : Rat) (h : 0 ≤ total * fps) : numRows id fps total = (total * fps).floor + 1 := by
  unfold numRows
  simp only [id]
  rw [truncR_of_nonneg _ (Rat.add_nonneg h (by decide))]
  exact Rat.floor_add_one

end NSV.C18

import NoteSeqVerif.Proofs.C12
import NoteSeqVerif.Props.C14
/-! C12 — helper lemmas for the storage-order theorem about `apply_sustain_control_changes`: every
ingredient of C14's declarative specification (`pedalDown`, `heldEnd`, `lastEventTime`, the preconditions) is a
function of the *bags* of notes and control changes. -/
namespace NSV.C12
open NSV.C14

theorem pedalDown_perm (ctl : Int) {ccs ccs' : List CC} (h : ccs.Perm ccs') (i : Int) (t : Rat) :
    pedalDown ctl ccs i t ↔ pedalDown ctl ccs' i t := by
  unfold pedalDown
  constructor
  · rintro ⟨c, hc, r1, r2, r3, r4, r5⟩
    exact ⟨c, h.mem_iff.mp hc, r1, r2, r3, r4, fun c' hc' => r5 c' (h.mem_iff.mpr hc')⟩
  · rintro ⟨c, hc, r1, r2, r3, r4, r5⟩
    exact ⟨c, h.mem_iff.mpr hc, r1, r2, r3, r4, fun c' hc' => r5 c' (h.mem_iff.mp hc')⟩

theorem eventTimes_perm (ctl : Int) {s s' : NoteSeq} (h : NSPerm s s') :
    (eventTimes ctl s).Perm (eventTimes ctl s') := by
  unfold eventTimes
  exact ((((h.notes.filter _).map _).append ((h.notes.filter _).map _))).append ((h.ccs.filter _).map _)

theorem lastEventTime_perm (ctl : Int) {s s' : NoteSeq} (h : NSPerm s s') :
    lastEventTime ctl s = lastEventTime ctl s' := by
  have hp := eventTimes_perm ctl h
  cases hL : eventTimes ctl s with
  | nil =>
    have hL' : eventTimes ctl s' = [] := (hL ▸ hp).nil_eq.symm
    unfold lastEventTime; rw [hL, hL']
  | cons t ts =>
    have m : t ∈ eventTimes ctl s := hL ▸ List.mem_cons_self ..
    have i := (lastEventTime_spec ctl s t m).2
    have i' := (lastEventTime_spec ctl s' t (hp.mem_iff.mp m)).2
    exact Rat.le_antisymm (lastEventTime_spec ctl s' _ (hp.mem_iff.mp i)).1
      (lastEventTime_spec ctl s _ (hp.mem_iff.mpr i')).1

theorem releaseTimes_perm (ctl : Int) {s s' : NoteSeq} (h : NSPerm s s') (nt : Note) :
    (releaseTimes ctl s nt).Perm (releaseTimes ctl s' nt) := by
  unfold releaseTimes; exact (h.ccs.filter _).map _

theorem restrikeTimes_perm {s s' : NoteSeq} (h : NSPerm s s') (nt : Note) :
    (restrikeTimes s nt).Perm (restrikeTimes s' nt) := by
  unfold restrikeTimes; exact (h.notes.filter _).map _

theorem heldEnd_perm (ctl : Int) {s s' : NoteSeq} (h : NSPerm s s') (nt : Note) :
    heldEnd ctl s nt = heldEnd ctl s' nt := by
  unfold heldEnd
  rw [foldl_min_congr _ fun _ => ((releaseTimes_perm ctl h nt).append (restrikeTimes_perm h nt)).mem_iff,
    lastEventTime_perm ctl h]
  by_cases hc : nt.isDrum = true ∨ ¬ pedalDown ctl s.ccs nt.instrument nt.end_
  · rw [if_pos hc, if_pos (by rw [← pedalDown_perm ctl h.ccs]; exact hc)]
  · rw [if_neg hc, if_neg (by rw [← pedalDown_perm ctl h.ccs]; exact hc)]

theorem specNotes_perm (ctl : Int) {s s' : NoteSeq} (h : NSPerm s s') :
    (specNotes ctl s).Perm (specNotes ctl s') := by
  unfold specNotes
  have : (fun nt => setEnd nt (heldEnd ctl s nt)) = (fun nt => setEnd nt (heldEnd ctl s' nt)) := by
    funext nt; rw [heldEnd_perm ctl h]
  rw [this]
  exact h.notes.map _

theorem wellFormed_perm {s s' : NoteSeq} (h : NSPerm s s') (hw : WellFormed s) : WellFormed s' :=
  fun nt hnt => hw nt (h.notes.mem_iff.mpr hnt)

theorem noSamePitchOverlap_perm {s s' : NoteSeq} (h : NSPerm s s') (ho : NoSamePitchOverlap s) :
    NoSamePitchOverlap s' := by
  unfold NoSamePitchOverlap at ho ⊢
  refine (List.Perm.pairwise_iff ?_ h.notes).mp ho
  intro a b hab h1 h2 h3 h4
  obtain ⟨r1, r2, r3⟩ := hab h2 h1 h3.symm h4.symm
  exact ⟨fun e => r1 e.symm, r3, r2⟩

/-- `total_time` is at least every note end (the usual invariant of a NoteSequence) -/
def TotalCovers (s : NoteSeq) : Prop := ∀ nt ∈ s.notes, nt.end_ ≤ s.totalTime

instance (s : NoteSeq) : Decidable (TotalCovers s) := by unfold TotalCovers; infer_instance

theorem totalCovers_perm {s s' : NoteSeq} (h : NSPerm s s') (hc : TotalCovers s) : TotalCovers s' := by
  intro nt hnt; rw [← h.totalTime]; exact hc nt (h.notes.mem_iff.mpr hnt)

end NSV.C12

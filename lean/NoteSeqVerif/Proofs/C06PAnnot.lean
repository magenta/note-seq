import NoteSeqVerif.Model.C06P
import NoteSeqVerif.Proofs.Lib
/-! C06 (performance half) — invariants of the FIFO annotator `anStep` (`Model/C06P.lean`), core Lean only.

`AInv`: the NOTE_ON events are numbered `0, 1, 2, …` in order; every open note and every NOTE_OFF event knows its
NOTE_ON; the numbers of the closed and of the open notes together are a permutation of `0 … nOn-1`. -/
namespace NSV.C06P
open NSV.C07

def anRun (st : AnState) (es : List SEv) : AnState := es.foldl anStep st

theorem anRun_cons (st : AnState) (e : SEv) (es : List SEv) : anRun st (e :: es) = anRun (anStep st e) es := rfl

theorem annotate_eq (es : List SEv) : annotate es = anRun ⟨0, [], [], true⟩ es := rfl

theorem anRun_inv {P : AnState → Prop} (hstep : ∀ st e, P st → P (anStep st e)) {st : AnState} (h : P st)
    (es : List SEv) : P (anRun st es) :=
  foldl_inv anStep P (fun _ => True) (fun s e h _ => hstep s e h) es st h fun _ _ => trivial

def AnState.ons (st : AnState) : List AEv := st.out.filter (fun a => !a.isOff)
def AnState.offs (st : AnState) : List AEv := st.out.filter (fun a => a.isOff)

/-- the NOTE_ON event of the note an annotated event belongs to -/
def AEv.onOf (a : AEv) : AEv := ⟨a.s, a.idx, false, a.pitch, a.s, a.bin⟩
def OpenE.onOf (o : OpenE) : AEv := ⟨o.s, o.idx, false, o.pitch, o.s, o.bin⟩

/-- the on/off event an annotated event came from -/
def AEv.toS (a : AEv) : SEv := ⟨a.step, a.isOff, a.pitch, if a.isOff then 0 else a.bin⟩

theorem anStep_on (st : AnState) (e : SEv) (h : e.isOff = false) :
    anStep st e = ⟨st.nOn + 1, st.open_ ++ [⟨e.pitch, st.nOn, e.step, e.bin⟩],
      st.out ++ [⟨e.step, st.nOn, false, e.pitch, e.step, e.bin⟩], st.ok⟩ := by
  simp only [anStep, h, Bool.false_eq_true, ↓reduceIte]

theorem anStep_off_none (st : AnState) (e : SEv) (h : e.isOff = true)
    (hf : st.open_.find? (fun o => o.pitch == e.pitch) = none) : anStep st e = { st with ok := false } := by
  simp only [anStep, h, ↓reduceIte, hf]

theorem anStep_off_some (st : AnState) (e : SEv) (o : OpenE) (h : e.isOff = true)
    (hf : st.open_.find? (fun o => o.pitch == e.pitch) = some o) :
    anStep st e = ⟨st.nOn, st.open_.eraseP (fun o => o.pitch == e.pitch),
      st.out ++ [⟨e.step, o.idx, true, e.pitch, o.s, o.bin⟩], st.ok⟩ := by
  simp only [anStep, h, ↓reduceIte, hf]

theorem ons_append_on (st : AnState) (a : AEv) (ha : a.isOff = false) :
    ({ st with out := st.out ++ [a] } : AnState).ons = st.ons ++ [a] := by
  simp [AnState.ons, List.filter_append, ha]

theorem ons_append_off (st : AnState) (a : AEv) (ha : a.isOff = true) :
    ({ st with out := st.out ++ [a] } : AnState).ons = st.ons := by
  simp [AnState.ons, List.filter_append, ha]

theorem offs_append_on (st : AnState) (a : AEv) (ha : a.isOff = false) :
    ({ st with out := st.out ++ [a] } : AnState).offs = st.offs := by
  simp [AnState.offs, List.filter_append, ha]

theorem offs_append_off (st : AnState) (a : AEv) (ha : a.isOff = true) :
    ({ st with out := st.out ++ [a] } : AnState).offs = st.offs ++ [a] := by
  simp [AnState.offs, List.filter_append, ha]

theorem anStep_on_ons (st : AnState) (e : SEv) (h : e.isOff = false) :
    (anStep st e).ons = st.ons ++ [⟨e.step, st.nOn, false, e.pitch, e.step, e.bin⟩] := by
  rw [anStep_on st e h]; exact ons_append_on st _ rfl

theorem anStep_on_offs (st : AnState) (e : SEv) (h : e.isOff = false) : (anStep st e).offs = st.offs := by
  rw [anStep_on st e h]; exact offs_append_on st _ rfl

theorem anStep_off_ons (st : AnState) (e : SEv) (o : OpenE) (h : e.isOff = true)
    (hf : st.open_.find? (fun o => o.pitch == e.pitch) = some o) : (anStep st e).ons = st.ons := by
  rw [anStep_off_some st e o h hf]; exact ons_append_off st _ rfl

theorem anStep_off_offs (st : AnState) (e : SEv) (o : OpenE) (h : e.isOff = true)
    (hf : st.open_.find? (fun o => o.pitch == e.pitch) = some o) :
    (anStep st e).offs = st.offs ++ [⟨e.step, o.idx, true, e.pitch, o.s, o.bin⟩] := by
  rw [anStep_off_some st e o h hf]; exact offs_append_off st _ rfl

structure AInv (st : AnState) : Prop where
  onsIdx : st.ons.map (·.idx) = List.range st.nOn
  onSelf : ∀ a ∈ st.out, a.isOff = false → a.s = a.step
  openOn : ∀ o ∈ st.open_, st.ons[o.idx]? = some o.onOf
  offOn : ∀ a ∈ st.out, a.isOff = true → st.ons[a.idx]? = some a.onOf
  perm : (st.offs.map (·.idx) ++ st.open_.map (·.idx)).Perm (List.range st.nOn)

theorem AInv.init : AInv ⟨0, [], [], true⟩ where
  onsIdx := rfl
  onSelf := by intro a ha; simp at ha
  openOn := by intro o ho; simp at ho
  offOn := by intro a ha; simp at ha
  perm := by simp [AnState.offs]

theorem AInv.onsLen {st : AnState} (h : AInv st) : st.ons.length = st.nOn := by
  have := congrArg List.length h.onsIdx
  simpa using this

theorem AInv.idx_lt {st : AnState} (h : AInv st) :
    (∀ a ∈ st.offs, a.idx < st.nOn) ∧ ∀ o ∈ st.open_, o.idx < st.nOn := by
  have hm : ∀ i ∈ st.offs.map (·.idx) ++ st.open_.map (·.idx), i < st.nOn :=
    fun i hi => List.mem_range.mp (h.perm.mem_iff.mp hi)
  exact ⟨fun a ha => hm _ (List.mem_append_left _ (List.mem_map_of_mem ha)),
    fun o ho => hm _ (List.mem_append_right _ (List.mem_map_of_mem ho))⟩

theorem find?_split {α} {p : α → Bool} {l : List α} {o : α} (h : l.find? p = some o) :
    p o = true ∧ ∃ l₁ l₂, l = l₁ ++ o :: l₂ ∧ (∀ a ∈ l₁, ¬ p a = true) ∧ l.eraseP p = l₁ ++ l₂ := by
  obtain ⟨ho, l₁, l₂, rfl, h₁⟩ := List.find?_eq_some_iff_append.mp h
  have h₁' : ∀ a ∈ l₁, ¬ p a = true := fun a ha => by simpa using h₁ a ha
  exact ⟨ho, l₁, l₂, rfl, h₁', by rw [List.eraseP_append_right _ h₁', List.eraseP_cons_of_pos ho]⟩

theorem perm_cons_eraseP {α} (p : α → Bool) (l : List α) (o : α) (h : l.find? p = some o) :
    l.Perm (o :: l.eraseP p) := by
  obtain ⟨_, l₁, l₂, rfl, _, he⟩ := find?_split h
  rw [he]
  exact List.perm_middle

theorem getElem?_append_some {α} {l : List α} {i : Nat} {a : α} (l' : List α) (h : l[i]? = some a) :
    (l ++ l')[i]? = some a := by
  rw [List.getElem?_append_left (List.getElem?_eq_some_iff.mp h).1]; exact h

theorem AInv.step {st : AnState} (h : AInv st) (e : SEv) : AInv (anStep st e) := by
  cases hoff : e.isOff with
  | true =>
    cases hf : st.open_.find? (fun o => o.pitch == e.pitch) with
    | none => rw [anStep_off_none st e hoff hf]; exact ⟨h.onsIdx, h.onSelf, h.openOn, h.offOn, h.perm⟩
    | some o =>
      have ho : o ∈ st.open_ := List.mem_of_find?_eq_some hf
      have hp : o.pitch = e.pitch := by simpa using List.find?_some hf
      have hons := anStep_off_ons st e o hoff hf
      have hoffs := anStep_off_offs st e o hoff hf
      rw [anStep_off_some st e o hoff hf] at hons hoffs ⊢
      refine ⟨hons ▸ h.onsIdx, ?_, ?_, ?_, ?_⟩
      · intro a ha haoff
        rcases List.mem_append.mp ha with ha | ha
        · exact h.onSelf a ha haoff
        · rw [List.mem_singleton.mp ha] at haoff; exact absurd haoff (by simp)
      · intro o' ho'
        rw [hons]
        exact h.openOn o' (List.mem_of_mem_eraseP ho')
      · intro a ha haoff
        rw [hons]
        rcases List.mem_append.mp ha with ha | ha
        · exact h.offOn a ha haoff
        · rw [List.mem_singleton.mp ha, h.openOn o ho]
          simp only [OpenE.onOf, AEv.onOf, hp]
      · -- the closed note's number moves from the open list to the NOTE_OFFs
        rw [hoffs, List.map_append, List.append_assoc]
        exact ((perm_cons_eraseP _ st.open_ o hf).map (·.idx)).symm.append_left _ |>.trans h.perm
  | false =>
    have hons := anStep_on_ons st e hoff
    have hoffs := anStep_on_offs st e hoff
    rw [anStep_on st e hoff] at hons hoffs ⊢
    refine ⟨?_, ?_, ?_, ?_, ?_⟩
    · rw [hons, List.map_append, h.onsIdx, List.range_succ]; rfl
    · intro a ha haoff
      rcases List.mem_append.mp ha with ha | ha
      · exact h.onSelf a ha haoff
      · rw [List.mem_singleton.mp ha]
    · intro o ho
      rw [hons]
      rcases List.mem_append.mp ho with ho | ho
      · exact getElem?_append_some _ (h.openOn o ho)
      · rw [List.mem_singleton.mp ho, List.getElem?_append_right (by rw [h.onsLen]; exact Nat.le_refl _), h.onsLen]
        simp [OpenE.onOf]
    · intro a ha haoff
      rw [hons]
      rcases List.mem_append.mp ha with ha | ha
      · exact getElem?_append_some _ (h.offOn a ha haoff)
      · rw [List.mem_singleton.mp ha] at haoff; exact absurd haoff (by simp)
    · rw [hoffs, List.map_append, List.range_succ, ← List.append_assoc]
      exact h.perm.append_right _

theorem annotate_inv (es : List SEv) : AInv (annotate es) := anRun_inv (fun _ e h => h.step e) AInv.init es

theorem anStep_ok (st : AnState) (e : SEv) (h : (anStep st e).ok = true) : st.ok = true := by
  cases hoff : e.isOff with
  | true =>
    cases hf : st.open_.find? (fun o => o.pitch == e.pitch) with
    | none => rw [anStep_off_none st e hoff hf] at h; exact absurd h (by simp)
    | some o => rw [anStep_off_some st e o hoff hf] at h; exact h
  | false => rw [anStep_on st e hoff] at h; exact h

theorem anRun_ok (st : AnState) (es : List SEv) (h : (anRun st es).ok = true) : st.ok = true := by
  induction es generalizing st with
  | nil => exact h
  | cons e es ih => exact anStep_ok st e (ih _ h)

/-- `he`: `AEv.toS` gives every NOTE_OFF bin 0, as `stream` does -/
theorem anStep_toS (st : AnState) (e : SEv) (he : e.isOff = true → e.bin = 0) (hok : (anStep st e).ok = true) :
    (anStep st e).out.map AEv.toS = st.out.map AEv.toS ++ [e] := by
  obtain ⟨s, off, p, b⟩ := e
  cases off with
  | true =>
    obtain rfl : b = 0 := he rfl
    cases hf : st.open_.find? (fun o => o.pitch == p) with
    | none => rw [anStep_off_none st _ rfl hf] at hok; exact absurd hok (by simp)
    | some o => rw [anStep_off_some st _ o rfl hf, List.map_append]; rfl
  | false => rw [anStep_on st _ rfl, List.map_append]; rfl

theorem anRun_stream (es : List SEv) (hes : ∀ e ∈ es, e.isOff = true → e.bin = 0) :
    ∀ st : AnState, (anRun st es).ok = true → (anRun st es).out.map AEv.toS = st.out.map AEv.toS ++ es := by
  induction es with
  | nil => intro st _; exact (List.append_nil _).symm
  | cons e es ih =>
    intro st hok
    rw [anRun_cons, ih (fun x hx => hes x (List.mem_cons_of_mem _ hx)) _ hok,
      anStep_toS st e (hes e (List.mem_cons_self ..)) (anRun_ok _ _ hok), List.append_assoc]
    rfl

theorem annotate_stream (es : List SEv) (hes : ∀ e ∈ es, e.isOff = true → e.bin = 0)
    (hok : (annotate es).ok = true) : (annotate es).out.map AEv.toS = es :=
  anRun_stream es hes ⟨0, [], [], true⟩ hok

end NSV.C06P

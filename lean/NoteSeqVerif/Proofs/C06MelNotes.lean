import NoteSeqVerif.Model.C06
import NoteSeqVerif.Proofs.C07Spec
/-! C06 — Melody, the rendered notes in closed form (core Lean only).

`melodyNotesFrom k cur xs` = the note that is sounding (`cur`), closed at the first following event that is not
NO_EVENT (`closeAt`), followed by `melT k xs`: one note per pitch event, from its index to the next event that is not
NO_EVENT (or to the end).  The per-index reading `ruleAt` of a note list is C07's `melRule` in relative indexes; which
notes of a list it reads at a position is said for concatenations (`ruleAt_append_later`, `ruleAt_append_behind`). -/
namespace NSV.C06

theorem isPitch_iff (x : Int) : isPitch x = true ↔ 0 ≤ x ∧ x ≤ 127 := by
  unfold isPitch
  rw [Bool.and_eq_true, decide_eq_true_iff, decide_eq_true_iff]
  rfl

theorem isPitch_note_off : isPitch C07.Gen.MELODY_NOTE_OFF = false := by decide
theorem isPitch_no_event : isPitch C07.Gen.MELODY_NO_EVENT = false := by decide

theorem other_is_no_event {x : Int} (h1 : isPitch x = false) (h2 : x ≠ C07.Gen.MELODY_NOTE_OFF)
    (h3 : C07.Gen.MELODY_NO_EVENT ≤ x ∧ x ≤ Gen.MAX_MIDI_PITCH) : x = C07.Gen.MELODY_NO_EVENT := by
  simp only [C07.Gen.MELODY_NOTE_OFF, C07.Gen.MELODY_NO_EVENT, Gen.MAX_MIDI_PITCH] at *
  by_cases h0 : 0 ≤ x
  · simp [isPitch, Gen.MIN_MIDI_PITCH, Gen.MAX_MIDI_PITCH, h0, h3.2] at h1
  · omega

/-- index of the first event at or after `k` that is a pitch or a NOTE_OFF; `k + len` if there is none -/
def closeAt : Int → List Int → Int
  | k, [] => k
  | k, x :: xs => if isPitch x then k else if x = C07.Gen.MELODY_NOTE_OFF then k else closeAt (k + 1) xs

def melT : Int → List Int → List SNote
  | _, [] => []
  | k, x :: xs => if isPitch x then ⟨x, k, closeAt (k + 1) xs⟩ :: melT (k + 1) xs else melT (k + 1) xs

theorem melodyNotesFrom_eq : ∀ (xs : List Int) (k : Int) (cur : Option (Int × Int)),
    melodyNotesFrom k cur xs = closeCur (closeAt k xs) cur ++ melT k xs := by
  intro xs
  induction xs with
  | nil => intro k cur; simp [melodyNotesFrom, closeAt, melT]
  | cons x xs ih =>
    intro k cur
    unfold melodyNotesFrom closeAt melT
    by_cases hp : isPitch x = true
    · simp only [hp, ↓reduceIte, ih (k + 1) (some (x, k)), closeCur, List.cons_append, List.nil_append]
    · simp only [hp, Bool.false_eq_true, ↓reduceIte]
      by_cases ho : x = C07.Gen.MELODY_NOTE_OFF
      · simp only [ho, ↓reduceIte, ih (k + 1) none, closeCur, List.nil_append]
      · simp only [ho, ↓reduceIte, ih (k + 1) cur]

theorem melodyNotes_eq (ev : List Int) : melodyNotes ev = melT 0 ev := by
  simp [melodyNotes, melodyNotesFrom_eq, closeCur]

theorem closeAt_bounds : ∀ (xs : List Int) (k : Int), k ≤ closeAt k xs ∧ closeAt k xs ≤ k + xs.length := by
  intro xs
  induction xs with
  | nil => intro k; simp [closeAt]
  | cons x xs ih =>
    intro k
    unfold closeAt
    have := ih (k + 1)
    simp only [List.length_cons]
    split
    · omega
    · split
      · omega
      · push_cast; omega

theorem melT_mem : ∀ (xs : List Int) (k : Int), ∀ d ∈ melT k xs,
    isPitch d.pitch = true ∧ k ≤ d.a ∧ d.a < d.b ∧ d.b ≤ k + xs.length := by
  intro xs
  induction xs with
  | nil => intro k d hd; simp [melT] at hd
  | cons x xs ih =>
    intro k d hd
    unfold melT at hd
    simp only [List.length_cons]
    split at hd
    · rename_i hp
      rcases List.mem_cons.mp hd with rfl | h
      · have := closeAt_bounds xs (k + 1)
        refine ⟨hp, Int.le_refl _, ?_, ?_⟩
        · show k < closeAt (k + 1) xs; omega
        · show closeAt (k + 1) xs ≤ k + ((xs.length + 1 : Nat) : Int); push_cast; omega
      · obtain ⟨h1, h2, h3, h4⟩ := ih (k + 1) d h
        exact ⟨h1, by omega, h3, by push_cast; omega⟩
    · obtain ⟨h1, h2, h3, h4⟩ := ih (k + 1) d hd
      exact ⟨h1, by omega, h3, by push_cast; omega⟩

theorem melT_sorted : ∀ (xs : List Int) (k : Int), (melT k xs).Pairwise (fun x y => x.a < y.a) := by
  intro xs
  induction xs with
  | nil => intro k; simp [melT]
  | cons x xs ih =>
    intro k
    unfold melT
    split
    · refine List.pairwise_cons.mpr ⟨?_, ih (k + 1)⟩
      intro d hd
      have := (melT_mem xs (k + 1) d hd).2.1
      show k < d.a
      omega
    · exact ih (k + 1)

def onset (N : List SNote) (t : Int) : Option SNote := N.find? (fun d => d.a == t)

def latest (N : List SNote) (t : Int) : Option SNote := (N.filter (fun d => decide (d.a < t))).getLast?

/-- C07's `melRule` on relative indexes: the pitch of the note that starts at `t`; otherwise NOTE_OFF where the
latest note ends, NO_EVENT elsewhere -/
def ruleAt (N : List SNote) (t : Int) : Int :=
  match onset N t with
  | some d => d.pitch
  | none =>
    match latest N t with
    | some d => if d.b = t then C07.Gen.MELODY_NOTE_OFF else C07.Gen.MELODY_NO_EVENT
    | none => C07.Gen.MELODY_NO_EVENT

theorem melRule_rel (start : Int) (K : List Note) (t : Int) :
    C07.melRule K (start + t) = ruleAt (K.map (fun k => ⟨k.pitch, k.qs - start, k.qe - start⟩)) t := by
  have e : ∀ x : Int, x - start = t ↔ x = start + t := fun x => by omega
  have e1 : ((fun d : SNote => d.a == t) ∘ (fun k : Note => (⟨k.pitch, k.qs - start, k.qe - start⟩ : SNote))) =
      (fun k : Note => k.qs == start + t) :=
    funext fun k => decide_eq_decide.mpr (e k.qs)
  have e2 : ((fun d : SNote => decide (d.a < t)) ∘ (fun k : Note => (⟨k.pitch, k.qs - start, k.qe - start⟩ : SNote))) =
      (fun k : Note => decide (k.qs < start + t)) :=
    funext fun k => decide_eq_decide.mpr (show k.qs - start < t ↔ k.qs < start + t by omega)
  unfold C07.melRule ruleAt onset latest
  rw [List.find?_map, List.filter_map, List.getLast?_map, e1, e2]
  cases K.find? (fun k => k.qs == start + t) with
  | some d => rfl
  | none =>
    cases (K.filter (fun k => decide (k.qs < start + t))).getLast? with
    | none => rfl
    | some d => show _ = (if d.qe - start = t then _ else _); rw [ite_congr (propext (e d.qe)) (fun _ => rfl) (fun _ => rfl)]

theorem ruleAt_append_later (P M : List SNote) (t : Int) (h : ∀ d ∈ M, t < d.a) :
    ruleAt (P ++ M) t = ruleAt P t := by
  have e1 : M.find? (fun d => d.a == t) = none := by
    rw [List.find?_eq_none]; intro d hd; have := h d hd; simp; omega
  have e2 : M.filter (fun d => decide (d.a < t)) = [] := by
    rw [List.filter_eq_nil_iff]; intro d hd; have := h d hd; simp; omega
  simp only [ruleAt, onset, latest, List.find?_append, e1, Option.or_none, List.filter_append, e2, List.append_nil]

theorem ruleAt_cons_later (h : SNote) (M : List SNote) (t : Int) (hM : ∀ d ∈ M, t < d.a) :
    ruleAt (h :: M) t = ruleAt [h] t :=
  ruleAt_append_later [h] M t hM

theorem ruleAt_append_behind (P : List SNote) (n : SNote) (M : List SNote) (t : Int)
    (hP : ∀ p ∈ P, p.a < n.a) (hn : n.a ≤ t) : ruleAt (P ++ n :: M) t = ruleAt (n :: M) t := by
  have e1 : P.find? (fun d => d.a == t) = none := by
    rw [List.find?_eq_none]; intro d hd; have := hP d hd; simp; omega
  simp only [ruleAt, onset, latest, List.find?_append, e1, Option.none_or, List.filter_append]
  by_cases h : n.a = t
  · simp [h]
  · have hlt : n.a < t := by omega
    simp only [List.filter_cons, hlt, decide_true, ↓reduceIte, List.getLast?_append, List.getLast?_cons,
      Option.some_or]

/-- a head note that started before `t` and does not end at `t` does not change the reading at `t`: it is read only
when nothing after it has started before `t`, and then it reads NO_EVENT, which is what the tail alone reads -/
theorem ruleAt_cons_closed (h : SNote) (N : List SNote) (t : Int) (hh : h.a < t) (hb : h.b ≠ t) :
    ruleAt (h :: N) t = ruleAt N t := by
  have e1 : (h.a == t) = false := by simp; omega
  simp only [ruleAt, onset, latest, List.find?_cons, e1, List.filter_cons, hh, decide_true, ↓reduceIte]
  cases N.find? (fun d => d.a == t) with
  | some d => rfl
  | none =>
    simp only
    cases hf : N.filter (fun d => decide (d.a < t)) with
    | nil => simp [hb]
    | cons y ys => simp [List.getLast?_cons_cons]

theorem ruleAt_singleton (h : SNote) (t : Int) : ruleAt [h] t =
    if h.a = t then h.pitch
    else if h.a < t then (if h.b = t then C07.Gen.MELODY_NOTE_OFF else C07.Gen.MELODY_NO_EVENT)
    else C07.Gen.MELODY_NO_EVENT := by
  by_cases h1 : h.a = t
  · simp [ruleAt, onset, h1]
  · by_cases h2 : h.a < t <;> simp [ruleAt, onset, latest, h1, h2]

end NSV.C06

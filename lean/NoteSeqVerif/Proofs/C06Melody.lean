import NoteSeqVerif.Proofs.C06MelCanon
/-! C06 — Melody, discrete half: the rendered notes of a canonical melody are a chain of notes whose reading is the
melody (`rendered_of_canonical`); so extraction (C07 model, through its specification `melody_steps`) of a sequence
whose notes are exactly the rendered ones keeps them all and returns the melody.  (core Lean only) -/
namespace NSV.C06
open NSV.C07

/-- every note starts fewer than `gap` steps after the end `pb` of the note before it: the chain condition of
`ChainData` in the recursive form the induction over the events produces (`chainOk_split`) -/
def chainOk (gap : Int) : Option Int → List SNote → Prop
  | _, [] => True
  | pb, n :: ns => (∀ b, pb = some b → n.a - b < gap) ∧ chainOk gap (some n.b) ns

/-- the gaps of the rendered notes against the two scans: while a note sounds it ends at the next event that is not
NO_EVENT; otherwise `st` is the state of the gap scan (the last NOTE_OFF `d` steps back, or no note yet) -/
theorem chain_rendered (gap : Int) (hgap : 0 < gap) : ∀ (xs : List Int) (k : Int),
    (offsOk true xs = true → gapsOk gap none xs = true → chainOk gap (some (closeAt k xs)) (melT k xs)) ∧
    (∀ st : Option Int, offsOk false xs = true → gapsOk gap st xs = true →
      chainOk gap (st.map (k - ·)) (melT k xs)) := by
  intro xs
  induction xs with
  | nil => intro k; simp [melT, chainOk]
  | cons x xs ih =>
    intro k
    obtain ⟨ihS, ihO⟩ := ih (k + 1)
    unfold offsOk gapsOk closeAt melT
    by_cases hp : isPitch x = true
    · simp only [hp, ↓reduceIte, Bool.true_and, Bool.and_eq_true]
      constructor
      · intro ho hg
        exact ⟨fun b hb => by cases hb; show k - k < gap; omega, ihS ho hg⟩
      · intro st ho hdg
        refine ⟨fun b hb => ?_, ihS ho hdg.2⟩
        cases st with
        | none => cases hb
        | some d =>
          cases hb
          have := of_decide_eq_true hdg.1
          show k - (k - d) < gap
          omega
    · have hp' : isPitch x = false := by simpa using hp
      simp only [hp', Bool.false_eq_true, ↓reduceIte]
      by_cases ho : x = Gen.MELODY_NOTE_OFF
      · simp only [ho, ↓reduceIte, Bool.true_and, Bool.false_and, Bool.false_eq_true, false_imp_iff,
          implies_true, and_true]
        intro hoff hg
        have := ihO (some 1) hoff hg
        rwa [Option.map_some, show k + 1 - 1 = k by omega] at this
      · simp only [ho, ↓reduceIte, Option.map_none]
        refine ⟨ihS, fun st hoff hg => ?_⟩
        have := ihO (st.map (· + 1)) hoff hg
        rwa [Option.map_map, show ((k + 1 - ·) ∘ (· + 1) : Int → Int) = (k - ·) from funext fun d => by
          show k + 1 - (d + 1) = k - d; omega] at this

/-- **reading the rendered notes back gives the events** (`xs` rendered from index `k` on, `head` sounding) -/
theorem read_rendered : ∀ (xs : List Int) (k : Int) (head : Option (Int × Int)),
    (∀ x ∈ xs, C07.Gen.MELODY_NO_EVENT ≤ x ∧ x ≤ Gen.MAX_MIDI_PITCH) → offsOk head.isSome xs = true →
    (∀ p a, head = some (p, a) → a < k) →
    xs = tab (ruleAt (melodyNotesFrom k head xs)) k xs.length := by
  intro xs
  induction xs with
  | nil => intros; rfl
  | cons x xs ih =>
    intro k head hrange hoffs hhead
    have hrange' : ∀ y ∈ xs, C07.Gen.MELODY_NO_EVENT ≤ y ∧ y ≤ Gen.MAX_MIDI_PITCH :=
      fun y hy => hrange y (List.mem_cons_of_mem _ hy)
    have hlater : ∀ d ∈ melT (k + 1) xs, k < d.a := fun d hd => by
      have := (melT_mem xs (k + 1) d hd).2.1; omega
    have hcur : ∀ c, ∀ d ∈ closeCur c head, d.a < k := by
      intro c d hd
      cases head with
      | none => cases hd
      | some pa =>
        obtain ⟨p, a⟩ := pa
        rw [List.mem_singleton.mp hd]
        exact hhead p a rfl
    unfold offsOk at hoffs
    rw [List.length_cons, tab, melodyNotesFrom]
    by_cases hp : isPitch x = true
    · -- a pitch: from here on only the new note and what follows it are read
      simp only [hp, ↓reduceIte] at hoffs ⊢
      have hdrop : ∀ t, k ≤ t → ruleAt (closeCur k head ++ melodyNotesFrom (k + 1) (some (x, k)) xs) t =
          ruleAt (melodyNotesFrom (k + 1) (some (x, k)) xs) t := by
        intro t ht
        rw [melodyNotesFrom_eq]
        exact ruleAt_append_behind _ ⟨x, k, _⟩ _ t (hcur k) ht
      rw [hdrop k (Int.le_refl k), tab_congr _ _ fun t ht => hdrop t (by omega),
        ← ih (k + 1) (some (x, k)) hrange' hoffs (by intro p a h; cases h; omega), melodyNotesFrom_eq]
      show _ = ruleAt (⟨x, k, closeAt (k + 1) xs⟩ :: melT (k + 1) xs) k :: xs
      rw [ruleAt_cons_later _ _ k hlater, ruleAt_singleton, if_pos rfl]
    · have hp' : isPitch x = false := by simpa using hp
      simp only [hp', Bool.false_eq_true, ↓reduceIte] at hoffs ⊢
      by_cases ho : x = C07.Gen.MELODY_NOTE_OFF
      · -- NOTE_OFF: the sounding note ends here and is not read afterwards
        simp only [ho, ↓reduceIte, Bool.and_eq_true] at hoffs ⊢
        cases head with
        | none => simp at hoffs
        | some c =>
          obtain ⟨p, a⟩ := c
          have ha := hhead p a rfl
          have e : melodyNotesFrom (k + 1) none xs = melT (k + 1) xs := by rw [melodyNotesFrom_eq]; rfl
          show _ = ruleAt (⟨p, a, k⟩ :: melodyNotesFrom (k + 1) none xs) k ::
            tab (ruleAt (⟨p, a, k⟩ :: melodyNotesFrom (k + 1) none xs)) (k + 1) xs.length
          rw [tab_congr _ _ fun t ht => ruleAt_cons_closed ⟨p, a, k⟩ _ t (by show a < t; omega) (by show k ≠ t; omega),
            ← ih (k + 1) none hrange' hoffs.2 (by intro p a h; cases h), e, ruleAt_cons_later _ _ k hlater,
            ruleAt_singleton, if_neg (by show ¬ a = k; omega), if_pos ha, if_pos rfl]
      · -- NO_EVENT: nothing starts here, and the note that sounds, if any, ends later
        simp only [ho, ↓reduceIte] at hoffs ⊢
        rw [← ih (k + 1) head hrange' hoffs (fun p a h => by have := hhead p a h; omega), melodyNotesFrom_eq,
          ruleAt_append_later _ _ k hlater, other_is_no_event hp' ho (hrange x (List.mem_cons_self ..))]
        have := (closeAt_bounds xs (k + 1)).1
        cases head with
        | none => rfl
        | some c =>
          obtain ⟨p, a⟩ := c
          show _ = ruleAt [⟨p, a, closeAt (k + 1) xs⟩] k :: xs
          have ha := hhead p a rfl
          rw [ruleAt_singleton, if_neg (by show ¬ a = k; omega), if_pos ha,
            if_neg (by show ¬ closeAt (k + 1) xs = k; omega)]

theorem chainOk_split {gap : Int} : ∀ {N : List SNote} {pb : Option Int}, chainOk gap pb N →
    ∀ pre x y post, N = pre ++ x :: y :: post → y.a - x.b < gap := by
  intro N
  induction N with
  | nil => intro pb _ pre x y post e; simp at e
  | cons n N ih =>
    intro pb h pre x y post e
    cases pre with
    | nil =>
      obtain ⟨rfl, rfl⟩ := List.cons.inj e
      exact h.2.1 n.b rfl
    | cons p pre => exact ih h.2 pre x y post (List.cons.inj e).2

theorem melRule_rendered (tm : Int → Rat) (vel inst prog : Int) (drum : Bool) (S : Int) (N : List SNote) (t : Int) :
    melRule (N.map (qNote tm vel inst prog drum S)) (S + t) = ruleAt N t := by
  rw [melRule_rel S, List.map_map]
  congr 1
  refine (List.map_congr_left fun d _ => ?_).trans (List.map_id N)
  show (⟨d.pitch, S + d.a - S, S + d.b - S⟩ : SNote) = d
  rw [show S + d.a - S = d.a by omega, show S + d.b - S = d.b by omega]

theorem kept_all (tm : Int → Rat) (vel inst prog : Int) (drum : Bool) (S gap : Int) :
    ∀ (N : List SNote) (h : SNote), ChainData gap (h :: N) →
      keptFrom gap (qNote tm vel inst prog drum S h) (N.map (qNote tm vel inst prog drum S)) =
        N.map (qNote tm vel inst prog drum S) ∧
      dupFrom gap (qNote tm vel inst prog drum S h) (N.map (qNote tm vel inst prog drum S)) = false := by
  intro N
  induction N with
  | nil => intro h _; simp [keptFrom, dupFrom]
  | cons n N ih =>
    intro h c
    have h1 := (List.pairwise_cons.mp c.sorted).1 n (List.mem_cons_self ..)
    have h2 := c.chain [] h n N rfl
    obtain ⟨ih1, ih2⟩ := ih n c.tail
    have e1 : ¬ (qNote tm vel inst prog drum S n).qs = (qNote tm vel inst prog drum S h).qs := by
      show ¬ S + n.a = S + h.a; omega
    have e2 : ¬ gap ≤ (qNote tm vel inst prog drum S n).qs - (qNote tm vel inst prog drum S h).qe := by
      show ¬ gap ≤ S + n.a - (S + h.b); omega
    simp only [List.map_cons, keptFrom, dupFrom, e1, e2, ↓reduceIte, ih1, ih2, and_self]

theorem melodyNotes_bounds (ev : List Int) {S B : Int} (h : S + ev.length < B) :
    ∀ d ∈ melodyNotes ev, 0 ≤ d.a ∧ d.a < d.b ∧ S + d.b < B := by
  intro d hd
  rw [melodyNotes_eq] at hd
  obtain ⟨_, h2, h3, h4⟩ := melT_mem ev 0 d hd
  omega

theorem CanonicalMelody.start_nonneg {spb gap : Int} {pad : Bool} {ss S : Int} {ev : List Int}
    (hc : CanonicalMelody spb gap pad ss S ev) : 0 ≤ S := by
  rcases hc with ⟨_, h⟩ | ⟨_, _, h1, h2, _⟩ <;> omega

/-- **the rendered notes of a canonical melody** — the converse of `canonical_of_rule`: a chain of notes (`ChainData`)
with the first note in the first bar and the last one ending where the line ends (up to `pad_end`), and the line is
their reading (`read_rendered`) -/
theorem rendered_of_canonical {spb gap : Int} {pad : Bool} {ev : List Int} (hpos : 0 < spb) (hgap : 0 < gap)
    (hrange : ∀ x ∈ ev, Gen.MELODY_NO_EVENT ≤ x ∧ x ≤ C06.Gen.MAX_MIDI_PITCH) (hoffs : offsOk false ev = true)
    (hfirst : firstOk spb ev = true) (hgaps : gapsOk gap none ev = true) (hend : endOk pad spb ev = true) :
    ∃ n0 T d, melT 0 ev = n0 :: T ∧ 0 ≤ n0.a ∧ n0.a < spb ∧ ChainData gap (n0 :: T) ∧
      (n0 :: T).getLast? = some d ∧ d.b + (if pad then Int.fmod (-d.b) spb else 0) = ev.length ∧
      ev = tab (ruleAt (n0 :: T)) 0 ev.length := by
  have hrd : ev = tab (ruleAt (melT 0 ev)) 0 ev.length := by
    have := read_rendered ev 0 none hrange hoffs (by intro p a h; cases h)
    rwa [show melodyNotesFrom 0 none ev = melT 0 ev from melodyNotes_eq ev] at this
  have hN : ChainData gap (melT 0 ev) :=
    ⟨melT_sorted ev 0, fun x hx => ⟨(melT_mem ev 0 x hx).2.2.1, (melT_mem ev 0 x hx).1⟩,
      chainOk_split ((chain_rendered gap hgap ev 0).2 none hoffs hgaps)⟩
  have hmem := melT_mem ev 0
  unfold firstOk at hfirst
  -- the first pitch, like the end below, is read off the reading of the rendered notes
  rw [hrd] at hfirst
  cases hT : melT 0 ev with
  | nil => rw [hT, first_tab_nil] at hfirst; cases hfirst
  | cons n0 T =>
    rw [hT] at hN hrd hmem hfirst
    obtain ⟨hp0, h0, hab, hb⟩ := hmem n0 (List.mem_cons_self ..)
    rw [first_tab hN.sorted hp0 _ 0 h0 (by omega)] at hfirst
    have hspb : n0.a < spb := by have := of_decide_eq_true hfirst; omega
    obtain ⟨d, hg⟩ : ∃ d, (n0 :: T).getLast? = some d := ⟨_, List.getLast?_eq_some_getLast (List.cons_ne_nil _ _)⟩
    obtain ⟨_, hda, _, hdb⟩ := hmem d (List.mem_of_getLast? hg)
    rw [Int.zero_add] at hdb
    have hlm := end_tab hN.sorted hN.valid d hg hda ev.length hdb
    rw [← hrd] at hlm
    refine ⟨n0, T, d, rfl, h0, hspb, hN, hg, ?_, hrd⟩
    unfold endOk at hend
    rw [hlm] at hend
    by_cases hz : (ev.length : Int) = d.b
    · rw [if_pos hz] at hend
      cases pad with
      | false => simpa using hz.symm
      | true =>
        simp only [Bool.not_true, Bool.false_or, decide_eq_true_eq] at hend
        rw [← hz]; exact (pad_line hpos _).mpr ⟨Int.le_refl _, by omega, hend⟩
    · rw [if_neg hz] at hend
      simp only [Bool.and_eq_true, decide_eq_true_eq] at hend
      obtain ⟨⟨rfl, hmodl⟩, hj⟩ := hend
      exact (pad_line hpos _).mpr ⟨hdb, by omega, hmodl⟩

/-- **discrete half for Melody**: `s` is a quantized sequence whose notes are the rendered notes of the canonical
melody `ev` (start step `S`), in the rendered order, on instrument `inst`, not drums, with non-zero velocity; the gap
tolerance is at least one bar. -/
theorem melody_discrete (s : NoteSeq) (tm : Int → Rat) (ev : List Int) (S ss inst gapBars vel prog : Int)
    (ip pad fd : Bool) (spb : Int)
    (hspb : stepsPerBar s = .ok spb) (hpos : 0 < spb) (hgap : 0 < gapBars) (hvel : vel ≠ 0)
    (hs : s.notes = (melodyNotes ev).map (qNote tm vel inst prog false S))
    (hc : CanonicalMelody spb (gapBars * spb) pad ss S ev) :
    melodyFromQuantized s ss inst gapBars ip pad fd = .ok ⟨ev, S, S + ev.length, spb, s.spq⟩ := by
  rcases hc with ⟨rfl, rfl⟩ | ⟨hrange, hoffs, hss0, hssS, hmod, hfirst, hgaps, hend⟩
  · have : s.notes.filter (melSel ss inst fd) = [] := by rw [hs]; simp [melodyNotes, melodyNotesFrom, closeCur]
    rw [melody_empty s ss inst gapBars ip pad fd spb hspb this]; simp
  · obtain ⟨n0, T, d, hT, hn0, hn0spb, hchain, hg, hfin, hrd⟩ :=
      rendered_of_canonical hpos (Int.mul_pos hgap hpos) hrange hoffs hfirst hgaps hend
    have hmem := melT_mem ev 0
    have hsorted := hchain.sorted
    rw [melodyNotes_eq, hT] at hs
    rw [hT] at hmem
    let q := qNote tm vel inst prog false S
    -- selection and sorting leave the rendered notes as they are
    have hselall : s.notes.filter (melSel ss inst fd) = s.notes := by
      rw [List.filter_eq_self]; intro n hn
      rw [hs, List.mem_map] at hn
      obtain ⟨x, hx, rfl⟩ := hn
      have := (hmem x hx).2.1
      simp [melSel, qNote, rNote, hvel]
      apply decide_eq_true
      omega
    have hL : (s.notes.filter (melSel ss inst fd)).mergeSort melLe = q n0 :: T.map q := by
      rw [hselall, hs]
      apply List.mergeSort_of_pairwise
      rw [List.pairwise_map]
      apply List.Pairwise.imp _ hsorted
      intro a b hab
      simp only [melLe, Bool.or_eq_true, decide_eq_true_eq]
      left
      show S + a.a < S + b.a
      omega
    have hvalid : ∀ n ∈ s.notes, melSel ss inst fd n = true → n.qs < n.qe ∧ 0 ≤ n.pitch := by
      intro n hn _
      rw [hs, List.mem_map] at hn
      obtain ⟨x, hx, rfl⟩ := hn
      obtain ⟨h1, _, h3, _⟩ := hmem x hx
      simp only [isPitch, C06.Gen.MIN_MIDI_PITCH, Bool.and_eq_true, decide_eq_true_eq] at h1
      exact ⟨by show S + x.a < S + x.b; omega, by show 0 ≤ x.pitch; exact of_decide_eq_true h1.1⟩
    obtain ⟨hkept, hdup⟩ := kept_all tm vel inst prog false S (gapBars * spb) T n0 hchain
    obtain ⟨_, hmain⟩ := melody_steps s ss inst gapBars ip pad fd spb hspb hpos hvalid _ _ hL
    obtain ⟨last, evs, hlast, hres, hlen, hidx⟩ := hmain (by rw [hdup]; simp)
    rw [hkept] at hlast hidx
    have hstart : (q n0).qs - Int.fmod ((q n0).qs - ss) spb = S :=
      (bar_line hpos S).mpr ⟨by show S ≤ S + n0.a; omega, by show S + n0.a < S + spb; omega, hmod⟩
    rw [hstart] at hres hlen hidx
    rw [← List.map_cons, List.getLast?_map, hg, Option.map_some, Option.some.injEq] at hlast
    subst hlast
    rw [show (q d).qe - S = d.b by show S + d.b - S = d.b; omega] at hlen
    have hlen_nat : evs.length = ev.length := by exact_mod_cast hlen.trans hfin
    have hevents : evs = ev :=
      (eq_tab _ evs fun i hi => by
        rw [hidx i hi]; exact congrArg some (melRule_rendered tm vel inst prog false S (n0 :: T) i)).trans
        (by rw [hlen_nat]; exact hrd.symm)
    rw [hres, hevents]

end NSV.C06

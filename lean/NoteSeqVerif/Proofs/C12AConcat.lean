import NoteSeqVerif.Proofs.C12AOps
import NoteSeqVerif.Proofs.C13
/-! C12 — helper lemmas for the permutation invariance of `concatenate_sequences` and
`repeat_sequence_to_duration` (model of C13): `MergeFrom`, the concatenation loop one round at a time
(C13's `catLoop_cons`: two rejections, else `MergeFrom` of the piece `placed` at its offset) in one induction
over two storage orders (`catLoop_inv`; `catLoop_perm` is its reading without a condition on the pieces),
`remove_redundant_data`. -/
namespace NSV.C12
open NSV.C13

def MPerm (m m' : MSeq) : Prop :=
  NSPerm m.ns m'.ns ∧ m.composers = m'.composers ∧ m.genres = m'.genres

def MPermList : List MSeq → List MSeq → Prop
  | [], [] => True
  | a :: l, b :: l' => MPerm a b ∧ MPermList l l'
  | _, _ => False

def ResPermM (r r' : Except Err MSeq) : Prop :=
  match r, r' with
  | .ok a, .ok b => MPerm a b
  | .error e, .error e' => e = e'
  | _, _ => False

theorem MPerm.refl (m : MSeq) : MPerm m m := ⟨NSPerm.refl _, rfl, rfl⟩

theorem ResPermM.cases {r r' : Except Err MSeq} (h : ResPermM r r') :
    (∃ e, r = .error e ∧ r' = .error e) ∨ ∃ a b, r = .ok a ∧ r' = .ok b ∧ MPerm a b :=
  ResRel.cases (P := MPerm) (by cases r <;> cases r' <;> exact h)

theorem mPermList_pointwise : ∀ {l l' : List MSeq}, MPermList l l' ↔ C10.Pointwise MPerm l l'
  | [], [] => Iff.rfl
  | _ :: _, _ :: _ => and_congr Iff.rfl mPermList_pointwise
  | [], _ :: _ => Iff.rfl
  | _ :: _, [] => Iff.rfl

theorem MPermList.refl (l : List MSeq) : MPermList l l :=
  mPermList_pointwise.mpr (.refl MPerm.refl l)

theorem MPermList.symm : ∀ {l l' : List MSeq}, MPermList l l' → MPermList l' l
  | [], [], _ => trivial
  | _ :: _, _ :: _, h => ⟨⟨h.1.1.symm, h.1.2.1.symm, h.1.2.2.symm⟩, MPermList.symm h.2⟩
  | [], _ :: _, h => h.elim
  | _ :: _, [], h => h.elim

theorem MPermList.length_eq {l l' : List MSeq} (h : MPermList l l') : l.length = l'.length :=
  (mPermList_pointwise.mp h).length_eq

theorem MPermList.metaTags : ∀ {l l' : List MSeq}, MPermList l l' →
    l.map (·.ns.metaTag) = l'.map (·.ns.metaTag)
  | [], [], _ => rfl
  | a :: _, b :: _, h => by
    simp only [List.map_cons]
    rw [h.1.1.metaTag, MPermList.metaTags h.2]
  | [], _ :: _, h => h.elim
  | _ :: _, [], h => h.elim

theorem MPermList.replicate (n : Nat) {m m' : MSeq} (h : MPerm m m') :
    MPermList (List.replicate n m) (List.replicate n m') := by
  induction n with
  | zero => trivial
  | succ n ih => exact ⟨h, ih⟩

theorem mergeFrom_perm {a a' b b' : NoteSeq} (ha : NSPerm a a') (hb : NSPerm b b') :
    NSPerm (mergeFrom a b) (mergeFrom a' b') := by
  unfold mergeFrom
  constructor <;> simp only []
  · exact ha.notes.append hb.notes
  · exact ha.tempos.append hb.tempos
  · exact ha.timeSigs.append hb.timeSigs
  · exact ha.keySigs.append hb.keySigs
  · exact ha.texts.append hb.texts
  · exact ha.ccs.append hb.ccs
  · exact ha.bends.append hb.bends
  · exact ha.sectionAnns.append hb.sectionAnns
  · rw [ha.sgroups, hb.sgroups]
  · rw [ha.totalTime, hb.totalTime]
  · rw [ha.totalQSteps, hb.totalQSteps]
  · rw [ha.spq, hb.spq, hb.sps]
  · rw [ha.sps, hb.spq, hb.sps]
  · rw [ha.hasSub, hb.hasSub]
  · rw [ha.subStart, hb.subStart]
  · rw [ha.subEnd, hb.subEnd]
  · rw [ha.tpq, hb.tpq]
  · exact ha.metaTag

theorem mergeFromM_perm {a a' b b' : MSeq} (ha : MPerm a a') (hb : MPerm b b') :
    MPerm (mergeFromM a b) (mergeFromM a' b') := by
  unfold mergeFromM
  exact ⟨mergeFrom_perm ha.1 hb.1, by simp only []; rw [ha.2.1, hb.2.1], by simp only []; rw [ha.2.2, hb.2.2]⟩

/-- the piece one round of the concatenation loop appends, on two storage orders -/
theorem placed_perm (R : Rat → Rat) (o : Rat) {m m' : MSeq} (h : MPerm m m') : MPerm (placed R o m) (placed R o m') := by
  unfold placed
  split
  · exact ⟨shiftSeq_perm R o h.1, h.2.1, h.2.2⟩
  · exact h

abbrev PairsPerm : List (MSeq × Rat) → List (MSeq × Rat) → Prop :=
  C10.Pointwise fun p q => MPerm p.1 q.1 ∧ p.2 = q.2

theorem pairsPerm_zip : ∀ {l l' : List MSeq} (durs : List Rat), MPermList l l' →
    PairsPerm (l.zip durs) (l'.zip durs)
  | [], [], _, _ => trivial
  | a :: l, b :: l', [], _ => trivial
  | a :: l, b :: l', d :: ds, h => by
    simp only [List.zip_cons_cons]
    exact ⟨⟨h.1, rfl⟩, pairsPerm_zip ds h.2⟩
  | [], _ :: _, _, h => h.elim
  | _ :: _, [], _, h => h.elim

theorem pairsPerm_map : ∀ {l l' : List MSeq}, MPermList l l' →
    PairsPerm (l.map (fun s => (s, (0 : Rat)))) (l'.map (fun s => (s, (0 : Rat))))
  | [], [], _ => trivial
  | a :: l, b :: l', h => by
    simp only [List.map_cons]
    exact ⟨⟨h.1, rfl⟩, pairsPerm_map h.2⟩
  | [], _ :: _, h => h.elim
  | _ :: _, [], h => h.elim

/-- every piece, *as shifted by the loop*, satisfies `P` (nothing is asked from the first raised error on) -/
def PiecesOK (P : NoteSeq → Prop) (R : Rat → Rat) (useD : Bool) : Rat → MSeq → List (MSeq × Rat) → Prop
  | _, _, [] => True
  | cur, cat, (s, d) :: rest =>
    if useD ∧ d < s.ns.totalTime then True
    else
      match (if 0 < cur then shiftM R cur s else .ok s) with
      | .error _ => True
      | .ok sh =>
        P sh.ns ∧ PiecesOK P R useD (if useD then R (cur + d) else (mergeFromM cat sh).ns.totalTime)
          (mergeFromM cat sh) rest

instance piecesOKDecidable (P : NoteSeq → Prop) [DecidablePred P] (R : Rat → Rat) (useD : Bool) :
    ∀ (ps : List (MSeq × Rat)) (cur : Rat) (cat : MSeq), Decidable (PiecesOK P R useD cur cat ps)
  | [], _, _ => by unfold PiecesOK; infer_instance
  | (s, d) :: rest, cur, cat => by
    unfold PiecesOK
    by_cases hc : (useD = true ∧ d < s.ns.totalTime)
    · rw [if_pos hc]; infer_instance
    · rw [if_neg hc]
      cases (if 0 < cur then shiftM R cur s else Except.ok s) with
      | error e => simp only []; infer_instance
      | ok sh =>
        simp only []
        have := piecesOKDecidable P R useD rest
          (if useD then R (cur + d) else (mergeFromM cat sh).ns.totalTime) (mergeFromM cat sh)
        infer_instance

/-- one round of `PiecesOK`, in the terms of C13's `catLoop_cons` -/
theorem piecesOK_cons (P : NoteSeq → Prop) (R : Rat → Rat) (useD : Bool) (cur : Rat) (cat s : MSeq) (d : Rat)
    (rest : List (MSeq × Rat)) :
    PiecesOK P R useD cur cat ((s, d) :: rest) ↔
      (¬ (useD = true ∧ d < s.ns.totalTime) → ¬ (0 < cur ∧ s.ns.isQuantized = true) →
        P (placed R cur s).ns ∧
          PiecesOK P R useD (if useD = true then R (cur + d) else (mergeFromM cat (placed R cur s)).ns.totalTime)
            (mergeFromM cat (placed R cur s)) rest) := by
  rw [PiecesOK, place_eq]
  by_cases h1 : useD = true ∧ d < s.ns.totalTime
  · rw [if_pos h1]
    exact ⟨fun _ h => absurd h1 h, fun _ => trivial⟩
  · by_cases h2 : 0 < cur ∧ s.ns.isQuantized = true
    · rw [if_neg h1, if_pos h2]
      exact ⟨fun _ _ h => absurd h2 h, fun _ => trivial⟩
    · rw [if_neg h1, if_neg h2]
      exact ⟨fun h _ _ => h, fun h => h h1 h2⟩

/-- the loop on two storage orders, every shifted piece of the first satisfying `P`.  A relation `I` between
the accumulated sequences that merging a pair of pieces keeps (when the first piece satisfies `P`) holds between
the results, or both calls raise the same error; and the shifted pieces of the second storage order satisfy every
`Q` that follows from `P` across `NSPerm`. -/
theorem catLoop_inv {I : MSeq → MSeq → Prop} {P Q : NoteSeq → Prop}
    (hI : ∀ {cat cat' sh sh'}, I cat cat' → MPerm sh sh' → P sh.ns → I (mergeFromM cat sh) (mergeFromM cat' sh'))
    (ht : ∀ {cat cat'}, I cat cat' → cat.ns.totalTime = cat'.ns.totalTime)
    (hPQ : ∀ {s s'}, NSPerm s s' → P s → Q s') (R : Rat → Rat) (useD : Bool) :
    ∀ (ps ps' : List (MSeq × Rat)), PairsPerm ps ps' → ∀ (cur : Rat) (cat cat' : MSeq), I cat cat' →
      PiecesOK P R useD cur cat ps →
      ResRel I (catLoop R useD cur cat ps) (catLoop R useD cur cat' ps') ∧ PiecesOK Q R useD cur cat' ps'
  | [], [], _, _, _, _, hc, _ => ⟨hc, by unfold PiecesOK; trivial⟩
  | (s, d) :: rest, (s', d') :: rest', hp, cur, cat, cat', hc, hok => by
    obtain ⟨⟨hs, hd⟩, hr⟩ := hp
    simp only [] at hs hd
    subst hd
    rw [piecesOK_cons] at hok ⊢
    rw [catLoop_cons, catLoop_cons, ← hs.1.totalTime, ← hs.1.isQuantized]
    by_cases h1 : useD = true ∧ d < s.ns.totalTime
    · rw [if_pos h1, if_pos h1]
      exact ⟨rfl, fun h => absurd h1 h⟩
    by_cases h2 : 0 < cur ∧ s.ns.isQuantized = true
    · rw [if_neg h1, if_neg h1, if_pos h2, if_pos h2]
      exact ⟨rfl, fun _ h => absurd h2 h⟩
    obtain ⟨hP, hok⟩ := hok h1 h2
    have hsh := placed_perm R cur hs
    have hm := hI hc hsh hP
    rw [if_neg h1, if_neg h1, if_neg h2, if_neg h2, ← ht hm]
    obtain ⟨r1, r2⟩ := catLoop_inv hI ht hPQ R useD rest rest' hr _ _ _ hm hok
    exact ⟨r1, fun _ _ => ⟨hPQ hsh.1 hP, r2⟩⟩
  | [], _ :: _, h, _, _, _, _, _ => h.elim
  | _ :: _, [], h, _, _, _, _, _ => h.elim

theorem piecesOK_of_placed {P : NoteSeq → Prop} {R : Rat → Rat} (useD : Bool) :
    ∀ (ps : List (MSeq × Rat)) (cur : Rat) (cat : MSeq), (∀ p ∈ ps, ∀ o, P (placed R o p.1).ns) →
      PiecesOK P R useD cur cat ps
  | [], _, _, _ => by unfold PiecesOK; trivial
  | (s, d) :: rest, cur, cat, h => (piecesOK_cons ..).mpr fun _ _ =>
    ⟨h (s, d) (by simp) cur, piecesOK_of_placed useD rest _ _ fun p hp => h p (List.mem_cons_of_mem _ hp)⟩

theorem catLoop_perm (R : Rat → Rat) (useD : Bool) (ps ps' : List (MSeq × Rat)) (hp : PairsPerm ps ps')
    (cur : Rat) (cat cat' : MSeq) (hc : MPerm cat cat') :
    ResPermM (catLoop R useD cur cat ps) (catLoop R useD cur cat' ps') := by
  have h := (catLoop_inv (I := MPerm) (P := fun _ => True) (Q := fun _ => True) (fun hc hs _ => mergeFromM_perm hc hs)
    (fun h => h.1.totalTime) (fun _ _ => trivial) R useD ps ps' hp cur cat cat' hc
    (piecesOK_of_placed useD ps cur cat fun _ _ _ => trivial)).1
  cases h1 : catLoop R useD cur cat ps <;> cases h2 : catLoop R useD cur cat' ps' <;> rw [h1, h2] at h <;> exact h

/-- no two time signatures, key signatures, tempos of the (concatenated) sequence share a time:
what `remove_redundant_data`'s "drop an event equal to its predecessor in time order" needs -/
def StateNoTies (s : NoteSeq) : Prop :=
  DistinctKeys (·.time) s.timeSigs ∧ DistinctKeys (·.time) s.keySigs ∧ DistinctKeys (·.time) s.tempos

instance (s : NoteSeq) : Decidable (StateNoTies s) := by unfold StateNoTies DistinctKeys; infer_instance

theorem StateNoTies.perm {s s' : NoteSeq} (h : NSPerm s s') (hn : StateNoTies s) : StateNoTies s' :=
  ⟨hn.1.perm h.timeSigs, hn.2.1.perm h.keySigs, hn.2.2.perm h.tempos⟩

/-- `remove_redundant_data` reads the three state containers only through their stable time sort: when
those agree, the cleaned containers are equal and everything else is as before -/
theorem removeRedundant_of_sorted {m m' : MSeq} (h : MPerm m m')
    (h1 : sortByRat (·.time) m.ns.timeSigs = sortByRat (·.time) m'.ns.timeSigs)
    (h2 : sortByRat (·.time) m.ns.keySigs = sortByRat (·.time) m'.ns.keySigs)
    (h3 : sortByRat (·.time) m.ns.tempos = sortByRat (·.time) m'.ns.tempos) :
    MPerm (removeRedundant m) (removeRedundant m') ∧
    (removeRedundant m).ns.timeSigs = (removeRedundant m').ns.timeSigs ∧
    (removeRedundant m).ns.keySigs = (removeRedundant m').ns.keySigs ∧
    (removeRedundant m).ns.tempos = (removeRedundant m').ns.tempos := by
  have e1 : redTimeSigs m.ns.timeSigs = redTimeSigs m'.ns.timeSigs := by unfold redTimeSigs; rw [h1]
  have e2 : redKeySigs m.ns.keySigs = redKeySigs m'.ns.keySigs := by unfold redKeySigs; rw [h2]
  have e3 : redTempos m.ns.tempos = redTempos m'.ns.tempos := by unfold redTempos; rw [h3]
  refine ⟨⟨?_, congrArg dedup h.2.1, congrArg dedup h.2.2⟩, e1, e2, e3⟩
  exact { h.1 with timeSigs := .of_eq e1, keySigs := .of_eq e2, tempos := .of_eq e3 }

theorem removeRedundant_perm {m m' : MSeq} (h : MPerm m m') (hn : StateNoTies m.ns) :
    MPerm (removeRedundant m) (removeRedundant m') :=
  (removeRedundant_of_sorted h (sortByRat_eq_of_perm _ h.1.timeSigs hn.1)
    (sortByRat_eq_of_perm _ h.1.keySigs hn.2.1) (sortByRat_eq_of_perm _ h.1.tempos hn.2.2)).1

/-- what `finishCat` does before `remove_redundant_data` keeps `MPerm` and the event containers -/
theorem clearSub_perm (mm : List String → String) {seqs seqs' : List MSeq} (hl : MPermList seqs seqs')
    {cat cat' : MSeq} (h : MPerm cat cat') :
    MPerm { cat with ns := { cat.ns with hasSub := false, subStart := 0, subEnd := 0,
                                         metaTag := mm (seqs.map (·.ns.metaTag)) } }
      { cat' with ns := { cat'.ns with hasSub := false, subStart := 0, subEnd := 0,
                                       metaTag := mm (seqs'.map (·.ns.metaTag)) } } :=
  ⟨{ h.1 with hasSub := rfl, subStart := rfl, subEnd := rfl, metaTag := congrArg mm hl.metaTags }, h.2.1, h.2.2⟩

theorem finishCat_perm (mm : List String → String) {seqs seqs' : List MSeq} (hl : MPermList seqs seqs')
    {cat cat' : MSeq} (h : MPerm cat cat') (hn : StateNoTies cat.ns) :
    MPerm (finishCat mm seqs cat) (finishCat mm seqs' cat') :=
  removeRedundant_perm (clearSub_perm mm hl h) hn

/-- the `(sequence, duration)` list `concatenate_sequences` iterates over.  Same body as `C13.catPairs`; inside this
namespace the name means this copy, and C13's lemmas about its own (`mem_catPairs`) apply by unfolding. -/
def catPairs (seqs : List MSeq) (durs : List Rat) : List (MSeq × Rat) :=
  if !durs.isEmpty then seqs.zip durs else seqs.map (fun s => (s, (0 : Rat)))

/-- the side condition of concatenation: in the shifted-and-merged sequence (before
`remove_redundant_data`) no two time signatures / key signatures / tempos share a time -/
def ConcatNoTies (R : Rat → Rat) (seqs : List MSeq) (durs : List Rat) : Prop :=
  match catLoop R (!durs.isEmpty) 0 emptyM (catPairs seqs durs) with
  | .ok cat => StateNoTies cat.ns
  | .error _ => True

instance (R : Rat → Rat) (seqs : List MSeq) (durs : List Rat) : Decidable (ConcatNoTies R seqs durs) := by
  unfold ConcatNoTies
  cases catLoop R (!durs.isEmpty) 0 emptyM (catPairs seqs durs) <;> simp only [] <;> infer_instance

theorem catPairs_perm {seqs seqs' : List MSeq} (h : MPermList seqs seqs') (durs : List Rat) :
    PairsPerm (catPairs seqs durs) (catPairs seqs' durs) := by
  unfold catPairs
  split
  · exact pairsPerm_zip durs h
  · exact pairsPerm_map h

theorem catLoop_start_perm (R : Rat → Rat) {seqs seqs' : List MSeq} (h : MPermList seqs seqs') (durs : List Rat) :
    ResPermM (catLoop R (!durs.isEmpty) 0 emptyM (catPairs seqs durs))
      (catLoop R (!durs.isEmpty) 0 emptyM (catPairs seqs' durs)) :=
  catLoop_perm R _ _ _ (catPairs_perm h durs) 0 emptyM emptyM (MPerm.refl _)

theorem concatNoTies_perm (R : Rat → Rat) {seqs seqs' : List MSeq} (h : MPermList seqs seqs')
    (durs : List Rat) (hn : ConcatNoTies R seqs durs) : ConcatNoTies R seqs' durs := by
  unfold ConcatNoTies at *
  obtain ⟨e, h1, h2⟩ | ⟨cat, cat', h1, h2, hc⟩ := (catLoop_start_perm R h durs).cases <;> rw [h2]
  · trivial
  · rw [h1] at hn
    exact hn.perm hc.1

theorem concatR_eq (R : Rat → Rat) (mm : List String → String) (seqs : List MSeq) (durs : List Rat) :
    concatR R mm seqs durs =
      if (!durs.isEmpty) = true ∧ seqs.length ≠ durs.length then .error .valueError
      else match catLoop R (!durs.isEmpty) 0 emptyM (catPairs seqs durs) with
        | .error e => .error e
        | .ok cat => .ok (finishCat mm seqs cat) := rfl

theorem concat_perm_of_finish (R : Rat → Rat) (mm : List String → String) {seqs seqs' : List MSeq}
    (h : MPermList seqs seqs') (durs : List Rat)
    (hf : ∀ cat cat', catLoop R (!durs.isEmpty) 0 emptyM (catPairs seqs durs) = .ok cat →
      catLoop R (!durs.isEmpty) 0 emptyM (catPairs seqs' durs) = .ok cat' → MPerm cat cat' →
      MPerm (finishCat mm seqs cat) (finishCat mm seqs' cat')) :
    ResPermM (concatR R mm seqs durs) (concatR R mm seqs' durs) := by
  rw [concatR_eq, concatR_eq, ← h.length_eq]
  split
  · rfl
  · obtain ⟨e, h1, h2⟩ | ⟨cat, cat', h1, h2, hc⟩ := (catLoop_start_perm R h durs).cases <;> rw [h1, h2]
    · rfl
    · exact hf cat cat' h1 h2 hc

end NSV.C12

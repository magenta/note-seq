import NoteSeqVerif.Model.C18
/-! C12 — helper lemmas for the storage-order invariance of `sequence_to_pianoroll` (`Model/C18.encode`).

* the stable insertion sort `sortBy` returns a key-sorted permutation;
* every numpy assignment of the note loop is a column update `colUpd`; column updates of different columns commute;
* the note loop / control-change loop split into a state-independent error and a pure state update
  (`encNotes_eq`, `encCCs_eq`). -/
namespace NSV.C12
open NSV.C18

theorem insertBy_perm {α} (key : α → Rat) (a : α) (l : List α) : (insertBy key a l).Perm (a :: l) := by
  induction l with
  | nil => exact List.Perm.refl _
  | cons b l ih =>
    simp only [insertBy]
    split
    · exact List.Perm.refl _
    · exact ((ih.cons b).trans (List.Perm.swap a b l))

theorem sortBy_perm {α} (key : α → Rat) (l : List α) : (sortBy key l).Perm l := by
  induction l with
  | nil => exact List.Perm.refl _
  | cons a l ih => exact (insertBy_perm key a _).trans (ih.cons a)

theorem sortBy_perm_of_perm {α} (key : α → Rat) {l l' : List α} (h : l.Perm l') : (sortBy key l).Perm (sortBy key l') :=
  ((sortBy_perm key l).trans h).trans (sortBy_perm key l').symm

theorem insertBy_sorted {α} (key : α → Rat) (a : α) (l : List α)
    (h : l.Pairwise (fun x y => key x ≤ key y)) : (insertBy key a l).Pairwise (fun x y => key x ≤ key y) := by
  induction l with
  | nil => simp [insertBy]
  | cons b l ih =>
    have hb := List.pairwise_cons.mp h
    simp only [insertBy]
    split
    · rename_i hab
      refine List.pairwise_cons.mpr ⟨?_, h⟩
      intro x hx
      rcases List.mem_cons.mp hx with rfl | hx
      · exact hab
      · exact Rat.le_trans hab (hb.1 x hx)
    · rename_i hab
      refine List.pairwise_cons.mpr ⟨?_, ih hb.2⟩
      intro x hx
      rcases List.mem_cons.mp ((insertBy_perm key a l).subset hx) with rfl | hx
      · rcases Rat.le_total (a := key x) (b := key b) with h1 | h1
        · exact absurd h1 hab
        · exact h1
      · exact hb.1 x hx

theorem sortBy_sorted {α} (key : α → Rat) (l : List α) : (sortBy key l).Pairwise (fun x y => key x ≤ key y) := by
  induction l with
  | nil => simp [sortBy]
  | cons a l ih => exact insertBy_sorted key a _ ih

/-- `m[rows selected by u, col] = values given by u` — `u` sees the number of frames and the frame index -/
def colUpd {α} (m : List (List α)) (col : Nat) (u : Nat → Nat → Option α) : List (List α) :=
  m.mapIdx fun i row => match u m.length i with
    | some v => row.set col v
    | none => row

theorem length_colUpd {α} (m : List (List α)) (col : Nat) (u : Nat → Nat → Option α) :
    (colUpd m col u).length = m.length := by
  simp [colUpd]

theorem colUpd_comm {α} (m : List (List α)) (c1 c2 : Nat) (u1 u2 : Nat → Nat → Option α) (h : c1 ≠ c2) :
    colUpd (colUpd m c1 u1) c2 u2 = colUpd (colUpd m c2 u2) c1 u1 := by
  apply List.ext_getElem?
  intro i
  simp only [colUpd, List.getElem?_mapIdx, List.length_mapIdx, Option.map_map]
  cases m[i]? with
  | none => rfl
  | some row =>
    simp only [Option.map_some, Function.comp]
    cases u1 m.length i <;> cases u2 m.length i <;> simp only []
    rw [List.set_comm _ _ h]

def colProg {α} (m : List (List α)) (col : Nat) (us : List (Nat → Nat → Option α)) : List (List α) :=
  us.foldl (fun m u => colUpd m col u) m

theorem colProg_colUpd_comm {α} (us : List (Nat → Nat → Option α)) (m : List (List α)) (c1 c2 : Nat)
    (u : Nat → Nat → Option α) (h : c1 ≠ c2) :
    colProg (colUpd m c2 u) c1 us = colUpd (colProg m c1 us) c2 u := by
  induction us generalizing m with
  | nil => rfl
  | cons v us ih =>
    simp only [colProg, List.foldl_cons] at ih ⊢
    rw [colUpd_comm m c2 c1 u v (Ne.symm h)]
    exact ih _

theorem colProg_comm {α} (us1 us2 : List (Nat → Nat → Option α)) (m : List (List α)) (c1 c2 : Nat) (h : c1 ≠ c2) :
    colProg (colProg m c1 us1) c2 us2 = colProg (colProg m c2 us2) c1 us1 := by
  induction us2 generalizing m with
  | nil => rfl
  | cons v us ih =>
    show colProg (colUpd (colProg m c1 us1) c2 v) c2 us = colProg (colProg (colUpd m c2 v) c2 us) c1 us1
    rw [← colProg_colUpd_comm us1 m c1 c2 v h]
    exact ih _

def uPaint {α} (a b : Int) (v : α) : Nat → Nat → Option α :=
  fun len i => if normIdx len a ≤ i ∧ i < normIdx len b then some v else none

def uSeq {α} (a b : Int) (bcast : Bool) (f : Nat → α) : Nat → Nat → Option α :=
  fun len i => if normIdx len a ≤ i ∧ i < normIdx len b then some (f (if bcast then 0 else i - normIdx len a)) else none

def uCell {α} (P : Prop) [Decidable P] (r : Nat) (v : α) : Nat → Nat → Option α :=
  fun _ i => if P ∧ i = r then some v else none

theorem paint_eq_colUpd {α} (m : List (List α)) (a b : Int) (col : Nat) (v : α) :
    paint m a b col v = colUpd m col (uPaint a b v) := by
  simp only [paint, colUpd, uPaint]
  congr 1
  funext i row
  split <;> rfl

theorem paintSeq_eq_colUpd {α} (m : List (List α)) (a b : Int) (col : Nat) (bc : Bool) (f : Nat → α) :
    paintSeq m a b col bc f = colUpd m col (uSeq a b bc f) := by
  simp only [paintSeq, colUpd, uSeq]
  congr 1
  funext i row
  split <;> rfl

theorem setCell_eq_colUpd {α} (m : List (List α)) (r col : Nat) (v : α) :
    setCell m r col v = colUpd m col (uCell True r v) := by
  unfold setCell colUpd uCell
  congr 1
  funext i row
  simp only [true_and]
  split <;> rfl

theorem colUpd_false {α} (m : List (List α)) (col r : Nat) (v : α) (P : Prop) [Decidable P] (h : ¬ P) :
    colUpd m col (uCell P r v) = m := by
  unfold colUpd uCell
  apply List.ext_getElem?
  intro i
  simp only [List.getElem?_mapIdx, h, false_and, if_false]
  cases m[i]? <;> rfl

theorem colUpd_true {α} (m : List (List α)) (col r : Nat) (v : α) (P : Prop) [Decidable P] (h : P) :
    colUpd m col (uCell P r v) = setCell m r col v := by
  rw [setCell_eq_colUpd]
  unfold colUpd uCell
  simp only [h, true_and]

/-- the exception the body of the note loop raises (it never depends on the rolls painted so far) -/
def paintErr (c : Cfg) (n : Nat) (nt : PNote) (f : NF) : Option C18.Err :=
  if nt.velocity > c.maxVelocity then some .valueError
  else if c.maxVelocity = 0 then some .zeroDivisionError
  else if ((min f.ef (n : Int)) - f.oe).toNat ≠ sliceLen n f.oe (min f.ef (n : Int)) ∧
      ((min f.ef (n : Int)) - f.oe).toNat ≠ 1 then some .valueError
  else none

/-- the eight numpy assignments of the loop body, grouped by the roll they write, as updates of column `col` -/
def paintFn (R R32 : Rat → Rat) (c : Cfg) (n : Nat) (nt : PNote) (col : Nat) (f : NF) (st : Rolls) : Rolls :=
  let we := min f.ef (n : Int)
  let len := (we - f.oe).toNat
  let blank : Prop := c.blank ∧ 0 < f.sf ∧ f.sf ≤ (n : Int)
  { active := colProg st.active col [uPaint f.sf f.ef 1, uCell blank (f.sf - 1).toNat 0],
    weights := colProg st.weights col [uPaint f.os f.oe (R32 c.upweight),
      uSeq f.oe we (len == 1) (fun j => R32 (R (c.upweight / ((j + 1 : Nat) : Rat)))),
      uCell blank (f.sf - 1).toNat 1],
    onsets := colProg st.onsets col [uPaint f.os f.oe 1],
    offsets := colProg st.offsets col [uPaint f.fs f.fe 1],
    vels := colProg st.vels col [uPaint f.sf f.ef (R32 (R ((nt.velocity : Rat) / (c.maxVelocity : Rat))))] }

theorem paintNote_eq (R R32 : Rat → Rat) (c : Cfg) (n : Nat) (st : Rolls) (nt : PNote) (col : Nat) (f : NF) :
    paintNote R R32 c n st nt col f =
      match paintErr c n nt f with
      | some e => .error e
      | none => .ok (paintFn R R32 c n nt col f st) := by
  unfold paintNote paintErr
  simp only []
  by_cases h1 : nt.velocity > c.maxVelocity
  · rw [if_pos h1, if_pos h1]
  · rw [if_neg h1, if_neg h1]
    by_cases h2 : c.maxVelocity = 0
    · rw [if_pos h2, if_pos h2]
    · rw [if_neg h2, if_neg h2]
      by_cases h3 : ((min f.ef (n : Int)) - f.oe).toNat ≠ sliceLen n f.oe (min f.ef (n : Int)) ∧
          ((min f.ef (n : Int)) - f.oe).toNat ≠ 1
      · rw [if_pos h3, if_pos h3]
      · rw [if_neg h3, if_neg h3]
        simp only [paintFn, colProg, List.foldl_cons, List.foldl_nil, ← paint_eq_colUpd, ← paintSeq_eq_colUpd]
        by_cases hb : c.blank ∧ 0 < f.sf ∧ f.sf ≤ (n : Int)
        · rw [if_pos hb, colUpd_true _ _ _ _ _ hb, colUpd_true _ _ _ _ _ hb]
        · rw [if_neg hb, colUpd_false _ _ _ _ _ hb, colUpd_false _ _ _ _ _ hb]

theorem paintFn_comm (R R32 : Rat → Rat) (c : Cfg) (n : Nat) (a b : PNote) (ca cb : Nat) (fa fb : NF)
    (h : ca ≠ cb) (st : Rolls) :
    paintFn R R32 c n b cb fb (paintFn R R32 c n a ca fa st) =
      paintFn R R32 c n a ca fa (paintFn R R32 c n b cb fb st) := by
  simp only [paintFn, Rolls.mk.injEq]
  exact ⟨colProg_comm _ _ _ _ _ h, colProg_comm _ _ _ _ _ h, colProg_comm _ _ _ _ _ h, colProg_comm _ _ _ _ _ h,
    colProg_comm _ _ _ _ _ h⟩

def outOfRange (c : Cfg) (nt : PNote) : Prop := nt.pitch < c.minPitch ∨ nt.pitch > c.maxPitch

instance (c : Cfg) (nt : PNote) : Decidable (outOfRange c nt) := by unfold outOfRange; infer_instance

def stepErr (R : Rat → Rat) (eps : Rat) (c : Cfg) (total : Rat) (n : Nat) (nt : PNote) : Option C18.Err :=
  if outOfRange c nt then none
  else match noteFrames R eps c total n nt with
    | .error e => some e
    | .ok f => paintErr c n nt f

def stepFn (R R32 : Rat → Rat) (eps : Rat) (c : Cfg) (total : Rat) (n : Nat) (st : Rolls) (nt : PNote) : Rolls :=
  if outOfRange c nt then st
  else match noteFrames R eps c total n nt with
    | .error _ => st
    | .ok f => paintFn R R32 c n nt (nt.pitch - c.minPitch).toNat f st

theorem encNote_eq (R R32 : Rat → Rat) (eps : Rat) (c : Cfg) (total : Rat) (n : Nat) (st : Rolls) (nt : PNote) :
    encNote R R32 eps c total n st nt =
      match stepErr R eps c total n nt with
      | some e => .error e
      | none => .ok (stepFn R R32 eps c total n st nt) := by
  unfold encNote stepErr stepFn outOfRange
  by_cases ho : nt.pitch < c.minPitch ∨ nt.pitch > c.maxPitch
  · simp only [ho, if_true]
  · simp only [ho, if_false]
    cases hnf : noteFrames R eps c total n nt with
    | error e => rfl
    | ok f => simp only []; exact paintNote_eq ..

theorem encNotes_eq (R R32 : Rat → Rat) (eps : Rat) (c : Cfg) (total : Rat) (n : Nat) (l : List PNote) (st : Rolls) :
    encNotes R R32 eps c total n st l =
      match l.findSome? (stepErr R eps c total n) with
      | some e => .error e
      | none => .ok (l.foldl (stepFn R R32 eps c total n) st) := by
  induction l generalizing st with
  | nil => rfl
  | cons nt rest ih =>
    simp only [encNotes, List.findSome?_cons, List.foldl_cons]
    rw [encNote_eq]
    cases stepErr R eps c total n nt with
    | some e => rfl
    | none => simp only []; exact ih _

theorem noteFrames_error {R : Rat → Rat} {eps : Rat} {c : Cfg} {total : Rat} {n : Nat} {nt : PNote} {e : C18.Err}
    (h : noteFrames R eps c total n nt = .error e) : e = .valueError := by
  unfold noteFrames at h
  simp only [] at h
  split at h
  · rename_i e' he
    split at he
    · cases he
    · split at he
      · cases he
      · cases he; cases h; rfl
  · cases h

/-- with `max_velocity ≠ 0` every exception of the note loop is a ValueError -/
theorem stepErr_valueError {R : Rat → Rat} {eps : Rat} {c : Cfg} {total : Rat} {n : Nat} {nt : PNote} {e : C18.Err}
    (hmv : c.maxVelocity ≠ 0) (h : stepErr R eps c total n nt = some e) : e = .valueError := by
  unfold stepErr at h
  split at h
  · cases h
  · split at h
    · cases h; exact noteFrames_error (by assumption)
    · unfold paintErr at h
      simp only [hmv, if_false] at h
      split at h
      · cases h; rfl
      · split at h
        · cases h; rfl
        · cases h

theorem stepFn_comm (R R32 : Rat → Rat) (eps : Rat) (c : Cfg) (total : Rat) (n : Nat) (a b : PNote)
    (h : outOfRange c a ∨ outOfRange c b ∨ a.pitch ≠ b.pitch) (st : Rolls) :
    stepFn R R32 eps c total n (stepFn R R32 eps c total n st a) b =
      stepFn R R32 eps c total n (stepFn R R32 eps c total n st b) a := by
  by_cases ha : outOfRange c a
  · simp only [stepFn, ha, if_true]
  · by_cases hb : outOfRange c b
    · simp only [stepFn, hb, if_true]
    · have hne : a.pitch ≠ b.pitch := by
        rcases h with h | h | h
        · exact absurd h ha
        · exact absurd h hb
        · exact h
      have hcol : (a.pitch - c.minPitch).toNat ≠ (b.pitch - c.minPitch).toNat := by
        unfold outOfRange at ha hb
        omega
      simp only [stepFn, ha, hb, if_false]
      cases noteFrames R eps c total n a with
      | error _ => rfl
      | ok fa =>
        cases noteFrames R eps c total n b with
        | error _ => rfl
        | ok fb => exact paintFn_comm R R32 c n a b _ _ fa fb hcol st

def ccErr (R : Rat → Rat) (eps : Rat) (c : Cfg) (n : Nat) (cc : PCC) : Option C18.Err :=
  if (framesFromTimes R eps c.fps c.occ cc.time 0).1 < (n : Int) then
    match intIdx n (framesFromTimes R eps c.fps c.occ cc.time 0).1, intIdx 128 cc.number with
    | some _, some _ => none
    | _, _ => some .indexError
  else none

def ccFn (R : Rat → Rat) (eps : Rat) (c : Cfg) (n : Nat) (m : List (List Int)) (cc : PCC) : List (List Int) :=
  if (framesFromTimes R eps c.fps c.occ cc.time 0).1 < (n : Int) then
    match intIdx n (framesFromTimes R eps c.fps c.occ cc.time 0).1, intIdx 128 cc.number with
    | some r, some k => setCell m r k (cc.value + 1)
    | _, _ => m
  else m

theorem encCCs_eq (R : Rat → Rat) (eps : Rat) (c : Cfg) (n : Nat) (l : List PCC) (m : List (List Int)) :
    encCCs R eps c n m l =
      match l.findSome? (ccErr R eps c n) with
      | some e => .error e
      | none => .ok (l.foldl (ccFn R eps c n) m) := by
  induction l generalizing m with
  | nil => rfl
  | cons cc rest ih =>
    simp only [encCCs, List.findSome?_cons, List.foldl_cons, ccErr, ccFn]
    split
    · cases intIdx n (framesFromTimes R eps c.fps c.occ cc.time 0).1 with
      | none => rfl
      | some r =>
        cases intIdx 128 cc.number with
        | none => rfl
        | some k => simp only []; exact ih _
    · simp only []; exact ih _

theorem ccErr_indexError {R : Rat → Rat} {eps : Rat} {c : Cfg} {n : Nat} {cc : PCC} {e : C18.Err}
    (h : ccErr R eps c n cc = some e) : e = .indexError := by
  unfold ccErr at h
  split at h
  · split at h
    · cases h
    · cases h; rfl
  · cases h

theorem intIdx_128 {x : Int} {k : Nat} (h : intIdx 128 x = some k) : (k : Int) = x % 128 := by
  unfold intIdx at h
  split at h
  · split at h
    · cases h; omega
    · cases h
  · split at h
    · cases h; omega
    · cases h

theorem ccFn_comm (R : Rat → Rat) (eps : Rat) (c : Cfg) (n : Nat) (a b : PCC)
    (h : a.number % 128 ≠ b.number % 128) (m : List (List Int)) :
    ccFn R eps c n (ccFn R eps c n m a) b = ccFn R eps c n (ccFn R eps c n m b) a := by
  unfold ccFn
  generalize (framesFromTimes R eps c.fps c.occ a.time 0).1 = fa
  generalize (framesFromTimes R eps c.fps c.occ b.time 0).1 = fb
  by_cases h1 : fa < (n : Int) <;> by_cases h2 : fb < (n : Int) <;> simp only [h1, h2, if_true, if_false]
  cases hra : intIdx n fa <;> cases hka : intIdx 128 a.number <;> cases hrb : intIdx n fb <;>
    cases hkb : intIdx 128 b.number <;> simp only []
  rename_i ra ka rb kb
  have : ka ≠ kb := by
    have := intIdx_128 hka; have := intIdx_128 hkb; omega
  rw [setCell_eq_colUpd, setCell_eq_colUpd, setCell_eq_colUpd, setCell_eq_colUpd]
  exact colUpd_comm _ _ _ _ _ this

end NSV.C12

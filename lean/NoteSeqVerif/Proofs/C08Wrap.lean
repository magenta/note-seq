import NoteSeqVerif.Proofs.C08Inst
import NoteSeqVerif.Model.C08Wrap
namespace NSV.C08
open Gen

/-- `sum(v if is_shift else 0 …)` = the sum over the time-shift events only -/
theorem sum_ite_eq_sum_filter {α : Type} (p : α → Bool) (f : α → Int) (l : List α) :
    (l.map (fun a => if p a then f a else 0)).sum = ((l.filter p).map f).sum := by
  induction l with
  | nil => rfl
  | cons a as ih =>
    simp only [List.map_cons, List.sum_cons, List.filter_cons]
    cases hp : p a with
    | true => simp [ih]
    | false => simp [ih]

/-- the step count of a performance event sequence: the values of its TIME_SHIFT events -/
def perfSteps (evs : List (Nat × Int)) : Int :=
  ((evs.filter (fun e => decide (e.1 = TIME_SHIFT))).map (fun e => e.2)).sum

theorem stepsOf_perf (bins ms lo hi : Int) (evs : List (Nat × Int)) :
    stepsOf (perfOneHot bins ms lo hi) evs = perfSteps evs := by
  unfold stepsOf perfSteps perfOneHot
  simp only []
  rw [← sum_ite_eq_sum_filter]
  congr 1
  apply List.map_congr_left
  intro e _
  by_cases h : e.1 = TIME_SHIFT <;> simp [h]

theorem modulo_decode_total (c : ModCfg) (hc : ModCfgOk c) : DecodeTotal (modOneHot c) :=
  decodeTotal_of _ fun i h0 h1 => by
    obtain ⟨r, hr, v, hv1, hv2, hd, he⟩ := C09.ranges_decode_encode _
      (C09.perfRanges_wf c.bins c.maxShift MIN_MIDI_PITCH MAX_MIDI_PITCH
        ⟨hc.1, hc.2.2, by unfold MIN_MIDI_PITCH MAX_MIDI_PITCH; omega⟩) 0 i h0
      (by simpa [modOneHot, perfOneHot, C09.perfNumClasses] using h1)
    refine ⟨(r.ty, v), ?_, he⟩
    simp only [modOneHot, perfOneHot, C09.perfDecode, hd, perfEventOk_of_range c hc r hr v hv1 hv2, if_true]

section
variable {ε ι κ ν : Type}

theorem extend_single (E : SeqEnc ε ι κ ν) (evs : List ε) (l : κ) :
    E.extend [evs] [l] = (E.cite l evs).map fun e => [evs ++ [e]] := by
  simp only [SeqEnc.extend, List.zip_cons_cons, List.zip_nil_right, mapE, SeqEnc.extendOne]
  cases E.cite l evs <;> rfl

theorem inputsOf_full (toIn : Int → Except String (List ι)) (len : Nat) (out : List (List ι))
    (h : SeqEnc.inputsOf toIn len true = .ok out) :
    out.length = len ∧ ∀ i (_ : i < len) (ho : i < out.length), toIn (i : Int) = .ok out[i] := by
  unfold SeqEnc.inputsOf at h
  simp only [if_true] at h
  obtain ⟨h1, h2⟩ := mapE_ok _ _ _ h
  refine ⟨by simpa using h1, fun i hi ho => ?_⟩
  have := h2 i (by simpa using hi) ho
  simpa using this

theorem inputsOf_last (toIn : Int → Except String (List ι)) (len : Nat) (out : List (List ι))
    (h : SeqEnc.inputsOf toIn len false = .ok out) :
    ∃ v, toIn ((len : Int) - 1) = .ok v ∧ out = [v] := by
  unfold SeqEnc.inputsOf at h
  simp only [Bool.false_eq_true, if_false] at h
  obtain ⟨v, hv, hb⟩ := map_ok h
  exact ⟨v, hv, hb.symm⟩
end

end NSV.C08

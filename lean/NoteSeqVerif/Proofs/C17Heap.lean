import NoteSeqVerif.Model.C17Heap
import NoteSeqVerif.Proofs.C17
/-! C17 — what one operation does to a heap of objects (`hskip`) and to the lead-sheet store (`sskip`, read
once as a step relation `SStep` with four outcomes, of which `LStore.store` covers every call that leaves a lead
sheet behind), and the predicates on stores that the histories of `Props/C17Heap.lean` preserve (core Lean only). -/
namespace NSV.C17

theorem getElem?_lt {α : Type} (l : List α) (k : Nat) (a : α) (h : l[k]? = some a) : k < l.length := by
  by_cases hk : k < l.length
  · exact hk
  · rw [List.getElem?_eq_none (by omega)] at h; cases h

theorem getElem?_snoc {α : Type} (l : List α) (x a : α) (k : Nat) (h : (l ++ [x])[k]? = some a) :
    l[k]? = some a ∨ (k = l.length ∧ a = x) := by
  by_cases hk : k < l.length
  · rw [List.getElem?_append_left hk] at h; exact .inl h
  · by_cases he : k = l.length
    · subst he; simp at h; exact .inr ⟨rfl, h.symm⟩
    · rw [List.getElem?_eq_none (by simp; omega)] at h; cases h

section Generic
variable {σ ο : Type}

theorem hskip_length_le (m : Sem σ ο) (h : Heap σ) (op : HOp ο) : h.objs.length ≤ (hskip m h op).objs.length := by
  cases op with
  | switch k => simp only [hskip]; split <;> simp
  | op o =>
    simp only [hskip]
    split
    · simp
    · split
      · split <;> simp
      · simp

theorem hskip_frame (m : Sem σ ο) (h : Heap σ) (op : HOp ο) (j : Nat) (hj : j < h.objs.length)
    (hc : j ≠ h.cur) (hop : op ≠ .switch j) :
    (hskip m h op).objs[j]? = h.objs[j]? ∧ j ≠ (hskip m h op).cur := by
  cases op with
  | switch k =>
    have hk : k ≠ j := fun e => hop (by rw [e])
    simp only [hskip]
    split
    · exact ⟨rfl, fun e => hk e.symm⟩
    · exact ⟨rfl, hc⟩
  | op o =>
    simp only [hskip]
    split
    · exact ⟨rfl, hc⟩
    · split
      · split
        · exact ⟨by simp [List.getElem?_append_left hj], by simp; omega⟩
        · exact ⟨rfl, hc⟩
      · refine ⟨?_, hc⟩
        simp only [List.getElem?_set]
        rw [if_neg (fun e => hc e.symm)]

theorem hrun_all (m : Sem σ ο) (P : σ → Prop) (Ok : ο → Prop)
    (hcases : ∀ s o, P s → Ok o → m.skip s o = s ∨ m.step s o = .ok (m.skip s o))
    (hstep : ∀ s o s', P s → Ok o → m.step s o = .ok s' → P s')
    (ops : List (HOp ο)) (h : Heap σ) (hall : ∀ s ∈ h.objs, P s) (hok : ∀ o, HOp.op o ∈ ops → Ok o) :
    ∀ s ∈ (hrun m h ops).objs, P s := by
  refine foldl_inv (hskip m) (fun h => ∀ s ∈ h.objs, P s) (fun op => ∀ o, op = .op o → Ok o) ?_ ops h hall
    (fun op hop o e => hok o (e ▸ hop))
  intro h op hall hop
  cases op with
  | switch k => simp only [hskip]; split <;> exact hall
  | op o =>
    have ho : Ok o := hop o rfl
    simp only [hskip]
    split
    · exact hall
    · rename_i s hs
      have hPs : P s := hall s (List.mem_of_getElem? hs)
      split
      · split
        · rename_i s' hs'
          intro x hx
          simp only [List.mem_append, List.mem_singleton] at hx
          rcases hx with hx | hx
          · exact hall x hx
          · rw [hx]; exact hstep s o s' hPs ho hs'
        · exact hall
      · intro x hx
        rcases List.mem_or_eq_of_mem_set hx with hx | hx
        · exact hall x hx
        · rw [hx]
          rcases hcases s o hPs ho with e | e
          · rw [e]; exact hPs
          · exact hstep s o _ hPs ho e

end Generic

/-- references point to existing cells and the current lead sheet exists -/
def WF (st : LStore) : Prop :=
  st.cur < st.leads.length ∧
  ∀ k mi ci : Nat, st.leads[k]? = some (mi, ci) → mi < st.mels.length ∧ ci < st.chds.length

/-- the lead sheets in `L` and the Melody / ChordProgression cells in `M` / `C` (all existing) are
out of the caller's reach: the caller is not working on a lead sheet in `L`, and no lead sheet
outside `L` holds a cell in `M` or `C` -/
def Sep (L M C : Nat → Prop) (st : LStore) : Prop :=
  WF st ∧ ¬ L st.cur ∧ (∀ k, L k → k < st.leads.length) ∧ (∀ i, M i → i < st.mels.length) ∧
  (∀ i, C i → i < st.chds.length) ∧
  ∀ k mi ci : Nat, ¬ L k → st.leads[k]? = some (mi, ci) → ¬ M mi ∧ ¬ C ci

/-- the lead sheets in `L` and the cells in `M` / `C` are in `st'` what they were in `st` -/
def Kept (L M C : Nat → Prop) (st st' : LStore) : Prop :=
  (∀ i, M i → st'.mels[i]? = st.mels[i]?) ∧ (∀ i, C i → st'.chds[i]? = st.chds[i]?) ∧
  (∀ k, L k → st'.leads[k]? = st.leads[k]?)

/-- lead sheet `b` is the only one holding cells `bm` and `bc`, and the caller is not working on it -/
def Priv (b bm bc : Nat) (st : LStore) : Prop :=
  WF st ∧ st.cur ≠ b ∧ st.leads[b]? = some (bm, bc) ∧
  ∀ k mi ci : Nat, k ≠ b → st.leads[k]? = some (mi, ci) → mi ≠ bm ∧ ci ≠ bc

/-- the call neither switches to a lead sheet in `L` nor builds a new lead sheet from the parts of
one -/
def SOpSep (L : Nat → Prop) : SOp → Prop
  | .switch k => ¬ L k
  | .share a b => ¬ L a ∧ ¬ L b
  | _ => True

/-- the call stays with the lead sheets created at or after index `tl`: `SOpSep (· < tl)` -/
def SOpConf (tl : Nat) : SOp → Prop
  | .switch k => tl ≤ k
  | .share a b => tl ≤ a ∧ tl ≤ b
  | _ => True

/-- the call stays away from lead sheet `b`: `SOpSep (· = b)` -/
def SOpAvoid (b : Nat) : SOp → Prop
  | .switch k => k ≠ b
  | .share x y => x ≠ b ∧ y ≠ b
  | _ => True

theorem SOpConf.sep (tl : Nat) (op : SOp) (h : SOpConf tl op) : SOpSep (· < tl) op := by
  cases op with
  | switch k => exact Nat.not_lt.2 h
  | share a b => exact ⟨Nat.not_lt.2 h.1, Nat.not_lt.2 h.2⟩
  | _ => trivial

theorem SOpAvoid.sep (b : Nat) (op : SOp) (h : SOpAvoid b op) : SOpSep (· = b) op := by
  cases op <;> exact h

theorem view_some (st : LStore) (k : Nat) (l : LeadSheet) :
    st.view k = some l ↔ ∃ mi ci, st.leads[k]? = some (mi, ci) ∧ st.mels[mi]? = some l.melody ∧ st.chds[ci]? = some l.chords := by
  unfold LStore.view
  constructor
  · intro h
    split at h
    · cases h
    · rename_i mi ci hk
      split at h
      · rename_i m c hm hc
        cases h
        exact ⟨mi, ci, hk, hm, hc⟩
      · cases h
  · rintro ⟨mi, ci, hk, hm, hc⟩
    simp only [hk, hm, hc]

theorem view_lt (st : LStore) (k : Nat) (l : LeadSheet) (h : st.view k = some l) : k < st.leads.length := by
  obtain ⟨_, _, hk, _⟩ := (view_some st k l).1 h
  exact getElem?_lt _ _ _ hk

theorem view_congr (st st' : LStore) (k mi ci : Nat) (h : st.leads[k]? = some (mi, ci))
    (h' : st'.leads[k]? = some (mi, ci)) (hm : st'.mels[mi]? = st.mels[mi]?) (hc : st'.chds[ci]? = st.chds[ci]?) :
    st'.view k = st.view k := by
  simp only [LStore.view, h, h', hm, hc]

/-- the operations of the property's alphabet: LeadSheet's own methods and continuing on another
lead sheet (no `share`, no call on the melody / chords object from outside) -/
def SOpOwn : SOp → Prop
  | .lead op => LOpOk op
  | .switch _ => True
  | _ => False

/-- `l'` is what the call `op` made of the current lead sheet, for a call of one of LeadSheet's own methods; a call
on the melody / chords object from outside writes what it likes; `switch` and `share` make no lead sheet -/
def FromLead (st : LStore) (l' : LeadSheet) : SOp → Prop
  | .lead o => ∃ l, st.view st.cur = some l ∧ lstep l o = .ok l'
  | .melody _ => True
  | .chords _ => True
  | _ => False

/-- `l` with `x` at index `k`: in place of the old entry, or as a new last one for `k = l.length` -/
def put {α : Type} (l : List α) (k : Nat) (x : α) : List α := if k < l.length then l.set k x else l ++ [x]

theorem getElem?_put {α : Type} (l : List α) (k : Nat) (x : α) (hk : k ≤ l.length) (j : Nat) :
    (put l k x)[j]? = if j = k then some x else l[j]? := by
  unfold put
  split
  · rename_i h
    rw [List.getElem?_set]
    by_cases e : k = j
    · subst e; simp [h]
    · rw [if_neg e, if_neg (fun e' => e e'.symm)]
  · have e : k = l.length := by omega
    subst e
    by_cases e : j = l.length
    · subst e; simp
    · rw [if_neg e]
      by_cases h : j < l.length
      · exact List.getElem?_append_left h
      · rw [List.getElem?_eq_none (by simp; omega), List.getElem?_eq_none (by omega)]

theorem length_put {α : Type} (l : List α) (k : Nat) (x : α) (hk : k ≤ l.length) :
    l.length ≤ (put l k x).length ∧ k < (put l k x).length := by
  unfold put; split <;> simp <;> omega

/-- lead sheet `k` becomes the current one and holds `l`, kept in the Melody cell `i` and the ChordProgression cell `j`:
what `write`, `alloc` and `rebind` do, each for its own `k`, `i`, `j` (`SStep.stores`) -/
def LStore.store (st : LStore) (k i j : Nat) (l : LeadSheet) : LStore :=
  ⟨put st.mels i l.melody, put st.chds j l.chords, put st.leads k (i, j), k⟩

/-- where a call stores: the current lead sheet in the two cells it has (`write`), or two new cells, for the current
lead sheet (`rebind`) or for a new one (`alloc`) -/
def Slot (st : LStore) (k i j : Nat) : Prop :=
  (k = st.cur ∧ st.leads[k]? = some (i, j)) ∨
  (i = st.mels.length ∧ j = st.chds.length ∧ (k = st.cur ∨ k = st.leads.length))

theorem Slot.le {st : LStore} {k i j : Nat} (hs : Slot st k i j) (hw : WF st) :
    k ≤ st.leads.length ∧ i ≤ st.mels.length ∧ j ≤ st.chds.length := by
  have := hw.1
  rcases hs with ⟨rfl, hr⟩ | ⟨rfl, rfl, rfl | rfl⟩
  · have := hw.2 _ _ _ hr; omega
  · omega
  · omega

/-- in a well-formed store the current lead sheet has its two cells, and they are what `write` writes to -/
theorem apply_write (st : LStore) (m : Seq Int) (c : Seq String) (hw : WF st) :
    ∃ mi ci, st.leads[st.cur]? = some (mi, ci) ∧
      st.apply (.write m c) = { st with mels := st.mels.set mi m, chds := st.chds.set ci c } := by
  cases h : st.leads[st.cur]? with
  | none => rw [List.getElem?_eq_none_iff] at h; have := hw.1; omega
  | some r => exact ⟨r.1, r.2, rfl, by simp only [LStore.apply, h]⟩

theorem apply_share (st : LStore) (a b : Nat) (hw : a < st.leads.length ∧ b < st.leads.length) :
    ∃ ma x y cb, st.leads[a]? = some (ma, x) ∧ st.leads[b]? = some (y, cb) ∧
      st.apply (.share a b) = { st with leads := st.leads ++ [(ma, cb)], cur := st.leads.length } := by
  obtain ⟨ha, hb⟩ := hw
  refine ⟨st.leads[a].1, st.leads[a].2, st.leads[b].1, st.leads[b].2, List.getElem?_eq_getElem ha,
    List.getElem?_eq_getElem hb, ?_⟩
  simp only [LStore.apply, List.getElem?_eq_getElem ha, List.getElem?_eq_getElem hb]

/-- what one call can do to the store: nothing; make an existing lead sheet current; add a lead sheet that holds the
Melody cell of lead sheet `a` and the ChordProgression cell of lead sheet `b`; store a lead sheet the call has made -/
inductive SStep (st : LStore) : SOp → LStore → Prop
  | none (op : SOp) : SStep st op st
  | switch (k : Nat) (hk : k < st.leads.length) : SStep st (.switch k) { st with cur := k }
  | share (a b ma x y cb : Nat) (ha : st.leads[a]? = some (ma, x)) (hb : st.leads[b]? = some (y, cb)) :
      SStep st (.share a b) { st with leads := st.leads ++ [(ma, cb)], cur := st.leads.length }
  | store (op : SOp) (k i j : Nat) (l : LeadSheet) (hs : Slot st k i j) (hl : FromLead st l op) :
      SStep st op (st.store k i j l)

theorem SStep.stores {st : LStore} {op : SOp} (hw : WF st) (m : Seq Int) (c : Seq String)
    (hl : FromLead st ⟨m, c⟩ op) :
    SStep st op (st.apply (.write m c)) ∧ SStep st op (st.apply (.alloc ⟨m, c⟩)) ∧
    SStep st op (st.apply (.rebind ⟨m, c⟩)) := by
  have hc := hw.1
  have hst : ∀ st' k i j, Slot st k i j → st' = st.store k i j ⟨m, c⟩ → SStep st op st' :=
    fun _ k i j hs e => e ▸ .store op k i j _ hs hl
  refine ⟨?_, hst _ _ _ _ (.inr ⟨rfl, rfl, .inr rfl⟩) (by simp [LStore.apply, LStore.store, put]),
    hst _ _ _ _ (.inr ⟨rfl, rfl, .inl rfl⟩) (by simp [LStore.apply, LStore.store, put, hc])⟩
  obtain ⟨mi, ci, hr, e⟩ := apply_write st m c hw
  obtain ⟨a, b⟩ := hw.2 _ mi ci hr
  obtain ⟨_, e'⟩ := List.getElem?_eq_some_iff.1 hr
  refine hst _ st.cur mi ci (.inl ⟨rfl, hr⟩) (e.trans ?_)
  simp only [LStore.store, put, a, b, hc, if_true, ← e', List.set_getElem_self]

theorem store_wf {st : LStore} {k i j : Nat} (l : LeadSheet) (hw : WF st) (hs : Slot st k i j) :
    WF (st.store k i j l) := by
  obtain ⟨hk, hi, hj⟩ := hs.le hw
  obtain ⟨li, hi'⟩ := length_put st.mels i l.melody hi
  obtain ⟨lj, hj'⟩ := length_put st.chds j l.chords hj
  refine ⟨(length_put _ k _ hk).2, ?_⟩
  intro k' mi ci hr
  simp only [LStore.store, getElem?_put _ _ _ hk] at hr
  split at hr
  · cases hr; exact ⟨hi', hj'⟩
  · obtain ⟨a, b⟩ := hw.2 k' mi ci hr
    exact ⟨Nat.lt_of_lt_of_le a li, Nat.lt_of_lt_of_le b lj⟩

/-- `sskip`, whatever `effect` computes, takes one of the four steps -/
theorem sskip_step (st : LStore) (op : SOp) (hw : WF st) : SStep st op (sskip st op) := by
  unfold sskip
  cases op with
  | switch k =>
    simp only [effect]
    split
    · exact .switch k ‹_›
    · exact .none _
  | lead o =>
    simp only [effect]
    split
    · exact .none _
    · rename_i l hv
      split
      · exact .none _
      · rename_i l' hs
        obtain ⟨w, a, r⟩ := SStep.stores hw l'.melody l'.chords (op := .lead o) ⟨l, hv, hs⟩
        split
        · exact a
        · split
          · exact r
          · exact w
  | share a b =>
    simp only [effect]
    split
    · rename_i la lb ha hb
      split
      · obtain ⟨ma, x, y, cb, ha, hb, e⟩ := apply_share st a b ⟨view_lt _ _ _ ha, view_lt _ _ _ hb⟩
        rw [e]; exact .share a b ma x y cb ha hb
      · exact .none _
    · exact .none _
  | melody o | chords o =>
    simp only [effect]
    split
    · exact .none _
    · split
      · exact .none _
      · exact (SStep.stores hw _ _ (by trivial)).1

theorem SStep.wf {st st' : LStore} {op : SOp} (h : SStep st op st') (hw : WF st) : WF st' := by
  cases h with
  | none => exact hw
  | switch k hk => exact ⟨hk, hw.2⟩
  | share a b ma x y cb ha hb =>
    refine ⟨by simp, ?_⟩
    intro k mi ci hk
    rcases getElem?_snoc _ _ _ _ hk with hk | ⟨_, hk⟩
    · exact hw.2 k mi ci hk
    · cases hk
      exact ⟨(hw.2 a ma x ha).1, (hw.2 b y cb hb).2⟩
  | store _ k i j l hs _ => exact store_wf l hw hs

/-- storing a lead sheet keeps `L`, `M`, `C` out of reach and leaves them as they were: the slot stored to is either
the caller's own, which is outside `L`, `M`, `C`, or new -/
theorem store_sep (L M C : Nat → Prop) {st : LStore} {k i j : Nat} (l : LeadSheet) (h : Sep L M C st)
    (hs : Slot st k i j) : Sep L M C (st.store k i j l) ∧ Kept L M C st (st.store k i j l) := by
  have hwf' := store_wf l h.1 hs
  obtain ⟨hwf, hcur, hl, hm, hc, hrefs⟩ := h
  obtain ⟨hk, hi, hj⟩ := hs.le hwf
  have hn : ¬ L k ∧ ¬ M i ∧ ¬ C j := by
    rcases hs with ⟨rfl, hr⟩ | ⟨rfl, rfl, hk⟩
    · exact ⟨hcur, hrefs _ _ _ hcur hr⟩
    · refine ⟨?_, fun h => Nat.lt_irrefl _ (hm _ h), fun h => Nat.lt_irrefl _ (hc _ h)⟩
      rcases hk with rfl | rfl
      · exact hcur
      · exact fun h => Nat.lt_irrefl _ (hl _ h)
  refine ⟨⟨hwf', hn.1, fun k' h => Nat.lt_of_lt_of_le (hl k' h) (length_put _ k _ hk).1,
    fun i' h => Nat.lt_of_lt_of_le (hm i' h) (length_put _ i _ hi).1,
    fun j' h => Nat.lt_of_lt_of_le (hc j' h) (length_put _ j _ hj).1, ?_⟩, ?_, ?_, ?_⟩
  · intro k' mi ci hk' hr
    simp only [LStore.store, getElem?_put _ _ _ hk] at hr
    split at hr
    · cases hr; exact hn.2
    · exact hrefs k' mi ci hk' hr
  · intro i' h; exact (getElem?_put _ _ _ hi i').trans (if_neg (fun (e : i' = i) => hn.2.1 (e ▸ h)))
  · intro j' h; exact (getElem?_put _ _ _ hj j').trans (if_neg (fun (e : j' = j) => hn.2.2 (e ▸ h)))
  · intro k' h; exact (getElem?_put _ _ _ hk k').trans (if_neg (fun (e : k' = k) => hn.1 (e ▸ h)))

theorem SStep.sep (L M C : Nat → Prop) {st st' : LStore} {op : SOp} (h : SStep st op st') (hs : Sep L M C st)
    (hop : SOpSep L op) : Sep L M C st' ∧ Kept L M C st st' := by
  have hwf' := h.wf hs.1
  cases h with
  | none => exact ⟨hs, fun _ _ => rfl, fun _ _ => rfl, fun _ _ => rfl⟩
  | switch k hk => exact ⟨⟨hwf', hop, hs.2.2⟩, fun _ _ => rfl, fun _ _ => rfl, fun _ _ => rfl⟩
  | share a b ma x y cb ha hb =>
    obtain ⟨hwf, hcur, hl, hm, hc, hrefs⟩ := hs
    refine ⟨⟨hwf', fun h => Nat.lt_irrefl _ (hl _ h), fun k hk => ?_, hm, hc, ?_⟩, fun _ _ => rfl, fun _ _ => rfl, ?_⟩
    · have := hl k hk; simp; omega
    · intro k mi ci hk hkr
      rcases getElem?_snoc _ _ _ _ hkr with hkr | ⟨_, hkr⟩
      · exact hrefs k mi ci hk hkr
      · cases hkr
        exact ⟨(hrefs a ma x hop.1 ha).1, (hrefs b y cb hop.2 hb).2⟩
    · intro k hk; exact List.getElem?_append_left (hl k hk)
  | store _ k i j l hsl _ => exact store_sep L M C l hs hsl

theorem srun_sep (L M C : Nat → Prop) (ops : List SOp) (st : LStore) (h : Sep L M C st)
    (hops : ∀ op ∈ ops, SOpSep L op) : Sep L M C (srun st ops) ∧ Kept L M C st (srun st ops) := by
  refine foldl_inv sskip (fun st' => Sep L M C st' ∧ Kept L M C st st') (SOpSep L) ?_ ops st
    ⟨h, fun _ _ => rfl, fun _ _ => rfl, fun _ _ => rfl⟩ hops
  rintro st' op ⟨h', a, b, c⟩ hop
  obtain ⟨h'', a', b', c'⟩ := (sskip_step st' op h'.1).sep L M C h' hop
  exact ⟨h'', fun i hi => (a' i hi).trans (a i hi), fun i hi => (b' i hi).trans (b i hi),
    fun k hk => (c' k hk).trans (c k hk)⟩

theorem Priv.sep (b bm bc : Nat) (st : LStore) (h : Priv b bm bc st) : Sep (· = b) (· = bm) (· = bc) st := by
  obtain ⟨hwf, hcur, hb, hrefs⟩ := h
  obtain ⟨hbm, hbc⟩ := hwf.2 b bm bc hb
  exact ⟨hwf, hcur, fun k hk => hk ▸ getElem?_lt _ _ _ hb, fun i hi => hi ▸ hbm, fun i hi => hi ▸ hbc, hrefs⟩

/-- no two lead sheets hold the same Melody or the same ChordProgression object -/
def NoShare (st : LStore) : Prop :=
  ∀ k k' mi ci mi' ci' : Nat, k ≠ k' → st.leads[k]? = some (mi, ci) → st.leads[k']? = some (mi', ci') →
    mi ≠ mi' ∧ ci ≠ ci'

def AllInv (st : LStore) : Prop := WF st ∧ NoShare st ∧ ∀ k l, st.view k = some l → LInv l

/-- one of LeadSheet's own methods makes a consistent lead sheet of a consistent one; `hstep` is `lead_inv_step`
(a property theorem, downstream of this file) -/
theorem FromLead.inv (st : LStore) (l' : LeadSheet) (op : SOp) (h : FromLead st l' op) (hop : SOpOwn op)
    (hall : ∀ k l, st.view k = some l → LInv l)
    (hstep : ∀ l l' o, LInv l → LOpOk o → lstep l o = .ok l' → LInv l') : LInv l' := by
  cases op with
  | lead o => obtain ⟨l, hv, hs⟩ := h; exact hstep l l' o (hall _ l hv) hop hs
  | switch _ => exact h.elim
  | share _ _ => exact h.elim
  | melody _ => exact hop.elim
  | chords _ => exact hop.elim

/-- storing a consistent lead sheet keeps the store consistent: no other lead sheet holds the cells stored to (they
are the current lead sheet's own, which it shares with nobody, or new), so the others see what they saw -/
theorem store_allinv {st : LStore} {k i j : Nat} {l : LeadSheet} (h : AllInv st) (hs : Slot st k i j)
    (hl : LInv l) : AllInv (st.store k i j l) := by
  obtain ⟨hwf, hns, hall⟩ := h
  obtain ⟨hk, hi, hj⟩ := hs.le hwf
  have hfree : ∀ k' mi ci, k' ≠ k → st.leads[k']? = some (mi, ci) → mi ≠ i ∧ ci ≠ j := by
    intro k' mi ci hne hr
    rcases hs with ⟨rfl, hr'⟩ | ⟨rfl, rfl, _⟩
    · exact hns k' _ mi ci i j hne hr hr'
    · have := hwf.2 k' mi ci hr; omega
  refine ⟨store_wf l hwf hs, ?_, ?_⟩
  · intro k1 k2 m1 c1 m2 c2 hne h1 h2
    simp only [LStore.store, getElem?_put _ _ _ hk] at h1 h2
    split at h1 <;> split at h2
    · omega
    · cases h1; have := hfree k2 m2 c2 (by omega) h2; omega
    · cases h2; exact hfree k1 m1 c1 (by omega) h1
    · exact hns k1 k2 m1 c1 m2 c2 hne h1 h2
  · intro k' l' hv
    obtain ⟨mi, ci, hr, hm, hc⟩ := (view_some _ k' l').1 hv
    simp only [LStore.store, getElem?_put _ _ _ hk, getElem?_put _ _ _ hi, getElem?_put _ _ _ hj] at hr hm hc
    split at hr
    · cases hr
      rw [if_pos rfl] at hm hc
      obtain ⟨lm, lc⟩ := l'
      cases hm; cases hc
      exact hl
    · rename_i hne
      obtain ⟨n1, n2⟩ := hfree k' mi ci hne hr
      rw [if_neg n1] at hm
      rw [if_neg n2] at hc
      exact hall k' l' ((view_some st k' l').2 ⟨mi, ci, hr, hm, hc⟩)

theorem SStep.allinv {st st' : LStore} {op : SOp} (h : SStep st op st') (ha : AllInv st) (hop : SOpOwn op)
    (hstep : ∀ l l' o, LInv l → LOpOk o → lstep l o = .ok l' → LInv l') : AllInv st' := by
  cases h with
  | none => exact ha
  | switch k hk => exact ⟨⟨hk, ha.1.2⟩, ha.2⟩
  | share a b ma x y cb _ _ => exact hop.elim
  | store _ k i j l hs hl => exact store_allinv ha hs (hl.inv st l op hop ha.2.2 hstep)

end NSV.C17

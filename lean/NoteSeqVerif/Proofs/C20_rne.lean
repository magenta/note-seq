import NoteSeqVerif.Common.Float
/-! Sign facts of the rounding model `NSV.rne` in core Lean only, so that the C20 crop / repeat theorems need no
Mathlib: a positive number rounds to a positive number (no underflow: the exponent is unbounded).  They rest on the
lower bound `floorLog2_le` of the binade finder, which `Proofs/RoundingLog.lean` takes from here. -/
namespace NSV

theorem rneDiv_pos (n d : Nat) (hd : 0 < d) (h : d ≤ n) : 0 < rneDiv n d := by
  have h1 : 0 < n / d := Nat.div_pos h hd
  unfold rneDiv
  simp only
  split
  · exact h1
  · split
    · omega
    · split <;> omega

/-- `num·2^b < den·2^a` whenever the exponents make up for the bit lengths: `num < 2^(ln+1)`, `2^ld ≤ den` -/
theorem mul_pow_lt_of_log2 {num den ln ld a b : Nat} (a1 : num < 2 ^ (ln + 1)) (a2 : 2 ^ ld ≤ den)
    (h : ln + 1 + b = ld + a) : num * 2 ^ b < den * 2 ^ a :=
  calc num * 2 ^ b < 2 ^ (ln + 1) * 2 ^ b := Nat.mul_lt_mul_of_pos_right a1 (Nat.pow_pos (by omega))
    _ = 2 ^ ld * 2 ^ a := by rw [← Nat.pow_add, ← Nat.pow_add, h]
    _ ≤ den * 2 ^ a := Nat.mul_le_mul_right _ a2

/-- lower half of the specification of `floorLog2`: `2^e ≤ num/den`, written without division
(one of the two exponents is zero) -/
theorem floorLog2_le (num den : Nat) (hn : 0 < num) :
    den * 2 ^ (floorLog2 num den).toNat ≤ num * 2 ^ (-floorLog2 num den).toNat := by
  have key : ∀ ln ld : Nat, ld + 1 + ((ln : Int) - ld - 1).toNat = ln + (-((ln : Int) - ld - 1)).toNat :=
    fun ln ld => by omega
  have a1 := @Nat.log2_self_le num (by omega)
  have a2 := @Nat.lt_log2_self den
  unfold floorLog2
  simp only
  generalize Nat.log2 num = ln at *
  generalize Nat.log2 den = ld at *
  -- when the comparison succeeds it is the claim; one less than the difference of the bit
  -- lengths is always below
  split
  · split
    · rename_i hge
      rw [show (-((ln : Int) - ld)).toNat = 0 by omega]; simpa using hge
    · exact Nat.le_of_lt (mul_pow_lt_of_log2 a2 a1 (key ln ld))
  · split
    · rename_i hge
      rw [show ((ln : Int) - ld).toNat = 0 by omega]; simpa using hge
    · exact Nat.le_of_lt (mul_pow_lt_of_log2 a2 a1 (key ln ld))

theorem rnePos_pos (p num den : Nat) (hp : 0 < p) (hn : 0 < num) (hd : 0 < den) :
    0 < rnePos p num den := by
  have hf := floorLog2_le num den hn
  unfold rnePos
  simp only
  generalize floorLog2 num den = e at *
  generalize hs : e - ((p : Int) - 1) = s
  -- the scaled quotient is at least 1, since `s ≤ e`
  have hq : den * 2 ^ s.toNat ≤ num * 2 ^ (-s).toNat :=
    calc den * 2 ^ s.toNat ≤ den * 2 ^ e.toNat :=
          Nat.mul_le_mul_left _ (Nat.pow_le_pow_right (by omega) (by omega))
      _ ≤ num * 2 ^ (-e).toNat := hf
      _ ≤ num * 2 ^ (-s).toNat := Nat.mul_le_mul_left _ (Nat.pow_le_pow_right (by omega) (by omega))
  split
  · rw [show (-s).toNat = 0 by omega, Nat.pow_zero, Nat.mul_one] at hq
    have hpow : 0 < 2 ^ s.toNat := Nat.pow_pos (by omega)
    exact Rat.natCast_pos.mpr (Nat.mul_pos (rneDiv_pos _ _ (Nat.mul_pos hd hpow) hq) hpow)
  · rw [show s.toNat = 0 by omega, Nat.pow_zero, Nat.mul_one] at hq
    rw [Rat.mkRat_eq_div]
    exact Rat.mul_pos (Rat.intCast_pos.mpr (Int.natCast_pos.mpr (rneDiv_pos _ _ hd hq)))
      (Rat.inv_pos.mpr (Rat.natCast_pos.mpr (Nat.pow_pos (by omega))))
theorem rne_zero (p : Nat) : rne p 0 = 0 := by
  unfold rne; simp

theorem rne_pos (p : Nat) (hp : 0 < p) (x : Rat) (hx : 0 < x) : 0 < rne p x := by
  have hnum : 0 < x.num := by
    have h1 : 0 ≤ x.num := Rat.num_nonneg.mpr (Rat.le_of_lt hx)
    have h2 : x.num ≠ 0 := fun h => by
      have := Rat.num_eq_zero.mp h
      subst this
      exact Rat.lt_irrefl hx
    omega
  unfold rne
  have h0 : x.num ≠ 0 := by omega
  simp only [h0, hnum, if_true, if_false]
  exact rnePos_pos p x.num.natAbs x.den hp (by omega) x.den_pos

theorem rne_nonneg (p : Nat) (hp : 0 < p) (x : Rat) (hx : 0 ≤ x) : 0 ≤ rne p x := by
  by_cases h : x = 0
  · subst h; rw [rne_zero]; exact Rat.le_refl
  · have : 0 < x := by grind
    exact Rat.le_of_lt (rne_pos p hp x this)

end NSV

import NoteSeqVerif.Proofs.C14Sim
import NoteSeqVerif.Proofs.Basics
/-! C14 — layer 2 of the proof of `sustain_spec`: the per-note automaton `astep j`, run over the
event list sorted by `(time, type)`, ends the note `j` exactly at the time the declarative
specification prescribes: at its own end unless the pedal is down then (`PedAtEnd`); under the
pedal at the first closing event (`FirstClosing`), or, there being none, not at all (the close-out
does).  These are statements about the events alone; `C14Bridge` reads them as `pedalDown` /
`heldEnd`. -/
namespace NSV.C14
open Gen

/-- the one place where the order of the regenerated constants enters: events of one time are
processed pedal-down, pedal-up, note-on, note-off -/
theorem typ_order : SUSTAIN_ON < SUSTAIN_OFF ∧ SUSTAIN_OFF < NOTE_ON ∧ NOTE_ON < NOTE_OFF := by decide

theorem evLe_iff {n} (a b : Ev n) :
    evLe a b = true ↔ a.time < b.time ∨ (a.time = b.time ∧ a.typ ≤ b.typ) := by
  simp [evLe]

theorem evLe_time {n} {a b : Ev n} (h : evLe a b = true) : a.time ≤ b.time := by
  rcases (evLe_iff a b).mp h with h | h
  · exact Rat.le_of_lt h
  · rw [h.1]; exact Rat.le_refl

theorem evLe_lt {n} {a b : Ev n} (h : evLe a b = true) (ht : b.typ < a.typ) : a.time < b.time := by
  rcases (evLe_iff a b).mp h with h | h
  · exact h
  · exact absurd h.2 (Nat.not_le.mpr ht)

section perNote
variable {n : Nat} (notes : Fin n → Note) (j : Fin n)

def onEv (k : Fin n) : Ev n := ⟨(notes k).start, NOTE_ON, .note k⟩
def offEv (k : Fin n) : Ev n := ⟨(notes k).end_, NOTE_OFF, .note k⟩

def IsPedOn (x : Ev n) : Prop :=
  x.typ = SUSTAIN_ON ∧ ∃ c, x.obj = .cc c ∧ c.instrument = (notes j).instrument
def IsPedOff (x : Ev n) : Prop :=
  x.typ = SUSTAIN_OFF ∧ ∃ c, x.obj = .cc c ∧ c.instrument = (notes j).instrument
def IsStrike (x : Ev n) : Prop :=
  x.typ = NOTE_ON ∧ ∃ k, x.obj = .note k ∧ k ≠ j ∧
    (notes k).instrument = (notes j).instrument ∧ (notes k).pitch = (notes j).pitch
/-- an event that ends `j` while the pedal holds it: a release strictly after `j`'s end or a
re-strike at or after it (the specification's `releaseTimes` / `restrikeTimes`) -/
def Closing (x : Ev n) : Prop :=
  (IsPedOff notes j x ∧ (notes j).end_ < x.time) ∨ (IsStrike notes j x ∧ (notes j).end_ ≤ x.time)
/-- `pedalDown` read on the processed prefix `P` instead of "up to time `t`" -/
def PedP (P : List (Ev n)) : Prop :=
  ∃ x ∈ P, IsPedOn notes j x ∧ ∀ y ∈ P, IsPedOff notes j y → y.time < x.time

variable {notes j}

theorem pedP_append_on {P : List (Ev n)} {x : Ev n} (hx : IsPedOn notes j x)
    (hPx : ∀ y ∈ P, evLe y x = true) : PedP notes j (P ++ [x]) := by
  refine ⟨x, by simp, hx, ?_⟩
  intro y hy hoff
  rcases List.mem_append.mp hy with hy | hy
  · rcases (evLe_iff y x).mp (hPx y hy) with h | h
    · exact h
    · have := h.2; rw [hoff.1, hx.1] at this
      exact absurd this (by decide)
  · simp only [List.mem_singleton] at hy; subst hy
    have := hoff.1; rw [hx.1] at this; exact absurd this (by decide)

theorem pedP_append_off {P : List (Ev n)} {x : Ev n} (hx : IsPedOff notes j x)
    (hPx : ∀ y ∈ P, evLe y x = true) : ¬ PedP notes j (P ++ [x]) := by
  rintro ⟨w, hw, hwon, hall⟩
  have hlt := hall x (by simp) hx
  rcases List.mem_append.mp hw with hw | hw
  · exact absurd hlt (Rat.not_lt.mpr (evLe_time (hPx w hw)))
  · simp only [List.mem_singleton] at hw; subst hw; exact Rat.lt_irrefl hlt

theorem pedP_append_other {P : List (Ev n)} {x : Ev n} (h1 : ¬ IsPedOn notes j x)
    (h2 : ¬ IsPedOff notes j x) : PedP notes j (P ++ [x]) ↔ PedP notes j P := by
  constructor
  · rintro ⟨w, hw, hwon, hall⟩
    rcases List.mem_append.mp hw with hw | hw
    · exact ⟨w, hw, hwon, fun y hy => hall y (List.mem_append_left _ hy)⟩
    · simp only [List.mem_singleton] at hw; subst hw; exact absurd hwon h1
  · rintro ⟨w, hw, hwon, hall⟩
    refine ⟨w, List.mem_append_left _ hw, hwon, ?_⟩
    intro y hy hoff
    rcases List.mem_append.mp hy with hy | hy
    · exact hall y hy hoff
    · simp only [List.mem_singleton] at hy; subst hy; exact absurd hoff h2

variable (notes j) in
/-- `j`'s pedal is down at `j`'s end: the specification's `pedalDown`, read on the events -/
def PedAtEnd (E : List (Ev n)) : Prop :=
  ∃ x ∈ E, IsPedOn notes j x ∧ x.time ≤ (notes j).end_ ∧
    ∀ y ∈ E, IsPedOff notes j y → y.time ≤ (notes j).end_ → y.time < x.time

variable (notes j) in
/-- a closing event of least time: where the pedal-held note `j` has to end -/
def FirstClosing (E : List (Ev n)) (x : Ev n) : Prop :=
  x ∈ E ∧ Closing notes j x ∧ ∀ y ∈ E, Closing notes j y → x.time ≤ y.time

theorem Closing.end_le {x : Ev n} (h : Closing notes j x) : (notes j).end_ ≤ x.time :=
  h.elim (fun h => Rat.le_of_lt h.2) (fun h => h.2)

theorem Closing.lt_of_pedOff {x : Ev n} (h : Closing notes j x) (ho : IsPedOff notes j x) :
    (notes j).end_ < x.time :=
  h.elim (fun h => h.2) (fun h => absurd (ho.1.symm.trans h.1.1) t12)

/-- what is fixed while the sorted list `E = P ++ x :: Q` is being processed -/
structure Ctx (E P : List (Ev n)) (x : Ev n) (Q : List (Ev n)) : Prop where
  split : ∀ y, y ∈ E ↔ y ∈ P ∨ y = x ∨ y ∈ Q
  before : ∀ y ∈ P, evLe y x = true
  after : ∀ y ∈ Q, evLe x y = true
  ok : ∀ y ∈ E, EvOK notes y
  uniq : onEv notes j ∈ P → x ≠ onEv notes j
  on_mem : onEv notes j ∈ E
  off_mem : offEv notes j ∈ E
  nondrum : (notes j).isDrum = false
  wf : (notes j).start ≤ (notes j).end_
  noov : ∀ k, k ≠ j → (notes k).isDrum = false → (notes k).instrument = (notes j).instrument →
    (notes k).pitch = (notes j).pitch →
    (notes k).start ≠ (notes j).start ∧ ((notes j).start < (notes k).start → (notes j).end_ ≤ (notes k).start)


variable {E P Q : List (Ev n)} {x : Ev n} {a : Abs}

theorem Ctx.mem_before {y : Ev n} (hc : Ctx (notes := notes) (j := j) E P x Q)
    (hy : y ∈ E) (ht : y.typ < x.typ) : y ∈ P ↔ y.time ≤ x.time := by
  refine ⟨fun hp => evLe_time (hc.before y hp), fun hle => ?_⟩
  rcases (hc.split y).mp hy with h | h | h
  · exact h
  · rw [h] at ht; exact absurd ht (Nat.lt_irrefl _)
  · exact absurd (evLe_lt (hc.after y h) ht) (Rat.not_lt.mpr hle)

/-- when the next event is at `j`'s end and is a note event, the pedal state reached is the
specification's `pedalDown` -/
theorem pedP_iff_atEnd
    (hc : Ctx (notes := notes) (j := j) E P x Q)
    (hxt : x.time = (notes j).end_) (hxtyp : NOTE_ON ≤ x.typ) : PedP notes j P ↔ PedAtEnd notes j E := by
  have hto := typ_order
  have key : ∀ y ∈ E, IsPedOn notes j y ∨ IsPedOff notes j y → (y ∈ P ↔ y.time ≤ (notes j).end_) := by
    intro y hy hk
    rw [← hxt]
    exact hc.mem_before hy (by rcases hk with hk | hk <;> (rw [hk.1]; omega))
  constructor
  · rintro ⟨w, hw, hwon, hall⟩
    have hwE := (hc.split w).mpr (Or.inl hw)
    refine ⟨w, hwE, hwon, (key w hwE (Or.inl hwon)).mp hw, fun y hy hoff hyt => ?_⟩
    exact hall y ((key y hy (Or.inr hoff)).mpr hyt) hoff
  · rintro ⟨w, hw, hwon, hwt, hall⟩
    refine ⟨w, (key w hw (Or.inl hwon)).mpr hwt, hwon, fun y hy hoff => ?_⟩
    have hyE := (hc.split y).mpr (Or.inl hy)
    exact hall y hyE hoff ((key y hyE (Or.inr hoff)).mp hy)

/-- the first closing event met is one of least time -/
theorem Ctx.firstClosing
    (hc : Ctx (notes := notes) (j := j) E P x Q)
    (hnone : ∀ y ∈ P, ¬ Closing notes j y) (hx : Closing notes j x) : FirstClosing notes j E x :=
  ⟨(hc.split x).mpr (Or.inr (Or.inl rfl)), hx, fun y hy hcl => by
    rcases (hc.split y).mp hy with hy | hy | hy
    · exact absurd hcl (hnone y hy)
    · rw [hy]; exact Rat.le_refl
    · exact evLe_time (hc.after y hy)⟩

/-- while `j`'s own note-off is still to come, the next event is not after `j`'s end -/
theorem ctx_before_off
    (hc : Ctx (notes := notes) (j := j) E P x Q) (h1 : offEv notes j ∉ P) (h2 : x ≠ offEv notes j) :
    evLe x (offEv notes j) = true := by
  rcases (hc.split _).mp hc.off_mem with h | h | h
  · exact absurd h h1
  · exact absurd h.symm h2
  · exact hc.after _ h


theorem off_not_before_on (hwf : (notes j).start ≤ (notes j).end_) :
    ¬ evLe (offEv notes j) (onEv notes j) = true := by
  intro h
  have hto := typ_order
  rcases (evLe_iff _ _).mp h with h | h
  · simp only [offEv, onEv] at h; exact absurd h (Rat.not_lt.mpr hwf)
  · have := h.2; simp only [offEv, onEv] at this; omega


variable (notes j) in
/-- what an event of the list is to note `j` -/
inductive Kind : Ev n → Prop
  | pedOn (t : Rat) (c : CC) (hi : c.instrument = (notes j).instrument) : Kind ⟨t, SUSTAIN_ON, .cc c⟩
  | pedOff (t : Rat) (c : CC) (hi : c.instrument = (notes j).instrument) : Kind ⟨t, SUSTAIN_OFF, .cc c⟩
  | strike (k : Fin n) (hkj : k ≠ j) (hkd : (notes k).isDrum = false)
      (hki : (notes k).instrument = (notes j).instrument) (hkp : (notes k).pitch = (notes j).pitch) :
      Kind (onEv notes k)
  | on : Kind (onEv notes j)
  | off : Kind (offEv notes j)
  /-- another instrument's pedal, a note of another pitch or instrument, another note's end -/
  | other {x : Ev n} (hA : ∀ a, astep notes j a x = a) (h1 : ¬ IsPedOn notes j x)
      (h2 : ¬ IsPedOff notes j x) (h3 : ¬ IsStrike notes j x) (h5 : x ≠ offEv notes j) : Kind x

theorem kind_of_ok (hok : EvOK notes x) : Kind notes j x := by
  obtain ⟨t, typ, obj⟩ := x
  cases obj with
  | cc c =>
    have hok : typ = SUSTAIN_ON ∨ typ = SUSTAIN_OFF := hok
    by_cases hi : c.instrument = (notes j).instrument
    · rcases hok with rfl | rfl
      · exact .pedOn t c hi
      · exact .pedOff t c hi
    · have hni : ∀ c', (Obj.cc c : Obj n) = .cc c' → ¬ c'.instrument = (notes j).instrument := by
        intro c' e; cases e; exact hi
      refine .other (fun a => ?_) (fun ⟨_, c', hc', hi'⟩ => hni c' hc' hi')
        (fun ⟨_, c', hc', hi'⟩ => hni c' hc' hi') (fun ⟨_, k, hk, _⟩ => by cases hk)
        (fun e => by cases congrArg Ev.obj e)
      rcases hok with rfl | rfl
      · rw [astep_susOn, if_neg hi]
      · rw [astep_susOff, if_neg hi]
  | note k =>
    have hok : (notes k).isDrum = false ∧
        ((typ = NOTE_ON ∧ t = (notes k).start) ∨ (typ = NOTE_OFF ∧ t = (notes k).end_)) := hok
    have hobj : ∀ {y : Ev n}, (⟨t, typ, .note k⟩ : Ev n) = y → y.obj = .note j → k = j := by
      intro y e h; subst e; exact Obj.note.inj h
    obtain ⟨hkd, ⟨rfl, rfl⟩ | ⟨rfl, rfl⟩⟩ := hok
    · by_cases hkj : k = j
      · subst hkj; exact .on
      · by_cases hs : (notes k).instrument = (notes j).instrument ∧ (notes k).pitch = (notes j).pitch
        · exact .strike k hkj hkd hs.1 hs.2
        · refine .other (fun a => ?_) (fun h => t02 h.1.symm) (fun h => t12 h.1.symm) ?_
            (fun e => t23 (congrArg Ev.typ e))
          · rw [astep_noteOn, if_neg hkj, if_neg (fun h => hs ⟨h.1, h.2.1⟩)]
          · rintro ⟨_, k', hk', _, h1, h2⟩; cases hk'; exact hs ⟨h1, h2⟩
    · by_cases hkj : k = j
      · subst hkj; exact .off
      · refine .other (fun a => ?_) (fun h => t03 h.1.symm) (fun h => t13 h.1.symm)
          (fun h => t23 h.1.symm) (fun e => hkj (hobj e rfl))
        rw [astep_noteOff, if_neg (fun h => hkj h.1)]

theorem ped_step (hk : Kind notes j x)
    (hPx : ∀ y ∈ P, evLe y x = true) (h : a.ped = true ↔ PedP notes j P) :
    (astep notes j a x).ped = true ↔ PedP notes j (P ++ [x]) := by
  cases hk with
  | pedOn t c hi =>
    rw [astep_susOn, if_pos hi]
    exact ⟨fun _ => pedP_append_on ⟨rfl, c, rfl, hi⟩ hPx, fun _ => rfl⟩
  | pedOff t c hi =>
    rw [astep_susOff, if_pos hi]
    refine ⟨fun h' => ?_, fun h' => absurd h' (pedP_append_off ⟨rfl, c, rfl, hi⟩ hPx)⟩
    split at h' <;> cases h'
  | strike k =>
    rw [pedP_append_other (fun h' => t02 h'.1.symm) (fun h' => t12 h'.1.symm), ← h,
      show (astep notes j a (onEv notes k)).ped = a.ped from astep_note_ped ..]
  | on =>
    rw [pedP_append_other (fun h' => t02 h'.1.symm) (fun h' => t12 h'.1.symm), ← h,
      show (astep notes j a (onEv notes j)).ped = a.ped from astep_note_ped ..]
  | off =>
    rw [pedP_append_other (fun h' => t03 h'.1.symm) (fun h' => t13 h'.1.symm), ← h,
      show (astep notes j a (offEv notes j)).ped = a.ped from astep_note_ped ..]
  | other hA h1 h2 => rw [hA, pedP_append_other h1 h2]; exact h

/-- a note that is not active is changed by its own note-on only (apart from its pedal flag) -/
theorem astep_inactive (hk : Kind notes j x) (hx : x ≠ onEv notes j)
    (h : a.act = false) :
    (astep notes j a x).act = false ∧ (astep notes j a x).e = a.e ∧
      (astep notes j a x).tag = a.tag := by
  cases hk with
  | pedOn t c hi => rw [astep_susOn, if_pos hi]; exact ⟨h, rfl, rfl⟩
  | pedOff t c hi =>
    rw [astep_susOff, if_pos hi, if_neg (fun hh => by rw [h] at hh; cases hh.1)]
    exact ⟨h, rfl, rfl⟩
  | strike k hkj =>
    rw [show astep notes j a (onEv notes k) = _ from astep_noteOn notes j a _ k, if_neg hkj,
      if_neg (fun hh => by rw [h] at hh; cases hh.2.2.2)]
    exact ⟨h, rfl, rfl⟩
  | on => exact absurd rfl hx
  | off =>
    rw [show astep notes j a (offEv notes j) = _ from astep_noteOff notes j a _ j]
    split
    · exact ⟨rfl, rfl, rfl⟩
    · exact ⟨h, rfl, rfl⟩
  | other hA => rw [hA]; exact ⟨h, rfl, rfl⟩

/-! The life of note `j` over the events processed so far (`P`): `Idle`, then `Sounding`, then
`Done` — directly when its note-off finds the pedal up or a re-strike at its end finds it down, via
`Held` when its note-off finds the pedal down. -/

variable (notes j) in
/-- before its note-on -/
structure Idle (P : List (Ev n)) (a : Abs) : Prop where
  on_not : onEv notes j ∉ P
  act : a.act = false
  e : a.e = (notes j).end_
  tag : a.tag = .none

variable (notes j) in
/-- between its note-on and its note-off; a re-strike at its end has gone by only if the pedal is
not down at its end -/
structure Sounding (E P : List (Ev n)) (a : Abs) : Prop where
  on_mem : onEv notes j ∈ P
  off_not : offEv notes j ∉ P
  act : a.act = true
  e : a.e = (notes j).end_
  tag : a.tag = .none
  noStrike : ∀ y ∈ P, IsStrike notes j y → (notes j).end_ ≤ y.time → ¬ PedAtEnd notes j E

variable (notes j) in
/-- after its note-off, kept in the active list by the pedal -/
structure Held (E P : List (Ev n)) (a : Abs) : Prop where
  on_mem : onEv notes j ∈ P
  off_mem : offEv notes j ∈ P
  act : a.act = true
  ped : a.ped = true
  e : a.e = (notes j).end_
  tag : a.tag = .none
  pd : PedAtEnd notes j E
  noClosing : ∀ y ∈ P, ¬ Closing notes j y

variable (notes j) in
/-- out of the active list for good; the tag records which of the three ways it went: its own
note-off with the pedal up, or, the pedal down at its end, the first closing event — a pedal
release, or a re-strike with no release at that time -/
structure Done (E P : List (Ev n)) (a : Abs) : Prop where
  on_mem : onEv notes j ∈ P
  act : a.act = false
  none : a.tag = .none → a.e = (notes j).end_ ∧ ¬ PedAtEnd notes j E
  byPed : a.tag = .byPed → PedAtEnd notes j E ∧
    ∃ y, FirstClosing notes j E y ∧ IsPedOff notes j y ∧ a.e = y.time
  byStrike : a.tag = .byStrike → PedAtEnd notes j E ∧
    ∃ y, FirstClosing notes j E y ∧ IsStrike notes j y ∧ a.e = y.time ∧
      ∀ z ∈ E, IsPedOff notes j z → (notes j).end_ < z.time → z.time ≠ y.time

variable (notes j) in
def Phase (E P : List (Ev n)) (a : Abs) : Prop :=
  Idle notes j P a ∨ Sounding notes j E P a ∨ Held notes j E P a ∨ Done notes j E P a

variable (notes j) in
def InvJ (E P : List (Ev n)) (a : Abs) : Prop :=
  (a.ped = true ↔ PedP notes j P) ∧ Phase notes j E P a

theorem idle_on
    (hc : Ctx (notes := notes) (j := j) E P (onEv notes j) Q) (h : Idle notes j P a) :
    Sounding notes j E (P ++ [onEv notes j]) (astep notes j a (onEv notes j)) := by
  rw [show astep notes j a (onEv notes j) = _ from astep_noteOn notes j a _ j, if_pos rfl]
  refine ⟨by simp, ?_, rfl, h.e, h.tag, ?_⟩
  · rw [mem_snoc]; rintro (h' | h')
    · exact off_not_before_on hc.wf (hc.before _ h')
    · exact t23 (congrArg Ev.typ h').symm
  · -- a same-pitch note that started earlier has ended before `j` starts
    intro y hy hs hge
    exfalso
    rcases mem_snoc.mp hy with hy | hy
    · have hok := hc.ok y ((hc.split y).mpr (Or.inl hy))
      have hle : y.time ≤ (notes j).start := evLe_time (b := onEv notes j) (hc.before y hy)
      obtain ⟨ty, typy, objy⟩ := y
      obtain ⟨htyp, k, hobj, hkj, hki, hkp⟩ := hs
      simp only at htyp hobj hge hle
      subst hobj htyp
      obtain ⟨hkd, hk | hk⟩ : _ ∧ (_ ∨ _) := hok
      · refine (hc.noov k hkj hkd hki hkp).1 ?_
        rw [← hk.2]
        exact Rat.le_antisymm hle (Rat.le_trans hc.wf hge)
      · exact t23 hk.1
    · obtain ⟨_, k, hk, hkj, _⟩ := hs
      rw [hy] at hk
      exact hkj (Obj.note.inj hk).symm

theorem sounding_step
    (hc : Ctx (notes := notes) (j := j) E P x Q)
    (hk : Kind notes j x) (hped : a.ped = true ↔ PedP notes j P) (h : Sounding notes j E P a) :
    Phase notes j E (P ++ [x]) (astep notes j a x) := by
  have hto := typ_order
  have hon := List.mem_append_left [x] h.on_mem
  have hxE : x ∈ E := (hc.split x).mpr (Or.inr (Or.inl rfl))
  -- until `j`'s own note-off no event is later than `j`'s end
  have hle : x ≠ offEv notes j → x.time ≤ (notes j).end_ := fun h5 =>
    evLe_time (b := offEv notes j) (ctx_before_off hc h.off_not h5)
  -- the note goes on sounding: at most its pedal flag changes
  have keep : ∀ {a' : Abs}, a'.act = true → a'.e = (notes j).end_ → a'.tag = .none →
      x ≠ offEv notes j → (IsStrike notes j x → ¬ PedAtEnd notes j E) →
      Phase notes j E (P ++ [x]) a' := by
    intro a' h1 h2 h3 h5 hx
    refine Or.inr (Or.inl ⟨hon, by rw [mem_snoc_of_ne h5]; exact h.off_not, h1, h2, h3,
      fun y hy hs hge => ?_⟩)
    rcases mem_snoc.mp hy with hy | hy
    · exact h.noStrike y hy hs hge
    · exact hx (hy ▸ hs)
  cases hk with
  | pedOn t c hi =>
    rw [astep_susOn, if_pos hi]
    exact keep h.act h.e h.tag (fun e => t03 (congrArg Ev.typ e)) (fun g => absurd g.1 t02)
  | pedOff t c hi =>
    have h5 : (⟨t, SUSTAIN_OFF, .cc c⟩ : Ev n) ≠ offEv notes j := fun e => t13 (congrArg Ev.typ e)
    rw [astep_susOff, if_pos hi,
      if_neg (fun hh => absurd hh.2 (Rat.not_lt.mpr (by rw [h.e]; exact hle h5)))]
    exact keep h.act h.e h.tag h5 (fun g => absurd g.1 t12)
  | strike k hkj hkd hki hkp =>
    have h5 : onEv notes k ≠ offEv notes j := fun e => t23 (congrArg Ev.typ e)
    have hx : IsStrike notes j (onEv notes k) := ⟨rfl, k, rfl, hkj, hki, hkp⟩
    -- the other note starts after `j` started, hence not before `j` ends: exactly at `j`'s end
    have hte : (notes k).start = (notes j).end_ := by
      have h1 : (notes j).start ≤ (notes k).start :=
        evLe_time (a := onEv notes j) (b := onEv notes k) (hc.before _ h.on_mem)
      have hno := hc.noov k hkj hkd hki hkp
      exact Rat.le_antisymm (hle h5) (hno.2 (Rat.lt_of_le_of_ne h1 (Ne.symm hno.1)))
    rw [show astep notes j a (onEv notes k) = _ from astep_noteOn notes j a _ k, if_neg hkj]
    by_cases hp : a.ped = true
    · rw [if_pos ⟨hki, hkp, hp, h.act⟩]
      -- at `j`'s end no closing event is earlier
      have hfc : FirstClosing notes j E (onEv notes k) :=
        ⟨hxE, Or.inr ⟨hx, by rw [← hte]; exact Rat.le_refl⟩, fun y _ hcl => by
          show (notes k).start ≤ y.time
          rw [hte]; exact hcl.end_le⟩
      exact Or.inr (Or.inr (Or.inr ⟨hon, rfl, nofun, nofun,
        fun _ => ⟨(pedP_iff_atEnd hc hte (Nat.le_refl _)).mp (hped.mp hp), _, hfc, hx, rfl,
          fun y _ _ hlt e => by rw [e] at hlt; exact Rat.lt_irrefl (hte ▸ hlt)⟩⟩))
    · rw [if_neg (fun hh => hp hh.2.2.1)]
      exact keep h.act h.e h.tag h5
        (fun _ g => hp (hped.mpr ((pedP_iff_atEnd hc hte (Nat.le_refl _)).mpr g)))
  | on => exact absurd rfl (hc.uniq h.on_mem)
  | off =>
    rw [show astep notes j a (offEv notes j) = _ from astep_noteOff notes j a _ j]
    have hiff := pedP_iff_atEnd hc rfl (Nat.le_of_lt hto.2.2)
    by_cases hp : a.ped = true
    · rw [if_neg (fun hh => by rw [hp] at hh; cases hh.2)]
      refine Or.inr (Or.inr (Or.inl ⟨hon, by simp, h.act, hp, h.e, h.tag, hiff.mp (hped.mp hp),
        fun y hy => ?_⟩))
      rcases mem_snoc.mp hy with hy | hy
      · rintro (hcl | hcl)
        · exact absurd hcl.2 (Rat.not_lt.mpr (evLe_time (b := offEv notes j) (hc.before y hy)))
        · exact h.noStrike y hy hcl.1 hcl.2 (hiff.mp (hped.mp hp))
      · rw [hy]; rintro (hcl | hcl)
        · exact t13 hcl.1.1.symm
        · exact t23 hcl.1.1.symm
    · rw [if_pos ⟨rfl, by simpa using hp⟩]
      exact Or.inr (Or.inr (Or.inr ⟨hon, rfl, fun _ => ⟨h.e, fun hpd => hp (hped.mpr (hiff.mpr hpd))⟩,
        (fun hh => by rw [h.tag] at hh; cases hh), fun hh => by rw [h.tag] at hh; cases hh⟩))
  | other hA h1 h2 h3 h5 =>
    rw [hA]
    exact keep h.act h.e h.tag h5 (fun g => absurd g h3)

theorem held_step
    (hc : Ctx (notes := notes) (j := j) E P x Q)
    (hk : Kind notes j x) (h : Held notes j E P a) :
    Phase notes j E (P ++ [x]) (astep notes j a x) := by
  have hto := typ_order
  have hon := List.mem_append_left [x] h.on_mem
  -- after `j`'s own note-off, pedal events and note-ons are later than `j`'s end
  have hlt : x.typ < NOTE_OFF → (notes j).end_ < x.time :=
    evLe_lt (a := offEv notes j) (hc.before _ h.off_mem)
  have keep : ¬ Closing notes j x → astep notes j a x = a →
      Phase notes j E (P ++ [x]) (astep notes j a x) := by
    intro hncl hA
    rw [hA]
    refine Or.inr (Or.inr (Or.inl ⟨hon, List.mem_append_left _ h.off_mem, h.act, h.ped, h.e, h.tag,
      h.pd, fun y hy => ?_⟩))
    rcases mem_snoc.mp hy with hy | hy
    · exact h.noClosing y hy
    · rw [hy]; exact hncl
  cases hk with
  | pedOn t c hi =>
    refine keep (fun hcl => hcl.elim (fun g => t01 g.1.1) (fun g => t02 g.1.1)) ?_
    rw [astep_susOn, if_pos hi, ← h.ped]
  | pedOff t c hi =>
    have hx : IsPedOff notes j (⟨t, SUSTAIN_OFF, .cc c⟩ : Ev n) := ⟨rfl, c, rfl, hi⟩
    have ht : (notes j).end_ < t := hlt (Nat.lt_trans hto.2.1 hto.2.2)
    rw [astep_susOff, if_pos hi, if_pos ⟨h.act, by rw [h.e]; exact ht⟩]
    exact Or.inr (Or.inr (Or.inr ⟨hon, rfl, nofun,
      fun _ => ⟨h.pd, _, hc.firstClosing h.noClosing (Or.inl ⟨hx, ht⟩), hx, rfl⟩, nofun⟩))
  | strike k hkj hkd hki hkp =>
    have hx : IsStrike notes j (onEv notes k) := ⟨rfl, k, rfl, hkj, hki, hkp⟩
    have ht : (notes j).end_ < (notes k).start := hlt hto.2.2
    rw [show astep notes j a (onEv notes k) = _ from astep_noteOn notes j a _ k, if_neg hkj,
      if_pos ⟨hki, hkp, h.ped, h.act⟩]
    refine Or.inr (Or.inr (Or.inr ⟨hon, rfl, nofun, nofun,
      fun _ => ⟨h.pd, _, hc.firstClosing h.noClosing (Or.inr ⟨hx, Rat.le_of_lt ht⟩), hx, rfl,
        fun y hy hoff hyt e => ?_⟩⟩))
    -- a release at the time of the re-strike sorts before it, and would have ended the note
    have hyP : y ∈ P := (hc.mem_before hy (by rw [hoff.1]; exact hto.2.1)).mpr (by rw [e]; exact Rat.le_refl)
    exact h.noClosing y hyP (Or.inl ⟨hoff, hyt⟩)
  | on => exact absurd rfl (hc.uniq h.on_mem)
  | off =>
    refine keep (fun hcl => hcl.elim (fun g => t13 g.1.1.symm) (fun g => t23 g.1.1.symm)) ?_
    rw [show astep notes j a (offEv notes j) = _ from astep_noteOff notes j a _ j,
      if_neg (fun hh => by rw [h.ped] at hh; cases hh.2)]
  | other hA h1 h2 h3 => exact keep (fun hcl => hcl.elim (fun g => h2 g.1) (fun g => h3 g.1)) (hA a)

theorem invJ_step
    (hc : Ctx (notes := notes) (j := j) E P x Q)
    (hinv : InvJ notes j E P a) :
    InvJ notes j E (P ++ [x]) (astep notes j a x) := by
  have hk : Kind notes j x := kind_of_ok (hc.ok x ((hc.split x).mpr (Or.inr (Or.inl rfl))))
  refine ⟨ped_step hk hc.before hinv.1, ?_⟩
  rcases hinv.2 with h | h | h | h
  · by_cases hx : x = onEv notes j
    · subst hx; exact Or.inr (Or.inl (idle_on hc h))
    · obtain ⟨h1, h2, h3⟩ := astep_inactive hk hx h.act
      exact Or.inl ⟨by rw [mem_snoc_of_ne hx]; exact h.on_not, h1, h2.trans h.e, h3.trans h.tag⟩
  · exact sounding_step hc hk hinv.1 h
  · exact held_step hc hk h
  · obtain ⟨h1, h2, h3⟩ := astep_inactive hk (hc.uniq h.on_mem) h.act
    exact Or.inr (Or.inr (Or.inr ⟨List.mem_append_left _ h.on_mem, h1,
      (by rw [h3, h2]; exact h.none), (by rw [h3, h2]; exact h.byPed), by rw [h3, h2]; exact h.byStrike⟩))

variable (notes j) in
structure Static (E : List (Ev n)) : Prop where
  ok : ∀ y ∈ E, EvOK notes y
  on_mem : onEv notes j ∈ E
  off_mem : offEv notes j ∈ E
  nondrum : (notes j).isDrum = false
  wf : (notes j).start ≤ (notes j).end_
  noov : ∀ k, k ≠ j → (notes k).isDrum = false → (notes k).instrument = (notes j).instrument →
    (notes k).pitch = (notes j).pitch →
    (notes k).start ≠ (notes j).start ∧ ((notes j).start < (notes k).start → (notes j).end_ ≤ (notes k).start)

theorem mem_onIds {L : List (Ev n)} (h : onEv notes j ∈ L) : j ∈ onIds L := by
  simp only [onIds, List.mem_filterMap]
  exact ⟨onEv notes j, h, by simp [onEv]⟩

theorem onIds_append (A B : List (Ev n)) : onIds (A ++ B) = onIds A ++ onIds B := by
  simp [onIds, List.filterMap_append]

theorem Static.ctx (hst : Static notes j E) (hpw : E.Pairwise (fun a b => evLe a b = true))
    (hnd : (onIds E).Nodup) (hE : E = P ++ x :: Q) : Ctx (notes := notes) (j := j) E P x Q := by
  subst hE
  obtain ⟨_, hxQ, hPxQ⟩ := List.pairwise_append.mp hpw
  exact { hst with
    split := fun y => by rw [List.mem_append, List.mem_cons]
    before := fun y hy => hPxQ y hy x List.mem_cons_self
    after := (List.pairwise_cons.mp hxQ).1
    uniq := fun hP hx => by
      rw [onIds_append] at hnd
      exact (List.nodup_append.mp hnd).2.2 j (mem_onIds (notes := notes) hP) j
        (mem_onIds (notes := notes) (hx ▸ List.mem_cons_self)) rfl }

/-- the result of the per-note automaton on the whole sorted event list: the note is still held
(the close-out will end it), or it has ended, and where and how is determined by the events -/
theorem abs_final
    (hst : Static notes j E) (hpw : E.Pairwise (fun a b => evLe a b = true)) (hnd : (onIds E).Nodup) :
    let aF := E.foldl (astep notes j) (abs0 notes j)
    Held notes j E E aF ∨ Done notes j E E aF := by
  have h0 : InvJ notes j E [] (abs0 notes j) :=
    ⟨⟨nofun, fun ⟨x, hx, _⟩ => nomatch hx⟩, Or.inl ⟨by simp, rfl, rfl, rfl⟩⟩
  have hF := foldl_prefix_inv (Inv := InvJ notes j E) (step := astep notes j) (f := id)
    (fun P x Q hE a h => invJ_step (hst.ctx hpw hnd hE) h) E [] (abs0 notes j) rfl h0
  rw [List.nil_append, List.map_id] at hF
  rcases hF.2 with h | h | h | h
  · exact absurd hst.on_mem h.on_not
  · exact absurd hst.off_mem h.off_not
  · exact Or.inl h
  · exact Or.inr h

end perNote


end NSV.C14

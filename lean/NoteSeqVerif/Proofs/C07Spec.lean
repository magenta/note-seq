import NoteSeqVerif.Model.C07
/-! C07 — specification vocabulary: the declarative notions the property theorems are stated with
(definitions only; core Lean). -/
namespace NSV.C07

/-- the property statement for one cell: some selected note sounds at step `f + start`, and
(with `split_repeats`) no selected note of that pitch starts at the next step -/
def rollSpec (notes : List Note) (c : RollCfg) (f p : Int) : Bool :=
  notes.any (fun n => rollSel c n && decide (n.qs ≤ f + c.start) && decide (f + c.start < n.qe)
                        && n.pitch == p + c.minP)
  && !(c.split && notes.any (fun n => rollSel c n && n.qs == f + c.start + 1 && n.pitch == p + c.minP))

def specFrames (notes : List Note) (c : RollCfg) : List (List Int) :=
  (List.range c.rows.toNat).map fun (f : Nat) =>
    ((List.range (c.maxP - c.minP + 1).toNat).filter fun (p : Nat) => rollSpec notes c (f : Int) (p : Int)).map
      (fun (p : Nat) => (p : Int))


/-- the chord in force at step `t`: text of the last annotation (in list order) at or before `t` -/
def chordAt (dflt : String) (cs : List TextAnn) (t : Int) : String :=
  match (cs.filter (fun c => decide (c.qstep ≤ t))).getLast? with
  | some c => c.text
  | none => dflt

def ChordsCoincident (s : NoteSeq) (start end_ : Int) : Prop :=
  ∃ a ∈ s.texts, ∃ b ∈ s.texts, a.kind = Gen.CHORD_SYMBOL ∧ b.kind = Gen.CHORD_SYMBOL ∧
    a.qstep = b.qstep ∧ start ≤ a.qstep ∧ a.qstep < end_ ∧ a.text ≠ b.text


/-- the step the `i`-th shift is measured from: `start_step`, then the previous note's start -/
def prevStep (start : Int) (l : List Note) : Nat → Int
  | 0 => start
  | i + 1 => match l[i]? with
    | some n => n.qs
    | none => start

def npTuple (nb start : Int) (l : List Note) (i : Nat) (n : Note) : NPTuple :=
  ⟨n.qs - prevStep start l i, n.pitch, Gen.velocityToBin n.velocity nb, n.qe - n.qs⟩

def NPValid (n : Note) : Prop :=
  0 ≤ n.pitch ∧ n.pitch ≤ 127 ∧ 1 ≤ n.velocity ∧ n.velocity ≤ 127 ∧ n.qs < n.qe


/-- Python `num_steps` -/
def shiftSum : List PEvent → Int
  | [] => 0
  | .timeShift v :: r => v + shiftSum r
  | _ :: r => shiftSum r

/-- the NOTE_ON / NOTE_OFF events of an event list, each with the step at which it happens
(`cur` + the time shifts before it; Python `steps`) -/
def noteStream (cur : Int) : List PEvent → List (PEvent × Int)
  | [] => []
  | .timeShift v :: r => noteStream (cur + v) r
  | .noteOn p :: r => (.noteOn p, cur) :: noteStream cur r
  | .noteOff p :: r => (.noteOff p, cur) :: noteStream cur r
  | _ :: r => noteStream cur r

def NEv.toPEvent (e : NEv) : PEvent := if e.isOff then .noteOff e.note.pitch else .noteOn e.note.pitch

/-- the velocity bin in force after an event list (last VELOCITY event, else `vel`) -/
def lastVel (vel : Int) : List PEvent → Int
  | [] => vel
  | .velocity b :: r => lastVel b r
  | _ :: r => lastVel vel r

/-- the NOTE_ON events of an event list as `(pitch, step, velocity bin in force)` -/
def onStream (cur vel : Int) : List PEvent → List (Int × Int × Int)
  | [] => []
  | .timeShift v :: r => onStream (cur + v) vel r
  | .velocity b :: r => onStream cur b r
  | .noteOn p :: r => (p, cur, vel) :: onStream cur vel r
  | _ :: r => onStream cur vel r

/-- the velocity bin a NOTE_ON carries: `bin(velocity)` with velocity events, the untouched initial value without -/
def binOf (nb vel0 : Int) (n : Note) : Int := if nb = 0 then vel0 else Gen.velocityToBin n.velocity nb



/-- the three float operations of `steps_per_bar_in_quantized_sequence` are exact on this input: true of binary64
arithmetic whenever the denominator is a power of two (which `quantize_note_sequence` enforces) and
`|spq·num| ≤ 2^53` (`spbExact_float`), and trivially of `R = id` -/
def SpbExact (R : Rat → Rat) (spq num den : Int) : Prop :=
  R (4 / (den : Rat)) = 4 / (den : Rat) ∧
  R (4 / (den : Rat) * (num : Rat)) = 4 / (den : Rat) * (num : Rat) ∧
  R ((spq : Rat) * (4 / (den : Rat) * (num : Rat))) = (spq : Rat) * (4 / (den : Rat) * (num : Rat))



/-- the per-step rule of the property statement, for the kept notes `K` (strictly increasing onsets): the pitch of
the note starting at `t`; else NOTE_OFF iff the note with the latest earlier onset ends at `t`; else NO_EVENT -/
def melRule (K : List Note) (t : Int) : Int :=
  match K.find? (fun k => k.qs == t) with
  | some k => k.pitch
  | none =>
    match (K.filter (fun k => decide (k.qs < t))).getLast? with
    | some k => if k.qe = t then Gen.MELODY_NOTE_OFF else Gen.MELODY_NO_EVENT
    | none => Gen.MELODY_NO_EVENT

/-- the notes the melody keeps after `k`, from the remaining notes in `(start step, −pitch)` order: a note on the
current onset is not kept (the highest one already is); a note starting `gap` steps or more after the current
note's end ends the melody; any other note is kept and becomes the current note -/
def keptFrom (gap : Int) : Note → List Note → List Note
  | _, [] => []
  | k, n :: ns =>
    if n.qs = k.qs then keptFrom gap k ns
    else if gap ≤ n.qs - k.qe then []
    else n :: keptFrom gap n ns

/-- a second note on a kept onset is met before the melody ends -/
def dupFrom (gap : Int) : Note → List Note → Bool
  | _, [] => false
  | k, n :: ns =>
    if n.qs = k.qs then true
    else if gap ≤ n.qs - k.qe then false
    else dupFrom gap n ns

/-- the order Melody extraction sorts by: start step ascending, then pitch descending, then (unquantized) start
time ascending — the key `(quantized_start_step, -pitch, start_time)` -/
def MelOrd (a b : Note) : Prop :=
  a.qs < b.qs ∨ (a.qs = b.qs ∧ (b.pitch < a.pitch ∨ (b.pitch = a.pitch ∧ a.start ≤ b.start)))

/-- the order ChordProgression extraction sorts by: step ascending, then (unquantized) time ascending — the key
`(quantized_step, time)` -/
def ChordOrd (a b : TextAnn) : Prop := a.qstep < b.qstep ∨ (a.qstep = b.qstep ∧ a.time ≤ b.time)



/-! ### reading an event list back as notes (`BasePerformance._to_sequence`) -/

structure DecState where
  step : Int
  vel : Int
  open_ : List (Int × Int × Int)        -- open notes `(pitch, start step, velocity bin)` in NOTE_ON order
  out : List (Int × Int × Int × Int)    -- finished notes `(pitch, start step, end step, velocity bin)`

/-- FIFO matching per pitch: a NOTE_OFF ends the *earliest* open note of its pitch (ignored if there is none);
a note of zero length is dropped; the velocity bin of a note is the one in force at its NOTE_ON -/
def decodeStep (st : DecState) : PEvent → DecState
  | .timeShift v => { st with step := st.step + v }
  | .velocity b => { st with vel := b }
  | .noteOn p => { st with open_ := st.open_ ++ [(p, st.step, st.vel)] }
  | .noteOff p =>
    match st.open_.find? (fun x => x.1 == p) with
    | none => st
    | some x => { st with open_ := st.open_.eraseP (fun x => x.1 == p),
                          out := if x.2.1 = st.step then st.out else st.out ++ [(p, x.2.1, st.step, x.2.2)] }
  | .duration _ => st

/-- the notes an event list denotes; notes still open at the end are closed at the final step -/
def decodeNotes (start : Int) (evs : List PEvent) : List (Int × Int × Int × Int) :=
  let st := evs.foldl decodeStep ⟨start, 0, [], []⟩
  st.out ++ (st.open_.filter (fun x => x.2.1 != st.step)).map (fun x => (x.1, x.2.1, st.step, x.2.2))

def NoSamePitchOverlap (l : List Note) : Prop :=
  l.Pairwise (fun a b => a.pitch = b.pitch → a.qe ≤ b.qs ∨ b.qe ≤ a.qs)

end NSV.C07

import NoteSeqVerif.Model.C16
import NoteSeqVerif.Proofs.Lib
/-! C16 — what `post` rejects (`Rejected`) and returns (`postValue`), and its specification under
the invariant (`post_spec`); core Lean only. -/
namespace NSV.C16

section mapE
variable {α β ε : Type}

theorem mapE_eq_mapM {f : α → Except ε β} : ∀ l : List α, mapE f l = l.mapM f
  | [] => rfl
  | a :: l => by
    rw [mapE, mapE_eq_mapM l, List.mapM_cons]
    cases f a with
    | error _ => rfl
    | ok _ => cases l.mapM f <;> rfl

theorem mapE_eq_ok {f : α → Except ε β} {l : List α} {r : List β} : mapE f l = .ok r ↔ l.map f = r.map .ok :=
  mapE_eq_mapM l ▸ mapM_eq_ok

theorem mapE_ok_mem {f : α → Except ε β} : ∀ {l : List α} {r : List β}, mapE f l = .ok r →
    ∀ b ∈ r, ∃ a ∈ l, f a = .ok b :=
  fun h _ hb => map_ok_mem (mapE_eq_ok.mp h) hb

theorem mapE_total {f : α → Except ε β} : ∀ {l : List α},
    (∀ a ∈ l, ∃ b, f a = .ok b) → ∃ r, mapE f l = .ok r :=
  fun h => (map_ok_total h).imp fun _ => mapE_eq_ok.mpr

theorem mapE_eq_map {f : α → Except ε β} {g : α → β} : ∀ {l : List α},
    (∀ a ∈ l, f a = .ok (g a)) → mapE f l = .ok (l.map g) :=
  fun h => mapE_eq_ok.mpr (map_ok_of_forall h)

/-- a loop whose body converts the elements in `p` (by `g`) and raises one fixed exception on the
others: it returns `map g` when every element is in `p` and raises that exception otherwise -/
theorem mapE_ite {f : α → Except ε β} {p : α → Prop} [DecidablePred p] {g : α → β} {e : ε} :
    ∀ {l : List α}, (∀ a ∈ l, f a = if p a then .ok (g a) else .error e) →
      mapE f l = if ∀ a ∈ l, p a then .ok (l.map g) else .error e := by
  intro l
  induction l with
  | nil => intro _; simp [mapE]
  | cons a l ih =>
    intro h
    rw [mapE, h a List.mem_cons_self, ih (fun a' ha' => h a' (List.mem_cons_of_mem _ ha'))]
    by_cases ha : p a
    · by_cases hl : ∀ a ∈ l, p a
      · rw [if_pos ha, if_pos hl, if_pos (List.forall_mem_cons.2 ⟨ha, hl⟩)]; rfl
      · rw [if_pos ha, if_neg hl, if_neg (fun h' => hl (List.forall_mem_cons.1 h').2)]
    · rw [if_neg ha, if_neg (fun h' => ha (List.forall_mem_cons.1 h').1)]
end mapE

theorem mem_enumFrom {α} : ∀ {l : List α} {k i : Nat} {a : α},
    (i, a) ∈ enumFrom k l → k ≤ i ∧ i < k + l.length ∧ a ∈ l := by
  intro l
  induction l with
  | nil => intro k i a h; simp [enumFrom] at h
  | cons x l ih =>
    intro k i a h
    simp only [enumFrom, List.mem_cons, Prod.mk.injEq] at h
    rcases h with ⟨rfl, rfl⟩ | h
    · simp
    · obtain ⟨h1, h2, h3⟩ := ih h
      refine ⟨by omega, by simp only [List.length_cons]; omega, List.mem_cons_of_mem _ h3⟩

/-- on a non-negative note end the `total_time` update takes the maximum (`not sequence.total_time`
only makes a difference for a negative end) -/
theorem totalStep_eq_max (tt : Rat) {e : Rat} (he : 0 ≤ e) : totalStep tt e = max tt e := by
  unfold totalStep
  by_cases h : e ≤ tt
  · rw [Std.LawfulOrderLeftLeaningMax.max_eq_left tt e h]
    split
    · rename_i hc
      exact hc.elim (fun h0 => Rat.le_antisymm h (h0 ▸ he)) (fun hgt => absurd h (Rat.not_le.2 hgt))
    · rfl
  · rw [Std.LawfulOrderLeftLeaningMax.max_eq_right tt e h, if_pos (.inr (Rat.not_le.1 h))]

/-- so over non-negative ends the `total_time` loop is the running maximum, from any start value -/
theorem foldl_totalStep {l : List Rat} (hl : ∀ e ∈ l, 0 ≤ e) (acc : Rat) :
    l.foldl totalStep acc = l.foldl max acc := by
  induction l generalizing acc with
  | nil => rfl
  | cons x l ih =>
    rw [List.foldl_cons, List.foldl_cons, totalStep_eq_max acc (hl x List.mem_cons_self),
      ih fun e he => hl e (List.mem_cons_of_mem _ he)]

theorem totalStep_fold (l : List Rat) (acc : Rat) (hl : ∀ e ∈ l, 0 ≤ e) :
    acc ≤ l.foldl totalStep acc ∧ ∀ e ∈ l, e ≤ l.foldl totalStep acc :=
  foldl_totalStep hl acc ▸ foldl_max_ge l acc

theorem raiseThrough_nil (e : PyExc) : raiseThrough [] e = e := rfl

theorem den_handler_converts : raiseThrough Gen.h_ts_denominator valueError = mce := by decide +kernel
theorem guard_raises_mce :
    raiseThrough Gen.h_resolution_guard (excOfName Gen.resolutionGuardRaises) = mce := by decide +kernel
theorem guard_iff (r : Int) : Gen.resolutionRejected r = true ↔ r ≤ 0 := by simp [Gen.resolutionRejected]

theorem decodeMode_eq (m : Int) :
    decodeMode m = if m = 0 then .ok 0 else if m = 1 then .ok 1 else .error mce := by
  unfold decodeMode
  simp only [Gen.modeCases, List.lookup]
  by_cases h0 : m = 0
  · subst h0; simp
  · by_cases h1 : m = 1
    · subst h1; simp
    · have : (m == 0) = false := by simpa using h0
      have : (m == 1) = false := by simpa using h1
      simp [*, Gen.modeElseRaises, Gen.h_mode_raise, raiseThrough, excOfName]

theorem setInt32_of_in {t : Trys} {v : Int} (h : inInt32 v = true) : setInt32 t v = .ok v := by
  simp [setInt32, h]

theorem inInt32_iff {v : Int} : inInt32 v = true ↔ -2147483648 ≤ v ∧ v ≤ 2147483647 := by simp [inInt32]

/-- the numerator assignment is outside the `try`, so it is assumed to fit; the denominator's
`ValueError` is converted -/
theorem convTimeSig_eq {t : PMTimeSig} (hnum : inInt32 t.num = true) :
    convTimeSig t = if inInt32 t.den = true then .ok { time := t.time, num := t.num, den := t.den }
      else .error mce := by
  unfold convTimeSig
  rw [setInt32_of_in hnum, setInt32]
  split
  · rfl
  · exact congrArg Except.error den_handler_converts

theorem convKey_eq (k : PMKey) :
    convKey k = if Int.fdiv k.keyNumber 12 = 0 ∨ Int.fdiv k.keyNumber 12 = 1
      then .ok { time := k.time, key := Int.fmod k.keyNumber 12, mode := Int.fdiv k.keyNumber 12 }
      else .error mce := by
  unfold convKey
  rw [decodeMode_eq]
  simp only [Gen.modeOf, Gen.keyOf]
  by_cases h0 : Int.fdiv k.keyNumber 12 = 0
  · simp [h0, bind, Except.bind, pure, Except.pure]
  · by_cases h1 : Int.fdiv k.keyNumber 12 = 1
    · simp [h1, bind, Except.bind, pure, Except.pure]
    · simp [h0, h1, bind, Except.bind]

theorem convInfo_ok_of {p : Nat × PMInst} (h : inInt32 p.1 = true) :
    convInfo p = .ok (if p.2.name ≠ "" then [((p.1 : Int), p.2.name)] else []) := by
  unfold convInfo
  split
  · simp [setInt32_of_in h, bind, Except.bind, pure, Except.pure]
  · rfl

/-- what `convNote`, `convBend`, `convCC` return for a gathered event when every int32 assignment
goes through: the event's fields, copied -/
def noteOf (t : Tagged PMNote) : Note :=
  { pitch := t.2.2.2.pitch, velocity := t.2.2.2.velocity, start := t.2.2.2.start, end_ := t.2.2.2.end_,
    qs := 0, qe := 0, instrument := t.2.1, program := t.1, isDrum := t.2.2.1, numerator := 0,
    denominator := 0, voice := 0, part := 0, pitchName := 0 }
def bendOf (t : Tagged PMBend) : Bend :=
  { time := t.2.2.2.time, bend := t.2.2.2.pitch, instrument := t.2.1, program := t.1, isDrum := t.2.2.1 }
def ccOf (t : Tagged PMCC) : CC :=
  { time := t.2.2.2.time, qstep := 0, number := t.2.2.2.number, value := t.2.2.2.value,
    instrument := t.2.1, program := t.1, isDrum := t.2.2.1 }

theorem convNote_ok_of {t : Tagged PMNote} (h1 : inInt32 t.2.1 = true) (h2 : inInt32 t.1 = true)
    (h3 : inInt32 t.2.2.2.pitch = true) (h4 : inInt32 t.2.2.2.velocity = true) :
    convNote t = .ok (noteOf t) := by
  simp [convNote, noteOf, setInt32_of_in h1, setInt32_of_in h2, setInt32_of_in h3, setInt32_of_in h4,
    bind, Except.bind, pure, Except.pure]

theorem convBend_ok_of {t : Tagged PMBend} (h1 : inInt32 t.2.1 = true) (h2 : inInt32 t.1 = true)
    (h3 : inInt32 t.2.2.2.pitch = true) : convBend t = .ok (bendOf t) := by
  simp [convBend, bendOf, setInt32_of_in h1, setInt32_of_in h2, setInt32_of_in h3,
    bind, Except.bind, pure, Except.pure]

theorem convCC_ok_of {t : Tagged PMCC} (h1 : inInt32 t.2.1 = true) (h2 : inInt32 t.1 = true)
    (h3 : inInt32 t.2.2.2.number = true) (h4 : inInt32 t.2.2.2.value = true) :
    convCC t = .ok (ccOf t) := by
  simp [convCC, ccOf, setInt32_of_in h1, setInt32_of_in h2, setInt32_of_in h3, setInt32_of_in h4,
    bind, Except.bind, pure, Except.pure]

/-- the inputs `post` rejects (under `Inv`): non-positive resolution, a time-signature denominator
that does not fit int32, a key number whose `// 12` is neither 0 (major) nor 1 (minor) -/
def Rejected (pm : PM) : Prop :=
  pm.resolution ≤ 0 ∨ (∃ t ∈ pm.timeSigs, inInt32 t.den = false) ∨
  (∃ k ∈ pm.keys, Int.fdiv k.keyNumber 12 ≠ 0 ∧ Int.fdiv k.keyNumber 12 ≠ 1)

/-- the sequence `post` returns when it returns (`tempos` = result of `get_tempo_changes()`) -/
def postValue (pm : PM) (tempos : List (Rat × Rat)) : MidiSeq :=
  let insts := enumFrom 0 pm.instruments
  { seq := { notes := (taggedNotes insts).map noteOf,
             tempos := tempos.map (fun p => { time := p.1, qpm := p.2 }),
             timeSigs := pm.timeSigs.map (fun t => { time := t.time, num := t.num, den := t.den }),
             keySigs := pm.keys.map (fun k => { time := k.time, key := Int.fmod k.keyNumber 12,
                                                mode := Int.fdiv k.keyNumber 12 }),
             ccs := (taggedCCs insts).map ccOf,
             bends := (taggedBends insts).map bendOf,
             totalTime := ((taggedNotes insts).map (fun t => t.2.2.2.end_)).foldl totalStep 0,
             tpq := pm.resolution },
    parser := Gen.PARSER, encoding := Gen.ENCODING,
    infos := (insts.map (fun p => if p.2.name ≠ "" then [((p.1 : Int), p.2.name)] else [])).flatten }

/-- a gathered event of an object satisfying the invariant: program and instrument index fit
int32, and the event is one of an instrument's -/
theorem mem_tagged {pm : PM} (h : InvPos pm) {γ} (sel : PMInst → List γ) {t : Tagged γ}
    (ht : t ∈ (enumFrom 0 pm.instruments).flatMap
      (fun p => (sel p.2).map (fun n => (p.2.program, p.1, p.2.isDrum, n)))) :
    inInt32 t.1 = true ∧ inInt32 t.2.1 = true ∧ ∃ i ∈ pm.instruments, t.2.2.2 ∈ sel i := by
  simp only [List.mem_flatMap, List.mem_map] at ht
  obtain ⟨p, hp, n, hn, rfl⟩ := ht
  obtain ⟨_, h2, h3⟩ := mem_enumFrom hp
  have := h.nInst
  exact ⟨h.program _ h3, show inInt32 (p.1 : Int) = true from inInt32_iff.2 (by omega), p.2, h3, hn⟩

/-- the resolution guard comes first and asks nothing of the object -/
theorem post_nonpos {pm : PM} (hres : pm.resolution ≤ 0) : post pm = .error mce := by
  unfold post
  simp [(guard_iff _).2 hres, guard_raises_mce, throw, throwThe, MonadExceptOf.throw, bind, Except.bind]

theorem post_spec {pm : PM} (hinv : Inv pm) :
    (Rejected pm ∧ post pm = .error mce) ∨
    (¬ Rejected pm ∧ InvPos pm ∧ ∃ l, pm.tempoChanges = .ok l ∧ post pm = .ok (postValue pm l)) := by
  by_cases hres : pm.resolution ≤ 0
  · exact .inl ⟨.inl hres, post_nonpos hres⟩
  unfold post
  have h : InvPos pm := hinv.2 (by omega)
  obtain ⟨l, hl, _⟩ := h.tempoOk
  have hg : Gen.resolutionRejected pm.resolution = false :=
    Bool.eq_false_iff.2 (fun hc => hres ((guard_iff _).1 hc))
  simp only [hg, setInt32_of_in hinv.1, bind, Except.bind, pure, Except.pure, Bool.false_eq_true, if_false]
  rw [mapE_ite (fun t ht => convTimeSig_eq (h.tsNum t ht)), mapE_ite (fun k _ => convKey_eq k)]
  by_cases hts : ∀ t ∈ pm.timeSigs, inInt32 t.den = true
  case neg =>
    rw [if_neg hts]
    exact .inl ⟨.inr (.inl (by simpa using hts)), rfl⟩
  by_cases hks : ∀ k ∈ pm.keys, Int.fdiv k.keyNumber 12 = 0 ∨ Int.fdiv k.keyNumber 12 = 1
  case neg =>
    rw [if_pos hts, if_neg hks]
    exact .inl ⟨.inr (.inr (by simpa [not_or] using hks)), rfl⟩
  rw [if_pos hts, if_pos hks]
  refine .inr ⟨?_, h, l, hl, ?_⟩
  · rintro (hr | ⟨t, ht, hd⟩ | ⟨k, hk, h0, h1⟩)
    · exact hres hr
    · rw [hts t ht] at hd; cases hd
    · exact (hks k hk).elim h0 h1
  have hinfo : ∀ p ∈ enumFrom 0 pm.instruments,
      convInfo p = .ok (if p.2.name ≠ "" then [((p.1 : Int), p.2.name)] else []) := by
    intro p hp
    have := h.nInst
    exact convInfo_ok_of (inInt32_iff.2 (by have := mem_enumFrom hp; omega))
  have hnotes : ∀ t ∈ taggedNotes (enumFrom 0 pm.instruments), convNote t = .ok (noteOf t) := by
    intro t ht
    obtain ⟨h1, h2, i, hi, hn⟩ := mem_tagged h PMInst.notes ht
    have := h.notes i hi _ hn
    exact convNote_ok_of h2 h1 (inInt32_iff.2 (by omega)) (inInt32_iff.2 (by omega))
  have hbends : ∀ t ∈ taggedBends (enumFrom 0 pm.instruments), convBend t = .ok (bendOf t) := by
    intro t ht
    obtain ⟨h1, h2, i, hi, hn⟩ := mem_tagged h PMInst.bends ht
    exact convBend_ok_of h2 h1 (h.bends i hi _ hn).1
  have hccs : ∀ t ∈ taggedCCs (enumFrom 0 pm.instruments), convCC t = .ok (ccOf t) := by
    intro t ht
    obtain ⟨h1, h2, i, hi, hn⟩ := mem_tagged h PMInst.ccs ht
    have := h.ccs i hi _ hn
    exact convCC_ok_of h2 h1 this.1 this.2.1
  simp only [getTempoChanges, hl]
  rw [mapE_eq_map hinfo, mapE_eq_map hnotes, mapE_eq_map hbends, mapE_eq_map hccs]
  rfl

end NSV.C16

import NoteSeqVerif.Proofs.C12A
import NoteSeqVerif.Props.C02
/-! C12 — the closed-form pieces of `_extract_subsequences` (C02's `specPiece`) only depend on the
multiset of every repeated field, provided no two state events of one kind share a time. -/
namespace NSV.C12
open NSV.C02

def PedalTie (x y : CC) : Prop := x.time = y.time ∧ CC.key x = CC.key y

instance (x y : CC) : Decidable (PedalTie x y) := by unfold PedalTie; infer_instance

/-- **the quantifier's condition, as far as extraction needs it**: no two tempos, no two time
signatures, no two key signatures, no two chord symbols share a time, and no two of the preserved
control changes (sustain pedal …) of one instrument and controller share a time.  Nothing is asked of
the notes, the beat annotations, the other text annotations, the other control changes or the pitch
bends. -/
def NoTies (preserve : List Int) (s : NoteSeq) : Prop :=
  DistinctKeys (·.time) s.tempos ∧ DistinctKeys (·.time) s.timeSigs ∧
  DistinctKeys (·.time) s.keySigs ∧ DistinctKeys (·.time) (chords s) ∧
  (pedals preserve s).Pairwise (fun x y => ¬ PedalTie x y)

instance (preserve : List Int) (s : NoteSeq) : Decidable (NoTies preserve s) := by
  unfold NoTies DistinctKeys; infer_instance

theorem chords_perm {s s' : NoteSeq} (h : NSPerm s s') : (chords s).Perm (chords s') :=
  h.texts.filter _

theorem beats_perm {s s' : NoteSeq} (h : NSPerm s s') : (beats s).Perm (beats s') :=
  h.texts.filter _

theorem pedals_perm (preserve : List Int) {s s' : NoteSeq} (h : NSPerm s s') :
    (pedals preserve s).Perm (pedals preserve s') :=
  h.ccs.filter _

theorem NoTies.perm {preserve : List Int} {s s' : NoteSeq} (h : NSPerm s s') (hn : NoTies preserve s) :
    NoTies preserve s' := by
  obtain ⟨h1, h2, h3, h4, h5⟩ := hn
  refine ⟨h1.perm h.tempos, h2.perm h.timeSigs, h3.perm h.keySigs, h4.perm (chords_perm h), ?_⟩
  refine (pedals_perm preserve h).pairwise h5 ?_
  intro x y hxy hyx
  exact hxy ⟨hyx.1.symm, hyx.2.symm⟩

theorem pieceTotal_perm {ns ns' : List Note} (h : ns.Perm ns') : pieceTotal ns = pieceTotal ns' := by
  unfold pieceTotal
  exact h.foldl_eq' (by intro x _ y _ z; grind) 0

theorem pieceNotes_perm (R : Rat → Rat) {s s' : NoteSeq} (h : NSPerm s s') (a b : Rat) :
    (specNotes R s a b).Perm (specNotes R s' a b) := by
  unfold specNotes
  exact ((mergeSort_perm_of_perm _ h.notes).filter _).map _

theorem pieceBeats_perm (R : Rat → Rat) {s s' : NoteSeq} (h : NSPerm s s') (a b : Rat) :
    (specBeats R s a b).Perm (specBeats R s' a b) := by
  unfold specBeats
  exact ((mergeSort_perm_of_perm _ (beats_perm h)).filter _).map _

theorem pedalPiece_perm (R : Rat → Rat) {S S' : List CC}
    (hk : SameClasses CC.key S S') (a b : Rat) : (pieceSpec (pedalL R) [] S (a, b)).Perm (pieceSpec (pedalL R) [] S' (a, b)) :=
  perm_of_filter_eq CC.key fun κ => by rw [pedalPiece_filter, pedalPiece_filter, hk]

/-- the two storage orders have the same stably time-sorted tempos / time signatures / key signatures /
chord symbols, and for every (instrument, controller) the same time-sorted preserved control changes.
`NoTies` of one of them implies it (`SortAgree.of_noTies`); so does a block-wise permutation of tie-free
blocks, which is what concatenation produces. -/
structure SortAgree (preserve : List Int) (s s' : NoteSeq) : Prop where
  tempos : sortByRat (·.time) s.tempos = sortByRat (·.time) s'.tempos
  timeSigs : sortByRat (·.time) s.timeSigs = sortByRat (·.time) s'.timeSigs
  keySigs : sortByRat (·.time) s.keySigs = sortByRat (·.time) s'.keySigs
  chords : sortByRat (·.time) (chords s) = sortByRat (·.time) (chords s')
  pedals : ∀ κ : PedalKey, (sortByRat (·.time) (pedals preserve s)).filter (fun x => decide (CC.key x = κ)) =
    (sortByRat (·.time) (pedals preserve s')).filter (fun x => decide (CC.key x = κ))

/-- the closed-form piece `[a, b)` reads the four state containers only through their stable time sort,
and the preserved control changes through the time-sorted events of each (instrument, controller) -/
theorem specPiece_perm_of_agree (R : Rat → Rat) (preserve : List Int) {s s' : NoteSeq} (h : NSPerm s s')
    (ha : SortAgree preserve s s') (ab : Rat × Rat) :
    NSPerm (specPiece R preserve s ab) (specPiece R preserve s' ab) := by
  have hnotes := pieceNotes_perm R h ab.1 ab.2
  have htot := pieceTotal_perm hnotes
  have hst : ∀ {α : Type} (time : α → Rat) (setTime : α → Rat → α) {evs evs' : List α},
      sortByRat time evs = sortByRat time evs' →
      specState R time setTime evs ab.1 ab.2 = specState R time setTime evs' ab.1 ab.2 := by
    intro α time setTime evs evs' e
    unfold specState
    rw [e]
  exact { h with
    notes := hnotes
    tempos := .of_eq (hst _ _ ha.tempos)
    timeSigs := .of_eq (hst _ _ ha.timeSigs)
    keySigs := .of_eq (hst _ _ ha.keySigs)
    texts := (List.Perm.of_eq (hst _ _ ha.chords)).append (pieceBeats_perm R h ab.1 ab.2)
    ccs := pedalPiece_perm R ha.pedals ab.1 ab.2
    bends := .refl _
    totalTime := htot
    hasSub := rfl
    subStart := rfl
    subEnd := by show R (R (s.totalTime - ab.1) - _) = R (R (s'.totalTime - ab.1) - _); rw [h.totalTime, htot] }

theorem SortAgree.of_noTies {preserve : List Int} {s s' : NoteSeq} (h : NSPerm s s') (hn : NoTies preserve s) :
    SortAgree preserve s s' :=
  let ⟨n1, n2, n3, n4, n5⟩ := hn
  ⟨sortByRat_eq_of_perm _ h.tempos n1, sortByRat_eq_of_perm _ h.timeSigs n2,
    sortByRat_eq_of_perm _ h.keySigs n3, sortByRat_eq_of_perm _ (chords_perm h) n4,
    sortByRat_filter_key_eq _ _ (filter_class_eq_of_perm (fun e : CC => (e.time, CC.key e))
      (pedals_perm preserve h) (n5.imp fun hab e => hab ⟨congrArg Prod.fst e, congrArg Prod.snd e⟩))⟩

theorem specPiece_perm (R : Rat → Rat) (preserve : List Int) {s s' : NoteSeq} (h : NSPerm s s')
    (hn : NoTies preserve s) (ab : Rat × Rat) :
    NSPerm (specPiece R preserve s ab) (specPiece R preserve s' ab) :=
  specPiece_perm_of_agree R preserve h (SortAgree.of_noTies h hn) ab

theorem specPedals_perm (R : Rat → Rat) (preserve : List Int) {s s' : NoteSeq} (h : NSPerm s s')
    (hn : NoTies preserve s) (a b : Rat) :
    (specPedals R preserve s a b).Perm (specPedals R preserve s' a b) :=
  (specPiece_perm R preserve h hn (a, b)).ccs

theorem extractSubsequences_perm_of_pieces (R : Rat → Rat) (preserve : List Int) {s s' : NoteSeq}
    (h : NSPerm s s') (hp : ∀ ab, NSPerm (specPiece R preserve s ab) (specPiece R preserve s' ab)) (st : List Rat) :
    ResPermList (extractSubsequencesR R preserve s st) (extractSubsequencesR R preserve s' st) := by
  rw [extract_cases, extract_cases, ← h.isQuantized, ← h.totalTime]
  split
  · rfl
  · split
    · exact PermList.map _ _ _ (fun ab _ => hp ab)
    · rfl

theorem extractSubsequence_perm_of_pieces (R : Rat → Rat) (preserve : List Int) {s s' : NoteSeq}
    (h : NSPerm s s') (hp : ∀ ab, NSPerm (specPiece R preserve s ab) (specPiece R preserve s' ab)) (a b : Rat) :
    ResPerm (extractSubsequenceR R preserve s a b) (extractSubsequenceR R preserve s' a b) := by
  rw [extract_subsequence_spec, extract_subsequence_spec, ← h.isQuantized, ← h.totalTime]
  split
  · rfl
  · split
    · rfl
    · exact hp (a, b)

/-! ## the candidate loops of the splitters only look at the multiset of notes -/

/-- invariant of a candidate loop run on two storage orders (`rem` the notes still to come, `cr` the notes crossing
the current candidate) -/
def CrossInv (rem rem' cr cr' : List Note) : Prop :=
  rem.Pairwise (fun x y => x.start ≤ y.start) ∧ rem'.Pairwise (fun x y => x.start ≤ y.start) ∧
  rem.Perm rem' ∧ cr.Perm cr'

theorem sortedNotes_perm {s s' : NoteSeq} (h : NSPerm s s') : (sortedNotes s).Perm (sortedNotes s') :=
  mergeSort_perm_of_perm _ h.notes

theorem sortedNotes_sorted (s : NoteSeq) : (sortedNotes s).Pairwise (fun x y => x.start ≤ y.start) :=
  sortByRat_pairwise _ _

theorem crossInv_start {s s' : NoteSeq} (h : NSPerm s s') : CrossInv (sortedNotes s) (sortedNotes s') [] [] :=
  ⟨sortedNotes_sorted s, sortedNotes_sorted s', sortedNotes_perm h, .refl _⟩

theorem crossStep_inv (t : Rat) {rem rem' cr cr' : List Note} (h : CrossInv rem rem' cr cr') :
    CrossInv (crossStep t rem cr).1 (crossStep t rem' cr').1
      ((crossStep t rem cr).2.filter (fun n => decide (n.end_ > t)))
      ((crossStep t rem' cr').2.filter (fun n => decide (n.end_ > t))) := by
  obtain ⟨hs, hs', hp, hc⟩ := h
  rw [crossStep_sorted t rem cr hs, crossStep_sorted t rem' cr' hs']
  exact ⟨hs.filter _, hs'.filter _, hp.filter _, (hc.append (hp.filter _)).filter _⟩

theorem hopLoop_perm (skip : Bool) : ∀ (ts : List Rat) (rem rem' cr cr' : List Note) (vs : List Rat),
    CrossInv rem rem' cr cr' → hopLoop skip ts rem cr vs = hopLoop skip ts rem' cr' vs := by
  intro ts
  induction ts with
  | nil => intros; rfl
  | cons t ts ih =>
    intro rem rem' cr cr' vs h
    have h' := crossStep_inv t h
    simp only [hopLoop]
    rw [h'.2.2.2.isEmpty_eq]
    exact ih _ _ _ _ _ h'

theorem tcLoop_perm (skip : Bool) (E : List TC) (num den : Int) (qpm : Rat)
    (rem rem' cr cr' : List Note) (last : Rat) (vs : List Rat) (h : CrossInv rem rem' cr cr') :
    tcLoop skip E num den qpm rem cr last vs = tcLoop skip E num den qpm rem' cr' last vs := by
  rw [tcLoop_eq, tcLoop_eq, hopLoop_perm skip _ _ _ _ _ _ h]

/-- "Handle the final subsequence" + the extractor, on two storage orders and one candidate vector -/
theorem splitWith_perm (R : Rat → Rat) (preserve : List Int) {s s' : NoteSeq} (h : NSPerm s s')
    (hn : NoTies preserve s) (vs : List Rat) :
    ResPermList (splitWith R preserve s vs) (splitWith R preserve s' vs) := by
  have he := extractSubsequences_perm_of_pieces R preserve h (specPiece_perm R preserve h hn)
  rw [split_with_spec, split_with_spec, ← h.totalTime]
  split
  · exact he _
  · split
    · exact PermList.refl _
    · exact he _

end NSV.C12

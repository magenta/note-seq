import NoteSeqVerif.Proofs.C07Spec
import NoteSeqVerif.Proofs.Basics
/-! C07 — the lemmas behind `Props/C07.lean` (core Lean only): for each extractor, what one run of its loop computes,
stated on the loop's own state (Performance: `Proofs/C07Perf.lean`). -/
namespace NSV.C07

theorem canonSet_eq (l : List Int) : canonSet l = sortedSetOf (fun a b => decide (a < b)) l := by
  unfold canonSet sortedSetOf
  congr 1
  funext x l
  induction l <;> simp [insertSet, insSorted, *]

theorem mem_canonSet {y : Int} {l : List Int} : y ∈ canonSet l ↔ y ∈ l := by
  rw [canonSet_eq]; exact mem_sortedSetOf y l

theorem canonSet_sorted (l : List Int) : (canonSet l).Pairwise (· < ·) := by
  rw [canonSet_eq]; exact (StrictTotal.ofLT.sorted_set l).imp of_decide_eq_true

theorem length_setLength {α} (pad : α) (ev : List α) (n : Nat) : (setLength pad ev n).length = n := by
  unfold setLength; split <;> simp <;> omega

theorem getElem?_setLength {α} (pad : α) (ev : List α) (n i : Nat) (hi : i < n) :
    (setLength pad ev n)[i]? = some (if h : i < ev.length then ev[i] else pad) := by
  unfold setLength
  split
  · rename_i hn
    by_cases h : i < ev.length
    · simp [h, List.getElem?_append_left]
    · simp [h, List.getElem?_append_right (Nat.le_of_not_lt h), List.getElem?_replicate]; omega
  · rename_i hn
    have h : i < ev.length := by omega
    simp [h, hi]

theorem getElem?_setLength_getD {α} (pad : α) (ev : List α) (n i : Nat) (hi : i < n) :
    (setLength pad ev n)[i]? = some (ev[i]?.getD pad) := by
  rw [getElem?_setLength _ _ _ _ hi, List.getD_getElem?]

theorem take_setLength {α} (pad : α) (ev : List α) (n : Nat) (h : ev.length ≤ n) :
    (setLength pad ev n).take ev.length = ev := by
  unfold setLength
  split
  · exact List.take_left' rfl
  · have : n = ev.length := by omega
    subst this; simp

/-- `pad_end`: the length is rounded up to a multiple of `spb` -/
theorem padEnd_eq (pad : Bool) (x spb : Int) :
    (if pad then x + Int.fmod (-x) spb else x) = x + (if pad then Int.fmod (-x) spb else 0) := by
  cases pad <;> simp

theorem padEnd_nonneg (pad : Bool) (x : Int) {spb : Int} (hpos : 0 < spb) :
    0 ≤ (if pad then Int.fmod (-x) spb else 0) := by
  cases pad
  · exact Int.le_refl 0
  · exact Int.fmod_nonneg_of_pos _ hpos

theorem chordLe_iff (a b : TextAnn) : chordLe a b = true ↔ ChordOrd a b := by
  simp only [chordLe, ChordOrd, Bool.or_eq_true, Bool.and_eq_true, decide_eq_true_eq, beq_iff_eq]

theorem chordLe_pre : TotalPre chordLe := .lex TextAnn.qstep (.ofKey TextAnn.time)

theorem timePitchLe_pre : TotalPre timePitchLe := .lex Note.start (.ofKey Note.pitch)

theorem melLe_iff (a b : Note) : melLe a b = true ↔ MelOrd a b := by
  simp only [melLe, MelOrd, Bool.or_eq_true, Bool.and_eq_true, decide_eq_true_eq, beq_iff_eq]

theorem melLe_pre : TotalPre melLe := .lex Note.qs (.lexDesc Note.pitch (.ofKey Note.start))

theorem melSorted (l : List Note) : (l.mergeSort melLe).Pairwise MelOrd := by
  have := melLe_pre.sorted l
  apply List.Pairwise.imp _ this
  intro a b h
  exact (melLe_iff a b).mp h

theorem nevLe_iff (a b : NEv) : nevLe a b = true ↔
    a.step < b.step ∨ (a.step = b.step ∧ (a.idx < b.idx ∨ (a.idx = b.idx ∧ a.isOff.toNat ≤ b.isOff.toNat))) := by
  unfold nevLe; cases a.isOff <;> cases b.isOff <;> simp

theorem nevLe_pre : TotalPre nevLe := .lex NEv.step (.lex NEv.idx (.ofBool NEv.isOff))

/-- the strict part of `nevLe` -/
def NevLt (a b : NEv) : Prop :=
  a.step < b.step ∨ (a.step = b.step ∧ (a.idx < b.idx ∨ (a.idx = b.idx ∧ a.isOff = false ∧ b.isOff = true)))

theorem nevLt_iff (a b : NEv) : NevLt a b ↔
    a.step < b.step ∨ (a.step = b.step ∧ (a.idx < b.idx ∨ (a.idx = b.idx ∧ a.isOff.toNat < b.isOff.toNat))) := by
  unfold NevLt; cases a.isOff <;> cases b.isOff <;> simp

theorem NevLt.asymm {a b : NEv} (h : NevLt a b) : ¬ NevLt b a := by
  rw [nevLt_iff] at *; omega

theorem NevLt.irrefl (a : NEv) : ¬ NevLt a a := fun h => h.asymm h

theorem NevLt.trans {a b c : NEv} (h1 : NevLt a b) (h2 : NevLt b c) : NevLt a c := by
  rw [nevLt_iff] at *; omega

theorem nevLt_split {P Q : List NEv} {e : NEv} (h : (P ++ e :: Q).Pairwise NevLt) :
    P.Pairwise NevLt ∧ (∀ x ∈ P, NevLt x e) ∧ (∀ y ∈ Q, NevLt e y) ∧
      ∀ z ∈ P ++ e :: Q, NevLt z e → z ∈ P := by
  obtain ⟨hP, hQ, hPQ⟩ := List.pairwise_append.mp h
  have hgt := (List.pairwise_cons.mp hQ).1
  refine ⟨hP, fun x hx => hPQ x hx e (List.mem_cons_self ..), hgt, fun z hz hlt => ?_⟩
  rcases List.mem_append.mp hz with h | h
  · exact h
  · rcases List.mem_cons.mp h with rfl | h
    · exact absurd hlt (NevLt.irrefl _)
    · exact absurd hlt (hgt z h).asymm

theorem paint_foldl (c : RollCfg) (f p : Int) :
    ∀ (l : List Note), l.Pairwise (fun a b => a.qs ≤ b.qs) → ∀ r : Int → Int → Bool,
      (l.foldl (paint c) r) f p =
        (!(l.any fun n => rollSel c n && rollClears c n f p) &&
          (r f p || l.any fun n => rollSel c n && rollCovers c n f p)) := by
  intro l
  induction l with
  | nil => intro _ r; simp
  | cons n l ih =>
    intro hp r
    rw [List.pairwise_cons] at hp
    rw [List.foldl_cons, ih hp.2]
    by_cases hsel : rollSel c n = true
    · by_cases hcov : rollCovers c n f p = true
      · have hncl : rollClears c n f p = false := by
          simp only [rollCovers, rollClears, Bool.and_eq_true, decide_eq_true_eq] at hcov ⊢
          rw [Bool.eq_false_iff]; intro h
          simp only [Bool.and_eq_true, decide_eq_true_eq, beq_iff_eq] at h
          omega
        simp [paint, hsel, hcov, hncl]
      · by_cases hcl : rollClears c n f p = true
        · have htail : (l.any fun m => rollSel c m && rollCovers c m f p) = false := by
            rw [Bool.eq_false_iff]; intro h
            rw [List.any_eq_true] at h
            obtain ⟨m, hm, hmc⟩ := h
            have hle := hp.1 m hm
            simp only [rollCovers, rollClears, Bool.and_eq_true, decide_eq_true_eq, beq_iff_eq] at hmc hcl
            omega
          simp [paint, hsel, hcov, hcl, htail]
        · simp [paint, hsel, hcov, hcl]
    · simp [paint, hsel]

/-- painting the notes in start order leaves exactly the cells `rollSpec` describes -/
theorem rollFrames_paint (c : RollCfg) (notes : List Note)
    (hwf : ∀ n ∈ notes, n.qs ≤ n.qe ∧ n.qs - c.start ≤ c.rows) :
    rollFrames c ((sortByInt (·.qs) notes).foldl (paint c) (fun _ _ => false)) = specFrames notes c := by
  have hperm : (sortByInt (·.qs) notes).Perm notes := List.mergeSort_perm _ _
  simp only [rollFrames, specFrames]
  refine List.map_congr_left fun f hf => congrArg _ (List.filter_congr fun p _ => ?_)
  rw [List.mem_range] at hf
  rw [paint_foldl _ _ _ _ (sortByInt_pairwise _ _), hperm.any_eq, hperm.any_eq]
  simp only [Bool.false_or, rollSpec]
  have h1 : (notes.any fun n => rollSel c n && rollCovers c n f p) =
      (notes.any fun n => rollSel c n && decide (n.qs ≤ (f : Int) + c.start) && decide ((f : Int) + c.start < n.qe) &&
        n.pitch == (p : Int) + c.minP) := by
    apply any_congr_mem
    intro n hn
    have := hwf n hn
    by_cases hsel : rollSel c n = true
    · have hsel' := hsel
      simp only [rollSel, Bool.and_eq_true, decide_eq_true_eq] at hsel'
      simp only [hsel, Bool.true_and, rollCovers, normIdx]
      rw [Bool.eq_iff_iff]
      simp only [Bool.and_eq_true, decide_eq_true_eq, beq_iff_eq]
      have : ¬ (n.qe - c.start < 0) := by omega
      simp only [this, ↓reduceIte, decide_eq_true_eq]
      omega
    · simp [hsel]
  have h2 : (notes.any fun n => rollSel c n && rollClears c n f p) =
      (c.split && notes.any fun n => rollSel c n && n.qs == (f : Int) + c.start + 1 && n.pitch == (p : Int) + c.minP) := by
    cases hsp : c.split with
    | false => simp [rollClears, hsp]
    | true =>
      simp only [Bool.true_and]
      apply any_congr_mem
      intro n hn
      simp only [rollClears, hsp, Bool.true_and]
      by_cases hsel : rollSel c n = true
      · simp only [hsel, Bool.true_and]
        rw [Bool.eq_iff_iff]
        simp only [Bool.and_eq_true, decide_eq_true_eq, beq_iff_eq]
        omega
      · simp [hsel]
  rw [h1, h2, Bool.and_comm]

theorem pitchesAt_nil {sel : List Note} {u : Int} (h : ∀ n ∈ sel, n.qs ≠ u) : pitchesAt sel u = [] := by
  have : sel.filter (fun n => n.qs == u) = [] := by
    rw [List.filter_eq_nil_iff]; intro n hn; simpa using h n hn
  simp [pitchesAt, this, canonSet]

theorem mem_pitchesAt {sel : List Note} {t p : Int} :
    p ∈ pitchesAt sel t ↔ ∃ n ∈ sel, n.qs = t ∧ n.pitch = p := by
  simp only [pitchesAt, mem_canonSet, List.mem_map, List.mem_filter, beq_iff_eq]
  constructor
  · rintro ⟨n, ⟨hn, ht⟩, hp⟩; exact ⟨n, hn, ht, hp⟩
  · rintro ⟨n, hn, ht, hp⟩; exact ⟨n, ⟨hn, ht⟩, hp⟩

theorem pitchesAt_sorted (sel : List Note) (t : Int) : (pitchesAt sel t).Pairwise (· < ·) :=
  canonSet_sorted _

def DrumFrames (sel : List Note) (start : Int) (ev : List (List Int)) : Prop :=
  ∀ i, i < ev.length → ev[i]? = some (pitchesAt sel (start + i))

/-- one loop iteration: extending the events to step `t`, when no selected note lies between their end and `t` -/
theorem drumFrames_extend {sel : List Note} {start : Int} {ev : List (List Int)} (t : Int)
    (hev : DrumFrames sel start ev) (hle : start + ev.length ≤ t)
    (hnone : ∀ n ∈ sel, start + ev.length ≤ n.qs → ¬ n.qs < t) :
    (((setLength [] ev (t - start + 1).toNat).set (t - start).toNat (pitchesAt sel t)).length : Int) = t - start + 1 ∧
    DrumFrames sel start ((setLength [] ev (t - start + 1).toNat).set (t - start).toNat (pitchesAt sel t)) := by
  obtain ⟨k, hk⟩ : ∃ k : Nat, t = start + k := ⟨(t - start).toNat, by omega⟩
  subst hk
  have h1 : (start + (k : Int) - start).toNat = k := by omega
  have h2 : (start + (k : Int) - start + 1).toNat = k + 1 := by omega
  rw [h1, h2]
  refine ⟨by rw [List.length_set, length_setLength]; omega, fun i hi => ?_⟩
  rw [List.length_set, length_setLength] at hi
  rw [List.getElem?_set, length_setLength]
  by_cases hik : k = i
  · subst hik; rw [if_pos rfl, if_pos hi]
  · rw [if_neg hik, getElem?_setLength _ _ _ _ hi]
    by_cases hil : i < ev.length
    · rw [dif_pos hil, ← List.getElem?_eq_getElem hil, hev i hil]
    · rw [dif_neg hil, pitchesAt_nil fun n hn heq => hnone n hn (by omega) (by omega)]

/-- the loop from a non-empty event list that ends at step `last`: it ends at `last` or at one of the remaining steps
`last'`; every remaining step up to `last'` is less than `gap` empty steps after `last` or an earlier one, every later
one `gap` or more after `last'` -/
theorem drumLoop_spec (sel : List Note) (start gap : Int) :
    ∀ (ts : List Int) (ev : List (List Int)) (last : Int),
      (ev.length : Int) = last - start + 1 → start ≤ last → ts.Pairwise (· < ·) → (∀ t ∈ ts, last < t) →
      DrumFrames sel start ev → (∀ n ∈ sel, last < n.qs → n.qs ∈ ts) →
      ∃ last', ((drumLoop sel start gap ts ev ev.length).length : Int) = last' - start + 1 ∧
        (last' = last ∨ last' ∈ ts) ∧
        (∀ t ∈ ts, last' < t → gap ≤ t - (last' + 1)) ∧
        (∀ t ∈ ts, t ≤ last' → ∃ m, (m = last ∨ m ∈ ts) ∧ m < t ∧ t - (m + 1) < gap) ∧
        DrumFrames sel start (drumLoop sel start gap ts ev ev.length) := by
  intro ts
  induction ts with
  | nil =>
    intro ev last hlen _ _ _ hev _
    rw [drumLoop]
    exact ⟨last, hlen, .inl rfl, by simp, by simp, hev⟩
  | cons t ts ih =>
    intro ev last hlen hsl hpw hgt hev hsel
    rw [List.pairwise_cons] at hpw
    have ht := hgt t (List.mem_cons_self ..)
    by_cases hbreak : ev.length ≠ 0 ∧ t - start - (ev.length : Int) ≥ gap
    · rw [drumLoop, if_pos hbreak]
      refine ⟨last, hlen, .inl rfl, fun u hu _ => ?_, fun u hu hle => ?_, hev⟩
      · have : t ≤ u := by
          rcases List.mem_cons.mp hu with rfl | hu
          · omega
          · have := hpw.1 u hu; omega
        omega
      · have := hgt u hu; omega
    · obtain ⟨hlen', hev'⟩ := drumFrames_extend t hev (by omega) fun n hn h1 h2 => by
        rcases List.mem_cons.mp (hsel n hn (by omega)) with h | h
        · omega
        · have := hpw.1 _ h; omega
      have hloop : drumLoop sel start gap (t :: ts) ev ev.length = drumLoop sel start gap ts
          ((setLength [] ev (t - start + 1).toNat).set (t - start).toNat (pitchesAt sel t)) (t - start + 1) := by
        rw [drumLoop, if_neg hbreak]
      generalize (setLength [] ev (t - start + 1).toNat).set (t - start).toNat (pitchesAt sel t) = ev'
        at hlen' hev' hloop
      rw [hloop, ← hlen']
      obtain ⟨last', h1, h2, h3, h4, h5⟩ := ih ev' t hlen' (by omega) hpw.2 hpw.1 hev' fun n hn hlt => by
        rcases List.mem_cons.mp (hsel n hn (by omega)) with h | h
        · omega
        · exact h
      have hle : t ≤ last' := by
        rcases h2 with rfl | h
        · omega
        · have := hpw.1 _ h; omega
      refine ⟨last', h1, .inr (List.mem_cons.mpr h2), List.forall_mem_cons.mpr ⟨fun _ => by omega, h3⟩,
        List.forall_mem_cons.mpr ⟨fun _ => ⟨last, .inl rfl, ht, by omega⟩, fun u hu hle' => ?_⟩, h5⟩
      obtain ⟨m, hm, hmu⟩ := h4 u hu hle'
      exact ⟨m, .inr (List.mem_cons.mpr hm), hmu⟩

theorem chordAt_nil (dflt : String) (t : Int) : chordAt dflt [] t = dflt := rfl

theorem chordAt_cons_le {dflt : String} {c : TextAnn} {cs : List TextAnn} {t : Int} (h : c.qstep ≤ t) :
    chordAt dflt (c :: cs) t = chordAt c.text cs t := by
  simp only [chordAt, List.filter_cons, h, decide_true, ↓reduceIte, List.getLast?_cons]
  cases (cs.filter fun c => decide (c.qstep ≤ t)).getLast? <;> rfl

theorem chordAt_all_gt {dflt : String} {cs : List TextAnn} {t : Int} (h : ∀ c ∈ cs, t < c.qstep) :
    chordAt dflt cs t = dflt := by
  have : cs.filter (fun c => decide (c.qstep ≤ t)) = [] := by
    rw [List.filter_eq_nil_iff]; intro c hc; have := h c hc; simp; omega
  simp [chordAt, this]

def chordTab (start : Int) (pf : String) (cs : List TextAnn) (lo n : Nat) : List String :=
  (List.range' lo n).map fun (i : Nat) => chordAt pf cs (start + i)

theorem length_chordTab (start : Int) (pf : String) (cs : List TextAnn) (lo n : Nat) :
    (chordTab start pf cs lo n).length = n := by
  rw [chordTab, List.length_map, List.length_range']

theorem getElem?_chordTab (start : Int) (pf : String) (cs : List TextAnn) (lo : Nat) {n i : Nat} (hi : i < n) :
    (chordTab start pf cs lo n)[i]? = some (chordAt pf cs (start + (lo + i : Nat))) := by
  rw [chordTab, List.getElem?_map, List.getElem?_range' hi]; simp

theorem chordTab_append (start : Int) (pf : String) (cs : List TextAnn) (lo m n : Nat) :
    chordTab start pf cs lo (m + n) = chordTab start pf cs lo m ++ chordTab start pf cs (lo + m) n := by
  rw [chordTab, ← List.range'_append_1, List.map_append]; rfl

theorem chordTab_all_gt {start : Int} {pf : String} {cs : List TextAnn} {lo n : Nat}
    (h : ∀ c ∈ cs, ∀ i : Nat, lo ≤ i → i < lo + n → start + i < c.qstep) :
    chordTab start pf cs lo n = List.replicate n pf := by
  rw [chordTab, List.map_eq_replicate_iff.mpr, List.length_range']
  intro i hi
  obtain ⟨h1, h2⟩ := List.mem_range'_1.mp hi
  exact chordAt_all_gt fun c hc => h c hc i h1 h2

theorem chordTab_cons_le {start : Int} {pf : String} {c : TextAnn} {cs : List TextAnn} {lo : Nat} (n : Nat)
    (h : c.qstep ≤ start + lo) : chordTab start pf (c :: cs) lo n = chordTab start c.text cs lo n :=
  List.map_congr_left fun i hi => chordAt_cons_le (by have := (List.mem_range'_1.mp hi).1; omega)

theorem addChord_eq (ev : List String) (pf : String) (si ei : Int)
    (hlen : (ev.length : Int) = si) (hlt : si < ei) :
    addChord ev pf si ei = .ok (ev ++ List.replicate (ei.toNat - ev.length) pf) := by
  have h1 : si.toNat = ev.length := by omega
  unfold addChord
  rw [if_neg (by omega), h1, take_setLength _ _ _ (by omega)]

theorem addChord_error {ev : List String} {pf : String} {si ei : Int} {e : XErr}
    (h : addChord ev pf si ei = .error e) : e = .badChordError := by
  unfold addChord at h
  split at h
  · simp only [Except.error.injEq] at h; exact h.symm
  · exact absurd h (by simp)

theorem chordAnns_sorted (s : NoteSeq) : (chordAnns s).Pairwise ChordOrd := by
  have := chordLe_pre.sorted
    (s.texts.filter (fun a => a.kind == Gen.CHORD_SYMBOL))
  exact List.Pairwise.imp (fun h => (chordLe_iff _ _).mp h) this

theorem mem_chordAnns {s : NoteSeq} {a : TextAnn} :
    a ∈ chordAnns s ↔ a ∈ s.texts ∧ a.kind = Gen.CHORD_SYMBOL := by
  simp [chordAnns, List.mem_mergeSort, List.mem_filter]

/-- `ChordsCoincident` on a list of chord annotations (`chordConflict_top`) -/
def ChordConflict (start end_ : Int) (cs : List TextAnn) : Prop :=
  ∃ a ∈ cs, ∃ b ∈ cs, a.qstep = b.qstep ∧ start ≤ a.qstep ∧ a.qstep < end_ ∧ a.text ≠ b.text

instance (start end_ : Int) (cs : List TextAnn) : Decidable (ChordConflict start end_ cs) := by
  unfold ChordConflict; infer_instance

theorem chordConflict_top {s : NoteSeq} {start end_ : Int} :
    ChordConflict start end_ (chordAnns s) ↔ ChordsCoincident s start end_ := by
  constructor
  · rintro ⟨a, ha, b, hb, h⟩
    rw [mem_chordAnns] at ha hb
    exact ⟨a, ha.1, b, hb.1, ha.2, hb.2, h⟩
  · rintro ⟨a, ha, b, hb, hka, hkb, h⟩
    exact ⟨a, mem_chordAnns.mpr ⟨ha, hka⟩, b, mem_chordAnns.mpr ⟨hb, hkb⟩, h⟩

theorem chordConflict_cons {start end_ : Int} {x : TextAnn} {cs : List TextAnn} :
    ChordConflict start end_ (x :: cs) ↔
      (start ≤ x.qstep ∧ x.qstep < end_ ∧ ∃ b ∈ cs, b.qstep = x.qstep ∧ b.text ≠ x.text) ∨
      ChordConflict start end_ cs := by
  constructor
  · rintro ⟨a, ha, b, hb, hq, hs, he, ht⟩
    rcases List.mem_cons.mp ha with rfl | ha' <;> rcases List.mem_cons.mp hb with rfl | hb'
    · exact absurd rfl ht
    · exact .inl ⟨hs, he, b, hb', hq.symm, Ne.symm ht⟩
    · exact .inl ⟨by omega, by omega, a, ha', hq, ht⟩
    · exact .inr ⟨a, ha', b, hb', hq, hs, he, ht⟩
  · rintro (⟨hs, he, b, hb, hq, ht⟩ | ⟨a, ha, b, hb, h⟩)
    · exact ⟨x, List.mem_cons_self .., b, List.mem_cons_of_mem _ hb, hq.symm, hs, he, Ne.symm ht⟩
    · exact ⟨a, List.mem_cons_of_mem _ ha, b, List.mem_cons_of_mem _ hb, h⟩

/-- a chord outside the range, or on a step of its own, takes part in no conflict -/
theorem chordConflict_cons_skip {start end_ : Int} {x : TextAnn} {cs : List TextAnn}
    (h : ∀ b ∈ cs, b.qstep = x.qstep → ¬ (start ≤ x.qstep ∧ x.qstep < end_)) :
    ChordConflict start end_ (x :: cs) ↔ ChordConflict start end_ cs := by
  rw [chordConflict_cons, or_iff_right]
  rintro ⟨hs, he, b, hb, hq, _⟩
  exact h b hb hq ⟨hs, he⟩

/-- the loop state `(prev_step, prev_figure)` as a chord in front of the remaining ones -/
def prevChord (ps : Option Int) (pf : String) : List TextAnn :=
  match ps with
  | none => []
  | some p => [⟨0, p, 0, pf⟩]

def chordRun (start end_ : Int) (cs : List TextAnn) (ps : Option Int) (pf : String) (ev : List String) :
    Except XErr (List String) :=
  match chordLoop start end_ cs ps pf ev with
  | .error e => .error e
  | .ok (ps', pf', ev') => chordFinish start end_ ps' pf' ev'

theorem chordStartIndex_lt {start end_ : Int} (hse : start < end_) {ps : Option Int} (hps : ∀ p, ps = some p → p < end_) :
    0 ≤ chordStartIndex ps start ∧ chordStartIndex ps start < end_ - start := by
  cases ps with
  | none => simp only [chordStartIndex]; omega
  | some p => have := hps p rfl; simp only [chordStartIndex]; omega

theorem chordFinish_spec (start end_ : Int) (hse : start < end_) (ps : Option Int) (pf : String)
    (ev : List String) (hps : ∀ p, ps = some p → p < end_)
    (hlen : (ev.length : Int) = chordStartIndex ps start) :
    chordFinish start end_ ps pf ev = .ok (ev ++ List.replicate ((end_ - start).toNat - ev.length) pf) := by
  unfold chordFinish
  have hadd := addChord_eq ev pf _ (end_ - start) hlen (chordStartIndex_lt hse hps).2
  cases ps with
  | none => exact hadd
  | some p => simp only [hps p rfl, ↓reduceIte]; exact hadd

theorem chordFinish_error {start end_ : Int} {ps : Option Int} {pf : String} {ev : List String} {e : XErr}
    (h : chordFinish start end_ ps pf ev = .error e) : e = .badChordError := by
  unfold chordFinish at h
  split at h
  · exact addChord_error h
  · split at h
    · exact addChord_error h
    · cases h

/-- the loop has stopped (no chord left before `end_`): the figure in force fills the rest -/
theorem chordRun_stop (start end_ : Int) (hse : start < end_) (cs : List TextAnn) (ps : Option Int) (pf : String)
    (ev : List String) (hloop : chordLoop start end_ cs ps pf ev = .ok (ps, pf, ev))
    (hcs : ∀ c ∈ cs, end_ ≤ c.qstep) (hps : ∀ p, ps = some p → p < end_ ∧ ∀ c ∈ cs, p ≤ c.qstep)
    (hlen : (ev.length : Int) = chordStartIndex ps start) :
    chordRun start end_ cs ps pf ev =
      if ChordConflict start end_ (prevChord ps pf ++ cs) then .error .coincidentChordsError
      else .ok (ev ++ chordTab start pf cs ev.length ((end_ - start).toNat - ev.length)) := by
  have hnc : ¬ ChordConflict start end_ cs := by
    rintro ⟨a, ha, _, _, _, _, hlt, _⟩
    have := hcs a ha; omega
  have hL := chordStartIndex_lt hse (fun p h => (hps p h).1)
  rw [if_neg, chordTab_all_gt fun c hc i _ hi => by have := hcs c hc; omega]
  · simp only [chordRun, hloop]
    exact chordFinish_spec start end_ hse ps pf ev (fun p h => (hps p h).1) hlen
  · cases ps with
    | none => exact hnc
    | some p =>
      rw [prevChord, List.singleton_append, chordConflict_cons_skip]
      · exact hnc
      · intro b hb hq _
        have := hcs b hb; have := (hps p rfl).1
        simp only at hq; omega

theorem chordRun_eq (start end_ : Int) (hse : start < end_) :
    ∀ (cs : List TextAnn) (ps : Option Int) (pf : String) (ev : List String),
      cs.Pairwise (fun a b => a.qstep ≤ b.qstep) →
      (∀ p, ps = some p → p < end_ ∧ ∀ c ∈ cs, p ≤ c.qstep) →
      (ev.length : Int) = chordStartIndex ps start →
      chordRun start end_ cs ps pf ev =
        if ChordConflict start end_ (prevChord ps pf ++ cs) then .error .coincidentChordsError
        else .ok (ev ++ chordTab start pf cs ev.length ((end_ - start).toNat - ev.length)) := by
  intro cs
  induction cs with
  | nil =>
    intro ps pf ev _ hps hlen
    exact chordRun_stop start end_ hse [] ps pf ev (by rw [chordLoop]) (by simp) hps hlen
  | cons c cs ih =>
    intro ps pf ev hpw hps hlen
    rw [List.pairwise_cons] at hpw
    have hL0 := (chordStartIndex_lt hse (fun p h => (hps p h).1)).1
    by_cases h1 : c.qstep ≥ end_
    · exact chordRun_stop start end_ hse (c :: cs) ps pf ev (by rw [chordLoop, if_pos h1])
        (List.forall_mem_cons.mpr ⟨h1, fun a ha => by have := hpw.1 a ha; omega⟩) hps hlen
    have hpc : ∀ p, ps = some p → p ≤ c.qstep := fun p hp => (hps p hp).2 c (List.mem_cons_self ..)
    by_cases hsame : start ≤ c.qstep ∧ some c.qstep = ps
    · obtain ⟨h2, rfl⟩ := hsame
      by_cases h4 : c.text = pf
      · -- identical coincident chord: skipped
        subst h4
        have hconf : ChordConflict start end_ (prevChord (some c.qstep) c.text ++ c :: cs) ↔
            ChordConflict start end_ (prevChord (some c.qstep) c.text ++ cs) := by
          simp only [prevChord, List.singleton_append, chordConflict_cons, List.mem_cons, exists_eq_or_imp,
            ne_eq, not_true_eq_false, and_false, false_or, or_self_left]
        have hrun : chordRun start end_ (c :: cs) (some c.qstep) c.text ev =
            chordRun start end_ cs (some c.qstep) c.text ev := by
          simp only [chordRun, chordLoop, h1, show ¬ c.qstep < start by omega, ↓reduceIte]
        rw [hrun, ih (some c.qstep) c.text ev hpw.2
          (fun p hp => ⟨(hps p hp).1, fun a ha => (hps p hp).2 a (List.mem_cons_of_mem _ ha)⟩) hlen]
        simp only [chordStartIndex] at hlen
        rw [chordTab_cons_le _ (by omega)]
        simp only [hconf]
      · -- two different chords on one step
        rw [if_pos ⟨⟨0, c.qstep, 0, pf⟩, by simp [prevChord], c, by simp, rfl, by simp only; omega, by simp only; omega,
          Ne.symm h4⟩]
        simp only [chordRun, chordLoop, h1, show ¬ c.qstep < start by omega, h4, ↓reduceIte]
    · -- `c` becomes the chord in force; inside the range the figure in force so far is written up to its step
      have hpsc : ∀ p, ps = some p → p < c.qstep ∨ c.qstep < start := by
        intro p hp
        have := hpc p hp
        by_cases h : p = c.qstep
        · exact .inr (Int.not_le.mp fun h' => hsame ⟨h', by rw [hp, h]⟩)
        · exact .inl (by omega)
      obtain ⟨m, hrun, hlen'⟩ : ∃ m : Nat, chordRun start end_ (c :: cs) ps pf ev =
            chordRun start end_ cs (some c.qstep) c.text (ev ++ List.replicate m pf) ∧
          ((ev.length + m : Nat) : Int) = chordStartIndex (some c.qstep) start := by
        by_cases h5 : c.qstep > start
        · have h3 : ¬ some c.qstep = ps := fun h => hsame ⟨by omega, h⟩
          have hlt : chordStartIndex ps start < c.qstep - start := by
            cases ps with
            | none => simp only [chordStartIndex]; omega
            | some p => have := hpsc p rfl; simp only [chordStartIndex]; omega
          exact ⟨(c.qstep - start).toNat - ev.length, by
            simp only [chordRun, chordLoop, h1, show ¬ c.qstep < start by omega, h3, ↓reduceIte, h5,
              addChord_eq _ _ _ _ hlen hlt], by simp only [chordStartIndex]; omega⟩
        · have h0 : chordStartIndex ps start = 0 := by
            cases ps with
            | none => rfl
            | some p => have := hpsc p rfl; have := hpc p rfl; simp only [chordStartIndex]; omega
          refine ⟨0, ?_, by simp only [chordStartIndex]; omega⟩
          rw [List.replicate_zero, List.append_nil]
          by_cases h2 : c.qstep < start
          · simp only [chordRun, chordLoop, h1, h2, ↓reduceIte]
          · simp only [chordRun, chordLoop, h1, h2, show ¬ some c.qstep = ps from fun h => hsame ⟨by omega, h⟩,
              ↓reduceIte, h5]
      have hconf : ChordConflict start end_ (prevChord ps pf ++ c :: cs) ↔
          ChordConflict start end_ (prevChord (some c.qstep) c.text ++ cs) := by
        rw [show ChordConflict start end_ (prevChord (some c.qstep) c.text ++ cs) ↔ ChordConflict start end_ (c :: cs) by
          simp only [prevChord, List.singleton_append, chordConflict_cons]]
        cases ps with
        | none => rfl
        | some p =>
          refine chordConflict_cons_skip fun b hb hq hr => ?_
          have := hpsc p rfl
          have := hpc p rfl
          have : c.qstep ≤ b.qstep := (List.mem_cons.mp hb).elim (fun h => h ▸ Int.le_refl _) (hpw.1 b)
          simp only at hq hr; omega
      rw [hrun, ih (some c.qstep) c.text _ hpw.2 (by intro p hp; cases hp; exact ⟨by omega, hpw.1⟩)
        (by rw [← hlen', List.length_append, List.length_replicate])]
      simp only [chordStartIndex] at hlen'
      have hle : ev.length + m ≤ (end_ - start).toNat := by omega
      rw [nat_sub_eq_add_sub hle,
        chordTab_append, chordTab_cons_le (lo := ev.length + m) _ (by omega), chordTab_all_gt (cs := c :: cs) fun a ha i _ _ => by
          have : c.qstep ≤ a.qstep := (List.mem_cons.mp ha).elim (fun h => h ▸ Int.le_refl _) (hpw.1 a)
          omega]
      simp only [hconf, List.length_append, List.length_replicate, List.append_assoc]

theorem chordLoop_error (start end_ : Int) (cs : List TextAnn) (ps : Option Int) (pf : String) (ev : List String)
    (e : XErr) :
    chordLoop start end_ cs ps pf ev = .error e → e = .coincidentChordsError ∨ e = .badChordError := by
  fun_induction chordLoop start end_ cs ps pf ev
  case case6 r _ hr =>
    rintro ⟨⟩; simp only [r] at hr; split at hr
    · exact .inr (addChord_error hr)
    · cases hr
  -- every other branch is a recursive call, the literal error or a value
  all_goals first | assumption | (intro h; cases h <;> simp)

/-- an empty range (`end_step ≤ start_step`): the loop writes nothing and `_add_chord` is asked for no steps -/
theorem chordRun_degenerate (start end_ : Int) (hse : end_ ≤ start) :
    ∀ (cs : List TextAnn) (ps : Option Int) (pf : String), (∀ p, ps = some p → p < end_) →
      chordRun start end_ cs ps pf [] = .error .badChordError := by
  have hfin : ∀ (ps : Option Int) (pf : String), (∀ p, ps = some p → p < end_) →
      chordFinish start end_ ps pf [] = .error .badChordError := by
    intro ps pf hps
    have hadd : addChord [] pf (chordStartIndex ps start) (end_ - start) = .error .badChordError := by
      rw [addChord, if_pos]
      cases ps <;> simp only [chordStartIndex] <;> omega
    cases ps with
    | none => exact hadd
    | some p => simp only [chordFinish, hps p rfl, ↓reduceIte, hadd]
  intro cs
  induction cs with
  | nil => intro ps pf hps; simp only [chordRun, chordLoop, hfin ps pf hps]
  | cons c cs ih =>
    intro ps pf hps
    by_cases h1 : c.qstep ≥ end_
    · simp only [chordRun, chordLoop, h1, ↓reduceIte, hfin ps pf hps]
    · have := ih (some c.qstep) c.text (by intro p hp; cases hp; omega)
      simpa only [chordRun, chordLoop, h1, ↓reduceIte, show c.qstep < start by omega] using this

instance (s : NoteSeq) (start end_ : Int) : Decidable (ChordsCoincident s start end_) := by
  unfold ChordsCoincident; infer_instance

/-- the whole extraction as one decision: the bar length's error; `BadChordError` on an empty range;
`CoincidentChordsError` on a conflict; else event `i` is the chord in force at step `start + i` -/
theorem chordsFromQuantized_eq (s : NoteSeq) (start end_ : Int) :
    chordsFromQuantized s start end_ =
      match stepsPerBar s with
      | .error e => .error e
      | .ok spb =>
        if end_ ≤ start then .error .badChordError
        else if ChordsCoincident s start end_ then .error .coincidentChordsError
        else .ok ⟨chordTab start Gen.NO_CHORD (chordAnns s) 0 (end_ - start).toNat, start, end_, spb, s.spq⟩ := by
  have hrun : chordsFromQuantized s start end_ =
      match stepsPerBar s with
      | .error e => .error e
      | .ok spb =>
        match chordRun start end_ (chordAnns s) none Gen.NO_CHORD [] with
        | .error e => .error e
        | .ok ev' => .ok ⟨ev', start, end_, spb, s.spq⟩ := by
    simp only [chordsFromQuantized, chordRun]
    cases stepsPerBar s with
    | error e => rfl
    | ok spb =>
      cases chordLoop start end_ (chordAnns s) none Gen.NO_CHORD [] with
      | error e => rfl
      | ok r => obtain ⟨ps, pf, ev⟩ := r; rfl
  rw [hrun]
  cases stepsPerBar s with
  | error e => rfl
  | ok spb =>
    by_cases hse : end_ ≤ start
    · simp only [chordRun_degenerate start end_ hse (chordAnns s) none Gen.NO_CHORD (by intro p hp; cases hp), hse,
        ↓reduceIte]
    · rw [chordRun_eq start end_ (by omega) (chordAnns s) none Gen.NO_CHORD []
        ((chordAnns_sorted s).imp fun h => by rcases h with h | h <;> omega) (by intro p hp; cases hp) rfl]
      simp only [prevChord, List.nil_append, chordConflict_top, List.length_nil, Nat.sub_zero, hse, ↓reduceIte]
      by_cases hc : ChordsCoincident s start end_ <;> simp only [hc, ↓reduceIte]

/-- `Gen` here is `C07.Gen`, the copy of the generated velocity functions the extractor model uses; the encoder's copy
`C09.Gen` has its own lemmas in `Props/C09.lean` -/
theorem velocityBinSize_pos {nb : Int} (h : 0 < nb) : 0 < Gen.velocityBinSize nb := by
  have h1 : (-127 : Int).fdiv nb = -127 / nb := Int.fdiv_eq_ediv_of_nonneg _ (by omega)
  have h2 : (-127 : Int) / nb < 0 := Int.ediv_neg_of_neg_of_pos (by omega) h
  simp only [Gen.velocityBinSize, Gen.pyCeilDiv]
  have : (-((127 : Int) - 1 + 1)) = -127 := by omega
  rw [this, h1]; omega

theorem velocityToBin_range {v nb : Int} (hnb : 0 < nb) (hv1 : 1 ≤ v) (hv2 : v ≤ 127) :
    1 ≤ Gen.velocityToBin v nb ∧ Gen.velocityToBin v nb ≤ 127 := by
  have hs := velocityBinSize_pos hnb
  have h1 : (v - 1).fdiv (Gen.velocityBinSize nb) = (v - 1) / Gen.velocityBinSize nb :=
    Int.fdiv_eq_ediv_of_nonneg _ (by omega)
  have h2 : 0 ≤ (v - 1) / Gen.velocityBinSize nb := Int.ediv_nonneg (by omega) (by omega)
  have h3 : (v - 1) / Gen.velocityBinSize nb ≤ v - 1 := Int.ediv_le_self _ (by omega)
  simp only [Gen.velocityToBin, h1]; omega

/-- C09's `velocity_bin_right_inverse`, for the copy of the generated functions the extractor model uses -/
theorem velocityToBin_binToVelocity (n b : Int) (hn : 1 ≤ n) :
    C07.Gen.velocityToBin (C07.Gen.velocityBinToVelocity b n) n = b := by
  have hs := velocityBinSize_pos (show 0 < n by omega)
  unfold C07.Gen.velocityToBin C07.Gen.velocityBinToVelocity
  generalize C07.Gen.velocityBinSize n = s at *
  rw [Int.fdiv_eq_ediv_of_nonneg _ (by omega)]
  have : (1 + (b - 1) * s - 1) = (b - 1) * s := by omega
  rw [this, Int.mul_ediv_cancel _ (by omega)]
  omega

/-- the loop over valid notes in step order: all tuples, or the error of the first note over a limit (its shift is
checked before its duration) -/
theorem notePerfLoop_spec (nb ms md : Int) (hnb : 0 < nb) :
    ∀ (l : List Note) (cur : Int),
      (∀ n ∈ l, NPValid n) → (∀ n ∈ l, cur ≤ n.qs) → l.Pairwise (fun a b => a.qs ≤ b.qs) →
      ((∀ i n, l[i]? = some n → n.qs - prevStep cur l i ≤ ms ∧ n.qe - n.qs ≤ md) ∧
        ∃ evs, notePerfLoop nb ms md cur l = .ok evs ∧ evs.length = l.length ∧
          ∀ i n, l[i]? = some n → evs[i]? = some (npTuple nb cur l i n)) ∨
      (∃ i n, l[i]? = some n ∧ ¬ (n.qs - prevStep cur l i ≤ ms ∧ n.qe - n.qs ≤ md) ∧
          (∀ j m, j < i → l[j]? = some m → m.qs - prevStep cur l j ≤ ms ∧ m.qe - m.qs ≤ md) ∧
        notePerfLoop nb ms md cur l = .error
          (if n.qs - prevStep cur l i > ms then .tooManyTimeShiftStepsError else .tooManyDurationStepsError)) := by
  intro l
  induction l with
  | nil =>
    intro cur _ _ _
    exact .inl ⟨by simp, [], rfl, rfl, by simp⟩
  | cons n ns ih =>
    intro cur hv hge hpw
    rw [List.pairwise_cons] at hpw
    obtain ⟨hp1, hp2, hv1, hv2, hd⟩ := hv n (List.mem_cons_self ..)
    have hcur := hge n (List.mem_cons_self ..)
    have hbin := velocityToBin_range hnb hv1 hv2
    by_cases h1 : n.qs - cur > ms
    · exact .inr ⟨0, n, rfl, by simp only [prevStep]; omega, by intro j m hj; omega,
        by simp only [notePerfLoop, prevStep, h1, ↓reduceIte]⟩
    · have e1 : (PEvent.timeShift (n.qs - cur)).valid = true := by simp [PEvent.valid]; omega
      have e2 : (PEvent.noteOn n.pitch).valid = true := by
        simp [PEvent.valid, Gen.MIN_MIDI_PITCH, Gen.MAX_MIDI_PITCH, hp1, hp2]
      have e3 : (PEvent.velocity (Gen.velocityToBin n.velocity nb)).valid = true := by
        simp [PEvent.valid, Gen.MAX_NUM_VELOCITY_BINS, hbin.1, hbin.2]
      by_cases h2 : n.qe - n.qs > md
      · refine .inr ⟨0, n, rfl, by simp only [prevStep]; omega, by intro j m hj; omega, ?_⟩
        simp only [notePerfLoop, prevStep, h1, ↓reduceIte, e1, e2, e3, not_true_eq_false,
          show ¬ nb = 0 by omega, show ¬ nb < 0 by omega, h2]
      · -- this note is fine; continue from its start step
        have e4 : (PEvent.duration (n.qe - n.qs)).valid = true := by simp [PEvent.valid]; omega
        have hloop : notePerfLoop nb ms md cur (n :: ns) =
            match notePerfLoop nb ms md n.qs ns with
            | .error x => .error x
            | .ok r => .ok (⟨n.qs - cur, n.pitch, Gen.velocityToBin n.velocity nb, n.qe - n.qs⟩ :: r) := by
          simp only [notePerfLoop, h1, ↓reduceIte, e1, e2, e3, e4, not_true_eq_false,
            show ¬ nb = 0 by omega, show ¬ nb < 0 by omega, h2]
          cases notePerfLoop nb ms md n.qs ns <;> rfl
        have hprev : ∀ {i : Nat} {m : Note}, ns[i]? = some m →
            prevStep cur (n :: ns) (i + 1) = prevStep n.qs ns i := by
          intro i m h
          cases i with
          | zero => rfl
          | succ j =>
            have hj : j < ns.length := by have := (List.getElem?_eq_some_iff.mp h).1; omega
            simp only [prevStep, List.getElem?_cons_succ, List.getElem?_eq_getElem hj]
        -- the limits hold of `n :: ns` up to index `i + 1` when they hold of `ns` up to `i`
        have hcons : ∀ i, (∀ j m, j < i → ns[j]? = some m →
              m.qs - prevStep n.qs ns j ≤ ms ∧ m.qe - m.qs ≤ md) →
            ∀ j m, j < i + 1 → (n :: ns)[j]? = some m →
              m.qs - prevStep cur (n :: ns) j ≤ ms ∧ m.qe - m.qs ≤ md := by
          intro i hbefore j m hj hjm
          cases j with
          | zero => cases hjm; simp only [prevStep]; omega
          | succ k => rw [hprev hjm]; exact hbefore k m (by omega) hjm
        rcases ih n.qs (fun m hm => hv m (List.mem_cons_of_mem _ hm)) hpw.1 hpw.2 with
          ⟨hall, evs, hevs, hlen, hspec⟩ | ⟨i, m, him, hbad, hbefore, herr⟩
        · refine .inl ⟨?_, _, by rw [hloop, hevs], by simp [hlen], ?_⟩
          · intro i m him
            exact hcons (i + 1) (fun j m' _ hj => hall j m' hj) i m (by omega) him
          · intro i m him
            cases i with
            | zero => cases him; rfl
            | succ j =>
              simp only [List.getElem?_cons_succ] at him ⊢
              rw [hspec j m him]
              simp only [npTuple, hprev him]
        · exact .inr ⟨i + 1, m, him, by rw [hprev him]; exact hbad, hcons i hbefore,
            by rw [hloop, herr, hprev him]⟩

/-- the end of the event list as `_add_note` leaves it: the note's pitch, `m` NO_EVENTs, its NOTE_OFF -/
def noteTail (p : Int) (m : Nat) : List Int :=
  p :: (List.replicate m Gen.MELODY_NO_EVENT ++ [Gen.MELODY_NOTE_OFF])

theorem no_event_ne_note_off : Gen.MELODY_NO_EVENT ≠ Gen.MELODY_NOTE_OFF := by decide

theorem pitch_facts {p : Int} (hp : 0 ≤ p) :
    p ≥ Gen.MIN_MIDI_PITCH ∧ p ≠ Gen.MELODY_NOTE_OFF ∧ p ≠ Gen.MELODY_NO_EVENT := by
  simp only [Gen.MIN_MIDI_PITCH, Gen.MELODY_NOTE_OFF, Gen.MELODY_NO_EVENT]; omega

theorem length_noteTail (p : Int) (m : Nat) : (noteTail p m).length = m + 2 := by
  simp [noteTail]

theorem noteTail_concat (A : List Int) (p : Int) (m : Nat) :
    A ++ noteTail p m = (A ++ p :: List.replicate m Gen.MELODY_NO_EVENT) ++ [Gen.MELODY_NOTE_OFF] := by
  simp [noteTail]

theorem getLast?_noteTail (A : List Int) (p : Int) (m : Nat) :
    (A ++ noteTail p m).getLast? = some Gen.MELODY_NOTE_OFF := by
  rw [noteTail_concat, List.getLast?_concat]

theorem dropLast_noteTail (A : List Int) (p : Int) (m : Nat) :
    (A ++ noteTail p m).dropLast = A ++ p :: List.replicate m Gen.MELODY_NO_EVENT := by
  rw [noteTail_concat, List.dropLast_concat]

theorem getD_noteTail (p : Int) (m j : Nat) :
    (noteTail p m)[j]?.getD Gen.MELODY_NO_EVENT =
      if j = 0 then p else if j = m + 1 then Gen.MELODY_NOTE_OFF else Gen.MELODY_NO_EVENT := by
  cases j with
  | zero => rfl
  | succ j =>
    simp only [noteTail, List.getElem?_cons_succ, Nat.succ_ne_zero, ↓reduceIte, Nat.add_right_cancel_iff]
    rcases Nat.lt_trichotomy j m with h | h | h
    · rw [List.getElem?_append_left (by rw [List.length_replicate]; exact h), List.getElem?_replicate, if_pos h,
        if_neg (by omega)]
      rfl
    · subst h
      rw [List.getElem?_append_right (by rw [List.length_replicate]; exact Nat.le_refl _), List.length_replicate,
        Nat.sub_self, if_pos rfl]
      rfl
    · have hlen : (List.replicate m Gen.MELODY_NO_EVENT ++ [Gen.MELODY_NOTE_OFF]).length ≤ j := by
        simp only [List.length_append, List.length_replicate, List.length_cons, List.length_nil]; omega
      rw [List.getElem?_eq_none hlen, if_neg (by omega)]
      rfl

theorem reverse_noteTail (A : List Int) (p : Int) (m : Nat) :
    (A ++ noteTail p m).reverse =
      Gen.MELODY_NOTE_OFF :: (List.replicate m Gen.MELODY_NO_EVENT ++ p :: A.reverse) := by
  simp [noteTail, List.reverse_append, List.reverse_replicate]

theorem sustained_replicate_append (m : Nat) (r : List Int) :
    sustained (List.replicate m Gen.MELODY_NO_EVENT ++ r) = sustained r := by
  induction m with
  | zero => rfl
  | succ m ih =>
    rw [List.replicate_succ, List.cons_append]
    rw [sustained, if_neg no_event_ne_note_off, if_neg (by simp)]
    exact ih

theorem sustained_after_pitch (A : List Int) (p : Int) (m : Nat) (hp : 0 ≤ p) :
    sustained (A ++ p :: List.replicate m Gen.MELODY_NO_EVENT).reverse = true := by
  obtain ⟨_, hp2, hp3⟩ := pitch_facts hp
  rw [List.reverse_append, List.reverse_cons, List.reverse_replicate, List.append_assoc,
    sustained_replicate_append, List.singleton_append, sustained, if_neg hp2, if_pos hp3]

theorem sustained_noteTail (A : List Int) (p : Int) (m : Nat) : sustained (A ++ noteTail p m).reverse = false := by
  rw [reverse_noteTail, sustained, if_pos rfl]

/-- extending a melody that ends in a sustained note (as after stripping its final NOTE_OFF): `set_length` writes a
NOTE_OFF at the old end, NO_EVENT beyond -/
theorem melSetLength_sustained (ev : List Int) (hs : sustained ev.reverse = true) (n : Nat) (hn : ev.length ≤ n) :
    (melSetLength ev n).length = n ∧
    ∀ i, i < n → (melSetLength ev n)[i]? = some ((ev ++ [Gen.MELODY_NOTE_OFF])[i]?.getD Gen.MELODY_NO_EVENT) := by
  unfold melSetLength
  rw [hs]
  by_cases hgt : n > ev.length
  · simp only [hgt, and_self, ↓reduceIte]
    refine ⟨by rw [List.length_set, length_setLength], fun i hi => ?_⟩
    rw [List.getElem?_set, length_setLength]
    rcases Nat.lt_trichotomy i ev.length with h | h | h
    · rw [if_neg (by omega), getElem?_setLength_getD _ _ _ _ hi, List.getElem?_append_left h]
    · subst h
      rw [if_pos rfl, if_pos hi, List.getElem?_append_right (Nat.le_refl _), Nat.sub_self]; rfl
    · rw [if_neg (by omega), getElem?_setLength_getD _ _ _ _ hi, List.getElem?_eq_none (by omega),
        List.getElem?_eq_none (by rw [List.length_append, List.length_singleton]; omega)]
  · obtain rfl : n = ev.length := by omega
    simp only [hgt, false_and, ↓reduceIte]
    refine ⟨length_setLength _ _ _, fun i hi => ?_⟩
    rw [getElem?_setLength_getD _ _ _ _ hi, List.getElem?_append_left hi]

theorem lastOnOffRev_replicate (m : Nat) (p : Int) (hp : 0 ≤ p) (B : List Int) (lo : Nat) :
    lastOnOffRev (List.replicate m Gen.MELODY_NO_EVENT ++ p :: B) lo = some (B.length, lo) := by
  obtain ⟨hp1, hp2, _⟩ := pitch_facts hp
  induction m with
  | zero =>
    simp only [List.replicate_zero, List.nil_append, lastOnOffRev]
    rw [if_neg hp2, if_pos hp1]
  | succ m ih =>
    rw [List.replicate_succ, List.cons_append]
    unfold lastOnOffRev
    simp only
    rw [if_neg no_event_ne_note_off, if_neg (by decide)]
    exact ih

theorem lastOnOff_noteTail (A : List Int) (p : Int) (m : Nat) (hp : 0 ≤ p) :
    lastOnOff (A ++ noteTail p m) = some (A.length, A.length + m + 1) := by
  unfold lastOnOff
  rw [reverse_noteTail]
  unfold lastOnOffRev
  simp only [↓reduceIte]
  rw [if_neg (by decide), lastOnOffRev_replicate m p hp]
  simp only [List.length_append, List.length_replicate, List.length_cons, List.length_reverse]
  congr 2
  omega

theorem addNote_error {ev : List Int} {p si ei : Int} {e : XErr}
    (h : addNote ev p si ei = .error e) : e = .badNoteError := by
  unfold addNote at h
  split at h
  · simp only [Except.error.injEq] at h; exact h.symm
  · exact absurd h (by simp)

/-- `_add_note` on an event list that does not end in a sustained note (it is empty or ends with a NOTE_OFF) -/
theorem addNote_form (ev : List Int) (hev : sustained ev.reverse = false)
    (pitch si ei : Int) (hsi : 0 ≤ si) (hlt : si < ei) :
    ∃ A', addNote ev pitch si ei = .ok (A' ++ noteTail pitch (ei - si - 1).toNat) ∧
      (A'.length : Int) = si ∧
      ∀ i, i < A'.length → A'[i]? = some (if h : i < ev.length then ev[i] else Gen.MELODY_NO_EVENT) := by
  have hset : melSetLength ev (ei + 1).toNat = setLength Gen.MELODY_NO_EVENT ev (ei + 1).toNat := by
    simp [melSetLength, hev]
  refine ⟨(setLength Gen.MELODY_NO_EVENT ev (ei + 1).toNat).take si.toNat, ?_, ?_, ?_⟩
  · unfold addNote
    rw [if_neg (by omega), hset]
    have : ei.toNat - si.toNat - 1 = (ei - si - 1).toNat := by omega
    rw [this]; rfl
  · rw [List.length_take, length_setLength]; omega
  · intro i hi
    rw [List.length_take, length_setLength] at hi
    rw [List.getElem?_take_of_lt (by omega), getElem?_setLength _ _ _ _ (by omega)]

theorem melRule_before (K : List Note) (n : Note) (t : Int) (ht : t < n.qs) :
    melRule (K ++ [n]) t = melRule K t := by
  have h1 : ([n].find? fun k => k.qs == t) = none := by
    rw [List.find?_singleton, if_neg]; simp; omega
  have h2 : ([n].filter fun k => decide (k.qs < t)) = [] := by
    rw [List.filter_eq_nil_iff]; intro a ha; simp only [List.mem_singleton] at ha; subst ha; simp; omega
  simp only [melRule, List.find?_append, h1, Option.or_none, List.filter_append, h2, List.append_nil]

theorem melRule_at (K : List Note) (n : Note) (hK : ∀ x ∈ K, x.qs < n.qs) :
    melRule (K ++ [n]) n.qs = n.pitch := by
  have h1 : (K.find? fun k => k.qs == n.qs) = none := by
    rw [List.find?_eq_none]; intro x hx; have := hK x hx; simp; omega
  simp [melRule, List.find?_append, h1]

theorem melRule_after (K : List Note) (n : Note) (t : Int) (hK : ∀ x ∈ K, x.qs < n.qs) (ht : n.qs < t) :
    melRule (K ++ [n]) t = if n.qe = t then Gen.MELODY_NOTE_OFF else Gen.MELODY_NO_EVENT := by
  have h1 : ((K ++ [n]).find? fun k => k.qs == t) = none := by
    rw [List.find?_eq_none]; intro x hx
    rcases List.mem_append.mp hx with h | h
    · have := hK x h; simp; omega
    · simp only [List.mem_singleton] at h; subst h; simp; omega
  have h2 : ((K ++ [n]).filter fun k => decide (k.qs < t)) = K ++ [n] := by
    rw [List.filter_eq_self]; intro x hx
    rcases List.mem_append.mp hx with h | h
    · have := hK x h; simp; omega
    · simp only [List.mem_singleton] at h; subst h; simp; omega
  simp only [melRule, h1, h2, List.getLast?_concat]

/-- the loop state after the kept notes `K0 ++ [k]`: the events are `A ++ noteTail k …`, where `A` holds the steps
before `k`'s onset, filled by the per-step rule -/
def MelInv (mstart : Int) (K0 : List Note) (k : Note) (A : List Int) : Prop :=
  (k.qs < k.qe ∧ 0 ≤ k.pitch) ∧ (∀ x ∈ K0, x.qs < k.qs) ∧ (A.length : Int) = k.qs - mstart ∧
  ∀ i, i < A.length → A[i]? = some (melRule (K0 ++ [k]) (mstart + i))

/-- such an event list follows the per-step rule at *every* index (NO_EVENT beyond its end) -/
theorem melEvents_rule {mstart : Int} {K0 : List Note} {k : Note} {A : List Int} (h : MelInv mstart K0 k A)
    (i : Nat) :
    (A ++ noteTail k.pitch (k.qe - k.qs - 1).toNat)[i]?.getD Gen.MELODY_NO_EVENT =
      melRule (K0 ++ [k]) (mstart + i) := by
  obtain ⟨⟨hk, _⟩, hK0, hA, hrule⟩ := h
  by_cases h1 : i < A.length
  · rw [List.getElem?_append_left h1, hrule i h1]; rfl
  · rw [List.getElem?_append_right (by omega), getD_noteTail]
    by_cases h2 : i - A.length = 0
    · rw [if_pos h2, show mstart + (i : Int) = k.qs by omega, melRule_at K0 k hK0]
    · rw [if_neg h2, melRule_after K0 k _ hK0 (by omega)]
      by_cases h3 : i - A.length = (k.qe - k.qs - 1).toNat + 1
      · rw [if_pos h3, if_pos (by omega)]
      · rw [if_neg h3, if_neg (by omega)]

/-- the loop over the remaining sorted notes `ns` from the state after the kept notes `K0 ++ [k]`: it raises
`PolyphonicMelodyError` iff polyphony is not ignored and `dupFrom` meets a second note on a kept onset; otherwise it
ends in the state (`MelInv`) after the kept notes `K0 ++ k :: keptFrom gap k ns` -/
theorem melLoop_spec (fd ip : Bool) (gap mstart : Int) :
    ∀ (ns : List Note) (K0 : List Note) (k : Note) (A : List Int),
      (∀ n ∈ ns, (fd && n.isDrum) = false ∧ n.velocity ≠ 0) →
      (∀ n ∈ ns, n.qs < n.qe ∧ 0 ≤ n.pitch) →
      (k :: ns).Pairwise (fun a b => a.qs ≤ b.qs) →
      MelInv mstart K0 k A →
      if (!ip && dupFrom gap k ns) = true then
        melLoop fd ip gap mstart ns (A ++ noteTail k.pitch (k.qe - k.qs - 1).toNat) =
          .error .polyphonicMelodyError
      else
        ∃ A' k' K0', K0' ++ [k'] = K0 ++ k :: keptFrom gap k ns ∧
          melLoop fd ip gap mstart ns (A ++ noteTail k.pitch (k.qe - k.qs - 1).toNat) =
            .ok (A' ++ noteTail k'.pitch (k'.qe - k'.qs - 1).toNat) ∧
          MelInv mstart K0' k' A' := by
  intro ns
  induction ns with
  | nil =>
    intro K0 k A _ _ _ hinv
    simp only [dupFrom, Bool.and_false, Bool.false_eq_true, ↓reduceIte]
    exact ⟨A, k, K0, by simp [keptFrom], by simp [melLoop], hinv⟩
  | cons n ns ih =>
    intro K0 k A hsel hval hsorted hinv
    have ⟨hk, hK0, hA, _⟩ := hinv
    rw [List.pairwise_cons] at hsorted
    have hn_sel := hsel n (List.mem_cons_self ..)
    have hn_val := hval n (List.mem_cons_self ..)
    have hkn : k.qs ≤ n.qs := hsorted.1 n (List.mem_cons_self ..)
    have hsel' : ∀ x ∈ ns, (fd && x.isDrum) = false ∧ x.velocity ≠ 0 :=
      fun x hx => hsel x (List.mem_cons_of_mem _ hx)
    have hval' : ∀ x ∈ ns, x.qs < x.qe ∧ 0 ≤ x.pitch := fun x hx => hval x (List.mem_cons_of_mem _ hx)
    have hlen : (A ++ noteTail k.pitch (k.qe - k.qs - 1).toNat).length ≠ 0 := by
      simp [length_noteTail]
    have hloo := lastOnOff_noteTail A k.pitch (k.qe - k.qs - 1).toNat hk.2
    rw [melLoop]
    simp only [hn_sel.1, Bool.false_eq_true, ↓reduceIte, hn_sel.2, hlen, hloo]
    by_cases h0 : n.qs = k.qs
    · -- a second note on the current onset
      have hd0 : n.qs - mstart - (A.length : Int) = 0 := by omega
      simp only [hd0, ↓reduceIte, dupFrom, keptFrom, if_pos h0, Bool.and_true]
      cases ip with
      | false => simp
      | true =>
        simp only [Bool.not_true, Bool.false_eq_true, ↓reduceIte]
        have := ih K0 k A hsel' hval' (pairwise_skip (List.pairwise_cons.mpr hsorted)) hinv
        simp only [Bool.not_true, Bool.false_and, Bool.false_eq_true, ↓reduceIte] at this
        exact this
    · have hd1 : ¬ (n.qs - mstart - (A.length : Int) = 0) := by omega
      have hd2 : ¬ (n.qs - mstart - (A.length : Int) < 0) := by omega
      have hoff : n.qs - mstart - ((A.length + (k.qe - k.qs - 1).toNat + 1 : Nat) : Int) = n.qs - k.qe := by
        have := hk.1; omega
      simp only [hd1, hd2, ↓reduceIte, hoff, dupFrom, keptFrom, h0]
      by_cases hgap : gap ≤ n.qs - k.qe
      · -- the melody ends here
        simp only [ge_iff_le, hgap, ↓reduceIte, Bool.and_false, Bool.false_eq_true]
        exact ⟨A, k, K0, by simp, rfl, hinv⟩
      · simp only [ge_iff_le, hgap, ↓reduceIte]
        obtain ⟨A', hadd, hA'len, hA'⟩ := addNote_form (A ++ noteTail k.pitch (k.qe - k.qs - 1).toNat)
          (sustained_noteTail ..) n.pitch (n.qs - mstart) (n.qe - mstart) (by omega) (by have := hn_val.1; omega)
        rw [hadd]
        simp only
        rw [toNat_span_shift]
        have hK0' : ∀ x ∈ K0 ++ [k], x.qs < n.qs := by
          intro x hx
          rcases List.mem_append.mp hx with h | h
          · have := hK0 x h; omega
          · simp only [List.mem_singleton] at h; subst h; exact Int.lt_iff_le_and_ne.mpr ⟨hkn, Ne.symm h0⟩
        have hrule' : ∀ i, i < A'.length → A'[i]? = some (melRule ((K0 ++ [k]) ++ [n]) (mstart + i)) := by
          intro i hi
          rw [hA' i hi, melRule_before _ _ _ (by omega), ← melEvents_rule hinv i, List.getD_getElem?]
        have := ih (K0 ++ [k]) n A' hsel' hval' hsorted.2 ⟨hn_val, hK0', by omega, hrule'⟩
        split at this
        · rename_i hc; rw [if_pos hc]; exact this
        · rename_i hc
          rw [if_neg hc]
          obtain ⟨A'', k'', K0'', hKeq, hres, r⟩ := this
          exact ⟨A'', k'', K0'', by rw [hKeq]; simp, hres, r⟩

theorem melLoop_error (fd ip : Bool) (gap mstart : Int) (ns : List Note) (ev : List Int) (e : XErr) :
    melLoop fd ip gap mstart ns ev = .error e →
      e = .badNoteError ∨ e = .valueError ∨ e = .polyphonicMelodyError := by
  fun_induction melLoop fd ip gap mstart ns ev
  case case4 hadd | case11 hadd => rintro ⟨⟩; exact .inl (addNote_error hadd)
  -- every other branch is a recursive call, a literal error or a value
  all_goals first | assumption | (intro h; cases h <;> simp)

/-- what the melody keeps, for notes in an order `R` that implies start-step order: onsets strictly
increase; every note up to the last kept onset shares its onset with a kept note that is itself or listed earlier;
every later note starts `gap` steps or more after the last kept note's end -/
theorem keptFrom_spec {R : Note → Note → Prop} (hR : ∀ a b, R a b → a.qs ≤ b.qs) (gap : Int) :
    ∀ (ns : List Note) (k last : Note), (k :: ns).Pairwise R →
    (k :: keptFrom gap k ns).getLast? = some last →
    (k :: keptFrom gap k ns).Pairwise (fun a b => a.qs < b.qs) ∧ k.qs ≤ last.qs ∧
    ∀ n ∈ ns, (last.qs < n.qs → gap ≤ n.qs - last.qe) ∧
      (n.qs ≤ last.qs → ∃ x ∈ k :: keptFrom gap k ns, x.qs = n.qs ∧ (x = n ∨ R x n)) := by
  intro ns k
  fun_induction keptFrom gap k ns with
  | case1 k =>
    intro last _ hl
    simp only [List.getLast?_singleton, Option.some.injEq] at hl
    subst hl
    exact ⟨by simp, Int.le_refl _, by simp⟩
  | case2 k n ns heq ih =>
    intro last hs hl
    obtain ⟨hinc, hge, hall⟩ := ih last (pairwise_skip hs) hl
    exact ⟨hinc, hge, List.forall_mem_cons.mpr ⟨⟨fun _ => by omega, fun _ => ⟨k, List.mem_cons_self .., heq.symm,
      .inr ((List.pairwise_cons.mp hs).1 n (List.mem_cons_self ..))⟩⟩, hall⟩⟩
  | case3 k n ns hne hg =>
    intro last hs hl
    simp only [List.getLast?_singleton, Option.some.injEq] at hl
    subst hl
    rw [List.pairwise_cons] at hs
    refine ⟨by simp, Int.le_refl _, fun n' hn' => ?_⟩
    have hkn := hR _ _ (hs.1 n (List.mem_cons_self ..))
    have : n.qs ≤ n'.qs := by
      rcases List.mem_cons.mp hn' with rfl | h
      · omega
      · exact hR _ _ ((List.pairwise_cons.mp hs.2).1 n' h)
    exact ⟨fun _ => by omega, fun _ => by omega⟩
  | case4 k n ns hne hg ih =>
    intro last hs hl
    rw [List.pairwise_cons] at hs
    rw [List.getLast?_cons_cons] at hl
    obtain ⟨hinc, hge, hall⟩ := ih last hs.2 hl
    have hkn := hR _ _ (hs.1 n (List.mem_cons_self ..))
    refine ⟨List.pairwise_cons.mpr ⟨List.forall_mem_cons.mpr ⟨by omega, fun x hx => ?_⟩, hinc⟩, by omega,
      List.forall_mem_cons.mpr ⟨⟨fun _ => by omega, fun _ => ⟨n, by simp, rfl, .inl rfl⟩⟩, fun n' h => ?_⟩⟩
    · have := (List.pairwise_cons.mp hinc).1 x hx; omega
    · refine ⟨(hall n' h).1, fun hle => ?_⟩
      obtain ⟨x, hx, hxq⟩ := (hall n' h).2 hle
      exact ⟨x, List.mem_cons_of_mem _ hx, hxq⟩

end NSV.C07

import NoteSeqVerif.Proofs.C06PAnnot
/-! C06 (performance half) — the renderer's integer part (`decLoop`, per-pitch dict of FIFO queues) against the
annotator (`anStep`, one list of open notes): on every event list it does not raise on, `_to_sequence` adds one note per
NOTE_OFF that finds an open note of its pitch and ends after it started, in NOTE_OFF order, from the FIFO-matched
NOTE_ON's step to the NOTE_OFF's step, with the velocity in force at the NOTE_ON (`decLoop_sim`); when every
note closes after it started that is every NOTE_OFF (`decodeEvents_annot`).  Core Lean only. -/
namespace NSV.C06P
open NSV.C07

/-- velocity of a NOTE_ON under bin `b` in force (`0` = no VELOCITY event yet: the `velocity` argument) -/
def velOf (nb v0 b : Int) : Int := if b = 0 then v0 else C07.Gen.velocityBinToVelocity b nb

/-- the note a NOTE_OFF event closes -/
def noteOfOff (nb v0 : Int) (a : AEv) : RNote := ⟨a.pitch, a.s, a.step, velOf nb v0 a.bin⟩

def projOpen (nb v0 : Int) (l : List OpenE) : List (Int × Int) := l.map (fun o => (o.s, velOf nb v0 o.bin))

def openOf (l : List OpenE) (p : Int) : List OpenE := l.filter (fun o => o.pitch == p)

theorem openOf_append (l : List OpenE) (o : OpenE) (q : Int) :
    openOf (l ++ [o]) q = if o.pitch = q then openOf l q ++ [o] else openOf l q := by
  unfold openOf
  by_cases h : o.pitch = q
  · simp [List.filter_append, h]
  · simp [List.filter_append, h]

theorem openOf_find_none (l : List OpenE) (p : Int) (h : l.find? (fun o => o.pitch == p) = none) :
    openOf l p = [] := by
  unfold openOf
  rw [List.filter_eq_nil_iff]
  intro o ho
  exact List.find?_eq_none.mp h o ho

theorem openOf_find_some (l : List OpenE) (p : Int) (o : OpenE) (h : l.find? (fun o => o.pitch == p) = some o) :
    openOf l p = o :: openOf (l.eraseP (fun o => o.pitch == p)) p ∧
    ∀ q, q ≠ p → openOf (l.eraseP (fun o => o.pitch == p)) q = openOf l q := by
  obtain ⟨ho, l₁, l₂, rfl, h₁, he⟩ := find?_split h
  have hop : o.pitch = p := by simpa using ho
  rw [he]
  unfold openOf
  refine ⟨?_, fun q hq => ?_⟩
  · have : l₁.filter (fun o => o.pitch == p) = [] := List.filter_eq_nil_iff.mpr h₁
    simp only [List.filter_append, this, List.filter_cons, ho, ↓reduceIte, List.nil_append]
  · have hoq : (o.pitch == q) = false := by simpa [hop] using fun h => hq h.symm
    simp only [List.filter_append, List.filter_cons, hoq, Bool.false_eq_true, ↓reduceIte]

/-- the renderer's dict and the annotator's one list hold the same open notes: under key `p` the open notes of pitch
`p`, oldest first, as `(start step, velocity)`; a pitch without a key has none (a key may hold `[]`) -/
structure TabRel (nb v0 : Int) (tab : Tab) (open_ : List OpenE) : Prop where
  keys : tab.Pairwise (fun a b => a.1 ≠ b.1)
  vals : ∀ e ∈ tab, e.2 = projOpen nb v0 (openOf open_ e.1)
  absent : ∀ p, (∀ e ∈ tab, e.1 ≠ p) → openOf open_ p = []

theorem tabGet_rel {nb v0 : Int} {tab : Tab} {open_ : List OpenE} (h : TabRel nb v0 tab open_) (p : Int) :
    tabGet tab p = projOpen nb v0 (openOf open_ p) := by
  unfold tabGet
  cases hf : tab.find? (fun e => e.1 == p) with
  | none =>
    have : ∀ e ∈ tab, e.1 ≠ p := by
      intro e he
      have := List.find?_eq_none.mp hf e he
      simpa using this
    simp only [h.absent p this, projOpen, List.map_nil]
  | some e =>
    have he : e ∈ tab := List.mem_of_find?_eq_some hf
    have hp : e.1 = p := by have := List.find?_some hf; simpa using this
    simp only [h.vals e he, hp]

theorem setKey_fst (p : Int) (l : List (Int × Int)) (e : Int × List (Int × Int)) :
    (if e.1 == p then (p, l) else e).1 = e.1 := by
  by_cases h : e.1 = p
  · simp [h]
  · simp [h]

theorem tabSet_rel {nb v0 : Int} {tab : Tab} {open_ open' : List OpenE} (h : TabRel nb v0 tab open_) (p : Int)
    (l : List (Int × Int)) (hl : l = projOpen nb v0 (openOf open' p))
    (hother : ∀ q, q ≠ p → openOf open' q = openOf open_ q) : TabRel nb v0 (tabSet tab p l) open' := by
  unfold tabSet
  by_cases hany : tab.any (fun e => e.1 == p) = true
  · simp only [hany, ↓reduceIte]
    refine ⟨?_, ?_, ?_⟩
    · rw [List.pairwise_map]
      exact h.keys.imp fun hab => by rwa [setKey_fst, setKey_fst]
    · intro e he
      obtain ⟨e0, he0, rfl⟩ := List.mem_map.mp he
      by_cases ha : e0.1 = p
      · simp [ha, hl]
      · simp only [beq_iff_eq, ha, ↓reduceIte]
        rw [h.vals e0 he0, hother e0.1 ha]
    · intro q hq
      have hq' : ∀ e0 ∈ tab, e0.1 ≠ q := fun e0 he0 => by
        have := hq _ (List.mem_map.mpr ⟨e0, he0, rfl⟩)
        rwa [setKey_fst] at this
      have hqp : q ≠ p := by
        obtain ⟨e0, he0, hp0⟩ := List.any_eq_true.mp hany
        have hp0' : e0.1 = p := by simpa using hp0
        exact fun h => hq' e0 he0 (hp0'.trans h.symm)
      rw [hother q hqp]
      exact h.absent q hq'
  · simp only [hany, Bool.false_eq_true, ↓reduceIte]
    have hnone : ∀ e ∈ tab, e.1 ≠ p := by
      intro e he hp
      exact hany (List.any_eq_true.mpr ⟨e, he, by simp [hp]⟩)
    refine ⟨?_, ?_, ?_⟩
    · rw [List.pairwise_append]
      refine ⟨h.keys, by simp, ?_⟩
      intro a ha b hb
      simp only [List.mem_singleton] at hb
      subst hb
      exact hnone a ha
    · intro e he
      simp only [List.mem_append, List.mem_singleton] at he
      rcases he with he | rfl
      · rw [h.vals e he, hother e.1 (hnone e he)]
      · exact hl
    · intro q hq
      have hqp : q ≠ p := by
        have := hq (p, l) (by simp)
        exact fun h => this h.symm
      rw [hother q hqp]
      exact h.absent q (fun e he => hq e (List.mem_append_left _ he))

/-- the NOTE_OFFs `_to_sequence` makes a note of: those that end after they start ('Ignoring note with zero
duration') -/
def posOffs (st : AnState) : List AEv := st.offs.filter (fun a => a.s != a.step)

theorem posOffs_on (st : AnState) (e : SEv) (h : e.isOff = false) : posOffs (anStep st e) = posOffs st := by
  rw [posOffs, anStep_on_offs st e h]; rfl

theorem posOffs_off (st : AnState) (e : SEv) (o : OpenE) (h : e.isOff = true)
    (hf : st.open_.find? (fun o => o.pitch == e.pitch) = some o) :
    posOffs (anStep st e) =
      if o.s = e.step then posOffs st else posOffs st ++ [⟨e.step, o.idx, true, e.pitch, o.s, o.bin⟩] := by
  rw [posOffs, anStep_off_offs st e o h hf, List.filter_append]
  by_cases hz : o.s = e.step <;> simp [posOffs, hz]

/-- renderer and annotator after the same events -/
structure DRel (nb v0 : Int) (st : AnState) (d : DState) : Prop where
  out : d.out = (posOffs st).map (noteOfOff nb v0)
  tab : TabRel nb v0 d.tab st.open_

theorem DRel.init (nb v0 : Int) : DRel nb v0 ⟨0, [], [], true⟩ ⟨0, v0, [], []⟩ :=
  ⟨rfl, ⟨by simp, by intro e he; simp at he, by intro p _; rfl⟩⟩

def PosLen (out : List AEv) : Prop := ∀ a ∈ out, a.isOff = true → a.s < a.step

/-- the events `_to_sequence` does not raise on: they pass the `PerformanceEvent` validator, none is a DURATION
event ('Unknown event type'), and without velocity bins none is a VELOCITY event (`assert self._num_velocity_bins`) -/
def KindsOk (nb : Int) (evs : List PEvent) : Prop :=
  ∀ x ∈ evs, x.valid = true ∧ (∀ v, x ≠ PEvent.duration v) ∧ (nb = 0 → ∀ b, x ≠ PEvent.velocity b)

/-- **the renderer's loop follows the annotator** on every event list it does not raise on, accepted or not: a
NOTE_OFF without an open note of its pitch only creates the dict key (the annotator only clears `ok`), a note of zero
length is dropped (`posOffs`) -/
theorem decLoop_sim (nb v0 : Int) : ∀ (evs : List PEvent) (bin : Int) (st : AnState) (d : DState),
    DRel nb v0 st d → d.vel = velOf nb v0 bin → KindsOk nb evs →
    ∃ d', decLoop nb d evs = .ok d' ∧ DRel nb v0 (anRun st (stream d.step bin evs)) d' := by
  intro evs
  induction evs with
  | nil => intro bin st d hrel _ _; exact ⟨d, rfl, hrel⟩
  | cons x r ih =>
    intro bin st d hrel hvel hev
    have hev' := fun y hy => hev y (List.mem_cons_of_mem _ hy)
    obtain ⟨hvalid, hnodur, hnovel⟩ := hev _ (List.mem_cons_self ..)
    cases x with
    | timeShift v => exact ih bin st { d with step := d.step + v } ⟨hrel.out, hrel.tab⟩ hvel hev'
    | duration v => exact absurd rfl (hnodur v)
    | velocity b =>
      have hnb : ¬ nb = 0 := fun h0 => hnovel h0 b rfl
      have hb : 1 ≤ b := by
        simp only [PEvent.valid, Bool.and_eq_true, decide_eq_true_eq] at hvalid
        exact hvalid.1
      obtain ⟨d', h1, h2⟩ := ih b st { d with vel := C07.Gen.velocityBinToVelocity b nb } ⟨hrel.out, hrel.tab⟩
        (by simp only [velOf]; rw [if_neg (by omega)]) hev'
      exact ⟨d', by simp only [decLoop, decStep, hnb, ↓reduceIte]; exact h1, h2⟩
    | noteOn p =>
      -- joins the queue of its pitch
      refine ih bin _ { d with tab := tabSet d.tab p (tabGet d.tab p ++ [(d.step, d.vel)]) }
        ⟨by rw [posOffs_on st _ rfl]; exact hrel.out, ?_⟩ hvel hev'
      rw [anStep_on st _ rfl]
      apply tabSet_rel hrel.tab p
      · rw [tabGet_rel hrel.tab p, openOf_append]
        simp only [↓reduceIte, projOpen, List.map_append, List.map_cons, List.map_nil, hvel]
      · intro q hq
        rw [openOf_append, if_neg (fun h => hq h.symm)]
    | noteOff p =>
      simp only [stream, anRun_cons, decLoop, decStep]
      cases hf : st.open_.find? (fun o => o.pitch == p) with
      | none =>
        have hnil := openOf_find_none st.open_ p hf
        rw [tabGet_rel hrel.tab p, hnil]
        refine ih bin _ { d with tab := tabSet d.tab p [] } ⟨?_, ?_⟩ hvel hev' <;>
          rw [anStep_off_none st ⟨d.step, true, p, 0⟩ rfl hf]
        · exact hrel.out
        · exact tabSet_rel hrel.tab p [] (by rw [hnil]; rfl) (fun _ _ => rfl)
      | some o =>
        -- the oldest open note of the pitch is at the head of the pitch's queue
        obtain ⟨hsplit, hothers⟩ := openOf_find_some st.open_ p o hf
        have htab : TabRel nb v0 (tabSet d.tab p (projOpen nb v0 (openOf (st.open_.eraseP (fun o => o.pitch == p)) p)))
            (anStep st ⟨d.step, true, p, 0⟩).open_ := by
          rw [anStep_off_some st ⟨d.step, true, p, 0⟩ o rfl hf]
          exact tabSet_rel hrel.tab p _ rfl hothers
        have hpo := posOffs_off st ⟨d.step, true, p, 0⟩ o rfl hf
        rw [tabGet_rel hrel.tab p, hsplit]
        simp only [projOpen, List.map_cons]
        by_cases hz : d.step = o.s
        · rw [if_pos hz]
          refine ih bin _ _ ⟨?_, htab⟩ hvel hev'
          rw [hpo, if_pos hz.symm]; exact hrel.out
        · rw [if_neg hz]
          refine ih bin _ _ ⟨?_, htab⟩ hvel hev'
          rw [hpo, if_neg (fun h => hz h.symm), List.map_append, ← hrel.out]; rfl

/-- **what `_to_sequence` adds** for an event list whose notes all close, each after it started: one note per
NOTE_OFF, in NOTE_OFF order -/
theorem decodeEvents_annot (nb v0 : Int) (evs : List PEvent) (hev : KindsOk nb evs)
    (hopen : (annotate (stream 0 0 evs)).open_ = []) (hpos : PosLen (annotate (stream 0 0 evs)).out) :
    decodeEvents nb v0 evs = .ok ((annotate (stream 0 0 evs)).offs.map (noteOfOff nb v0)) := by
  obtain ⟨d', h1, h2⟩ := decLoop_sim nb v0 evs 0 ⟨0, [], [], true⟩ ⟨0, v0, [], []⟩ (DRel.init nb v0)
    (by simp [velOf]) hev
  unfold decodeEvents
  rw [h1]
  simp only
  -- no note is left open, so every queue of the dict is empty
  have hclose : closeOpen d'.step d'.tab = [] := by
    unfold closeOpen
    rw [List.flatMap_eq_nil_iff]
    intro e he
    have := h2.tab.vals e he
    rw [← annotate_eq, hopen] at this
    simp only [openOf, List.filter_nil, projOpen, List.map_nil] at this
    simp [this]
  have hall : posOffs (annotate (stream 0 0 evs)) = (annotate (stream 0 0 evs)).offs :=
    List.filter_eq_self.mpr fun a ha => by
      have := hpos a (List.mem_filter.mp ha).1 (List.mem_filter.mp ha).2
      simp only [bne_iff_ne, ne_eq]; omega
  rw [hclose, List.append_nil, h2.out, ← annotate_eq, hall]

end NSV.C06P

import Mathlib.Tactic.Linarith
import Mathlib.Tactic.Ring
import Mathlib.Tactic.Positivity
import Mathlib.Tactic.NormNum
import Mathlib.Tactic.FieldSimp
import Mathlib.Algebra.Order.Field.Rat
import Mathlib.Algebra.Order.Ring.Abs
/-! The error calculus of the float layer.

`Near p n a' a`: `a'` is `a` up to `n` roundings of precision `p`.  `RelErr p R` is all the calculus asks of a
rounding operator `R` (`RoundingP p R` and `C18.Rounding R` both give it).  `NearN p n a' a` adds that the exact
value `a` is non-negative; its operations (`lit`, `of`, `rnd`, `add`, `mul`, `div`) then need no sign condition on
intermediate values, so a float expression is proved near its exact value by a term of the expression's shape:
`R (b + R (c * x))` is `((lit hb).add (((lit hc).mul (lit hx)).rnd hR)).rnd hR`.  `NearN.abs_le` reads the result as
a relative error bound. -/
namespace NSV

/-- `a'` approximates `a` within `n` roundings of precision `p`:
`a·w^n ≤ a'` and `a'·w^n ≤ a` where `w = 1 - 2^-p` -/
def Near (p n : ℕ) (a' a : ℚ) : Prop :=
  a * (1 - 1 / 2 ^ p) ^ n ≤ a' ∧ a' * (1 - 1 / 2 ^ p) ^ n ≤ a

/-- relative error `2^-p` on non-negative arguments -/
def RelErr (p : ℕ) (R : ℚ → ℚ) : Prop :=
  ∀ a, 0 ≤ a → a * (1 - 1 / 2 ^ p) ≤ R a ∧ R a ≤ a * (1 + 1 / 2 ^ p)

/-- `a'` is the non-negative `a` up to `n` roundings of precision `p` -/
def NearN (p n : ℕ) (a' a : ℚ) : Prop := 0 ≤ a ∧ Near p n a' a

variable {p n m : ℕ} {R : ℚ → ℚ} {a' a b' b : ℚ}

theorem Near.w_nonneg : (0 : ℚ) ≤ 1 - 1 / 2 ^ p :=
  sub_nonneg.mpr ((div_le_one (by positivity)).mpr (one_le_pow₀ (by norm_num)))

theorem Near.w_pos (hp : 1 ≤ p) : (0 : ℚ) < 1 - 1 / 2 ^ p := by
  have : (2 : ℚ) ^ 1 ≤ 2 ^ p := pow_le_pow_right₀ (by norm_num) hp
  have h2 : (0 : ℚ) < 2 ^ p := by positivity
  rw [sub_pos, div_lt_one h2]; linarith

theorem Near.refl (a : ℚ) : Near p 0 a a := by simp [Near]

theorem Near.pos (hp : 1 ≤ p) (h : Near p n a' a) (ha : 0 < a) : 0 < a' :=
  lt_of_lt_of_le (mul_pos ha (pow_pos (Near.w_pos hp) n)) h.1

/-- at a common index sums need no sign condition -/
theorem Near.add_same (h1 : Near p n a' a) (h2 : Near p n b' b) : Near p n (a' + b') (a + b) :=
  ⟨by rw [add_mul]; exact add_le_add h1.1 h2.1, by rw [add_mul]; exact add_le_add h1.2 h2.2⟩

/-- `Near` is symmetric in its two values up to inversion -/
theorem Near.inv (hp : 1 ≤ p) (hb : 0 < b) (h : Near p n b' b) : Near p n b'⁻¹ b⁻¹ := by
  have hb' := h.pos hp hb
  constructor
  · rw [← div_eq_inv_mul, div_le_iff₀ hb, ← div_eq_inv_mul, le_div_iff₀ hb', mul_comm]
    exact h.2
  · rw [← div_eq_inv_mul, div_le_iff₀ hb', ← div_eq_inv_mul, le_div_iff₀ hb, mul_comm]
    exact h.1

theorem Near.abs_le {c : ℚ} (h : Near p n a' a) (ha : 0 < a)
    (hc1 : 1 - c ≤ (1 - 1 / 2 ^ p) ^ n) (hc2 : 1 ≤ (1 + c) * (1 - 1 / 2 ^ p) ^ n)
    (hwn : (0 : ℚ) < (1 - 1 / 2 ^ p) ^ n) : |a' - a| ≤ a * c := by
  unfold Near at h
  generalize ((1 : ℚ) - 1 / 2 ^ p) ^ n = W at *
  rw [_root_.abs_le]
  constructor
  · have := mul_le_mul_of_nonneg_left hc1 ha.le
    linarith only [this, h.1]
  · -- `a' * W ≤ a ≤ a * ((1 + c) * W)`
    have h3 : a' * W ≤ a * (1 + c) * W := by
      rw [mul_assoc]; exact h.2.trans (le_mul_of_one_le_right ha.le hc2)
    linarith only [le_of_mul_le_mul_right h3 hwn]

/-- the two bounds without division: `linarith` clears denominators in every hypothesis at every call, so callers
with several `Near` facts take them in this form -/
theorem Near.clear_denoms (h : Near p n a' a) :
    a * (2 ^ p - 1) ^ n ≤ a' * (2 ^ p) ^ n ∧ a' * (2 ^ p - 1) ^ n ≤ a * (2 ^ p) ^ n := by
  have hY : (0 : ℚ) < (2 ^ p) ^ n := by positivity
  have e : (1 - 1 / 2 ^ p : ℚ) ^ n = (2 ^ p - 1) ^ n / (2 ^ p) ^ n := by
    rw [← div_pow]; congr 1; field_simp
  obtain ⟨h1, h2⟩ := h
  rw [e, ← mul_div_assoc, div_le_iff₀ hY] at h1 h2
  exact ⟨h1, h2⟩

theorem RelErr.nonneg (hR : RelErr p R) (ha : 0 ≤ a) : 0 ≤ R a :=
  (mul_nonneg ha Near.w_nonneg).trans (hR a ha).1

/-- a positive number rounds to a positive number (no underflow in the model) -/
theorem RelErr.pos (hR : RelErr p R) (hp : 1 ≤ p) (ha : 0 < a) : 0 < R a :=
  (mul_pos ha (Near.w_pos hp)).trans_le (hR a ha.le).1

namespace NearN

theorem of (ha : 0 ≤ a) (h : Near p n a' a) : NearN p n a' a := ⟨ha, h⟩

theorem lit (ha : 0 ≤ a) : NearN p 0 a a := ⟨ha, Near.refl a⟩

theorem nonneg (h : NearN p n a' a) : 0 ≤ a' :=
  (mul_nonneg h.1 (pow_nonneg Near.w_nonneg n)).trans h.2.1

theorem mono (h : NearN p n a' a) (hnm : n ≤ m) : NearN p m a' a := by
  have hw : ((1 : ℚ) - 1 / 2 ^ p) ^ m ≤ (1 - 1 / 2 ^ p) ^ n :=
    pow_le_pow_of_le_one Near.w_nonneg (sub_le_self _ (by positivity)) hnm
  exact ⟨h.1, (mul_le_mul_of_nonneg_left hw h.1).trans h.2.1,
    (mul_le_mul_of_nonneg_left hw h.nonneg).trans h.2.2⟩

theorem rnd (hR : RelErr p R) (h : NearN p n a' a) : NearN p (n + 1) (R a') a := by
  have ha' := h.nonneg
  obtain ⟨ha, h1, h2⟩ := h
  have hw := Near.w_nonneg (p := p)
  have hwn := pow_nonneg hw n
  obtain ⟨b1, b2⟩ := hR a' ha'
  refine ⟨ha, ?_, ?_⟩ <;> rw [pow_succ]
  · exact (mul_assoc a _ _).ge.trans ((mul_le_mul_of_nonneg_right h1 hw).trans b1)
  · -- `(1 + u)(1 - u) ≤ 1` absorbs the upward error of this rounding
    calc R a' * ((1 - 1 / 2 ^ p) ^ n * (1 - 1 / 2 ^ p))
        ≤ a' * (1 + 1 / 2 ^ p) * ((1 - 1 / 2 ^ p) ^ n * (1 - 1 / 2 ^ p)) :=
          mul_le_mul_of_nonneg_right b2 (mul_nonneg hwn hw)
      _ = a' * (1 - 1 / 2 ^ p) ^ n * (1 - 1 / 2 ^ p * (1 / 2 ^ p)) := by ring
      _ ≤ a' * (1 - 1 / 2 ^ p) ^ n :=
          mul_le_of_le_one_right (mul_nonneg ha' hwn) (sub_le_self _ (mul_self_nonneg _))
      _ ≤ a := h2

/-- the error index of a sum is the larger of the two, not their sum -/
theorem add (h1 : NearN p n a' a) (h2 : NearN p m b' b) : NearN p (max n m) (a' + b') (a + b) :=
  ⟨add_nonneg h1.1 h2.1, (h1.mono (le_max_left n m)).2.add_same (h2.mono (le_max_right n m)).2⟩

theorem mul (h1 : NearN p n a' a) (h2 : NearN p m b' b) : NearN p (n + m) (a' * b') (a * b) := by
  have ha' := h1.nonneg
  have hb' := h2.nonneg
  obtain ⟨ha, a1, a2⟩ := h1
  obtain ⟨hb, b1, b2⟩ := h2
  have hwm := pow_nonneg (Near.w_nonneg (p := p)) m
  refine ⟨mul_nonneg ha hb, ?_, ?_⟩ <;> rw [pow_add]
  · exact (mul_mul_mul_comm a b _ _).le.trans (mul_le_mul a1 b1 (mul_nonneg hb hwm) ha')
  · exact (mul_mul_mul_comm a' b' _ _).le.trans (mul_le_mul a2 b2 (mul_nonneg hb' hwm) ha)

theorem div (hp : 1 ≤ p) (h1 : NearN p n a' a) (h2 : NearN p m b' b) (hb : 0 < b) :
    NearN p (n + m) (a' / b') (a / b) := by
  rw [div_eq_mul_inv, div_eq_mul_inv]
  exact h1.mul ⟨inv_nonneg.mpr hb.le, h2.2.inv hp hb⟩

theorem bernoulli {u : ℚ} (h0 : 0 ≤ u) (h1 : u ≤ 1) (n : ℕ) : 1 - (n : ℚ) * u ≤ (1 - u) ^ n := by
  induction n with
  | zero => simp
  | succ n ih =>
    have := mul_le_mul_of_nonneg_right ih (sub_nonneg.mpr h1)
    rw [pow_succ]
    push_cast
    nlinarith [mul_nonneg (mul_nonneg (Nat.cast_nonneg (α := ℚ) n) h0) h0]

/-- read as a relative error: `N` roundings cost at most `(N + 1)·2^-p`, for `N (N + 1) ≤ 2^p` -/
theorem abs_le (hp : 1 ≤ p) {N : ℕ} (h : NearN p N a' a) (hN : N * (N + 1) ≤ 2 ^ p) :
    |a' - a| ≤ a * (((N : ℚ) + 1) * (1 / 2 ^ p)) := by
  obtain ⟨ha, h⟩ := h
  have hwN := pow_pos (Near.w_pos hp) N
  rcases ha.lt_or_eq with h0 | h0
  · obtain ⟨u, hu⟩ : ∃ u : ℚ, u = 1 / 2 ^ p := ⟨_, rfl⟩
    have hu0 : 0 < u := by rw [hu]; positivity
    have hu1 : u ≤ 1 := by rw [hu]; exact (div_le_one (by positivity)).mpr (one_le_pow₀ (by norm_num))
    have hNq : (N : ℚ) * ((N : ℚ) + 1) * u ≤ 1 := by
      rw [hu, mul_one_div, div_le_one (by positivity)]; exact_mod_cast hN
    have hb := bernoulli hu0.le hu1 N
    rw [← hu]
    refine h.abs_le h0 ?_ ?_ hwN <;> rw [← hu]
    · linarith only [hb, hu0]
    · -- `(1 + (N+1)u)(1 - Nu) = 1 + u(1 - N(N+1)u) ≥ 1`
      have h1 := mul_le_mul_of_nonneg_left hb (show 0 ≤ 1 + ((N : ℚ) + 1) * u by positivity)
      have h3 := mul_nonneg hu0.le (sub_nonneg.mpr hNq)
      linarith only [h1, h3, show (1 + ((N : ℚ) + 1) * u) * (1 - (N : ℚ) * u) =
          1 + u * (1 - (N : ℚ) * ((N : ℚ) + 1) * u) by ring]
  · subst h0
    have : a' = 0 := le_antisymm (le_of_mul_le_mul_right (by rw [zero_mul]; exact h.2) hwN)
      (by simpa using h.1)
    simp [this]

end NearN

/-- `k ↦ k·(1/fps) ↦ ·fps`: three roundings away from `k` (any `k ≥ 0`, any `fps > 0`) -/
theorem grid_chain (hR : RelErr p R) (hp : 1 ≤ p) {k fps : ℚ} (hk : 0 ≤ k) (hfps : 0 < fps) :
    NearN p 3 (R (R (k * R (1 / fps)) * fps)) k := by
  have lf : NearN p 0 fps fps := .lit hfps.le
  have h := ((((NearN.lit hk).mul (((NearN.lit zero_le_one).div hp lf hfps).rnd hR)).rnd hR).mul lf).rnd hR
  rwa [show k * (1 / fps) * fps = k by field_simp] at h

end NSV

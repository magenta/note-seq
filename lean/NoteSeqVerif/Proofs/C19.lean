import Mathlib.Order.Defs.LinearOrder
import NoteSeqVerif.Model.C19
import NoteSeqVerif.Proofs.Lib
/-! C19 — lemmas behind `Props/C19.lean`.  Optimality is two inductions: along any state path the
accumulated score never exceeds the `fwd` entry of the state reached (`scoreFrom_le`, the one place
where left-monotonicity is used), and back-tracking rebuilds a path that scores exactly the entry it
starts from (`backRev_spec`).  The rest are structural facts about the two writers,
`sequence_note_frames` and the chord tables. -/
namespace NSV.C19

section Generic
variable {S : Type} [LinearOrder S]

theorem argmaxLoop_spec (f : Nat → S) : ∀ (k i b : Nat) (vb : S), vb = f b → b < i →
    (∀ x, x < i → f x ≤ f b) → (∀ x, x < b → f x < f b) →
    let r := argmaxLoop f k i b vb
    r < i + k ∧ (∀ x, x < i + k → f x ≤ f r) ∧ (∀ x, x < r → f x < f r)
  | 0, i, b, vb, _, hb, hle, hlt => by
      simp only [argmaxLoop, Nat.add_zero]; exact ⟨hb, hle, hlt⟩
  | k + 1, i, b, vb, hv, hb, hle, hlt => by
      simp only [argmaxLoop]
      split
      · rename_i h
        subst hv
        have := argmaxLoop_spec f k (i + 1) i (f i) rfl (Nat.lt_succ_self i)
          (fun x hx => by
            rcases Nat.lt_succ_iff_lt_or_eq.mp hx with h1 | h1
            · exact le_of_lt (lt_of_le_of_lt (hle x h1) h)
            · subst h1; exact le_refl _)
          (fun x hx => lt_of_le_of_lt (hle x hx) h)
        simpa [Nat.add_assoc, Nat.add_comm 1 k] using this
      · rename_i h
        have := argmaxLoop_spec f k (i + 1) b vb hv (Nat.lt_succ_of_lt hb)
          (fun x hx => by
            rcases Nat.lt_succ_iff_lt_or_eq.mp hx with h1 | h1
            · exact hle x h1
            · subst h1; subst hv; exact not_lt.mp h)
          hlt
        simpa [Nat.add_assoc, Nat.add_comm 1 k] using this

theorem argmaxIdx_spec (f : Nat → S) (n : Nat) (hn : 0 < n) :
    argmaxIdx f n < n ∧ (∀ x, x < n → f x ≤ f (argmaxIdx f n)) ∧
      (∀ x, x < argmaxIdx f n → f x < f (argmaxIdx f n)) := by
  obtain ⟨n, rfl⟩ := Nat.exists_eq_succ_of_ne_zero (Nat.ne_of_gt hn)
  have := argmaxLoop_spec f n 1 0 (f 0) rfl (by omega) (fun x hx => by
      have : x = 0 := by omega
      subst this; exact le_refl _) (fun x hx => by omega)
  simpa [argmaxIdx, Nat.add_comm 1 n] using this

theorem argmaxIdx_lt (f : Nat → S) (n : Nat) (h : 0 < n) : argmaxIdx f n < n :=
  (argmaxIdx_spec f n h).1

theorem le_argmaxIdx (f : Nat → S) (n i : Nat) (h : i < n) : f i ≤ f (argmaxIdx f n) :=
  (argmaxIdx_spec f n (Nat.zero_lt_of_lt h)).2.1 i h

variable (add : S → S → S)

/-- the only property of the score combination that Viterbi needs -/
def Mono : Prop := ∀ a a' b : S, a ≤ a' → add a b ≤ add a' b

omit [LinearOrder S] in
theorem scoreFrom_append (T : Tables S) : ∀ (l : List Nat) (acc : S) (prev t j : Nat),
    scoreFrom add T acc prev t (l ++ [j]) =
      add (add (scoreFrom add T acc prev t l) (T.trans (l.getLastD prev) j)) (T.emit (t + l.length) j)
  | [], acc, prev, t, j => by simp [scoreFrom]
  | x :: l, acc, prev, t, j => by
      simp only [List.cons_append, scoreFrom, List.getLastD_cons, List.length_cons]
      rw [scoreFrom_append T l]
      congr 2; omega

/-- an accumulated score that is at most `loglik_matrix[t, prev]` is, after the rest of the path,
at most the entry of the state the path ends in: each step is `Mono` twice (transition, emission)
around the row maximum taken by `argmaxIdx` -/
theorem scoreFrom_le (hm : Mono add) (T : Tables S) : ∀ (rest : List Nat) (acc : S) (prev t : Nat),
    (∀ s ∈ prev :: rest, s < T.n) → acc ≤ fwd add T t prev →
    scoreFrom add T acc prev (t + 1) rest ≤ fwd add T (t + rest.length) (rest.getLastD prev)
  | [], acc, prev, t, _, h => h
  | j :: rest, acc, prev, t, hs, h => by
      rw [scoreFrom, List.getLastD_cons, List.length_cons, Nat.add_left_comm, Nat.add_comm rest.length]
      exact scoreFrom_le hm T rest _ j (t + 1) (fun s hs' => hs s (List.mem_cons_of_mem _ hs'))
        (hm _ _ _ (le_trans (hm _ _ _ h)
          (le_argmaxIdx (fun i => add (fwd add T t i) (T.trans i j)) T.n prev (hs prev List.mem_cons_self))))

/-- back-tracking from `(t, j)`, read forwards, is a path `h :: tl` that ends in `j` and scores
exactly `loglik_matrix[t, j]`: `bp` is by definition the index the forward pass took its value from -/
theorem backRev_spec (T : Tables S) : ∀ t j, ∃ h tl, (backRev add T t j).reverse = h :: tl ∧
    tl.getLastD h = j ∧ tl.length = t ∧ scoreFrom add T (T.init h) h 1 tl = fwd add T t j
  | 0, j => ⟨j, [], by simp [backRev, scoreFrom, fwd]⟩
  | t + 1, j => by
      obtain ⟨h, tl, e1, e2, e3, e4⟩ := backRev_spec T t (bp add T t j)
      refine ⟨h, tl ++ [j], by simp [backRev, e1], by simp, by simp [e3], ?_⟩
      rw [scoreFrom_append, e4, e2, e3]
      simp only [fwd, bp, Nat.add_comm 1 t]

theorem backRev_length (T : Tables S) : ∀ t j, (backRev add T t j).length = t + 1
  | 0, j => by simp [backRev]
  | t + 1, j => by simp [backRev, backRev_length T t]

theorem backRev_states (T : Tables S) : ∀ t j, j < T.n → ∀ s ∈ backRev add T t j, s < T.n
  | 0, j, hj, s, hs => by simp [backRev] at hs; omega
  | t + 1, j, hj, s, hs => by
      simp only [backRev, List.mem_cons] at hs
      rcases hs with h | h
      · omega
      · exact backRev_states T t _ (argmaxIdx_lt _ _ (Nat.zero_lt_of_lt hj)) s h

theorem viterbiRev_states (T : Tables S) (hn : 0 < T.n) (frames : Nat) :
    ∀ s ∈ (viterbiRev add T frames).reverse, s < T.n := by
  intro s hs
  exact backRev_states add T _ _ (argmaxIdx_lt _ _ hn) s (List.mem_reverse.mp hs)

theorem score_viterbi (T : Tables S) (frames : Nat) :
    score add T (viterbiRev add T frames).reverse = some (optimum add T frames) := by
  obtain ⟨h, tl, e1, _, _, e4⟩ := backRev_spec add T (frames - 1) (argmaxIdx (fwd add T (frames - 1)) T.n)
  simp only [viterbiRev, e1, score, e4, optimum]

theorem score_le_optimum (hm : Mono add) (T : Tables S) (frames : Nat) (p : List Nat)
    (hp : p.length = frames) (hs : ∀ s ∈ p, s < T.n) (v : S) (hv : score add T p = some v) :
    v ≤ optimum add T frames := by
  cases p with
  | nil => simp [score] at hv
  | cons j rest =>
    cases Option.some.inj hv
    have hle := scoreFrom_le add hm T rest (T.init j) j 0 hs (le_refl _)
    rw [show 0 + rest.length = frames - 1 by rw [← hp, Nat.zero_add]; rfl] at hle
    exact le_trans hle (le_argmaxIdx (fwd add T (frames - 1)) _ _ (hs _ List.getLastD_mem_cons))

/-! ## stored rows = equations -/
omit [LinearOrder S] in
theorem look_tab {α : Type} (n : Nat) (f : Nat → α) : look (tab n f) f = f := by
  funext i
  unfold look tab
  split
  · simp
  · rfl

theorem fwdExec_eq (T : Tables S) : ∀ t, fwdExec add T t =
    (tab T.n (fwd add T t), (List.range t).reverse.map fun s => tab T.n (bp add T s))
  | 0 => by simp [fwdExec, fwdCore, fwd]
  | t + 1 => by
      have ih := fwdExec_eq T t
      simp only [fwdExec] at ih ⊢
      simp only [fwdCore, ih, look_tab, List.range_succ, List.reverse_append,
        List.reverse_cons, List.reverse_nil, List.nil_append, List.cons_append, List.map_cons]
      rfl

theorem backExec_eq (T : Tables S) : ∀ t j,
    backExec add T t ((List.range t).reverse.map fun s => tab T.n (bp add T s)) j = backRev add T t j
  | 0, j => by simp [backExec, backRev]
  | t + 1, j => by
      simp only [List.range_succ, List.reverse_append, List.reverse_cons, List.reverse_nil,
        List.nil_append, List.cons_append, List.map_cons, backExec, look_tab, backRev,
        backExec_eq T t]

/-! ## −∞ never lies on a path of finite score -/
omit [LinearOrder S] in
theorem scoreFrom_ne_bot (T : Tables S) (bot : S) (hL : ∀ b, add bot b = bot) (hR : ∀ a, add a bot = bot) :
    ∀ (rest : List Nat) (acc : S) (prev t : Nat), scoreFrom add T acc prev t rest ≠ bot →
      acc ≠ bot ∧ stepsFinite T bot prev t rest
  | [], acc, prev, t, h => ⟨by simpa [scoreFrom] using h, trivial⟩
  | j :: rest, acc, prev, t, h => by
      simp only [scoreFrom] at h
      obtain ⟨h1, h2⟩ := scoreFrom_ne_bot T bot hL hR rest _ j (t + 1) h
      have he : T.emit t j ≠ bot := fun e => h1 (by rw [e, hR])
      have ha : add acc (T.trans prev j) ≠ bot := fun e => h1 (by rw [e, hL])
      have ht : T.trans prev j ≠ bot := fun e => ha (by rw [e, hR])
      have hc : acc ≠ bot := fun e => ha (by rw [e, hL])
      exact ⟨hc, ht, he, h2⟩

omit [LinearOrder S] in
theorem stepsFinite_emit (T : Tables S) (bot : S) : ∀ (rest : List Nat) (prev t k j : Nat),
    stepsFinite T bot prev t rest → rest[k]? = some j → T.emit (t + k) j ≠ bot
  | [], _, _, _, _, _, h => by simp at h
  | x :: rest, prev, t, 0, j, h, hk => by
      simp only [List.getElem?_cons_zero, Option.some.injEq] at hk
      subst hk; exact h.2.1
  | x :: rest, prev, t, k + 1, j, h, hk => by
      simp only [List.getElem?_cons_succ] at hk
      have := stepsFinite_emit T bot rest x (t + 1) k j h.2.2 hk
      have e : t + (k + 1) = t + 1 + k := by omega
      rw [e]; exact this

/-- the value at the first maximum is the row maximum, so it does not see a permutation of the indices -/
theorem argmax_val_map (f g : Nat → S) {n : Nat} {σ τ : Nat → Nat} (hn : 0 < n)
    (hσ : ∀ i, i < n → σ i < n) (hτ : ∀ i, i < n → τ i < n) (hστ : ∀ i, i < n → σ (τ i) = i)
    (h : ∀ i, i < n → g (σ i) = f i) : g (argmaxIdx g n) = f (argmaxIdx f n) := by
  have hg := argmaxIdx_lt g n hn
  have hf := argmaxIdx_lt f n hn
  apply le_antisymm
  · rw [← hστ _ hg, h _ (hτ _ hg)]; exact le_argmaxIdx f n _ (hτ _ hg)
  · rw [← h _ hf]; exact le_argmaxIdx g n _ (hσ _ hf)

/-- a bijection of the states that preserves the initial row and the transitions and carries
emissions to emissions relabels the whole of `loglik_matrix` (each entry is a row maximum; the
back-pointers, which break ties by index, are not preserved) -/
theorem fwd_map (T T' : Tables S) (σ τ : Nat → Nat) (hn : 0 < T.n) (hn' : T'.n = T.n)
    (hσ : ∀ i, i < T.n → σ i < T.n) (hτ : ∀ i, i < T.n → τ i < T.n) (hστ : ∀ i, i < T.n → σ (τ i) = i)
    (hi : ∀ i, i < T.n → T'.init (σ i) = T.init i)
    (ht : ∀ i j, i < T.n → j < T.n → T'.trans (σ i) (σ j) = T.trans i j)
    (he : ∀ t j, j < T.n → T'.emit t (σ j) = T.emit t j) :
    ∀ t j, j < T.n → fwd add T' t (σ j) = fwd add T t j
  | 0, j, hj => hi j hj
  | t + 1, j, hj => by
      simp only [fwd, hn', he _ j hj]
      exact congrArg (add · _) (argmax_val_map (fun i => add (fwd add T t i) (T.trans i j))
        (fun i => add (fwd add T' t i) (T'.trans i (σ j))) hn hσ hτ hστ fun i h => by
          rw [fwd_map T T' σ τ hn hn' hσ hτ hστ hi ht he t i h, ht i j h hj])

end Generic

theorem rotState_parts (C k : Nat) (rot : Nat → Nat) (hC : 0 < C) (i : Nat)
    (hr : rot (i % C) < C) :
    rotState C k rot i / C = (i / C + k) % 12 ∧ rotState C k rot i % C = rot (i % C) := by
  unfold rotState
  constructor
  · rw [Nat.mul_comm, Nat.mul_add_div hC, Nat.div_eq_of_lt hr, Nat.add_zero]
  · rw [Nat.mul_comm, Nat.mul_add_mod, Nat.mod_eq_of_lt hr]

theorem rotState_lt (C k : Nat) (rot : Nat → Nat) (i : Nat) (hr : rot (i % C) < C) :
    rotState C k rot i < 12 * C := by
  unfold rotState
  have h : (i / C + k) % 12 < 12 := Nat.mod_lt _ (by omega)
  calc (i / C + k) % 12 * C + rot (i % C) < (i / C + k) % 12 * C + C := by omega
    _ = ((i / C + k) % 12 + 1) * C := by rw [Nat.add_mul, Nat.one_mul]
    _ ≤ 12 * C := Nat.mul_le_mul_right _ (by omega)

theorem rotState_inv (C k k' : Nat) (rot rotInv : Nat → Nat) (hC : 0 < C) (hk : (k + k') % 12 = 0)
    (hr : ∀ c, c < C → rot c < C) (hinv : ∀ c, c < C → rotInv (rot c) = c) (i : Nat) (hi : i < 12 * C) :
    rotState C k' rotInv (rotState C k rot i) = i := by
  have hc : i % C < C := Nat.mod_lt _ hC
  obtain ⟨h1, h2⟩ := rotState_parts C k rot hC i (hr _ hc)
  have ha : i / C < 12 := by
    rw [Nat.div_lt_iff_lt_mul hC]; exact hi
  have e : rotState C k' rotInv (rotState C k rot i) =
      ((rotState C k rot i / C + k') % 12) * C + rotInv (rotState C k rot i % C) := rfl
  rw [e, h1, h2, hinv _ hc]
  have key : ∀ a, a < 12 → ((a + k) % 12 + k') % 12 = a := by
    clear hr hinv hi hc h1 h2 ha e
    intro a ha; omega
  have := key _ ha
  rw [this, Nat.mul_comm]
  exact Nat.div_add_mod i C

section MapInj
variable {α β : Type} [BEq α] [LawfulBEq α] [BEq β] [LawfulBEq β] {f : α → β} {s : α → Prop}

theorem contains_map_of_injOn (hinj : ∀ a b, s a → s b → f a = f b → a = b) {l : List α}
    (hl : ∀ a ∈ l, s a) {p : α} (hp : s p) : (l.map f).contains (f p) = l.contains p := by
  rw [Bool.eq_iff_iff, List.contains_iff_mem, List.contains_iff_mem, List.mem_map]
  exact ⟨fun ⟨a, ha, e⟩ => hinj a p (hl a ha) hp e ▸ ha, fun h => ⟨p, h, rfl⟩⟩

/-- `eraseDups` recurses on a filtered tail, hence the induction on a bound for the length -/
theorem eraseDups_map_of_injOn (hinj : ∀ a b, s a → s b → f a = f b → a = b) :
    ∀ (n : Nat) (l : List α), l.length ≤ n → (∀ a ∈ l, s a) → (l.map f).eraseDups = l.eraseDups.map f
  | _, [], _, _ => rfl
  | n + 1, a :: l, hn, hl => by
      have hf : (l.map f).filter (fun b => !b == f a) = (l.filter (fun b => !b == a)).map f := by
        rw [List.filter_map]
        congr 1
        refine List.filter_congr fun x hx => ?_
        have : f x = f a ↔ x = a :=
          ⟨hinj x a (hl x (List.mem_cons_of_mem _ hx)) (hl a List.mem_cons_self), congrArg f⟩
        simp only [Function.comp, Bool.eq_iff_iff.mpr (beq_iff_eq.trans (this.trans beq_iff_eq.symm))]
      rw [List.map_cons, List.eraseDups_cons, List.eraseDups_cons, List.map_cons, hf,
        eraseDups_map_of_injOn hinj n (l.filter (fun b => !b == a))
          (Nat.le_trans (List.length_filter_le _ _) (Nat.le_of_succ_le_succ hn))
          fun x hx => hl x (List.mem_cons_of_mem _ (List.mem_filter.mp hx).1)]

theorem length_filter_eraseDups_map (hinj : ∀ a b, s a → s b → f a = f b → a = b) {l : List α}
    (hl : ∀ a ∈ l, s a) {q : α → Bool} {q' : β → Bool} (hq : ∀ a ∈ l, q' (f a) = q a) :
    ((l.map f).eraseDups.filter q').length = (l.eraseDups.filter q).length := by
  rw [eraseDups_map_of_injOn hinj _ l (Nat.le_refl _) hl, List.filter_map, List.length_map]
  exact congrArg _ (List.filter_congr fun a ha => hq a (List.mem_eraseDups.mp ha))
end MapInj

/-- `_CHORDS` is NO_CHORD followed by every (root, kind), root-major -/
theorem chords_eq : Gen.chords = none :: (List.range (12 * Gen.kindPitches.length)).map fun i =>
    some (i / Gen.kindPitches.length, i % Gen.kindPitches.length) := by decide +kernel

theorem chords_length : Gen.chords.length = 1 + 12 * Gen.kindPitches.length := by
  rw [chords_eq, List.length_cons, List.length_map, List.length_range, Nat.add_comm]

/-- moving up `k` semitones, as a map of pitch classes -/
def rotPc (k p : Nat) : Nat := (p + k) % 12

theorem rotPc_inj (k a b : Nat) (ha : a < 12) (hb : b < 12) (h : rotPc k a = rotPc k b) : a = b := by
  unfold rotPc at h; omega

theorem rotPc_root (k r o : Nat) : ((r + k) % 12 + o) % 12 = rotPc k ((r + o) % 12) := by
  unfold rotPc; omega

theorem keyPcs_rot (k key : Nat) : keyPcs ((key + k) % 12) = (keyPcs key).map (rotPc k) := by
  simp only [keyPcs, List.map_map, Function.comp_def, rotPc_root]

theorem chordPcs_succ (i : Nat) (hi : i < 12 * Gen.kindPitches.length) :
    chordPcs (i + 1) = (Gen.kindPitches[i % Gen.kindPitches.length]?.getD []).map fun o =>
      (i / Gen.kindPitches.length + o) % 12 := by
  unfold chordPcs
  rw [chords_eq, List.getElem?_cons_succ, List.getElem?_map, List.getElem?_range hi]
  simp only [Option.map_some]
  cases Gen.kindPitches[i % Gen.kindPitches.length]? <;> rfl

/-- past NO_CHORD, `rotChord` is `rotState` with the roots in the place of the keys and the kinds in the
place of the chords, so the `rotState_*` lemmas apply to it -/
theorem rotChord_succ (k i : Nat) :
    rotChord k (i + 1) = rotState Gen.kindPitches.length k id i + 1 := by
  simp only [rotChord, rotState, Nat.succ_ne_zero, if_false, Nat.add_sub_cancel, id]; omega

theorem chordPcs_rot (k c : Nat) (hc : c < Gen.chords.length) :
    chordPcs (rotChord k c) = (chordPcs c).map (rotPc k) := by
  cases c with
  | zero => rfl
  | succ i =>
    have hnk : 0 < Gen.kindPitches.length := by decide
    have hi : i < 12 * Gen.kindPitches.length := by rw [chords_length] at hc; omega
    have hm := Nat.mod_lt i hnk
    obtain ⟨h1, h2⟩ := rotState_parts Gen.kindPitches.length k id hnk i hm
    rw [rotChord_succ, chordPcs_succ _ (rotState_lt _ k id i hm), chordPcs_succ i hi, h1, h2, List.map_map]
    exact List.map_congr_left fun o _ => rotPc_root k _ o

theorem chordPcs_lt (c p : Nat) (h : p ∈ chordPcs c) : p < 12 := by
  unfold chordPcs at h
  split at h
  · split at h
    · obtain ⟨o, _, rfl⟩ := List.mem_map.mp h; exact Nat.mod_lt _ (by decide)
    · cases h
  · cases h

theorem keyPcs_lt (key p : Nat) (h : p ∈ keyPcs key) : p < 12 := by
  obtain ⟨o, _, rfl⟩ := List.mem_map.mp h; exact Nat.mod_lt _ (by decide)

section MapOk
variable {α β : Type} (f : α → Except String β)

theorem mapOk_eq_mapM : ∀ l : List α, mapOk f l = l.mapM f
  | [] => rfl
  | a :: l => by
      rw [mapOk, mapOk_eq_mapM l, List.mapM_cons]
      cases f a with
      | error _ => rfl
      | ok _ => cases l.mapM f <;> rfl

theorem mapOk_eq_ok {l : List α} {r : List β} : mapOk f l = .ok r ↔ l.map f = r.map .ok :=
  mapOk_eq_mapM f l ▸ mapM_eq_ok

theorem mapOk_pairwise {R : α → α → Prop} {R' : β → β → Prop} {l : List α} {r : List β}
    (h : mapOk f l = .ok r) (hR : ∀ a a' b b', f a = .ok b → f a' = .ok b' → R a a' → R' b b')
    (hp : l.Pairwise R) : r.Pairwise R' := by
  have : (l.map f).Pairwise fun x y => ∀ b b', x = .ok b → y = .ok b' → R' b b' :=
    List.pairwise_map.mpr (hp.imp fun {a a'} hr b b' e e' => hR a a' b b' e e' hr)
  rw [(mapOk_eq_ok f).mp h] at this
  exact (List.pairwise_map.mp this).imp fun hr => hr _ _ rfl rfl

theorem mapOk_adjacent {R : α → α → Prop} {R' : β → β → Prop}
    (hR : ∀ a a' b b', f a = .ok b → f a' = .ok b' → R a a' → R' b b') :
    ∀ {l : List α} {r : List β}, l.map f = r.map .ok → Adjacent R l → Adjacent R' r
  | _, [], _, _ => trivial
  | _, [_], _, _ => trivial
  | [], _ :: _ :: _, h, _ => by simp at h
  | [_], _ :: _ :: _, h, _ => by simp at h
  | a :: a' :: l, b :: b' :: r, h, hp => by
      simp only [List.map_cons, List.cons.injEq] at h
      exact ⟨hR a a' b b' h.1 h.2.1 hp.1,
        mapOk_adjacent hR (l := a' :: l) (r := b' :: r) (by simp [h.2.1, h.2.2]) hp.2⟩

theorem mapOk_total (hf : ∀ a, ∃ b, f a = .ok b) : ∀ l : List α, ∃ r, mapOk f l = .ok r ∧ r.length = l.length :=
  fun _ => (map_ok_total fun a _ => hf a).imp fun _ h => ⟨(mapOk_eq_ok f).mpr h, map_ok_length h⟩
end MapOk

section Writers
variable {α β : Type} [DecidableEq β] (name : α → β)

theorem changesFrom_mem : ∀ (l : List α) (cur : Option β) (t : Nat) (f : Nat) (x : α),
    (f, x) ∈ changesFrom name cur t l → t ≤ f ∧ f < t + l.length ∧ l[f - t]? = some x
  | [], _, _, _, _, h => by simp [changesFrom] at h
  | y :: rest, cur, t, f, x, h => by
      simp only [changesFrom] at h
      have hrec := fun c (h' : (f, x) ∈ changesFrom name c (t + 1) rest) => by
        have := changesFrom_mem rest c (t + 1) f x h'
        have e : f - t = (f - (t + 1)) + 1 := by omega
        exact (⟨by omega, by simp only [List.length_cons]; omega, by rw [e]; simpa using this.2.2⟩ :
          t ≤ f ∧ f < t + (y :: rest).length ∧ (y :: rest)[f - t]? = some x)
      split at h
      · rcases List.mem_cons.mp h with h | h
        · cases h; simp
        · exact hrec _ h
      · exact hrec _ h

theorem changesFrom_pairwise : ∀ (l : List α) (cur : Option β) (t : Nat),
    (changesFrom name cur t l).Pairwise (fun a b => a.1 < b.1)
  | [], _, _ => by simp [changesFrom]
  | y :: rest, cur, t => by
      simp only [changesFrom]
      split
      · refine List.pairwise_cons.mpr ⟨?_, changesFrom_pairwise rest _ _⟩
        intro a ha
        have := changesFrom_mem name rest _ (t + 1) a.1 a.2 ha
        simp only; omega
      · exact changesFrom_pairwise rest _ _

/-- neighbours differ; the clause on `head?` is what carries the induction across a recorded change -/
theorem changesFrom_adjacent : ∀ (l : List α) (cur : Option β) (t : Nat),
    Adjacent (fun a b => name a.2 ≠ name b.2) (changesFrom name cur t l) ∧
      ∀ a, (changesFrom name cur t l).head? = some a → some (name a.2) ≠ cur
  | [], _, _ => by simp [changesFrom, Adjacent]
  | y :: rest, cur, t => by
      simp only [changesFrom]
      split
      · rename_i hne
        obtain ⟨h1, h2⟩ := changesFrom_adjacent rest (some (name y)) (t + 1)
        refine ⟨?_, by simpa using hne⟩
        cases hc : changesFrom name (some (name y)) (t + 1) rest with
        | nil => simp [Adjacent]
        | cons b l' =>
          rw [hc] at h1 h2
          refine ⟨?_, h1⟩
          have := h2 b (by simp)
          simp only [ne_eq, Option.some.injEq] at this
          exact fun e => this e.symm
      · exact changesFrom_adjacent rest cur (t + 1)

/-- every frame carries the name announced by the last change at or before it -/
theorem changesFrom_reconstruct : ∀ (l : List α) (cur : Option β) (t i : Nat) (x : α), l[i]? = some x →
    (cur = some (name x) ∧ ∀ a ∈ changesFrom name cur t l, t + i < a.1) ∨
    ∃ a ∈ changesFrom name cur t l, a.1 ≤ t + i ∧ name a.2 = name x ∧
      ∀ b ∈ changesFrom name cur t l, b.1 ≤ t + i → b.1 ≤ a.1
  | [], _, _, _, _, h => by simp at h
  | y :: rest, cur, t, 0, x, h => by
      simp only [List.getElem?_cons_zero, Option.some.injEq] at h
      subst h
      simp only [changesFrom]
      split
      · right
        refine ⟨(t, y), by simp, by simp, rfl, ?_⟩
        intro b hb hle
        rcases List.mem_cons.mp hb with h | h
        · subst h; simp
        · have := changesFrom_mem name rest _ (t + 1) b.1 b.2 h
          omega
      · rename_i hne
        left
        refine ⟨(Decidable.not_not.mp hne).symm, ?_⟩
        · intro a ha
          have := changesFrom_mem name rest _ (t + 1) a.1 a.2 ha
          omega
  | y :: rest, cur, t, i + 1, x, h => by
      simp only [List.getElem?_cons_succ] at h
      simp only [changesFrom]
      have e : t + (i + 1) = t + 1 + i := by omega
      split
      · rcases changesFrom_reconstruct rest (some (name y)) (t + 1) i x h with ⟨h1, h2⟩ | ⟨a, ha, h1, h2, h3⟩
        · right
          refine ⟨(t, y), by simp, by simp, by simpa using h1, ?_⟩
          intro b hb hle
          rcases List.mem_cons.mp hb with h | h
          · subst h; simp
          · have := h2 b h; omega
        · right
          refine ⟨a, List.mem_cons_of_mem _ ha, by omega, h2, ?_⟩
          intro b hb hle
          rcases List.mem_cons.mp hb with h | h
          · subst h
            have := changesFrom_mem name rest _ (t + 1) a.1 a.2 ha
            simp only; omega
          · exact h3 b h (by omega)
      · rcases changesFrom_reconstruct rest cur (t + 1) i x h with ⟨h1, h2⟩ | ⟨a, ha, h1, h2, h3⟩
        · left; exact ⟨h1, fun a ha => by have := h2 a ha; omega⟩
        · right; exact ⟨a, ha, by omega, h2, fun b hb hle => h3 b hb (by omega)⟩
end Writers

theorem annOf_ok {R : Rat → Rat} {tm : Timing} {x : Nat × Nat × String × String} {b : ChordAnn}
    (h : annOf R tm x = .ok b) :
    frameTime R tm x.1 = .ok b.time ∧ frameStep tm x.1 = .ok b.step ∧ b.frame = x.1 ∧ b.text = x.2.2.2 := by
  unfold annOf at h
  split at h
  · rename_i t q ht hq
    simp only [Except.ok.injEq] at h; subst h; exact ⟨ht, hq, rfl, rfl⟩
  · simp at h
  · simp at h

theorem keyOf_ok {R : Rat → Rat} {tm : Timing} {x : Nat × Nat × String × String} {b : KeySig}
    (h : keyOf R tm x = .ok b) : frameTime R tm x.1 = .ok b.time ∧ b.frame = x.1 ∧ b.key = x.2.1 := by
  unfold keyOf at h
  split at h
  · rename_i t ht
    simp only [Except.ok.injEq] at h; subst h; exact ⟨ht, rfl, rfl⟩
  · simp at h

section Mel
variable {τ : Type} [LinearOrder τ]

theorem consOk_eq_ok {α : Type} {x : α} {e : Except String (List α)} {r : List α} (h : consOk x e = .ok r) :
    ∃ r', e = .ok r' ∧ r = x :: r' := by
  cases e with
  | error _ => cases h
  | ok r' => exact ⟨r', rfl, (Except.ok.inj h).symm⟩

/-- what `melWriter` guarantees for each note -/
def NoteOK (total lo : τ) (cur : Option (Nat × τ)) (evs : List (MelEvent × τ)) (n : MelNote τ) : Prop :=
  lo ≤ n.start ∧ n.start < n.stop ∧ n.stop ≤ total ∧
  (cur = some (n.pitch, n.start) ∨ (MelEvent.note n.pitch true, n.start) ∈ evs) ∧
  (n.stop = total ∨ ∃ e ∈ evs, e.2 = n.stop ∧ (e.1 = .rest ∨ ∃ q, e.1 = .note q true))

theorem NoteOK.weaken {total lo lo' : τ} {cur cur'} {evs} {e : MelEvent × τ} {n : MelNote τ}
    (h : NoteOK total lo' cur' evs n) (hlo : lo ≤ lo')
    (hc : cur' = some (n.pitch, n.start) → cur = some (n.pitch, n.start) ∨ (MelEvent.note n.pitch true, n.start) = e) :
    NoteOK total lo cur (e :: evs) n := by
  obtain ⟨h1, h2, h3, h4, h5⟩ := h
  refine ⟨le_trans hlo h1, h2, h3, ?_, ?_⟩
  · rcases h4 with h4 | h4
    · rcases hc h4 with h | h
      · exact Or.inl h
      · exact Or.inr (by rw [h]; simp)
    · exact Or.inr (List.mem_cons_of_mem _ h4)
  · rcases h5 with h5 | ⟨e', he', h5⟩
    · exact Or.inl h5
    · exact Or.inr ⟨e', List.mem_cons_of_mem _ he', h5⟩

/-- `lo` is a time not after any remaining event nor after the start of the sounding note.  The
recursive call takes the event time as its `lo` at every rest or onset event, so every later note
starts at or after the stop of a note closed there: that is the non-overlap clause -/
theorem melWriter_wf (total : τ) : ∀ (evs : List (MelEvent × τ)) (cur : Option (Nat × τ)) (lo : τ)
    (notes : List (MelNote τ)),
    evs.Pairwise (fun a b => a.2 < b.2) → (∀ e ∈ evs, lo ≤ e.2 ∧ e.2 < total) →
    (∀ p s, cur = some (p, s) → lo ≤ s ∧ s < total ∧ ∀ e ∈ evs, s < e.2) →
    melWriter total cur evs = .ok notes →
    (∀ n ∈ notes, NoteOK total lo cur evs n) ∧ notes.Pairwise (fun a b => a.stop ≤ b.start)
  | [], none, lo, notes, _, _, _, h => by
      simp only [melWriter, Except.ok.injEq] at h; subst h; simp
  | [], some (p, s), lo, notes, _, _, hc, h => by
      simp only [melWriter, Except.ok.injEq] at h; subst h
      obtain ⟨h1, h2, _⟩ := hc p s rfl
      simp [NoteOK, h1, h2]
  | (ev, time) :: rest, cur, lo, notes, hpw, hb, hc, h => by
      obtain ⟨hpw1, hpw2⟩ := List.pairwise_cons.mp hpw
      have hb' : ∀ e ∈ rest, time ≤ e.2 ∧ e.2 < total := fun e he =>
        ⟨le_of_lt (hpw1 e he), (hb e (List.mem_cons_of_mem _ he)).2⟩
      have hbt := hb (ev, time) (by simp)
      match ev, cur, h with
      | .rest, none, h =>
          obtain ⟨r1, r2⟩ := melWriter_wf total rest none time notes hpw2 hb' (by simp) h
          exact ⟨fun n hn => (r1 n hn).weaken hbt.1 (by simp), r2⟩
      | .rest, some (p, s), h =>
          obtain ⟨ns, hr, rfl⟩ := consOk_eq_ok h
          obtain ⟨r1, r2⟩ := melWriter_wf total rest none time ns hpw2 hb' (by simp) hr
          obtain ⟨c1, c2, c3⟩ := hc p s rfl
          refine ⟨?_, List.pairwise_cons.mpr ⟨fun n hn => (r1 n hn).1, r2⟩⟩
          intro n hn
          rcases List.mem_cons.mp hn with hn | hn
          · subst hn
            exact ⟨c1, c3 (.rest, time) (by simp), le_of_lt hbt.2, Or.inl rfl, Or.inr ⟨(.rest, time), by simp, rfl, Or.inl rfl⟩⟩
          · exact (r1 n hn).weaken hbt.1 (by simp)
      | .note q true, none, h =>
          obtain ⟨r1, r2⟩ := melWriter_wf total rest (some (q, time)) time notes hpw2 hb'
            (by intro p s e; cases e; exact ⟨le_refl _, hbt.2, hpw1⟩) h
          refine ⟨fun n hn => (r1 n hn).weaken hbt.1 ?_, r2⟩
          intro e; cases e; exact Or.inr rfl
      | .note q true, some (p, s), h =>
          obtain ⟨ns, hr, rfl⟩ := consOk_eq_ok h
          obtain ⟨r1, r2⟩ := melWriter_wf total rest (some (q, time)) time ns hpw2 hb'
            (by intro p s e; cases e; exact ⟨le_refl _, hbt.2, hpw1⟩) hr
          obtain ⟨c1, c2, c3⟩ := hc p s rfl
          refine ⟨?_, List.pairwise_cons.mpr ⟨fun n hn => (r1 n hn).1, r2⟩⟩
          intro n hn
          rcases List.mem_cons.mp hn with hn | hn
          · subst hn
            exact ⟨c1, c3 (.note q true, time) (by simp), le_of_lt hbt.2, Or.inl rfl,
              Or.inr ⟨(.note q true, time), by simp, rfl, Or.inr ⟨q, rfl⟩⟩⟩
          · refine (r1 n hn).weaken hbt.1 ?_
            intro e; cases e; exact Or.inr rfl
      | .note q false, none, h => simp [melWriter] at h
      | .note q false, some (p, s), h =>
          simp only [melWriter] at h
          split at h
          · obtain ⟨c1, c2, c3⟩ := hc p s rfl
            obtain ⟨r1, r2⟩ := melWriter_wf total rest (some (p, s)) lo notes hpw2
              (fun e he => hb e (List.mem_cons_of_mem _ he))
              (by intro p' s' e; cases e; exact ⟨c1, c2, fun e he => c3 e (List.mem_cons_of_mem _ he)⟩) h
            exact ⟨fun n hn => (r1 n hn).weaken (le_refl _) (fun e => Or.inl e), r2⟩
          · simp at h
end Mel

/-! ## melody: finite score ⇒ every step is legal -/
section MelFinite
variable {S : Type} (add : S → S → S)

omit add in
/-- a transition the structure condition does not force to `bot` is a legal step -/
theorem melLegalStep_of_ne_bot {P : Nat} {tr : Nat → Nat → S} {bot : S}
    (hstruct : ∀ i j, P < j → i ≠ j → i + P ≠ j → tr i j = bot) {i j : Nat} (h : tr i j ≠ bot) :
    melLegalStep P i j := by
  unfold melLegalStep
  exact Classical.byContradiction fun hn => h (hstruct i j (by omega) (by omega) (by omega))

theorem stepsFinite_legal (P : Nat) (fl tr : Nat → Nat → S) (bot : S)
    (hstruct : ∀ i j, P < j → i ≠ j → i + P ≠ j → tr i j = bot) :
    ∀ (rest : List Nat) (prev t : Nat), stepsFinite (melTables add P fl tr) bot prev t rest →
      Adjacent (melLegalStep P) (prev :: rest)
  | [], _, _, _ => trivial
  | j :: rest, prev, t, h => by
      obtain ⟨h1, _, h3⟩ := h
      exact ⟨melLegalStep_of_ne_bot hstruct h1, stepsFinite_legal P fl tr bot hstruct rest j (t + 1) h3⟩

theorem pathFinite_legal (P : Nat) (fl tr : Nat → Nat → S) (bot : S) (hL : ∀ b, add bot b = bot)
    (hstruct : ∀ i j, P < j → i ≠ j → i + P ≠ j → tr i j = bot) (path : List Nat)
    (h : pathFinite (melTables add P fl tr) bot path) : Adjacent (melLegalStep P) (0 :: path) := by
  cases path with
  | nil => trivial
  | cons j rest =>
    obtain ⟨h1, h2⟩ := h
    exact ⟨melLegalStep_of_ne_bot hstruct fun e => h1 (by simp only [melTables]; rw [e, hL]),
      stepsFinite_legal add P fl tr bot hstruct rest j 1 h2⟩
end MelFinite

/-! ## melody: a path of legal steps is written without tripping the assertion -/
section MelOk
variable {τ : Type}

theorem melWriter_ok (total : τ) : ∀ (evs : List MelEvent) (times : List τ) (cur : Option (Nat × τ)),
    evLegal (cur.map (·.1)) evs → ∃ notes, melWriter total cur (evs.zip times) = .ok notes
  | [], _, none, _ => ⟨_, rfl⟩
  | [], _, some (p, s), _ => ⟨_, rfl⟩
  | _ :: _, [], none, _ => ⟨_, rfl⟩
  | _ :: _, [], some (p, s), _ => ⟨_, rfl⟩
  | .rest :: rest, _ :: ts, none, h => melWriter_ok total rest ts none h
  | .rest :: rest, t :: ts, some (p, s), h =>
      (melWriter_ok total rest ts none h).elim fun n hn => ⟨⟨s, t, p⟩ :: n, congrArg (consOk _) hn⟩
  | .note q true :: rest, t :: ts, none, h => melWriter_ok total rest ts (some (q, t)) h
  | .note q true :: rest, t :: ts, some (p, s), h =>
      (melWriter_ok total rest ts (some (q, t)) h).elim fun n hn => ⟨⟨s, t, p⟩ :: n, congrArg (consOk _) hn⟩
  | .note q false :: _, _ :: _, none, h => nomatch h.1
  | .note q false :: rest, _ :: ts, some (p, s), h => by
      obtain ⟨n, hn⟩ := melWriter_ok total rest ts (some (p, s)) h.2
      cases Option.some.inj h.1
      exact ⟨n, by simp [melWriter, hn]⟩

/-- the pitch sounding after state `i` -/
def curPitch (pitches : List Nat) (i : Nat) : Option Nat :=
  if i = 0 then none else if i ≤ pitches.length then pitches[i - 1]? else pitches[i - pitches.length - 1]?

/-- `melDecode` as a total function: rest when nothing sounds, else the sounding pitch, an onset
in the lower half of the states -/
def evOf (pitches : List Nat) (i : Nat) : MelEvent :=
  match curPitch pitches i with
  | none => .rest
  | some p => .note p (i ≤ pitches.length)

theorem melDecode_eq (pitches : List Nat) (i : Nat) (h : i < 2 * pitches.length + 1) :
    melDecode pitches i = .ok (evOf pitches i) := by
  unfold melDecode evOf curPitch
  by_cases h0 : i = 0
  · simp [h0]
  · by_cases h1 : i ≤ pitches.length
    · simp [h0, h1, List.getElem?_eq_getElem (show i - 1 < pitches.length by omega)]
    · simp [h0, h1, List.getElem?_eq_getElem (show i - pitches.length - 1 < pitches.length by omega)]

theorem melEvents_eq (pitches path : List Nat) (hs : ∀ s ∈ path, s < 2 * pitches.length + 1) :
    melEvents pitches path = .ok (path.map (evOf pitches)) :=
  (mapOk_eq_ok _).mpr (by
    rw [List.map_map]; exact List.map_congr_left fun s h => melDecode_eq pitches s (hs s h))

/-- a legal step into a sustain state keeps the sounding pitch -/
theorem curPitch_of_legal (pitches : List Nat) {i j : Nat} (hj : j < 2 * pitches.length + 1)
    (h : melLegalStep pitches.length i j) (hP : ¬ j ≤ pitches.length) : curPitch pitches i = curPitch pitches j := by
  rcases h with h | h | h
  · omega
  · rw [h]
  · unfold curPitch
    simp [show i ≠ 0 by omega, show i ≤ pitches.length by omega, show j ≠ 0 by omega, hP,
      show j - pitches.length - 1 = i - 1 by omega]

/-- along a path of legal steps out of state `i` the writer's current pitch is `curPitch` of the state just left -/
theorem legal_evLegal (pitches : List Nat) : ∀ (path : List Nat) (i : Nat),
    (∀ s ∈ path, s < 2 * pitches.length + 1) → Adjacent (melLegalStep pitches.length) (i :: path) →
    evLegal (curPitch pitches i) (path.map (evOf pitches))
  | [], _, _, _ => trivial
  | j :: rest, i, hs, ⟨hstep, hc⟩ => by
      have ih := legal_evLegal pitches rest j (fun s h => hs s (List.mem_cons_of_mem _ h)) hc
      rw [List.map_cons]
      cases hp : curPitch pitches j with
      | none => rw [hp] at ih; rw [show evOf pitches j = .rest by simp only [evOf, hp]]; exact ih
      | some p =>
        rw [hp] at ih
        by_cases hP : j ≤ pitches.length
        · rw [show evOf pitches j = .note p true by simp only [evOf, hp, hP, decide_true]]; exact ih
        · rw [show evOf pitches j = .note p false by simp only [evOf, hp, hP, decide_false],
            curPitch_of_legal pitches (hs j (by simp)) hstep hP, hp]
          exact ⟨rfl, ih⟩
end MelOk

section Sorted
variable {α : Type} [DecidableEq α]

theorem sortedSet_eq (lt : α → α → Bool) (l : List α) : sortedSet lt l = sortedSetOf lt l := by
  unfold sortedSet sortedSetOf
  congr 1
  funext x l
  induction l <;> simp [insertSorted, insSorted, *]

variable {lt : α → α → Bool}

theorem mem_sortedSet (y : α) (l : List α) : y ∈ sortedSet lt l ↔ y ∈ l := by
  rw [sortedSet_eq]; exact mem_sortedSetOf y l

theorem sorted_sortedSet (h : StrictTotal lt) (l : List α) : (sortedSet lt l).Pairwise (fun a b => lt a b = true) := by
  rw [sortedSet_eq]; exact h.sorted_set l

omit [DecidableEq α] in
theorem index_of_sorted (h : StrictTotal lt) (x : α) (l : List α)
    (hp : l.Pairwise (fun a b => lt a b = true)) (hx : x ∈ l) :
    l[(l.takeWhile (fun t => lt t x)).length]? = some x := by
  obtain ⟨s, t, rfl⟩ := List.append_of_mem hx
  have hs := (List.pairwise_append.mp hp).2.2
  rw [List.takeWhile_append_of_pos fun a ha => hs a ha x List.mem_cons_self,
    List.takeWhile_cons_of_neg (by simp [h.irrefl]), List.append_nil,
    List.getElem?_append_right (Nat.le_refl _), Nat.sub_self]
  rfl
end Sorted

theorem bisectRight_mem (x : Rat) (ts : List Rat) (hp : ts.Pairwise (fun a b => decide (a < b) = true))
    (hx : x ∈ ts) : ∃ k, bisectRight ts x = k + 1 ∧ ts[k]? = some x := by
  obtain ⟨s, t, rfl⟩ := List.append_of_mem hx
  obtain ⟨_, ht, hs⟩ := List.pairwise_append.mp hp
  have hs' : ∀ a ∈ s, decide (a ≤ x) = true := fun a ha =>
    decide_eq_true (Rat.le_of_lt (of_decide_eq_true (hs a ha x List.mem_cons_self)))
  have ht' : t.takeWhile (fun u => decide (u ≤ x)) = [] := by
    cases t with
    | nil => rfl
    | cons u r =>
      exact List.takeWhile_cons_of_neg
        (by simpa using Rat.not_le.mpr (of_decide_eq_true ((List.pairwise_cons.mp ht).1 u List.mem_cons_self)))
  refine ⟨s.length, ?_, by simp⟩
  rw [bisectRight, List.takeWhile_append_of_pos hs', List.takeWhile_cons_of_pos (by simp), ht',
    List.length_append]
  rfl

theorem bisectRight_below (x : Rat) (ts : List Rat) (h : ∀ t ∈ ts, x < t) : bisectRight ts x = 0 := by
  unfold bisectRight
  cases ts with
  | nil => rfl
  | cons u r => simp [Rat.not_le.mpr (h u (by simp))]

/-- the notes `sequence_note_frames` looks at -/
def pitched (all : List FNote) : List FNote :=
  all.filter fun n => !n.isDrum && !Gen.unpitchedPrograms.contains n.program

theorem mem_pitched {all : List FNote} {n : FNote} :
    n ∈ pitched all ↔ n ∈ all ∧ n.isDrum = false ∧ Gen.unpitchedPrograms.contains n.program = false := by
  simp [pitched]

theorem mem_noteFrames_pitches {all : List FNote} {total : Rat} {p : Nat} :
    p ∈ (noteFrames all total).pitches ↔ ∃ n ∈ pitched all, n.pitch = p := by
  simp only [noteFrames, mem_sortedSet, List.mem_map, pitched]

theorem mem_noteFrames_eventTimes {all : List FNote} {total t : Rat} :
    t ∈ (noteFrames all total).eventTimes ↔
      t ∈ (pitched all).map (·.start) ++ (pitched all).map (·.stop) ∧ t ≠ 0 ∧ t ≠ total := by
  simp only [noteFrames, mem_sortedSet, List.mem_filter, pitched, decide_eq_true_eq]

theorem mem_noteFrames_onsets {all : List FNote} {total : Rat} {f pi : Nat} :
    (f, pi) ∈ (noteFrames all total).onsets ↔ ∃ n ∈ pitched all,
      bisectRight (noteFrames all total).eventTimes n.start = f ∧
      ((noteFrames all total).pitches.takeWhile (· < n.pitch)).length = pi := by
  simp only [noteFrames, mem_sortedSet, List.mem_map, pitched, Prod.mk.injEq]

end NSV.C19

import NoteSeqVerif.Proofs.C04_repeatsG
/-! C04 — the repeat clause beyond `abc_repeats`: tunes WITH broken rhythm, the onsets of the expansion,
and what the code does at a degenerate backward repeat.  Exact arithmetic (`R = id`).

* `brokenOK items` (syntactic, `Proofs/C04_repeatsG.lean`): every broken-rhythm token stands between two
  notes of one bar — there is a note before it and no bar token of any kind between that note and the
  note after it.  It cannot be dropped: `abc_broken_across_section_fails`.
* `unfold` / `NonDegenerate`: the independent player of `Proofs/C04_repeats.lean` (`abc_repeats`).
* `unfoldQ` (`Proofs/C04_playerQ.lean`): the same player, except that a backward repeat sign directly
  after a section start plays the most recently closed section again — what the CODE does there. -/
namespace NSV.C04

/-- THE REPEAT CLAUSE WITH BROKEN RHYTHM, and THE ONSETS OF THE EXPANSION, for every tune (any header,
any token list, no size bound) the parser accepts whose final notes have positive duration, whose
broken-rhythm pairs lie inside a bar and whose repeats are non-degenerate: `expand_section_groups`
succeeds; its notes are, in pitch and duration, exactly the played order the bar tokens notate — with
the durations the broken rhythm gives; and they follow each other without gap from time 0: the k-th
expanded onset is the sum of the k durations before it in expansion order (every section copy is
shifted by the accumulated duration of the copies before it). -/
theorem abc_repeats_broken (lines : List Line) (tune : Tune) (h : parseTune id lines = .ok tune)
    (hpos : ∀ n ∈ tune.notes, n.start < n.end_) (hbk : brokenOK (flatten lines) = true)
    (hnd : NonDegenerate (flatten lines)) :
    ∃ L, expand id tune = .ok L ∧ unfold (flatten lines) (tune.notes.map pd) = some (L.map pd) ∧
      L.map span = spans 0 (L.map dur) ∧
      ∀ k, k < L.length → (L.map span)[k]? = some (((L.map dur).take k).sum, ((L.map dur).take (k + 1)).sum) := by
  obtain ⟨L, hL, hu, hsp⟩ := repeats_general lines tune h hpos hbk
  refine ⟨L, hL, unfoldQ_eq_unfold hnd hu, hsp, fun k hk => ?_⟩
  rw [hsp, spans_getElem 0 _ k (by simpa using hk)]
  simp

/-- THE SAME WITHOUT `NonDegenerate`: for EVERY accepted tune with positive final durations and
broken-rhythm pairs inside a bar, the expansion is what the code's player `unfoldQ` plays: the notated
order, except that a backward repeat ×n standing directly after a section start (nothing played since)
plays the most recently CLOSED section n more times.  Onsets as above. -/
theorem abc_repeats_general (lines : List Line) (tune : Tune) (h : parseTune id lines = .ok tune)
    (hpos : ∀ n ∈ tune.notes, n.start < n.end_) (hbk : brokenOK (flatten lines) = true) :
    ∃ L, expand id tune = .ok L ∧ unfoldQ (flatten lines) (tune.notes.map pd) = some (L.map pd) ∧
      L.map span = spans 0 (L.map dur) :=
  repeats_general lines tune h hpos hbk

/-- where the two players differ, and only there: for a non-degenerate tune `unfoldQ` is `unfold` -/
theorem abc_quirk_only_degenerate (items : List Item) (vals X : List (Int × Rat)) (hnd : NonDegenerate items)
    (h : unfoldQ items vals = some X) : unfold items vals = some X :=
  unfoldQ_eq_unfold hnd h

/-- THE DEGENERATE BACKWARD REPEAT, exactly (any state, any rounding — no float operation is involved):
a backward repeat ×x (`:|`, `::`, `:|:` …) that arrives while the most recent section annotation is AT
the current time — nothing has been played since that section start — and that passes the count check
adds no section annotation and appends a section group that plays the section BEFORE it
(`section_annotations[-2]`) `x` more times; the forward count becomes the expected count. -/
theorem abc_degenerate_repeat (st : St) (secs : List (Rat × Int)) (a : Rat × Int) (sid : Int) (x : Nat)
    (f : Option Nat) (hs : st.sections = secs ++ [a, (st.time, sid)]) (ht : st.time ≠ 0) (hx : x ≠ 0)
    (he : truthy st.expected = true → some x = st.expected) :
    doRepeat st (some x) f = .ok { st with groups := st.groups ++ [(a.2, x)], expected := f } := by
  unfold doRepeat
  rw [if_neg (by intro ⟨h1, h2⟩; exact h2 (he h1))]
  simp only [addSection_same st (secs ++ [a]) sid (by rw [hs, List.append_assoc]; rfl), hx, ne_eq,
    not_false_eq_true, ↓reduceIte, closeRepeat, ht]
  rw [addGroup_two st secs a (st.time, sid) x hs]

/-- … and with no section before it (the tune is still at time 0) it is a RepeatParseError -/
theorem abc_degenerate_repeat_at_zero (st : St) (x : Nat) (f : Option Nat) (ht : st.time = 0) (hx : x ≠ 0)
    (he : truthy st.expected = true → some x = st.expected) : doRepeat st (some x) f = .error eRepeat :=
  doRepeat_time_zero st x f he hx ht

/-- `C>D |: E<F :| G` — broken rhythm in both sections of a repeated tune -/
abbrev brokenRepeatExample : List Line :=
  [.field (.refnum 1), .music [.note .none 'C' [] ⟨none, 0, none⟩, .broken true 1, .note .none 'D' [] ⟨none, 0, none⟩,
    .bar 0 1 1, .note .none 'E' [] ⟨none, 0, none⟩, .broken false 1, .note .none 'F' [] ⟨none, 0, none⟩, .bar 1 1 0,
    .note .none 'G' [] ⟨none, 0, none⟩]]

/-- the hypotheses of `abc_repeats_broken` hold for it; the expansion is C D E F E F G with the dotted
durations 3/8 1/8 | 1/8 3/8 | 1/8 3/8 | 1/4 and onsets 0 3/8 1/2 5/8 1 9/8 3/2 (the real parser and
`expand_section_groups` give exactly these) -/
example : ∃ tune L, parseTune id brokenRepeatExample = .ok tune ∧ expand id tune = .ok L ∧
    L.map pd = [(60, 3/8), (62, 1/8), (64, 1/8), (65, 3/8), (64, 1/8), (65, 3/8), (67, 1/4)] ∧
    L.map (·.start) = [0, 3/8, 1/2, 5/8, 1, 9/8, 3/2] := by
  obtain ⟨tune, hp, hpos, hu'⟩ := ok_of_decide (x := parseTune id brokenRepeatExample)
    (P := fun t => (∀ n ∈ t.notes, n.start < n.end_) ∧ unfold (flatten brokenRepeatExample) (t.notes.map pd) =
      some [(60, 3/8), (62, 1/8), (64, 1/8), (65, 3/8), (64, 1/8), (65, 3/8), (67, 1/4)]) (by decide +kernel)
  obtain ⟨L, hL, hu, hsp, _⟩ := abc_repeats_broken brokenRepeatExample tune hp hpos (by decide +kernel)
    (nonDegenerate_of_check (by decide +kernel))
  have hpdL := Option.some.inj (hu.symm.trans hu')
  refine ⟨tune, L, hp, hL, hpdL, ?_⟩
  rw [starts_of_spans hsp, hpdL]
  decide +kernel

/-- `A B || :| c` — the degenerate backward repeat: the code plays the closed section A B twice more
(A B A B A B c; the real parser and `expand_section_groups` give exactly this), the notated order
(`unfold`) is A B c -/
abbrev quirkExample : List Line :=
  [.field (.refnum 1), .music [.note .none 'A' [] ⟨none, 0, none⟩, .note .none 'B' [] ⟨none, 0, none⟩,
    .bar 0 2 0, .bar 1 1 0, .note .none 'c' [] ⟨none, 0, none⟩]]

example : ∃ tune L, parseTune id quirkExample = .ok tune ∧ expand id tune = .ok L ∧
    (L.map pd).map (·.1) = [69, 71, 69, 71, 69, 71, 72] ∧
    (unfold (flatten quirkExample) (tune.notes.map pd)).map (·.map (·.1)) = some [69, 71, 72] := by
  obtain ⟨tune, hp, hpos, hq, hu'⟩ := ok_of_decide (x := parseTune id quirkExample)
    (P := fun t => (∀ n ∈ t.notes, n.start < n.end_) ∧
      (unfoldQ (flatten quirkExample) (t.notes.map pd)).map (·.map (·.1)) = some [69, 71, 69, 71, 69, 71, 72] ∧
      (unfold (flatten quirkExample) (t.notes.map pd)).map (·.map (·.1)) = some [69, 71, 72]) (by decide +kernel)
  obtain ⟨L, hL, hu, _⟩ := abc_repeats_general quirkExample tune hp hpos (by decide +kernel)
  refine ⟨tune, L, hp, hL, ?_, hu'⟩
  rw [hu] at hq
  simpa using hq

/-- the state-level statement on the same tune: after `A B ||` the state has the annotations
(0, 0), (1/2, 1) at time 1/2, and `:|` appends the group (section 0) × 2 -/
example : ∃ st, runItems id init (flatten [.field (.refnum 1), .music [.note .none 'A' [] ⟨none, 0, none⟩,
      .note .none 'B' [] ⟨none, 0, none⟩, .bar 0 2 0]]) = .ok st ∧
    st.sections = [] ++ [(0, 0), (st.time, 1)] ∧ st.time ≠ 0 ∧ truthy st.expected = false :=
  ok_of_decide (by decide +kernel)

/-- A BAR TOKEN WITHOUT COLONS (plain bar, or a double bar `||`, `|]`, `[|` … of any length) that arrives while the
most recent section annotation is AT the current time — directly after `:|`, after another double bar,
nothing played since — changes nothing but the bar-scoped accidentals: no section annotation, NO
SECTION GROUP (the section before it is not played again), same expected count.  Any state, any
rounding (no float operation is involved). -/
theorem abc_double_bar_at_boundary (st : St) (secs : List (Rat × Int)) (sid : Int) (len : Nat)
    (hs : st.sections = secs ++ [(st.time, sid)]) :
    stepBar st 0 len 0 = .ok { st with barAcc := [] } := by
  unfold stepBar
  simp only [and_self, ↓reduceIte]
  split
  · rw [addSection_same { st with barAcc := [] } secs sid hs]
    rfl
  · rfl

/-- … and where NO boundary exists yet (the most recent section annotation `a` is at another time), outside a
repeat and after time 0, a double bar starts a section (next id) and appends the group that plays the
section before it once. -/
theorem abc_double_bar_new_section (st : St) (secs : List (Rat × Int)) (a : Rat × Int) (len : Nat)
    (hs : st.sections = secs ++ [a]) (ha : a.1 ≠ st.time) (hlen : 2 ≤ len) (he : truthy st.expected = false)
    (ht : 0 < st.time) :
    stepBar st 0 len 0 = .ok { st with barAcc := [], sections := st.sections ++ [(st.time, a.2 + 1)],
                                       groups := st.groups ++ [(a.2, 1)] } := by
  have hne : st.sections ≠ [] := by rw [hs]; simp
  have hl : st.sections.getLast? = some a := by rw [hs]; simp
  unfold stepBar
  simp only [and_self, ↓reduceIte, hlen, he, ht, Bool.false_eq_true, not_false_eq_true]
  unfold addSection
  simp only [hne, false_and, ↓reduceIte, hl, ha, Option.isSome_some]
  rw [addGroup_two { st with barAcc := [], sections := st.sections ++ [(st.time, a.2 + 1)] } secs a (st.time, a.2 + 1) 1
    (by simp [hs])]

/-- `|: C D :| || E F |]` — the double bar after `:|` adds nothing: sections at 0 and 1/2,
groups (0 × 2), (1 × 1); the expansion is C D C D E F -/
abbrev doubleBarAtBoundaryExample : List Line :=
  [.field (.refnum 1), .music [.bar 0 1 1, .note .none 'C' [] ⟨none, 0, none⟩, .note .none 'D' [] ⟨none, 0, none⟩,
    .bar 1 1 0, .bar 0 2 0, .note .none 'E' [] ⟨none, 0, none⟩, .note .none 'F' [] ⟨none, 0, none⟩, .bar 0 2 0]]

example : (parseTune id doubleBarAtBoundaryExample).map (fun t => (t.sections, t.groups)) =
    .ok ([(0, 0), (1/2, 1)], [(0, 2), (1, 1)]) := by decide +kernel

example : ∃ tune L, parseTune id doubleBarAtBoundaryExample = .ok tune ∧ expand id tune = .ok L ∧
    L.map (·.pitch) = [60, 62, 60, 62, 64, 65] := by
  obtain ⟨tune, hp, h2, h3⟩ := ok_of_decide (x := parseTune id doubleBarAtBoundaryExample)
    (P := fun t => t.notes.Pairwise (fun a b => a.start ≤ b.start) ∧
      (expandSorted id t).map (fun L => L.map (·.pitch)) = .ok [60, 62, 60, 62, 64, 65]) (by decide +kernel)
  rw [← expand_of_sorted id tune h2] at h3
  obtain ⟨L, hx, h3⟩ := map_ok h3
  exact ⟨tune, L, hp, hx, h3⟩

/-- the hypothesis of `abc_double_bar_at_boundary` is met by the state after `|: C D :|` -/
example : ∃ st, runItems id init (flatten [.field (.refnum 1), .music [.bar 0 1 1, .note .none 'C' [] ⟨none, 0, none⟩,
      .note .none 'D' [] ⟨none, 0, none⟩, .bar 1 1 0]]) = .ok st ∧
    st.sections = [(0, 0)] ++ [(st.time, 1)] ∧ st.groups = [(0, 2)] :=
  ok_of_decide (by decide +kernel)

/-- `C < |: D :|` — the pair straddles the repeat sign -/
abbrev brokenAcrossExample : List Line :=
  [.field (.refnum 1), .music [.note .none 'C' [] ⟨none, 0, none⟩, .broken false 1, .bar 0 1 1,
    .note .none 'D' [] ⟨none, 0, none⟩, .bar 1 1 0]]

/-- `brokenOK` cannot be dropped from `abc_repeats_broken`: `C<|:D:|` is accepted, its final notes have
positive duration and its repeat is non-degenerate, but the broken rhythm moves the start of D to
before its section start, so `expand_section_groups` finds D in the FIRST section (clipped at the
section end) and the repeated section empty: the expansion is C D (durations 1/8, 1/8) instead of the
notated C D D (1/8, 3/8, 3/8).  The real parser and `expand_section_groups` do the same. -/
theorem abc_broken_across_section_fails :
    ∃ tune L, parseTune id brokenAcrossExample = .ok tune ∧ (∀ n ∈ tune.notes, n.start < n.end_) ∧
      NonDegenerate (flatten brokenAcrossExample) ∧ brokenOK (flatten brokenAcrossExample) = false ∧
      expand id tune = .ok L ∧ L.map pd = [(60, 1/8), (62, 1/8)] ∧
      unfold (flatten brokenAcrossExample) (tune.notes.map pd) = some [(60, 1/8), (62, 3/8), (62, 3/8)] := by
  obtain ⟨tune, hp, h1, h2, h3, h4⟩ := ok_of_decide (x := parseTune id brokenAcrossExample)
    (P := fun t => (∀ n ∈ t.notes, n.start < n.end_) ∧ t.notes.Pairwise (fun a b => a.start ≤ b.start) ∧
      (expandSorted id t).map (fun L => L.map pd) = .ok [(60, 1/8), (62, 1/8)] ∧
      unfold (flatten brokenAcrossExample) (t.notes.map pd) = some [(60, 1/8), (62, 3/8), (62, 3/8)]) (by decide +kernel)
  rw [← expand_of_sorted id tune h2] at h3
  obtain ⟨L, hx, h3⟩ := map_ok h3
  exact ⟨tune, L, hp, h1, nonDegenerate_of_check (by decide +kernel), by decide +kernel, hx, h3, h4⟩

end NSV.C04

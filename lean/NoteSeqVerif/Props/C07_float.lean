import NoteSeqVerif.Props.C07
import NoteSeqVerif.Proofs.C07Float
/-! C07 — property theorems about the floating-point bar length
`steps_per_bar_in_quantized_sequence = spq * ((4.0 / den) * num)`, for every rounding operator with
the `Rounding` facts of `Proofs/Rounding.lean` (monotone, exact on dyadics, relative error ≤ 2^-53),
in particular `rne53` = the code.  The exactness hypothesis `SpbExact` of
`steps_per_bar_nonInteger_iff` is discharged for power-of-two denominators. -/
namespace NSV.C07

/-- with a power-of-two denominator `2^k` the three intermediate values are dyadic with a significand `4`, `num`,
`spq·num` of at most 53 bits, hence fixed points of `R` (the exponent of the model is unbounded, so no bound on `k` is
needed) -/
theorem spbExact_float {R : Rat → Rat} (hR : Rounding R) (spq num : Int) (k : Nat)
    (h1 : num.natAbs ≤ 2 ^ 53) (h2 : (spq * num).natAbs ≤ 2 ^ 53) : SpbExact R spq num (2 ^ k) := by
  have hp : 1 ≤ 53 := by norm_num
  have hk : (0 : ℚ) < 2 ^ k := by positivity
  have e0 : (((2 ^ k : ℤ)) : ℚ) = 2 ^ k := by push_cast; rfl
  have e1 : (4 : ℚ) / (2 ^ k) = ((4 : ℤ) : ℚ) * 2 ^ (-(k : ℤ)) := by
    rw [zpow_neg, zpow_natCast]; push_cast; ring
  have e2 : (4 : ℚ) / (2 ^ k) * (num : ℚ) = (num : ℚ) * 2 ^ (2 - (k : ℤ)) := by
    rw [zpow_sub₀ (by norm_num : (2 : ℚ) ≠ 0), zpow_natCast]; norm_num; ring
  have e3 : (spq : ℚ) * ((4 : ℚ) / (2 ^ k) * (num : ℚ)) =
      ((spq * num : ℤ) : ℚ) * 2 ^ (2 - (k : ℤ)) := by
    rw [e2]; push_cast; ring
  unfold SpbExact
  rw [e0]
  refine ⟨?_, ?_, ?_⟩
  · rw [e1]; exact hR.exact_dyadic hp 4 (by norm_num) _
  · rw [e2]; exact hR.exact_dyadic hp num h1 _
  · rw [e3]; exact hR.exact_dyadic hp (spq * num) h2 _

theorem spbExact_of_pow2_den {R : Rat → Rat} (hR : Rounding R) {spq num den : Int} (hq : 0 < spq) (k : Nat)
    (hden : den = 2 ^ k) (hb : (spq * num).natAbs ≤ 2 ^ 53) : SpbExact R spq num den := by
  have h1 : num.natAbs ≤ 2 ^ 53 := by
    rw [Int.natAbs_mul] at hb
    exact Nat.le_trans (Nat.le_mul_of_pos_left _ (by omega)) hb
  rw [hden]; exact spbExact_float hR _ _ k h1 hb

/-- the float computation returns what exact rational arithmetic returns (value or exception) -/
theorem steps_per_bar_float_eq_exact {R : Rat → Rat} (hR : Rounding R) (s : NoteSeq) (ts : TimeSig)
    (rest : List TimeSig) (hts : s.timeSigs = ts :: rest) (k : Nat) (hden : ts.den = 2 ^ k)
    (hb : (s.spq * ts.num).natAbs ≤ 2 ^ 53) :
    stepsPerBarFloatR R s = stepsPerBarFloatR id s ∧ stepsPerBarR R s = stepsPerBarR id s := by
  have key : stepsPerBarFloatR R s = stepsPerBarFloatR id s := by
    unfold stepsPerBarFloatR
    by_cases hq : 0 < s.spq
    · have hE := spbExact_of_pow2_den hR hq k hden hb
      simp only [hq, not_true_eq_false, ↓reduceIte, hts, id]
      rw [hE.1, hE.2.1, hE.2.2]
    · simp only [hq, not_false_eq_true, ↓reduceIte]
  exact ⟨key, by unfold stepsPerBarR; rw [key]⟩

/-- `steps_per_bar_nonInteger_iff` with the exactness hypothesis discharged: for a power-of-two denominator and
`|spq·num| ≤ 2^53` the float computation raises `NonIntegerStepsPerBarError` exactly when `spq·4·num/den` is not an
integer, and returns that integer otherwise. -/
theorem steps_per_bar_nonInteger_iff_float {R : Rat → Rat} (hR : Rounding R) (s : NoteSeq)
    (ts : TimeSig) (rest : List TimeSig) (hts : s.timeSigs = ts :: rest) (hq : 0 < s.spq)
    (k : Nat) (hden : ts.den = 2 ^ k) (hb : (s.spq * ts.num).natAbs ≤ 2 ^ 53) :
    (stepsPerBarR R s = .error .nonIntegerStepsPerBarError ↔ ¬ ts.den ∣ s.spq * 4 * ts.num) ∧
    (∀ n : Int, stepsPerBarR R s = .ok n ↔ s.spq * 4 * ts.num = n * ts.den) := by
  have hd0 : ts.den ≠ 0 := by rw [hden]; exact Int.ne_of_gt (Int.pow_pos (by decide))
  exact steps_per_bar_nonInteger_iff R s ts rest hts hq hd0 (spbExact_of_pow2_den hR hq k hden hb)

/-- the code itself (`stepsPerBar = stepsPerBarR rne53`) -/
theorem steps_per_bar_nonInteger_iff_rne53 (s : NoteSeq) (ts : TimeSig) (rest : List TimeSig)
    (hts : s.timeSigs = ts :: rest) (hq : 0 < s.spq) (k : Nat) (hden : ts.den = 2 ^ k)
    (hb : (s.spq * ts.num).natAbs ≤ 2 ^ 53) :
    (stepsPerBar s = .error .nonIntegerStepsPerBarError ↔ ¬ ts.den ∣ s.spq * 4 * ts.num) ∧
    (∀ n : Int, stepsPerBar s = .ok n ↔ s.spq * 4 * ts.num = n * ts.den) :=
  steps_per_bar_nonInteger_iff_float rounding_rne53 s ts rest hts hq k hden hb

/-- ANY positive denominator (power of two or not): the float computation never accepts a wrong bar length — whatever
it returns is the exact `spq·4·num/den`, and a non-integer exact value is always rejected.  (The converse fails for
denominators that are not powers of two: see the last example below.) -/
theorem steps_per_bar_float_sound {R : Rat → Rat} (hR : Rounding R) (s : NoteSeq) (ts : TimeSig)
    (rest : List TimeSig) (hts : s.timeSigs = ts :: rest) (hq : 0 < s.spq) (hn : 0 < ts.num)
    (hd : 0 < ts.den) (hb : s.spq * 4 * ts.num < 2 ^ 49) :
    (∀ n : Int, stepsPerBarR R s = .ok n → s.spq * 4 * ts.num = n * ts.den) ∧
    (¬ ts.den ∣ s.spq * 4 * ts.num → stepsPerBarR R s = .error .nonIntegerStepsPerBarError) := by
  have hd0 : ts.den ≠ 0 := Int.ne_of_gt hd
  generalize hf : R ((s.spq : Rat) * R (R (4 / (ts.den : Rat)) * (ts.num : Rat))) = f
  have hval : stepsPerBarR R s = if f.den ≠ 1 then .error .nonIntegerStepsPerBarError else .ok f.num := by
    simp only [stepsPerBarR, stepsPerBarFloatR, hq, not_true_eq_false, ↓reduceIte, hts, hd0, hf]
  -- an integral float result is the exact quotient
  have hint : f.den = 1 → s.spq * 4 * ts.num = f.num * ts.den := fun h =>
    spb_float_int_sound hR s.spq ts.num ts.den hq hn hd hb f.num (hf.trans (Rat.ext rfl h))
  rw [hval]
  by_cases h1 : f.den = 1
  · simp only [h1, ne_eq, not_true_eq_false, ↓reduceIte, Except.ok.injEq]
    exact ⟨fun n h => h ▸ hint h1, fun hnd => absurd ⟨f.num, by rw [hint h1, Int.mul_comm]⟩ hnd⟩
  · simp only [h1, ne_eq, not_false_eq_true, ↓reduceIte, reduceCtorEq, false_imp_iff, implies_true, and_self]

-- 6/8 at 4 steps per quarter: 12 steps; 3/8 at 1 step per quarter: rejected; both through the theorem
example : stepsPerBar { exRel with timeSigs := [⟨0, 6, 8⟩] } = .ok 12 :=
  ((steps_per_bar_nonInteger_iff_rne53 { exRel with timeSigs := [⟨0, 6, 8⟩] } ⟨0, 6, 8⟩ [] rfl
    (by decide) 3 (by decide) (by decide)).2 12).mpr (by decide)
example : stepsPerBar { exRel with spq := 1, timeSigs := [⟨0, 3, 8⟩] } = .error .nonIntegerStepsPerBarError :=
  (steps_per_bar_nonInteger_iff_rne53 { exRel with spq := 1, timeSigs := [⟨0, 3, 8⟩] } ⟨0, 3, 8⟩ [] rfl
    (by decide) 3 (by decide) (by decide)).1.mpr (by decide)
example := steps_per_bar_float_eq_exact rounding_rne53 exRel ⟨0, 4, 4⟩ [] rfl 2 (by decide) (by decide)
-- 7/12 at 5 steps per quarter is rejected by the float code because 140/12 is not an integer
example : stepsPerBar { exRel with spq := 5, timeSigs := [⟨0, 7, 12⟩] } = .error .nonIntegerStepsPerBarError :=
  (steps_per_bar_float_sound rounding_rne53 { exRel with spq := 5, timeSigs := [⟨0, 7, 12⟩] } ⟨0, 7, 12⟩ [] rfl
    (by decide) (by decide) (by decide) (by decide)).2 (by decide)

/-- the power-of-two hypothesis of `steps_per_bar_nonInteger_iff_float` cannot be dropped: 5/3 at 480
steps per quarter is exactly 3200 steps, but `480 * ((4.0 / 3) * 5) = 3199.9999999999995` in
binary64, so the code raises `NonIntegerStepsPerBarError` -/
example : stepsPerBar { exRel with spq := 480, timeSigs := [⟨0, 5, 3⟩] } = .error .nonIntegerStepsPerBarError ∧
    (3 : Int) ∣ 480 * 4 * 5 := by decide +kernel

end NSV.C07

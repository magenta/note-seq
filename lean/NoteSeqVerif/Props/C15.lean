import NoteSeqVerif.Proofs.C15
/-! C15 — property theorems: a chord symbol computed from pitches denotes exactly those pitches.

All statements are about the executable model `Model/C15.lean` over the tables regenerated from
`/repo/note_seq/chord_symbols_lib.py` (`Generated/C15.lean`).  The iteration order of the Python
sets the namer walks through is a *parameter* (`Orders`); every theorem about
`pitchesToChordSymbol` holds for every order that enumerates the right sets (`OrdersOk`), so
nothing depends on CPython's hash-table layout or on which of several equally large kinds is
met first. -/
namespace NSV.C15
open Gen

/-- namer's table vs reader's table, over every entry:
* `_SCALE_DEGREES` has 12 rows and every name in row `p` is read back (via `_DEGREE_OFFSETS` and
  the alteration) as relative pitch `p`;
* the modification the namer writes for a name the kind lacks is a known prefix whose reader
  function inserts exactly that name's alteration (the added seventh is one higher);
* every chord kind has pairwise distinct degree numbers, and its first abbreviation looks up its
  own degree list in `_CHORD_KINDS_BY_ABBREV`;
* relative pitch 0 has the single name `'1'` and the table contains the pedal point `['1']`;
* the spelling the namer uses for pitch class `r` (`_transpose_pitch_class('C', 0, r)`) is read
  back as `r`. -/
theorem degree_tables_agree :
    SCALE_DEGREES.length = 12 ∧
    (∀ p ∈ List.range 12, ∀ d ∈ (SCALE_DEGREES[p]?).getD [], namePitch d = some p) ∧
    (∀ row ∈ SCALE_DEGREES, ∀ d ∈ row, EmitOk d) ∧
    (∀ k ∈ CHORD_KINDS, (k.degrees.map (·.num)).Nodup ∧ KIND_DEGREES[k.abbrev0]? = some k.degrees) ∧
    SCALE_DEGREES[0]? = some [⟨1, 0⟩] ∧ (∃ k ∈ CHORD_KINDS, k.degrees = [⟨1, 0⟩]) ∧
    (∀ r ∈ List.range 12, (spellFromC r >>= pitchClassToMidi) = .ok r) :=
  ⟨scale_rows_len, scale_rows_pitch, scale_rows_emit,
   fun k hk => ⟨kinds_nodup k hk, kinds_abbrev k hk⟩, row_zero, ped_kind, spell_ok⟩

example : namePitch ⟨7, -2⟩ = some 9 ∧ namePitch ⟨13, -1⟩ = some 8 ∧ EmitOk ⟨7, 0⟩ ∧
    addModOf ⟨7, 0⟩ = ⟨.add, 1, 7⟩ ∧ addModOf ⟨9, 1⟩ = ⟨.alt, 1, 9⟩ := by decide

/-! ## writing the modifications and reading them back -/

/-- no reference to the tables: ANY kind degree list `kd`, ANY target interpretation `t`; `EmitOk` is a table fact for
every name of `_SCALE_DEGREES` (`scale_rows_emit`).  What `_degrees_to_modifications(kd, t)` writes, read back on top of
`_parse_kind` of the kind, is a dict with exactly the target's `(degree, alteration)` pairs. -/
theorem mods_rebuild (kd t : List Deg) (hkn : (kd.map (·.num)).Nodup)
    (htn : (t.map (·.num)).Nodup) (hsub : ∀ d ∈ kd, d ∈ t) (hemit : ∀ d ∈ t, EmitOk d) :
    ∃ mods ms D, degreesToMods kd t = .ok mods ∧ mapE parseMod mods = .ok ms ∧
      applyMods (dictOf kd) ms = .ok D ∧ ∀ n a, (n, a) ∈ D ↔ (⟨n, a⟩ : Deg) ∈ t := by
  -- the reader's dict is the kind's entries followed by those of the degrees the kind lacks
  have hex : ∀ d ∈ extras kd t, d ∈ t ∧ d.num ∉ kd.map (·.num) := fun d => (mem_extras kd t d).mp
  obtain ⟨ms, hms, happ⟩ := applyMods_spec (extras kd t) (kd.map pair)
    (fun d hd => hemit d (hex d hd).1) (htn.sublist (List.filter_sublist.map _))
    (fun d hd => dget_map_pair_none kd d.num (hex d hd).2)
  refine ⟨_, ms, kd.map pair ++ (extras kd t).map pair, degreesToMods_spec kd t hkn htn hsub, hms,
    ?_, fun n a => ?_⟩
  · rw [dictOf_nodup kd hkn]; exact happ
  rw [List.mem_append, mem_map_pair, mem_map_pair, mem_extras]
  constructor
  · rintro (h | h)
    · exact hsub _ h
    · exact h.1
  · intro h
    by_cases hm : n ∈ kd.map (·.num)
    · exact .inl (mem_of_num_mem kd t htn hsub _ h hm)
    · exact .inr ⟨h, hm⟩

/-- non-vacuity: minor seventh kind inside `1 b3 5 b7 9 #11` (an alteration above the seventh is
written without `add`) -/
example : degreesToMods [⟨1, 0⟩, ⟨3, -1⟩, ⟨5, 0⟩, ⟨7, -1⟩]
    [⟨1, 0⟩, ⟨11, 1⟩, ⟨3, -1⟩, ⟨5, 0⟩, ⟨9, 0⟩, ⟨7, -1⟩] = .ok [⟨.alt, 1, 11⟩, ⟨.add, 0, 9⟩] := by decide

/-- non-vacuity: a major seventh added to the pedal point is written `add#7` (F-C15-2) -/
example : degreesToMods [⟨1, 0⟩] [⟨1, 0⟩, ⟨7, 0⟩] = .ok [⟨.add, 1, 7⟩] := by decide

/-! ## every candidate the namer could pick is right -/

theorem notBassDegree_iff (row : List Deg) (d : Deg) : notBassDegree row d = true ↔ d ∉ row := by
  unfold notBassDegree
  simp only [List.all_eq_true, decide_eq_true_eq]
  constructor
  · intro h hm; exact h d hm rfl
  · intro h b hb he; exact h (he ▸ hb)

/-- the target the namer writes modifications for: the interpretation, without the names of the
bass pitch when the kind has none of them — part of the interpretation, containing the kind and
every name that is not one of the bass pitch -/
theorem bassFilter_spec (kd degs brow : List Deg) (hsub : ∀ d ∈ kd, d ∈ degs) (t : List Deg)
    (ht : (if kd.all (notBassDegree brow) then degs.filter (notBassDegree brow) else degs) = t) :
    t.Sublist degs ∧ (∀ d ∈ kd, d ∈ t) ∧ ∀ d ∈ degs, d ∉ brow → d ∈ t := by
  subst ht
  split
  · rename_i hall
    exact ⟨List.filter_sublist, fun d hd => List.mem_filter.mpr ⟨hsub d hd, List.all_eq_true.mp hall d hd⟩,
      fun d hd hn => List.mem_filter.mpr ⟨hd, (notBassDegree_iff brow d).mpr hn⟩⟩
  · exact ⟨List.Sublist.refl _, hsub, fun d hd _ => hd⟩

/-- **for every** bass, **every** candidate root `r`, **every** list `rel` of relative pitches
(any order, repetitions allowed) and **every** interpretation `degs` of `rel` (one name of
`_SCALE_DEGREES` per pitch) without a repeated degree number for which
`_largest_chord_kind_from_degrees` finds a kind `a` — not only the one CPython's set order and
the first-maximum rule select: the tail of `pitches_to_chord_symbol` builds a symbol without
raising, all three readers accept it, its root is `r`, its bass is `bass`, and its pitches
together with its bass are `{(r + p) % 12 : p ∈ rel} ∪ {bass}`.  (F-C15-1 is the bass-filter case
of this proof.) -/
theorem candidate_denotes (bass r a : Nat) (degs : List Deg) (rel : List Nat) (hb : bass < 12)
    (hr : r < 12) (hint : All2 NameAt degs rel) (hdup : hasDup (degs.map (·.num)) = false)
    (hk : largestKindFromDegrees degs = some a) :
    ∃ s ps, buildSymbol bass r a degs = .ok s ∧ chordSymbolPitches s = .ok ps ∧
      chordSymbolRoot s = .ok r ∧ chordSymbolBass s = .ok bass ∧
      ∀ x, (x ∈ ps ∨ x = bass) ↔ (x = bass ∨ ∃ p ∈ rel, x = (r + p) % 12) := by
  obtain ⟨k, hkT, rfl, hsub⟩ := largestKind_spec degs a hk
  have hkd := kinds_abbrev k hkT
  have hdn : (degs.map (·.num)).Nodup := nodup_of_hasDup_false _ hdup
  have hbrow := scaleDegreesAt_eq _ (pymod12_lt ((bass : Int) - r))
  generalize hbr : rowOf (pymod12 ((bass : Int) - r)) = brow at hbrow
  -- the target after the bass filter
  generalize ht : (if k.degrees.all (notBassDegree brow) then degs.filter (notBassDegree brow) else degs) = t
  obtain ⟨hts, hkt, hrest⟩ := bassFilter_spec k.degrees degs brow hsub t ht
  obtain ⟨mods, ms, D, hmods, hms, happ, hset⟩ := mods_rebuild k.degrees t (kinds_nodup k hkT)
    (hdn.sublist (hts.map _)) hkt (fun d hd => let ⟨_, _, hp⟩ := hint.left d (hts.subset hd); nameAt_emit hp)
  obtain ⟨sp, hsp, hspm⟩ := spell_spec r hr
  obtain ⟨bsp, hbsp, hbspm⟩ := spell_spec bass hb
  -- the symbol, and what the reader makes of its kind and modifications
  have hbuild : buildSymbol bass r k.abbrev0 degs =
      .ok ⟨sp.1, sp.2, k.abbrev0, mods, if bass = r then none else some bsp⟩ := by
    unfold buildSymbol kindDegrees
    simp only [hsp, hkd, hbrow, bind_ok, ht, hmods]
    split
    · rfl
    · simp only [hbsp, bind_ok]
  obtain ⟨hsplit, hdeg⟩ := symbolDegrees_ok
    (s := ⟨sp.1, sp.2, k.abbrev0, mods, if bass = r then none else some bsp⟩) hkd hms happ
  refine ⟨_, D.map fun e => (r + relPitch e.1 e.2) % 12, hbuild, ?_, ?_, ?_, fun x => ?_⟩
  · rw [chordSymbolPitches_eq, hdeg]
    simp only [bind_ok, hspm]
  · rw [chordSymbolRoot_eq hsplit]; exact hspm
  · rw [chordSymbolBass_eq hsplit]
    split
    · rename_i he; rw [he]; exact hspm
    · exact hbspm
  · -- the relative pitches are those of the interpretation's names, and a name that the bass
    -- filter dropped has the pitch of the bass
    rw [← interp_rel hint]
    simp only [List.mem_map, Prod.exists, hset]
    constructor
    · rintro (⟨n, a, hd, rfl⟩ | h)
      · exact .inr ⟨_, ⟨⟨n, a⟩, hts.subset hd, rfl⟩, rfl⟩
      · exact .inl h
    · rintro (h | ⟨_, ⟨d, hd, rfl⟩, rfl⟩)
      · exact .inr h
      · by_cases hin : d ∈ brow
        · rw [nameAt_pitch (mem_rowOf.mp (hbr ▸ hin))]
          exact .inr (add_pymod12_sub r bass hb)
        · exact .inl ⟨d.num, d.alter, hrest d hd hin, rfl⟩

/-- `min(pitches)` is `List.min?` of the non-empty list, whose characterisation is in core -/
theorem minOf_spec (ps : List Int) (p : Int) :
    minOf p ps ∈ p :: ps ∧ ∀ q ∈ p :: ps, minOf p ps ≤ q :=
  List.min?_eq_some_iff.mp (rfl : (p :: ps).min? = some (minOf p ps))

/-- the bass the namer uses is the pitch class of a lowest supplied pitch -/
theorem bass_is_lowest (p : Int) (ps : List Int) :
    ∃ m ∈ p :: ps, (∀ q ∈ p :: ps, m ≤ q) ∧ bassOf p ps = pymod12 m :=
  ⟨minOf p ps, (minOf_spec ps p).1, (minOf_spec ps p).2, rfl⟩

/-- what `OrdersOk` gives for the loop over the candidate roots -/
theorem orders_facts (p : Int) (ps : List Int) (o : Orders)
    (ho : OrdersOk (p :: ps) (bassOf p ps) o) :
    let bass := bassOf p ps
    let cands := (bass, o.bassRel) :: o.others
    bass < 12 ∧
    (∀ c ∈ cands, c.1 < 12 ∧ c.1 ∈ pcsOf (p :: ps) ∧ (∀ y ∈ c.2, y < 12) ∧ 0 ∈ c.2 ∧
      ∀ x, (x = bass ∨ ∃ y ∈ c.2, x = (c.1 + y) % 12) ↔ x ∈ pcsOf (p :: ps)) := by
  intro bass cands
  obtain ⟨h1, h2, h3⟩ := ho
  have hb12 : bass < 12 := pymod12_lt _
  have hbm : bass ∈ pcsOf (p :: ps) :=
    List.mem_map.mpr ⟨minOf p ps, (minOf_spec ps p).1, rfl⟩
  have hpcs12 : ∀ x ∈ pcsOf (p :: ps), x < 12 := by
    intro x hx
    obtain ⟨q, _, rfl⟩ := List.mem_map.mp hx
    exact pymod12_lt q
  have hroots : ∀ x, x ∈ bass :: o.others.map (·.1) ↔ x ∈ pcsOf (p :: ps) := by
    intro x
    constructor
    · intro hx
      rcases List.mem_cons.mp hx with rfl | hx
      · exact hbm
      · exact (h1 x hx).2
    · intro hx
      rcases h2 x hx with rfl | h
      · exact List.mem_cons_self ..
      · exact List.mem_cons_of_mem _ h
  refine ⟨hb12, ?_⟩
  intro c hc
  have hc1 : c.1 ∈ bass :: o.others.map (·.1) := by
    rcases List.mem_cons.mp hc with rfl | hc
    · exact List.mem_cons_self ..
    · exact List.mem_cons_of_mem _ (List.mem_map.mpr ⟨c, hc, rfl⟩)
  have hc12 := hpcs12 _ ((hroots _).mp hc1)
  obtain ⟨h3a, h3b⟩ := h3 c hc
  refine ⟨hc12, (hroots _).mp hc1, ?_, ?_, ?_⟩
  · intro y hy
    obtain ⟨x, _, rfl⟩ := h3a y hy
    exact pymod12_lt _
  · have := h3b c.1 hc1
    rwa [Int.sub_self] at this
  · intro x
    constructor
    · rintro (rfl | ⟨y, hy, rfl⟩)
      · exact hbm
      · obtain ⟨x0, hx0, rfl⟩ := h3a y hy
        rw [add_pymod12_sub c.1 x0 (hpcs12 _ ((hroots _).mp hx0))]
        exact (hroots _).mp hx0
    · intro hx
      exact .inr ⟨_, h3b x ((hroots _).mpr hx), (add_pymod12_sub c.1 x (hpcs12 _ hx)).symm⟩

/-- `name_denotes`, `name_or_error` and `name_error_iff` are the projections of this case split -/
theorem name_outcome (p : Int) (ps : List Int) (o : Orders)
    (ho : OrdersOk (p :: ps) (bassOf p ps) o) :
    (pitchesToChordSymbol (p :: ps) o = .error .chordSymbolError ∧
      ∀ c ∈ (bassOf p ps, o.bassRel) :: o.others, Unnameable c.2) ∨
    (∃ s pcs r, pitchesToChordSymbol (p :: ps) o = .ok (.sym s) ∧
      (∃ c ∈ (bassOf p ps, o.bassRel) :: o.others, ¬ Unnameable c.2) ∧
      chordSymbolPitches s = .ok pcs ∧ chordSymbolBass s = .ok (bassOf p ps) ∧
      chordSymbolRoot s = .ok r ∧ r ∈ pcsOf (p :: ps) ∧
      ∀ x, (x ∈ pcs ∨ x = bassOf p ps) ↔ x ∈ pcsOf (p :: ps)) := by
  obtain ⟨hb12, hc⟩ := orders_facts p ps o ho
  obtain ⟨res, hres, hsel, hnone⟩ := foldE_root_total ((bassOf p ps, o.bassRel) :: o.others)
    (fun c hcm => ⟨(hc c hcm).2.2.1, (hc c hcm).2.2.2.1⟩)
  unfold pitchesToChordSymbol
  simp only [hres, bind_ok]
  cases hr : res with
  | none =>
    left
    exact ⟨rfl, hnone.mp hr⟩
  | some t =>
    obtain ⟨r, a, degs⟩ := t
    right
    obtain ⟨c, hcm, rfl, hint, hdup, hk⟩ := hsel r a degs hr
    obtain ⟨hc12, hcp, _, _, hset⟩ := hc c hcm
    obtain ⟨s, pcs, hs, hp, hroot, hbass, hx⟩ :=
      candidate_denotes (bassOf p ps) c.1 a degs c.2 hb12 hc12 hint hdup hk
    refine ⟨s, pcs, c.1, by simp only [hs, bind_ok], ?_, hp, hbass, hroot, hcp, ?_⟩
    · apply Classical.byContradiction
      intro hne
      have := hnone.mpr (fun c' hc' => Classical.byContradiction (fun hu => hne ⟨c', hc', hu⟩))
      rw [hr] at this; cases this
    · intro x
      rw [hx, hset]

/-- whenever the namer returns a symbol for a non-empty list of pitches — for
every iteration order of the sets involved — the readers accept the symbol, its bass is the pitch
class of the lowest pitch, its root is one of the supplied pitch classes, and its pitches
together with its bass are exactly the supplied pitch classes. -/
theorem name_denotes (p : Int) (ps : List Int) (o : Orders) (s : Symbol)
    (ho : OrdersOk (p :: ps) (bassOf p ps) o)
    (h : pitchesToChordSymbol (p :: ps) o = .ok (.sym s)) :
    ∃ pcs r, chordSymbolPitches s = .ok pcs ∧ chordSymbolBass s = .ok (bassOf p ps) ∧
      chordSymbolRoot s = .ok r ∧ r ∈ pcsOf (p :: ps) ∧
      ∀ x, (x ∈ pcs ∨ x = bassOf p ps) ↔ x ∈ pcsOf (p :: ps) := by
  rcases name_outcome p ps o ho with ⟨he, _⟩ | ⟨s', pcs, r, hs, _, h1, h2, h3, h4, h5⟩
  · rw [he] at h; cases h
  · rw [hs] at h
    simp only [Except.ok.injEq, Name.sym.injEq] at h
    subst h
    exact ⟨pcs, r, h1, h2, h3, h4, h5⟩

/-- for a non-empty list of pitches the namer either returns a symbol or raises
`ChordSymbolError`; no `KeyError` / `IndexError` / `AssertionError`, no non-terminating spelling
loop, and never the no-chord name. -/
theorem name_or_error (p : Int) (ps : List Int) (o : Orders)
    (ho : OrdersOk (p :: ps) (bassOf p ps) o) :
    pitchesToChordSymbol (p :: ps) o = .error .chordSymbolError ∨
    ∃ s, pitchesToChordSymbol (p :: ps) o = .ok (.sym s) := by
  rcases name_outcome p ps o ho with ⟨he, _⟩ | ⟨s, _, _, hs, _⟩
  · exact Or.inl he
  · exact Or.inr ⟨s, hs⟩

/-- `ChordSymbolError` is raised exactly when no candidate root has an
interpretation of its relative pitches free of repeated degree numbers. -/
theorem name_error_iff (p : Int) (ps : List Int) (o : Orders)
    (ho : OrdersOk (p :: ps) (bassOf p ps) o) :
    pitchesToChordSymbol (p :: ps) o = .error .chordSymbolError ↔
      ∀ c ∈ (bassOf p ps, o.bassRel) :: o.others, Unnameable c.2 := by
  rcases name_outcome p ps o ho with ⟨he, hu⟩ | ⟨s, _, _, hs, ⟨c, hc, hn⟩, _⟩
  · exact ⟨fun _ => hu, fun _ => he⟩
  · constructor
    · intro h; rw [hs] at h; cases h
    · intro h; exact absurd (h c hc) hn

theorem name_empty (o : Orders) : pitchesToChordSymbol [] o = .ok .noChord := rfl

/-! non-vacuity: orders as CPython produces them for `[55, 64, 72]` (C major over G), for `[49, 62]`
(F-C15-1: the bass is the root, so the bass filter must not drop the `b2`) and for `[49, 60]`
(F-C15-2: a major seventh over a kind without a seventh). -/
example : OrdersOk [55, 64, 72] (bassOf 55 [64, 72]) ⟨[0, 9, 5], [(0, [0, 4, 7]), (4, [8, 0, 3])]⟩ ∧
    (pitchesToChordSymbol [55, 64, 72] ⟨[0, 9, 5], [(0, [0, 4, 7]), (4, [8, 0, 3])]⟩).map render
      = .ok "C/G" := by decide +kernel

example : OrdersOk [49, 62] (bassOf 49 [62]) ⟨[0, 1], [(2, [0, 11])]⟩ ∧
    (pitchesToChordSymbol [49, 62] ⟨[0, 1], [(2, [0, 11])]⟩).map render = .ok "Dbped(addb2)" := by
  decide +kernel

example : OrdersOk [49, 60] (bassOf 49 [60]) ⟨[0, 11], [(0, [0, 1])]⟩ ∧
    (pitchesToChordSymbol [49, 60] ⟨[0, 11], [(0, [0, 1])]⟩).map render = .ok "Dbped(add#7)" := by
  decide +kernel

/-! ## the reader is self-consistent on every parseable symbol -/

theorem steps_midi_total : ∀ st ∈ List.range 7, (dget STEPS_MIDI st).isSome = true := by decide

theorem quality_constants_distinct :
    [QUALITY_MAJOR, QUALITY_MINOR, QUALITY_AUGMENTED, QUALITY_DIMINISHED, QUALITY_OTHER].Nodup := by
  decide

theorem pitchClassToMidi_lt (pc : Nat × Int) (m : Nat) (h : pitchClassToMidi pc = .ok m) : m < 12 := by
  obtain ⟨_, _, h⟩ := NSV.bind_ok h
  exact Except.ok.inj h ▸ pymod12_lt _

theorem pitchClassToMidi_total (pc : Nat × Int) (h : pc.1 < 7) : ∃ m, pitchClassToMidi pc = .ok m := by
  have := steps_midi_total pc.1 (List.mem_range.mpr h)
  unfold pitchClassToMidi lookupK
  cases hd : dget STEPS_MIDI pc.1 with
  | none => rw [hd] at this; cases this
  | some v => exact ⟨_, rfl⟩

theorem bass_letter_lt (s : Symbol) (hroot : s.rootStep < 7) (hbass : ∀ b, s.bass = some b → b.1 < 7) :
    (s.bass.getD (s.rootStep, s.rootAlter)).1 < 7 := by
  cases hsb : s.bass with
  | none => exact hroot
  | some b => exact hbass b hsb

/-- what each quality constant says about the parsed degrees -/
theorem quality_triad (D : Dict) :
    (qualityOfDegrees D = QUALITY_MAJOR → dget D 1 = some 0 ∧ dget D 3 = some 0 ∧ dget D 5 = some 0) ∧
    (qualityOfDegrees D = QUALITY_MINOR → dget D 1 = some 0 ∧ dget D 3 = some (-1) ∧ dget D 5 = some 0) ∧
    (qualityOfDegrees D = QUALITY_AUGMENTED → dget D 1 = some 0 ∧ dget D 3 = some 0 ∧ dget D 5 = some 1) ∧
    (qualityOfDegrees D = QUALITY_DIMINISHED →
      dget D 1 = some 0 ∧ dget D 3 = some (-1) ∧ dget D 5 = some (-1)) ∧
    qualityOfDegrees D ∈
      [QUALITY_MAJOR, QUALITY_MINOR, QUALITY_AUGMENTED, QUALITY_DIMINISHED, QUALITY_OTHER] := by
  -- `q` stands for the quality everywhere, so that the case analysis works on one small equation
  generalize hq : qualityOfDegrees D = q
  unfold qualityOfDegrees at hq
  split at hq
  · rename_i a b c h1 h3 h5
    rw [h1, h3, h5]
    by_cases p1 : (a, b, c) = (0, 0, 0)
    · rw [if_pos p1] at hq; cases p1; cases hq
      exact ⟨fun _ => ⟨rfl, rfl, rfl⟩, nofun, nofun, nofun, by simp⟩
    rw [if_neg p1] at hq
    by_cases p2 : (a, b, c) = (0, -1, 0)
    · rw [if_pos p2] at hq; cases p2; cases hq
      exact ⟨nofun, fun _ => ⟨rfl, rfl, rfl⟩, nofun, nofun, by simp⟩
    rw [if_neg p2] at hq
    by_cases p3 : (a, b, c) = (0, 0, 1)
    · rw [if_pos p3] at hq; cases p3; cases hq
      exact ⟨nofun, nofun, fun _ => ⟨rfl, rfl, rfl⟩, nofun, by simp⟩
    rw [if_neg p3] at hq
    by_cases p4 : (a, b, c) = (0, -1, -1)
    · rw [if_pos p4] at hq; cases p4; cases hq
      exact ⟨nofun, nofun, nofun, fun _ => ⟨rfl, rfl, rfl⟩, by simp⟩
    rw [if_neg p4] at hq; cases hq
    exact ⟨nofun, nofun, nofun, nofun, by simp⟩
  · cases hq; exact ⟨nofun, nofun, nofun, nofun, by simp⟩

/-- `hroot` / `hbass`: a letter `A..G`, which is what the root regular expression yields; spelling, kind index and
modifications are arbitrary.  A major / minor / augmented / diminished quality implies that the corresponding triad on
the root is among the pitches. -/
theorem parse_consistent (s : Symbol) (ps : List Nat)
    (hbass : ∀ b, s.bass = some b → b.1 < 7) (hroot : s.rootStep < 7)
    (h : chordSymbolPitches s = .ok ps) :
    ∃ r b q, chordSymbolRoot s = .ok r ∧ chordSymbolBass s = .ok b ∧ chordSymbolQuality s = .ok q ∧
      r < 12 ∧ b < 12 ∧ (∀ x ∈ ps, x < 12) ∧
      q ∈ [QUALITY_MAJOR, QUALITY_MINOR, QUALITY_AUGMENTED, QUALITY_DIMINISHED, QUALITY_OTHER] ∧
      (q = QUALITY_MAJOR → r ∈ ps ∧ (r + 4) % 12 ∈ ps ∧ (r + 7) % 12 ∈ ps) ∧
      (q = QUALITY_MINOR → r ∈ ps ∧ (r + 3) % 12 ∈ ps ∧ (r + 7) % 12 ∈ ps) ∧
      (q = QUALITY_AUGMENTED → r ∈ ps ∧ (r + 4) % 12 ∈ ps ∧ (r + 8) % 12 ∈ ps) ∧
      (q = QUALITY_DIMINISHED → r ∈ ps ∧ (r + 3) % 12 ∈ ps ∧ (r + 6) % 12 ∈ ps) := by
  rw [chordSymbolPitches_eq] at h
  obtain ⟨D, hD, h⟩ := NSV.bind_ok h
  obtain ⟨rp, hrp, h⟩ := NSV.bind_ok h
  have hps := Except.ok.inj h
  obtain ⟨ms, hms⟩ := splitMods_of_degrees hD
  have hr12 := pitchClassToMidi_lt _ rp hrp
  obtain ⟨b, hb⟩ := pitchClassToMidi_total _ (bass_letter_lt s hroot hbass)
  obtain ⟨qM, qm, qA, qD, qmem⟩ := quality_triad D
  -- an entry `n ↦ a` of the parsed degrees that the reader puts `j` above the root
  have hmem : ∀ {n : Nat} {a : Int} (j : Nat), dget D n = some a → relPitch n a = j →
      (rp + j) % 12 ∈ ps :=
    fun _ hd e => hps ▸ e ▸ List.mem_map.mpr ⟨_, dget_some_mem D _ _ hd, rfl⟩
  have triad : ∀ {a3 a5 : Int} (j3 j5 : Nat),
      dget D 1 = some 0 ∧ dget D 3 = some a3 ∧ dget D 5 = some a5 →
      relPitch 3 a3 = j3 → relPitch 5 a5 = j5 →
      rp ∈ ps ∧ (rp + j3) % 12 ∈ ps ∧ (rp + j5) % 12 ∈ ps :=
    fun j3 j5 h e3 e5 =>
      ⟨Nat.mod_eq_of_lt hr12 ▸ hmem 0 h.1 rfl, hmem j3 h.2.1 e3, hmem j5 h.2.2 e5⟩
  refine ⟨rp, b, qualityOfDegrees D, chordSymbolRoot_eq hms ▸ hrp, chordSymbolBass_eq hms ▸ hb, ?_,
    hr12, pitchClassToMidi_lt _ b hb, ?_, qmem, ?_, ?_, ?_, ?_⟩
  · rw [chordSymbolQuality_eq, hD]; rfl
  · intro x hx
    obtain ⟨e, _, rfl⟩ := List.mem_map.mp (hps ▸ hx)
    exact Nat.mod_lt _ (by decide)
  · exact fun hq => triad 4 7 (qM hq) rfl rfl
  · exact fun hq => triad 3 7 (qm hq) rfl rfl
  · exact fun hq => triad 4 8 (qA hq) rfl rfl
  · exact fun hq => triad 3 6 (qD hq) rfl rfl

/-- non-vacuity: `Cm7b5` with `(no1)` loses its quality; `Co7` is diminished with its triad -/
example : chordSymbolPitches ⟨2, 0, 16, [], none⟩ = .ok [0, 3, 6, 9] ∧
    chordSymbolQuality ⟨2, 0, 16, [], none⟩ = .ok QUALITY_DIMINISHED ∧
    chordSymbolQuality ⟨2, 0, 20, [⟨.no, 0, 1⟩], some (4, -1)⟩ = .ok QUALITY_OTHER ∧
    chordSymbolBass ⟨2, 0, 20, [⟨.no, 0, 1⟩], some (4, -1)⟩ = .ok 3 := by decide +kernel

/-! ## root and bass are the pitch classes SPELLED in the symbol, with any number of accidentals -/

/-- `_STEPS_MIDI` (regenerated from the source) is the usual naming of the white keys,
letters `A..G` as `0..6` -/
theorem steps_midi_spelling :
    ∀ st ∈ List.range 7, dget STEPS_MIDI st = ([9, 11, 0, 2, 4, 5, 7] : List Int)[st]? := by decide

/-- a letter with `a` accidentals (`a > 0` sharps, `a < 0` flats, ANY number of them) is the pitch
class `(white key + a) mod 12` -/
theorem pitchClassToMidi_spelled (st : Nat) (a : Int) (m : Nat) (hst : st < 7)
    (h : pitchClassToMidi (st, a) = .ok m) :
    ∃ base, ([9, 11, 0, 2, 4, 5, 7] : List Int)[st]? = some base ∧ (m : Int) = (base + a) % 12 := by
  have htab := steps_midi_spelling st (List.mem_range.mpr hst)
  unfold pitchClassToMidi lookupK at h
  cases hd : dget STEPS_MIDI st with
  | none => rw [hd] at h; cases h
  | some v =>
    rw [hd] at h; cases h
    exact ⟨v, by rw [← htab, hd], pymod12_cast _⟩

/-- twelve more (or fewer) accidentals spell the same pitch class -/
theorem pitchClassToMidi_respell (st : Nat) (a k : Int) :
    pitchClassToMidi (st, a + 12 * k) = pitchClassToMidi (st, a) := by
  unfold pitchClassToMidi
  simp only [← Int.add_assoc, pymod12_add_mul]

/-- root and bass of a parseable symbol are the spelled pitch classes: nothing about a symbol's
readers depends on HOW MANY accidentals the root / bass carry beyond their sum mod 12 -/
theorem root_bass_spelled (s : Symbol) (r b : Nat) (hroot : s.rootStep < 7)
    (hbass : ∀ x, s.bass = some x → x.1 < 7)
    (hr : chordSymbolRoot s = .ok r) (hb : chordSymbolBass s = .ok b) :
    (∃ base, ([9, 11, 0, 2, 4, 5, 7] : List Int)[s.rootStep]? = some base ∧
      (r : Int) = (base + s.rootAlter) % 12) ∧
    (∃ base, ([9, 11, 0, 2, 4, 5, 7] : List Int)[(s.bass.getD (s.rootStep, s.rootAlter)).1]? = some base ∧
      (b : Int) = (base + (s.bass.getD (s.rootStep, s.rootAlter)).2) % 12) := by
  obtain ⟨_, _, hr⟩ := NSV.bind_ok hr
  obtain ⟨_, _, hb⟩ := NSV.bind_ok hb
  exact ⟨pitchClassToMidi_spelled _ _ _ hroot hr,
    pitchClassToMidi_spelled _ _ _ (bass_letter_lt s hroot hbass) hb⟩

/-- re-spelling root and bass enharmonically (12·k more accidentals on the root, 12·j on the bass)
changes none of the four readers -/
theorem readers_respell (s : Symbol) (k j : Int) :
    let s' : Symbol := { s with rootAlter := s.rootAlter + 12 * k,
                                bass := s.bass.map (fun x => (x.1, x.2 + 12 * j)) }
    chordSymbolRoot s' = chordSymbolRoot s ∧ chordSymbolBass s' = chordSymbolBass s ∧
    chordSymbolQuality s' = chordSymbolQuality s ∧ chordSymbolPitches s' = chordSymbolPitches s := by
  intro s'
  have hsplit : splitMods s' = splitMods s := rfl
  have hdeg : symbolDegrees s' = symbolDegrees s := rfl
  have hroot : pitchClassToMidi (s'.rootStep, s'.rootAlter) = pitchClassToMidi (s.rootStep, s.rootAlter) :=
    pitchClassToMidi_respell _ _ _
  have hbass : pitchClassToMidi (s'.bass.getD (s'.rootStep, s'.rootAlter))
      = pitchClassToMidi (s.bass.getD (s.rootStep, s.rootAlter)) := by
    cases hsb : s.bass with
    | none =>
      have : s'.bass = none := by simp [s', hsb]
      rw [this]; exact hroot
    | some x =>
      have : s'.bass = some (x.1, x.2 + 12 * j) := by simp [s', hsb]
      rw [this]; exact pitchClassToMidi_respell _ _ _
  refine ⟨?_, ?_, ?_, ?_⟩
  · unfold chordSymbolRoot; rw [hsplit, hroot]
  · unfold chordSymbolBass; rw [hsplit, hbass]
  · rw [chordSymbolQuality_eq, chordSymbolQuality_eq, hdeg]
  · rw [chordSymbolPitches_eq, chordSymbolPitches_eq, hdeg, hroot]

/-- non-vacuity: `C###/Dbbbb` (kind 0 is the plain major triad `""`) has root 3 (= `D#`) and bass 10
(= `Bb`); `B` with 13 flats is `Bb` -/
example : chordSymbolRoot ⟨2, 3, 0, [], some (3, -4)⟩ = .ok 3 ∧
    chordSymbolBass ⟨2, 3, 0, [], some (3, -4)⟩ = .ok 10 ∧
    pitchClassToMidi (1, -13) = .ok 10 ∧ pitchClassToMidi (1, -1) = .ok 10 := by decide +kernel

end NSV.C15

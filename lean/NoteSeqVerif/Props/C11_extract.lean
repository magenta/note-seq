import NoteSeqVerif.Props.C02
import NoteSeqVerif.Proofs.C11WF
import Mathlib.Tactic.Linarith
-- THEOREMS: wf_specPiece wf_extract_subsequences wf_extract_subsequence wf_trim wf_splitWith
-- THEOREMS: wf_split_hop_list wf_split_hop wf_split_time_changes wf_split_silence
-- THEOREMS: no_invention_trim no_invention_extract_subsequences no_invention_extract_subsequence no_invention_splitWith
/-! # C11 (b) — trim / extract / split return well-formed sequences and invent nothing
Corollaries of C02's closed form `extract_eq_spec` (`specPiece`) and `trim_spec` (models owned by C02).
`R`: any monotone rounding operator with `R 0 = 0`. -/
namespace NSV.C11
open NSV.C02

/-- a piece starting at `a` re-times what it keeps from `t ≥ a` to `R (t - a)`, which is not before 0 -/
theorem shifted_nonneg {R : Rat → Rat} (hR : ∀ a b, a ≤ b → R a ≤ R b) (hR0 : R 0 = 0) {a t : Rat} (h : a ≤ t) :
    0 ≤ R (t - a) := by
  rw [← hR0]; exact hR _ _ (by linarith)

theorem specState_nonneg {α : Type} (R : Rat → Rat) (hR : ∀ a b, a ≤ b → R a ≤ R b) (hR0 : R 0 = 0)
    (time : α → Rat) (setTime : α → Rat → α) (hset : ∀ e t, time (setTime e t) = t) (evs : List α) (a b : Rat) :
    ∀ e ∈ specState R time setTime evs a b, 0 ≤ time e := by
  intro e he
  obtain ⟨m, _, ⟨_, rfl⟩ | ⟨hlt, _, rfl⟩⟩ := mem_specState he <;> rw [hset]
  exact shifted_nonneg hR hR0 (le_of_lt hlt)

/-- **every closed-form piece of a well-formed sequence is well-formed** (any window, any `preserve`) -/
theorem wf_specPiece (R : Rat → Rat) (hR : ∀ a b, a ≤ b → R a ≤ R b) (hR0 : R 0 = 0) (preserve : List Int)
    (s : NoteSeq) (hw : WF s) (ab : Rat × Rat) : WF (specPiece R preserve s ab) := by
  refine ⟨?_, (pieceTotal_spec _).1, ⟨?_, ?_, ?_, ?_, ?_, ?_, ?_⟩⟩
  · intro n hn
    have hn' : n ∈ specNotes R s ab.1 ab.2 := hn
    obtain ⟨m, hm, ⟨h1, h2⟩, rfl⟩ := mem_specNotes.mp hn'
    refine ⟨shifted_nonneg hR hR0 h1, ?_, (pieceTotal_spec _).2.1 _ hn'⟩
    show R (m.start - ab.1) ≤ R (min m.end_ ab.2 - ab.1)
    apply hR
    have : m.start ≤ min m.end_ ab.2 := le_min (hw.notes m hm).2.1 (le_of_lt h2)
    linarith
  · exact specState_nonneg R hR hR0 _ _ (fun _ _ => rfl) _ _ _
  · exact specState_nonneg R hR hR0 _ _ (fun _ _ => rfl) _ _ _
  · exact specState_nonneg R hR hR0 _ _ (fun _ _ => rfl) _ _ _
  · intro e he
    have he' : e ∈ specState R (·.time) TextAnn.setTime (chords s) ab.1 ab.2 ++ specBeats R s ab.1 ab.2 := he
    rcases List.mem_append.mp he' with h | h
    · exact specState_nonneg R hR hR0 _ _ (fun _ _ => rfl) _ _ _ e h
    · obtain ⟨m, _, ⟨h1, _⟩, rfl⟩ := mem_specBeats.mp h
      exact shifted_nonneg hR hR0 h1
  · intro e he
    obtain ⟨m, _, ⟨_, rfl⟩ | ⟨hlt, _, rfl⟩⟩ := mem_specPedals (show e ∈ specPedals R preserve s ab.1 ab.2 from he)
    · exact le_refl _
    · exact shifted_nonneg hR hR0 (le_of_lt hlt)
  · intro e he
    have : e ∈ ([] : List Bend) := he
    simp at this
  · intro e he
    exact hw.events.sectionAnns e he

theorem wf_extract_subsequences (R : Rat → Rat) (hR : ∀ a b, a ≤ b → R a ≤ R b) (hR0 : R 0 = 0)
    (preserve : List Int) (s : NoteSeq) (st : List Rat) (ps : List NoteSeq) (hw : WF s)
    (h : extractSubsequencesR R preserve s st = .ok ps) : ∀ p ∈ ps, WF p := by
  rcases extract_trichotomy R preserve s st with ⟨_, e⟩ | ⟨_, _, e⟩ | ⟨_, e⟩
  · rw [e] at h; cases h
  · rw [e] at h; cases h
  · rw [e] at h; cases h
    intro p hp
    obtain ⟨ab, _, rfl⟩ := List.mem_map.mp hp
    exact wf_specPiece R hR hR0 preserve s hw ab

theorem extract_subsequence_ok {R : Rat → Rat} {preserve : List Int} {s r : NoteSeq} {a b : Rat}
    (h : extractSubsequenceR R preserve s a b = .ok r) : r = specPiece R preserve s (a, b) := by
  rw [extract_subsequence_spec] at h
  split at h
  · cases h
  · split at h
    · cases h
    · exact (Except.ok.inj h).symm

theorem wf_extract_subsequence (R : Rat → Rat) (hR : ∀ a b, a ≤ b → R a ≤ R b) (hR0 : R 0 = 0)
    (preserve : List Int) (s r : NoteSeq) (a b : Rat) (hw : WF s)
    (h : extractSubsequenceR R preserve s a b = .ok r) : WF r :=
  extract_subsequence_ok h ▸ wf_specPiece R hR hR0 preserve s hw (a, b)

/-- a `trim_note_sequence` that returns: `trim_spec` without its hypothesis -/
theorem trim_ok {s r : NoteSeq} {a b : Rat} (h : trim s a b = .ok r) :
    r.notes = (s.notes.filter (fun n => decide (a ≤ n.start) && decide (n.start < b))).map
      (fun n => { n with end_ := min n.end_ b }) ∧
    r.totalTime = min s.totalTime b ∧ { r with notes := s.notes, totalTime := s.totalTime } = s := by
  cases hq : s.isQuantized with
  | true => rw [(trim_errors s a b).mpr hq] at h; cases h
  | false =>
    obtain ⟨p, hp, hrest⟩ := trim_spec s a b hq
    rw [hp] at h
    exact Except.ok.inj h ▸ hrest

/-- `trim_note_sequence` with a non-negative end of the window (`total_time = min(total_time, end)`) -/
theorem wf_trim (s r : NoteSeq) (a b : Rat) (hb : 0 ≤ b) (hw : WF s) (h : trim s a b = .ok r) : WF r := by
  obtain ⟨hn, ht, hrest⟩ := trim_ok h
  -- everything but the notes and `total_time` is as in `s`
  have ev : EventsNonneg { r with notes := s.notes, totalTime := s.totalTime } := hrest ▸ hw.events
  refine ⟨?_, by rw [ht]; exact le_min hw.total hb,
    ⟨ev.tempos, ev.timeSigs, ev.keySigs, ev.texts, ev.ccs, ev.bends, ev.sectionAnns⟩⟩
  intro n hn'
  rw [hn] at hn'
  obtain ⟨m, hm, rfl⟩ := List.mem_map.mp hn'
  have hf := (List.mem_filter.mp hm).2
  simp only [Bool.and_eq_true, decide_eq_true_eq] at hf
  obtain ⟨h0, h1, h2⟩ := hw.notes m (List.mem_filter.mp hm).1
  rw [ht]
  refine ⟨h0, le_min h1 (le_of_lt hf.2), ?_⟩
  exact min_le_min h2 (le_refl _)

/-- the tail common to the whole split family: nothing, or one extraction -/
theorem splitWith_cases (R : Rat → Rat) (preserve : List Int) (s : NoteSeq) (vs : List Rat) (ps : List NoteSeq)
    (h : splitWith R preserve s vs = .ok ps) :
    ps = [] ∨ ∃ st, extractSubsequencesR R preserve s st = .ok ps := by
  rw [split_with_spec] at h
  split at h
  · exact Or.inr ⟨_, h⟩
  · split at h
    · exact Or.inl (Except.ok.inj h).symm
    · exact Or.inr ⟨_, h⟩

theorem wf_splitWith (R : Rat → Rat) (hR : ∀ a b, a ≤ b → R a ≤ R b) (hR0 : R 0 = 0) (preserve : List Int)
    (s : NoteSeq) (vs : List Rat) (ps : List NoteSeq) (hw : WF s) (h : splitWith R preserve s vs = .ok ps) :
    ∀ p ∈ ps, WF p := by
  rcases splitWith_cases R preserve s vs ps h with rfl | ⟨st, hst⟩
  · intro p hp; simp at hp
  · exact wf_extract_subsequences R hR hR0 preserve s st ps hw hst

theorem wf_split_hop_list (R : Rat → Rat) (hR : ∀ a b, a ≤ b → R a ≤ R b) (hR0 : R 0 = 0) (preserve : List Int)
    (s : NoteSeq) (hops : List Rat) (skip : Bool) (ps : List NoteSeq) (hw : WF s)
    (h : splitHopListR R preserve s hops skip = .ok ps) : ∀ p ∈ ps, WF p :=
  wf_splitWith R hR hR0 preserve s _ ps hw h

theorem wf_split_hop (R : Rat → Rat) (hR : ∀ a b, a ≤ b → R a ≤ R b) (hR0 : R 0 = 0) (preserve : List Int)
    (s : NoteSeq) (hop : Rat) (skip : Bool) (ps : List NoteSeq) (hw : WF s)
    (h : splitHopR R preserve s hop skip = .ok ps) : ∀ p ∈ ps, WF p := by
  unfold splitHopR at h
  split at h
  · cases h
  · exact wf_splitWith R hR hR0 preserve s _ ps hw h

theorem wf_split_time_changes (R : Rat → Rat) (hR : ∀ a b, a ≤ b → R a ≤ R b) (hR0 : R 0 = 0)
    (preserve : List Int) (dq : Rat) (s : NoteSeq) (skip : Bool) (ps : List NoteSeq) (hw : WF s)
    (h : splitTimeChangesR R preserve dq s skip = .ok ps) : ∀ p ∈ ps, WF p :=
  wf_splitWith R hR hR0 preserve s _ ps hw h

theorem wf_split_silence (R : Rat → Rat) (hR : ∀ a b, a ≤ b → R a ≤ R b) (hR0 : R 0 = 0) (preserve : List Int)
    (s : NoteSeq) (gap : Rat) (ps : List NoteSeq) (hw : WF s)
    (h : splitSilenceR R preserve s gap = .ok ps) : ∀ p ∈ ps, WF p :=
  wf_splitWith R hR hR0 preserve s _ ps hw h

theorem sameNote_clipR (R : Rat → Rat) (a b : Rat) (n : Note) : SameNote n (clipR R a b n) :=
  ⟨rfl, rfl, rfl, rfl, rfl, rfl, rfl, rfl⟩

/-- every kept note is an input note with its tag, pitch, start and `SameNote` attributes (only `end_time`
is clipped), and no tag occurs more often than in the input -/
theorem no_invention_trim (s r : NoteSeq) (a b : Rat) (h : trim s a b = .ok r) :
    NoInvention s.notes r.notes ∧ NoDuplication s.notes r.notes ∧ ∀ n ∈ r.notes, ∃ m ∈ s.notes, n.pitch = m.pitch ∧ n.start = m.start := by
  obtain ⟨hn, _, _⟩ := trim_ok h
  rw [hn]
  obtain ⟨h1, h2⟩ := no_invention_map_sublist (fun n : Note => { n with end_ := min n.end_ b })
    (fun _ => ⟨rfl, rfl, rfl, rfl, rfl, rfl, rfl, rfl⟩) List.filter_sublist (List.Perm.refl s.notes)
  refine ⟨h1, h2, ?_⟩
  · intro n hn'
    obtain ⟨m, hm, rfl⟩ := List.mem_map.mp hn'
    exact ⟨m, (List.mem_filter.mp hm).1, rfl, rfl⟩

/-- every note of every extracted piece is an input note (same tag, pitch, velocity, instrument, …) -/
theorem no_invention_extract_subsequences (R : Rat → Rat) (preserve : List Int) (s : NoteSeq) (st : List Rat)
    (ps : List NoteSeq) (h : extractSubsequencesR R preserve s st = .ok ps) :
    ∀ p ∈ ps, NoInvention s.notes p.notes ∧ ∀ n ∈ p.notes, ∃ m ∈ s.notes, n.pitch = m.pitch ∧ SameNote m n := by
  have hv : Valid s st := ((extract_errors R preserve s st).2.2.1).mp ⟨ps, h⟩
  intro p hp
  have hni := extract_notes_nothing_invented hv h p hp
  refine ⟨?_, ?_⟩
  · intro n hn
    obtain ⟨m, hm, a, b, rfl⟩ := hni n hn
    exact ⟨m, hm, sameNote_clipR R a b m⟩
  · intro n hn
    obtain ⟨m, hm, a, b, rfl⟩ := hni n hn
    exact ⟨m, hm, rfl, sameNote_clipR R a b m⟩

/-- … and, the split times being sorted, no input note lands in two pieces: all pieces together hold
each tag at most as often as the input -/
theorem no_duplication_extract_subsequences (R : Rat → Rat) (preserve : List Int) (s : NoteSeq) (st : List Rat)
    (ps : List NoteSeq) (h : extractSubsequencesR R preserve s st = .ok ps) :
    NoDuplication s.notes (ps.map (·.notes)).flatten := by
  have hv : Valid s st := ((extract_errors R preserve s st).2.2.1).mp ⟨ps, h⟩
  obtain ⟨_, h2, hs, _⟩ := hv
  have hps := extract_pieces ⟨‹_›, h2, hs, ‹_›⟩ h
  match st, h2 with
  | x :: y :: r, _ =>
    intro t
    have hperm := filter_pairs_perm (sortByRat (·.start) s.notes) x (y :: r) hs
    -- count of tag `t` in all pieces = count in the union of the selections
    have key : ∀ (P : List (Rat × Rat)),
        ((((P.map (specPiece R preserve s)).map (·.notes)).flatten).filter (fun n => n.voice = t)).length =
        (((P.map (fun ab => (sortByRat (·.start) s.notes).filter (inIv ab.1 ab.2))).flatten).filter
          (fun n => n.voice = t)).length := by
      intro P
      induction P with
      | nil => simp
      | cons ab P ih =>
        simp only [List.map_cons, List.flatten_cons, List.filter_append, List.length_append, ih]
        congr 1
        show ((specNotes R s ab.1 ab.2).filter _).length = _
        simp only [specNotes]
        -- equality, not only ≤: filtering by tag commutes with a tag-preserving map
        rw [List.filter_map, List.length_map]
        rfl
    rw [hps, key]
    rw [(hperm.filter _).length_eq]
    have h1 : ((sortByRat (·.start) s.notes).filter (inIv x ((x :: y :: r).getLast (List.cons_ne_nil _ _)))).Sublist
        (sortByRat (·.start) s.notes) := List.filter_sublist
    refine Nat.le_trans (List.Sublist.length_le (h1.filter _)) ?_
    rw [((sortByRat_perm (·.start) s.notes).filter _).length_eq]

theorem no_invention_extract_subsequence (R : Rat → Rat) (preserve : List Int) (s r : NoteSeq) (a b : Rat)
    (h : extractSubsequenceR R preserve s a b = .ok r) :
    NoInvention s.notes r.notes ∧ NoDuplication s.notes r.notes := by
  cases extract_subsequence_ok h
  exact no_invention_map_sublist (clipR R a b) (sameNote_clipR R a b) List.filter_sublist (sortByRat_perm _ _)

theorem no_invention_splitWith (R : Rat → Rat) (preserve : List Int) (s : NoteSeq) (vs : List Rat)
    (ps : List NoteSeq) (h : splitWith R preserve s vs = .ok ps) :
    (∀ p ∈ ps, NoInvention s.notes p.notes) ∧ NoDuplication s.notes (ps.map (·.notes)).flatten := by
  rcases splitWith_cases R preserve s vs ps h with rfl | ⟨st, hst⟩
  · exact ⟨fun p hp => by simp at hp, fun t => by simp⟩
  · exact ⟨fun p hp => (no_invention_extract_subsequences R preserve s st ps hst p hp).1,
      no_duplication_extract_subsequences R preserve s st ps hst⟩

/-! non-vacuity: C02's example sequence is well-formed and extracts -/
example : WF exSeq :=
  ⟨by decide +kernel, by decide +kernel, ⟨by decide +kernel, by decide +kernel, by decide +kernel,
    by decide +kernel, by decide +kernel, by decide +kernel, by decide +kernel⟩⟩

example : ∃ r, extractSubsequenceR id [64] exSeq 1 3 = .ok r := by
  rw [extract_subsequence_spec]
  have h1 : exSeq.isQuantized = false := by decide
  have h2 : ¬ ((1 : Rat) > 3 ∨ exSeq.totalTime ≤ 1) := by simp [exSeq]
  refine ⟨specPiece id [64] exSeq (1, 3), ?_⟩
  simp only [h1, h2, Bool.false_eq_true, if_false]

end NSV.C11

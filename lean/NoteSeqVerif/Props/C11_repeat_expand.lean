import NoteSeqVerif.Props.C11_concat
import NoteSeqVerif.Props.C11_extract
import NoteSeqVerif.Props.C13_repeat
-- THEOREMS: wf_repeat wf_expand wf_repeat_full wf_expand_full extract_total_fixed
-- THEOREMS: no_invention_repeat no_invention_expand
/-! # C11 (b) — repeat_sequence_to_duration / expand_section_groups return well-formed sequences, invent nothing
Models owned by C13 (parametric in `extract_subsequence`) and C02.
Hypotheses on `R` as in `C11_concat`. -/
namespace NSV.C11
open NSV.C13

theorem wf_repeat (R : Rat → Rat) (hR : ∀ a b, a ≤ b → R a ≤ R b) (hR0 : R 0 = 0) (hRR : ∀ x, R (R x) = R x)
    (extract : NoteSeq → Rat → Rat → Except Err NoteSeq)
    (hex : ∀ s a b r, WF s → extract s a b = .ok r → WF r)
    (mm : List String → String) (m r : MSeq) (dur sd : Rat) (hw : WF m.ns) (hm : R m.ns.totalTime = m.ns.totalTime)
    (h : repeatR R extract mm m dur sd = .ok r) : WF r.ns := by
  obtain ⟨_, c, t, hcc, he, rfl⟩ := repeatR_ok h
  have hwc : WF c.ns := by
    refine wf_concat R hR hR0 hRR mm _ _ _ (fun s hs => ?_) hcc
    rw [List.eq_of_mem_replicate hs]
    exact ⟨hw, hm⟩
  have hwt : WF t := hex c.ns 0 dur t hwc he
  have ev := hwt.events
  exact ⟨hwt.notes, hwt.total, ⟨ev.tempos, ev.timeSigs, ev.keySigs, ev.texts, ev.ccs, ev.bends, ev.sectionAnns⟩⟩

/-- what a successful `expand_section_groups` did: nothing (no groups), or one concatenation of stored
sections, each of which has whatever property `P` every section has as it is stored -/
theorem expandR_shape {R : Rat → Rat} {extract : NoteSeq → Rat → Rat → Except Err NoteSeq}
    {mm : List String → String} {m r : MSeq} (h : expandR R extract mm m = .ok r) (P : MSeq → Prop)
    (hP : ∀ sid st en sub, extract m.ns st en = .ok sub →
      P { m with ns := { sub with sgroups := [], sectionAnns := [⟨0, sid⟩] } }) :
    r = m ∨ ∃ seqs durs, (∀ s ∈ seqs, P s) ∧ concatR R mm seqs durs = .ok r := by
  unfold expandR at h
  split at h
  · cases h
  · cases h; exact Or.inl rfl
  · rename_i groups _ _
    cases hb : buildSections R extract m (sectionSpans m.ns.totalTime m.ns.sectionAnns) [] with
    | error e => rw [hb] at h; cases h
    | ok tab =>
      simp only [hb] at h
      cases hl : lookupSections tab (groups.flatMap Sec.flat) with
      | error e => rw [hl] at h; cases h
      | ok l =>
        simp only [hl] at h
        -- C13: the table holds the extracted spans (`expand_sections`), a lookup returns table entries (`expand_lookup`)
        obtain ⟨subs, _, hex, rfl⟩ := expand_sections R extract m _ [] tab hb
        refine Or.inr ⟨_, _, fun s hs => ?_, h⟩
        obtain ⟨p, hp, rfl⟩ := List.mem_map.mp hs
        have hl' : some p ∈ l.map some := List.mem_map_of_mem hp
        rw [(expand_lookup _ _).1 l hl] at hl'
        obtain ⟨i, _, hi⟩ := List.mem_map.mp hl'
        obtain ⟨e, hf, rfl⟩ := Option.map_eq_some_iff.mp hi
        have he := List.mem_of_find?_eq_some hf
        rw [List.append_nil, List.mem_reverse] at he
        obtain ⟨q, hq, rfl⟩ := List.mem_map.mp he
        exact hP _ _ _ _ (hex q hq)

theorem wf_expand (R : Rat → Rat) (hR : ∀ a b, a ≤ b → R a ≤ R b) (hR0 : R 0 = 0) (hRR : ∀ x, R (R x) = R x)
    (extract : NoteSeq → Rat → Rat → Except Err NoteSeq)
    (hex : ∀ s a b r, WF s → extract s a b = .ok r → WF r ∧ R r.totalTime = r.totalTime)
    (mm : List String → String) (m r : MSeq) (hw : WF m.ns) (h : expandR R extract mm m = .ok r) : WF r.ns := by
  have hP : ∀ sid st en sub, extract m.ns st en = .ok sub →
      WF ({ sub with sgroups := [], sectionAnns := [⟨0, sid⟩] } : NoteSeq) ∧ R sub.totalTime = sub.totalTime := by
    intro sid st en sub he
    obtain ⟨hws, hfix⟩ := hex m.ns st en sub hw he
    have ev := hws.events
    refine ⟨⟨hws.notes, hws.total, ⟨ev.tempos, ev.timeSigs, ev.keySigs, ev.texts, ev.ccs, ev.bends, ?_⟩⟩, hfix⟩
    intro x hx
    rw [List.mem_singleton.mp hx]
  rcases expandR_shape h (fun s => WF s.ns ∧ R s.ns.totalTime = s.ns.totalTime) hP with rfl | ⟨seqs, durs, hs, hc⟩
  · exact hw
  · exact wf_concat R hR hR0 hRR mm seqs durs r hs hc

/-! ## with C02's extract_subsequence plugged in -/

/-- `total_time` of an extracted piece is a value `R` produced (or 0): it is representable -/
theorem extract_total_fixed (R : Rat → Rat) (hR0 : R 0 = 0) (hRR : ∀ x, R (R x) = R x) (preserve : List Int)
    (s r : NoteSeq) (a b : Rat) (h : C02.extractSubsequenceR R preserve s a b = .ok r) :
    R r.totalTime = r.totalTime := by
  cases extract_subsequence_ok h
  show R (C02.pieceTotal (C02.specNotes R s a b)) = C02.pieceTotal (C02.specNotes R s a b)
  -- the running maximum is its start value 0 or the end of a note, which `clipR` computed through `R`
  rcases (C02.pieceTotal_spec (C02.specNotes R s a b)).2.2 with h0 | ⟨n, hn, hn'⟩
  · rw [h0, hR0]
  · rw [← hn']
    obtain ⟨m, _, _, rfl⟩ := C02.mem_specNotes.mp hn
    exact hRR _

theorem wf_repeat_full (R : Rat → Rat) (hR : ∀ a b, a ≤ b → R a ≤ R b) (hR0 : R 0 = 0) (hRR : ∀ x, R (R x) = R x)
    (mm : List String → String) (m r : MSeq) (dur sd : Rat) (hw : WF m.ns) (hm : R m.ns.totalTime = m.ns.totalTime)
    (h : repeatFullR R mm m dur sd = .ok r) : WF r.ns :=
  wf_repeat R hR hR0 hRR (extractC02 R)
    (fun s a b r hs he => wf_extract_subsequence R hR hR0 _ s r a b hs he) mm m r dur sd hw hm h

theorem wf_expand_full (R : Rat → Rat) (hR : ∀ a b, a ≤ b → R a ≤ R b) (hR0 : R 0 = 0) (hRR : ∀ x, R (R x) = R x)
    (mm : List String → String) (m r : MSeq) (hw : WF m.ns) (h : expandFullR R mm m = .ok r) : WF r.ns :=
  wf_expand R hR hR0 hRR (extractC02 R)
    (fun s a b r hs he => ⟨wf_extract_subsequence R hR hR0 _ s r a b hs he,
      extract_total_fixed R hR0 hRR _ s r a b he⟩) mm m r hw h

theorem concat_ident_mem {R : Rat → Rat} {mm : List String → String} {seqs : List MSeq} {durs : List Rat}
    {r : MSeq} (h : concatR R mm seqs durs = .ok r) {n : Note} (hn : n ∈ r.ns.notes) :
    ∃ s ∈ seqs, ∃ k ∈ s.ns.notes, ident n = ident k := by
  have : ident n ∈ r.ns.notes.map ident := List.mem_map.mpr ⟨n, hn, rfl⟩
  rw [no_invention_concat R mm _ _ _ h] at this
  obtain ⟨k, hk, hkk⟩ := List.mem_map.mp this
  obtain ⟨s, hs, hks⟩ := List.mem_flatMap.mp hk
  exact ⟨s, hs, k, hks, hkk.symm⟩

/-- every note of a repeated sequence is, up to `ident`, a note of the sequence (it occurs once per
repetition, so no multiplicity is bounded here) -/
theorem no_invention_repeat (R : Rat → Rat) (extract : NoteSeq → Rat → Rat → Except Err NoteSeq)
    (hex : ∀ s a b r, extract s a b = .ok r → ∀ n ∈ r.notes, ∃ m ∈ s.notes, ident n = ident m)
    (mm : List String → String) (m r : MSeq) (dur sd : Rat) (h : repeatR R extract mm m dur sd = .ok r) :
    ∀ n ∈ r.ns.notes, ∃ k ∈ m.ns.notes, ident n = ident k := by
  obtain ⟨_, c, t, hcc, he, rfl⟩ := repeatR_ok h
  intro n hn
  obtain ⟨k, hk, hnk⟩ := hex c.ns 0 dur t he n hn
  obtain ⟨s, hs, k', hk', hkk'⟩ := concat_ident_mem hcc hk
  rw [List.eq_of_mem_replicate hs] at hk'
  exact ⟨k', hk', hnk.trans hkk'⟩

/-- every note of an expanded sequence is, up to `ident`, a note of the sequence (once per time its section
is played, so no multiplicity is bounded here) -/
theorem no_invention_expand (R : Rat → Rat) (extract : NoteSeq → Rat → Rat → Except Err NoteSeq)
    (hex : ∀ s a b r, extract s a b = .ok r → ∀ n ∈ r.notes, ∃ m ∈ s.notes, ident n = ident m)
    (mm : List String → String) (m r : MSeq) (h : expandR R extract mm m = .ok r) :
    ∀ n ∈ r.ns.notes, ∃ k ∈ m.ns.notes, ident n = ident k := by
  rcases expandR_shape h (fun s => ∀ n ∈ s.ns.notes, ∃ k ∈ m.ns.notes, ident n = ident k)
    (fun sid st en sub he => hex m.ns st en sub he) with rfl | ⟨seqs, durs, hs, hc⟩
  · exact fun n hn => ⟨n, hn, rfl⟩
  · intro n hn
    obtain ⟨s, hsm, k', hk', hkk'⟩ := concat_ident_mem hc hn
    obtain ⟨k, hk, hkid⟩ := hs s hsm k' hk'
    exact ⟨k, hk, hkk'.trans hkid⟩

/-- C02's extract_subsequence satisfies the hypothesis `hex` of the two theorems above -/
theorem extractC02_ident (R : Rat → Rat) (s r : NoteSeq) (a b : Rat) (h : extractC02 R s a b = .ok r) :
    ∀ n ∈ r.notes, ∃ m ∈ s.notes, ident n = ident m := by
  intro n hn
  cases extract_subsequence_ok h
  obtain ⟨m, hm, _, rfl⟩ := C02.mem_specNotes.mp (show n ∈ C02.specNotes R s a b from hn)
  exact ⟨m, hm, rfl⟩

end NSV.C11

import NoteSeqVerif.Proofs.C12BTot
/-! C12 — `apply_sustain_control_changes` does not depend on the storage order of notes and control changes
(corollaries of the exact result `sustain_total_exact`: every note end is replaced by `heldEnd`, `total_time` by
`totalSpec`, and every ingredient of the two is a function of the bags of notes and control changes).

Hypotheses = C14's preconditions, which are the property's quantifier ("no two same-pitch notes overlap or coincide";
pitched notes do not end before they start); both are preserved by `NSPerm`.  No tie condition on pedal events is
needed: the event sort key `(time, type)` orders a pedal-up after a pedal-down at the same time whatever the storage
order. -/
namespace NSV.C12
open NSV.C14

/-- quantized input: rejected in either order (no precondition) -/
theorem sustain_perm_quantized (ctl : Int) {s s' : NoteSeq} (h : NSPerm s s') (hq : s.isQuantized = true) :
    ResPerm (applySustain ctl s) (applySustain ctl s') := by
  rw [sustain_rejects_quantized ctl s hq,
      sustain_rejects_quantized ctl s' (h.isQuantized ▸ hq)]
  rfl

/-- **the exact result** (C14's `sustain_spec` with the exact `total_time`): every note end becomes `heldEnd`, and
`total_time` becomes `totalSpec` — the maximum of the old value, of the held ends of the notes ended by a pedal
release (`pedClosed`), and, if some note is still held when the events run out (`stillHeld`), of the time of the last
note/pedal event.  (A note ended by a re-strike does not raise `total_time`.) -/
theorem sustain_total_exact (ctl : Int) (s : NoteSeq) (hq : s.isQuantized = false) (hw : WellFormed s)
    (ho : NoSamePitchOverlap s) :
    applySustain ctl s = .ok { s with notes := specNotes ctl s, totalTime := totalSpec ctl s } :=
  applySustain_of_core hq (core_total hw ho)

/-- **`apply_sustain_control_changes` does not depend on storage order**: for sequences differing only in the storage
order of their repeated fields, whose pitched notes are well-formed and never overlap or coincide on one pitch of one
instrument, both calls raise the same exception or return NoteSequences equal up to storage order — notes with their
new ends as a bag, the same `total_time`, every other container the permuted input -/
theorem sustain_perm (ctl : Int) {s s' : NoteSeq} (h : NSPerm s s') (hw : WellFormed s)
    (ho : NoSamePitchOverlap s) :
    ResPerm (applySustain ctl s) (applySustain ctl s') := by
  cases hq : s.isQuantized with
  | true => exact sustain_perm_quantized ctl h hq
  | false =>
    rw [sustain_total_exact ctl s hq hw ho,
        sustain_total_exact ctl s' (h.isQuantized ▸ hq) (wellFormed_perm h hw)
          (noSamePitchOverlap_perm h ho)]
    exact show NSPerm _ _ from
      { h with notes := specNotes_perm ctl h, totalTime := totalSpec_perm ctl h }

/-- both storage orders succeed; notes (with their new ends) are the same bag, every other container is the permuted
input.  (`total_time`, blanked out here, agrees as well: `sustain_perm`.) -/
theorem sustain_perm_notes (ctl : Int) {s s' : NoteSeq} (h : NSPerm s s') (hq : s.isQuantized = false)
    (hw : WellFormed s) (ho : NoSamePitchOverlap s) :
    ∃ r r', applySustain ctl s = .ok r ∧ applySustain ctl s' = .ok r' ∧
      NSPerm { r with totalTime := 0 } { r' with totalTime := 0 } :=
  ⟨_, _, sustain_total_exact ctl s hq hw ho,
    sustain_total_exact ctl s' (h.isQuantized ▸ hq) (wellFormed_perm h hw)
      (noSamePitchOverlap_perm h ho),
    { h with notes := specNotes_perm ctl h, totalTime := rfl }⟩

/-- `sustain_perm` for sequences whose `total_time` covers every note end (the usual NoteSequence invariant); the
invariant is not needed -/
theorem sustain_perm_of_covers (ctl : Int) {s s' : NoteSeq} (h : NSPerm s s') (hw : WellFormed s)
    (ho : NoSamePitchOverlap s) (hc : TotalCovers s) :
    ResPerm (applySustain ctl s) (applySustain ctl s') :=
  sustain_perm ctl h hw ho

/-! ## Non-vacuity: C14's examples satisfy the hypotheses, differ from their reversals, and are really changed -/

def revAllS (s : NoteSeq) : NoteSeq :=
  { s with notes := s.notes.reverse, tempos := s.tempos.reverse, timeSigs := s.timeSigs.reverse,
           keySigs := s.keySigs.reverse, texts := s.texts.reverse, ccs := s.ccs.reverse,
           bends := s.bends.reverse, sectionAnns := s.sectionAnns.reverse }

theorem nsperm_revAllS (s : NoteSeq) : NSPerm s (revAllS s) := by
  constructor <;> first | rfl | exact (List.reverse_perm _).symm

-- C14's examples: pedal held / re-strike / release, ties of pedal and note events at one time
example : revAllS ex1 ≠ ex1 ∧ revAllS ex2 ≠ ex2 := by decide +kernel
example : ex1.isQuantized = false ∧ WellFormed ex1 ∧ NoSamePitchOverlap ex1 ∧ TotalCovers ex1 :=
  ⟨by decide +kernel, ex1_ok.1, ex1_ok.2, by decide +kernel⟩
example : ex2.isQuantized = false ∧ WellFormed ex2 ∧ NoSamePitchOverlap ex2 ∧ TotalCovers ex2 :=
  ⟨by decide +kernel, ex2_ok.1, ex2_ok.2, by decide +kernel⟩
example := sustain_perm 64 (nsperm_revAllS ex1) ex1_ok.1 ex1_ok.2
example := sustain_perm 64 (nsperm_revAllS ex2) ex2_ok.1 ex2_ok.2
example := sustain_total_exact 64 ex2 (by decide +kernel) ex2_ok.1 ex2_ok.2
example := sustain_perm_of_covers 64 (nsperm_revAllS ex1) ex1_ok.1 ex1_ok.2 (by decide +kernel)
example := sustain_perm_notes 64 (nsperm_revAllS ex2) (by decide +kernel) ex2_ok.1 ex2_ok.2
example := sustain_perm_quantized 64 (nsperm_revAllS { ex1 with spq := 4 }) (by decide +kernel)
/-- the common result is not the identity (note ends really move, `total_time` is raised from 3 to 4) -/
example : (revAllS ex2).notes.map (heldEnd 64 (revAllS ex2)) = [4, 4, 4, 1] ∧ totalSpec 64 ex2 = 4 ∧
    totalSpec 64 (revAllS ex2) = 4 ∧ ex2.totalTime = 3 := by decide +kernel

/-- `total_time` too small for the notes (not `TotalCovers`): the first note is held until the re-strike at 2 — which
does not raise `total_time` — the second is not held (pedal released at 5/2): `total_time` stays 1/2 in either order -/
def exT : NoteSeq :=
  { notes := [exNote 60 0 1, exNote 60 2 3], ccs := [exCC (1/2) 127, exCC (5/2) 0], totalTime := 1/2 }
example : exT.isQuantized = false ∧ WellFormed exT ∧ NoSamePitchOverlap exT ∧ ¬ TotalCovers exT := by decide +kernel
example : exT.notes.map (heldEnd 64 exT) = [2, 3] ∧ totalSpec 64 exT = 1/2 ∧ totalSpec 64 (revAllS exT) = 1/2 := by
  decide +kernel
example := sustain_perm 64 (nsperm_revAllS exT) (by decide +kernel) (by decide +kernel)
/-- … and with the release at 3/2 the first note is ended by the pedal: `total_time` is raised to 3/2 -/
example : totalSpec 64 { exT with ccs := [exCC (1/2) 127, exCC (3/2) 0] } = 3/2 := by decide +kernel

end NSV.C12

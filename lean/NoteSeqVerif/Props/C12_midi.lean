import NoteSeqVerif.Proofs.C12CMidi
/-! C12 — MIDI export (`note_sequence_to_pretty_midi` = `C03.writePM`) does not depend on the storage order of
any repeated field.

For two storage orders of one NoteSequence whose tempos have pairwise distinct times the writer raises the same
exception or builds PrettyMIDI objects that are equal up to the order of the notes / pitch bends / control changes
inside each instrument and of the time-signature / key-signature lists (`PMPerm`): the same resolution, the
IDENTICAL `_tick_scales` list (the tempo loop visits them in time order, `tempoOrder_perm`; C03 states this part alone
as `midi_tempo_map_order_independent`), the same instruments in the same order
with the same program and drum flag — for every rounding `R` and every value of
`drop_events_n_seconds_after_last_note` (the cut-off is `max` over the note ends, a function of the multiset).

Only the tempo tie condition is needed: time and key signatures are appended in storage order and never compared
with each other, so ties among them only permute the written lists.  (The model's `PMInst` has no name field:
`Instrument.name` is not set by the writer.)  Two tempos at one time make the result depend on their order
(`midi_tempo_tie_depends_on_order`). -/
namespace NSV.C12
open NSV.C03

/-- the tie condition of MIDI export: no two tempos share a time -/
def MidiTieFree (s : NoteSeq) : Prop := DistinctTimes s.tempos

instance (l : List Tempo) : Decidable (DistinctTimes l) := by
  unfold DistinctTimes; infer_instance

instance (s : NoteSeq) : Decidable (MidiTieFree s) := by
  unfold MidiTieFree; infer_instance

theorem MidiTieFree.perm {s s' : NoteSeq} (h : NSPerm s s') (ht : MidiTieFree s) : MidiTieFree s' :=
  DistinctTimes.perm h.tempos ht

theorem midi_cutoff_perm (R : Rat → Rat) {s s' : NoteSeq} (h : NSPerm s s') (drop : Option Rat) :
    maxEventTime R s drop = maxEventTime R s' drop := by
  unfold maxEventTime
  cases drop with
  | none => rfl
  | some d => simp only []; rw [maxEnd_perm h.notes]

/-- **MIDI export does not depend on storage order** (any rounding, with or without
`drop_events_n_seconds_after_last_note`): same exception, or PrettyMIDI objects equal up to the order inside the
instruments and inside the time / key signature lists, with identical tick scales and the same instrument order. -/
theorem midi_export_perm (R : Rat → Rat) (drop : Option Rat) {s s' : NoteSeq} (h : NSPerm s s')
    (ht : MidiTieFree s) : PMResPerm (writePM R s drop) (writePM R s' drop) := by
  have hmet : maxEventTime R s' drop = maxEventTime R s drop := (midi_cutoff_perm R h drop).symm
  have hinit : initialTempo s'.tempos = initialTempo s.tempos := (initialTempo_perm h.tempos ht).symm
  have hq : initialQpm s'.tempos = initialQpm s.tempos := by unfold initialQpm; rw [hinit]
  have hts := writeTimeSigs_perm (maxEventTime R s drop) h.timeSigs
  have hks := writeKeySigs_perm (maxEventTime R s drop) h.keySigs
  have hil := instLoop_perm (mkInst (maxEventTime R s drop) s) (mkInst (maxEventTime R s drop) s')
    (mkInst_perm (maxEventTime R s drop) h) placeholder (ks := groupKeys (maxEventTime R s drop) s) (sorted_sortedKeys _)
  unfold writePM
  simp only []
  -- with the same cut-off, initial tempo and visiting order the PrettyMIDI constructor and the tempo loop are one term
  rw [hmet, hq, hinit, ← tempoOrder_perm h.tempos ht, ← h.tpq, ← groupKeys_perm (maxEventTime R s drop) h,
    ← h.notes.any_eq]
  generalize (if s.tpq ≠ 0 then s.tpq else Gen.STANDARD_PPQ) = res
  cases scaleOfQpm R res (initialQpm s.tempos) with
  | error e => exact rfl
  | ok c0 =>
    simp only []
    obtain ⟨e, h1, h1'⟩ | ⟨a, b, h1, h1', hts⟩ := hts.cases <;> rw [h1, h1']
    · exact rfl
    · obtain ⟨e, h2, h2'⟩ | ⟨c, d, h2, h2', hks⟩ := hks.cases <;> simp only [h2, h2']
      · exact rfl
      · cases tempoFold R res (initialTempo s.tempos) (maxEventTime R s drop) ⟨c0, []⟩ (tempoOrder s.tempos) with
        | error e => exact rfl
        | ok map =>
          simp only []
          split
          · exact rfl
          · obtain ⟨e, h3, h3'⟩ | ⟨x, y, h3, h3', hil⟩ := hil.cases <;> rw [h3, h3']
            · exact rfl
            · exact ⟨rfl, rfl, hts, hks, hil⟩

/-- reading of `PMPerm` on the instrument lists: equally many instruments, and the instruments at each position
have the same program and drum flag and the same notes, bends and control changes up to order -/
theorem midi_export_perm_instruments {a b : PM} (h : PMPerm a b) :
    a.insts.length = b.insts.length ∧
    ∀ (i : Nat) (x y : PMInst), a.insts[i]? = some x → b.insts[i]? = some y →
      x.program = y.program ∧ x.isDrum = y.isDrum ∧ x.notes.Perm y.notes ∧ x.bends.Perm y.bends ∧ x.ccs.Perm y.ccs :=
  ⟨h.insts.length_eq, fun i x y hx hy =>
    let p := h.insts.get i x y hx hy
    ⟨p.program, p.isDrum, p.notes, p.bends, p.ccs⟩⟩

/-! ## the hypothesis cannot be dropped; non-vacuity -/

def scalesOf (r : Except WErr PM) : List (Int × Rat) :=
  match r with | .ok pm => (0, pm.map.c0) :: pm.map.rest | .error _ => []

theorem tempoOrder_of_sorted {l : List Tempo} (h : l.Pairwise (fun a b => decide (a.time ≤ b.time) = true)) :
    tempoOrder l = l := by
  simp only [tempoOrder, Gen.TEMPO_LOOP_SORTED, if_true, sortByRat]
  exact List.mergeSort_of_pairwise h

theorem tempoOrder_eq_of_perm {l S : List Tempo} (hp : l.Perm S) (hd : DistinctTimes l)
    (hs : S.Pairwise (fun a b => decide (a.time ≤ b.time) = true)) : tempoOrder l = S := by
  rw [← tempoOrder_of_sorted hs]
  exact tempoOrder_perm hp hd

/-- Two tempos at ONE time (1 s): the stable sort keeps their storage order, both are written at one tick and the
later one is in force afterwards — the tick scales depend on the storage order, so the tempo hypothesis cannot be
dropped. -/
theorem midi_tempo_tie_depends_on_order :
    scalesOf (writePM id { tempos := [⟨0, 120⟩, ⟨1, 60⟩, ⟨1, 240⟩], tpq := 220 } none) ≠
      scalesOf (writePM id { tempos := [⟨0, 120⟩, ⟨1, 240⟩, ⟨1, 60⟩], tpq := 220 } none) ∧
    ¬ MidiTieFree { tempos := [⟨0, 120⟩, ⟨1, 60⟩, ⟨1, 240⟩], tpq := 220 } := by
  have e1 : tempoOrder [⟨0, 120⟩, ⟨1, 60⟩, ⟨1, 240⟩] = [⟨0, 120⟩, ⟨1, 60⟩, ⟨1, 240⟩] :=
    tempoOrder_of_sorted (by decide +kernel)
  have e2 : tempoOrder [⟨0, 120⟩, ⟨1, 240⟩, ⟨1, 60⟩] = [⟨0, 120⟩, ⟨1, 240⟩, ⟨1, 60⟩] :=
    tempoOrder_of_sorted (by decide +kernel)
  refine ⟨?_, by decide +kernel⟩
  unfold writePM
  simp only []
  rw [e1, e2]
  decide +kernel

def exSeq : NoteSeq :=
  { notes := [{ (default : Note) with pitch := 60, velocity := 100, start := 0, end_ := 1, program := 5 },
              { (default : Note) with pitch := 64, velocity := 90, start := 1, end_ := 2, program := 5 },
              { (default : Note) with pitch := 36, velocity := 80, start := 0, end_ := 3, instrument := 1, isDrum := true }],
    tempos := [⟨2, 90⟩, ⟨0, 120⟩, ⟨1, 60⟩], timeSigs := [⟨0, 4, 4⟩, ⟨0, 3, 4⟩], keySigs := [⟨0, 9, 1⟩, ⟨2, 0, 0⟩],
    ccs := [{ (default : CC) with time := 1 / 2, number := 64, value := 127, program := 5 },
            { (default : CC) with time := 5, number := 64, value := 0, program := 5 }],
    bends := [{ (default : Bend) with time := 1, bend := 100, program := 5 }], tpq := 220 }

def exSeq' : NoteSeq :=
  { exSeq with notes := exSeq.notes.reverse, tempos := exSeq.tempos.reverse, timeSigs := exSeq.timeSigs.reverse,
               keySigs := exSeq.keySigs.reverse, ccs := exSeq.ccs.reverse }

def instShape (r : Except WErr PM) : List (Int × Bool × Nat × Nat × Nat) :=
  match r with
  | .ok pm => pm.insts.map (fun i => (i.program, i.isDrum, i.notes.length, i.bends.length, i.ccs.length))
  | .error _ => []

/-- non-vacuity of `midi_export_perm`: a sequence with unsorted tempos, two time signatures at ONE time, two
groups, a control change after the last note (dropped by the option) and its reversal satisfy the hypotheses; the
writer returns an object with two instruments, and with the option the late control change is gone -/
example : NSPerm exSeq exSeq' ∧ MidiTieFree exSeq ∧
    instShape (writePM id exSeq none) = [(5, false, 2, 1, 2), (0, true, 1, 0, 0)] ∧
    instShape (writePM id exSeq' (some 1)) = [(5, false, 2, 1, 1), (0, true, 1, 0, 0)] ∧
    scalesOf (writePM id exSeq none) = scalesOf (writePM id exSeq' none) := by
  have e1 : tempoOrder exSeq.tempos = [⟨0, 120⟩, ⟨1, 60⟩, ⟨2, 90⟩] :=
    tempoOrder_eq_of_perm (by decide +kernel) (by decide +kernel) (by decide +kernel)
  have e2 : tempoOrder exSeq'.tempos = [⟨0, 120⟩, ⟨1, 60⟩, ⟨2, 90⟩] :=
    tempoOrder_eq_of_perm (by decide +kernel) (by decide +kernel) (by decide +kernel)
  refine ⟨?_, by decide +kernel, ?_, ?_, ?_⟩
  · refine ⟨List.reverse_perm _ |>.symm, List.reverse_perm _ |>.symm, List.reverse_perm _ |>.symm,
      List.reverse_perm _ |>.symm, .refl _, List.reverse_perm _ |>.symm, .refl _, .refl _,
      rfl, rfl, rfl, rfl, rfl, rfl, rfl, rfl, rfl, rfl⟩
  · unfold writePM; simp only []; rw [e1]; decide +kernel
  · unfold writePM; simp only []; rw [e2]; decide +kernel
  · unfold writePM; simp only []; rw [e1, e2]; decide +kernel

end NSV.C12

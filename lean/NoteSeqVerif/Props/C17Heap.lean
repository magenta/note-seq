import NoteSeqVerif.Proofs.C17Heap
import NoteSeqVerif.Props.C17
/-! C17 — object identity: histories over several objects.

The property theorems (model: `Model/C17Heap.lean`; the predicates on stores and what one call does to
them: `Proofs/C17Heap.lean`).

`copy.deepcopy(a)` and `a[i:j]` return a NEW object and leave `a` alive; a history may continue on
either.  All statements are for every class semantics `Sem σ ο` (instances: `seqSem c` for
SimpleEventSequence with any pad event / Melody / DrumTrack / ChordProgression, `rollSem`
PianorollSequence, `perfSem` Performance and MetricPerformance, `nperfSem` NotePerformance), every
heap, and every list of operations of any length, interleaving calls on any of the objects. -/
namespace NSV.C17
variable {α σ ο : Type}

/-- an object that is never made the current one keeps its state, whatever is done to the others
and however many new objects are created -/
theorem heap_untouched (m : Sem σ ο) (ops : List (HOp ο)) (h : Heap σ) (j : Nat) (hj : j < h.objs.length)
    (hc : j ≠ h.cur) (hops : ∀ op ∈ ops, op ≠ .switch j) :
    (hrun m h ops).objs[j]? = h.objs[j]? := by
  refine (foldl_inv (hskip m) (fun h' => j < h'.objs.length ∧ j ≠ h'.cur ∧ h'.objs[j]? = h.objs[j]?)
    (· ≠ .switch j) ?_ ops h ⟨hj, hc, rfl⟩ hops).2.2
  rintro h' op ⟨a, b, c⟩ hop
  obtain ⟨d, e⟩ := hskip_frame m h' op j a b hop
  exact ⟨Nat.lt_of_lt_of_le a (hskip_length_le m h' op), e, d.trans c⟩

/-- `b = deepcopy(a)` (or any other call that returns a new object: a slice, a strided slice):
`b` is a new object, every object that existed — `a` included — is as it was; then
(1) any history that does not go back to an old object `j` (in particular any sequence of
operations on `b` and on objects derived from `b`) leaves `j`'s state, hence everything observable
about it, unchanged — for `j = a` this is "operations on the copy do not affect the original";
(2) vice versa: going back to any old object `k` (e.g. `a`) and running any history that does not
return to `b` leaves `b` exactly the copy that was made. -/
theorem deepcopy_independent (m : Sem σ ο) (h : Heap σ) (dc : ο) (a b : σ)
    (ha : h.objs[h.cur]? = some a) (hf : m.fresh dc = true) (hs : m.step a dc = .ok b) :
    hskip m h (.op dc) = ⟨h.objs ++ [b], h.objs.length⟩ ∧
    (∀ ops j, j < h.objs.length → (∀ op ∈ ops, op ≠ .switch j) →
      (hrun m (hskip m h (.op dc)) ops).objs[j]? = h.objs[j]?) ∧
    (∀ ops k, k < h.objs.length → (∀ op ∈ ops, op ≠ .switch h.objs.length) →
      (hrun m (hskip m (hskip m h (.op dc)) (.switch k)) ops).objs[h.objs.length]? = some b) := by
  have e : hskip m h (.op dc) = ⟨h.objs ++ [b], h.objs.length⟩ := by simp [hskip, ha, hf, hs]
  refine ⟨e, ?_, ?_⟩
  · intro ops j hj hops
    rw [e, heap_untouched m ops _ j (by simp; omega) (by simp; omega) hops]
    exact List.getElem?_append_left hj
  · intro ops k hk hops
    have e2 : hskip m ⟨h.objs ++ [b], h.objs.length⟩ (.switch k) = ⟨h.objs ++ [b], k⟩ := by
      simp only [hskip, List.length_append, List.length_singleton]
      rw [if_pos (by omega)]
    rw [e, e2, heap_untouched m ops _ h.objs.length (by simp) (by simp; omega) hops]
    simp

/-- a melody, its deepcopy, an edit of the copy, back to the original, an edit of the original:
neither edit shows in the other object -/
example : (hrun (seqSem melodyCls) ⟨[⟨[60, -2], 4, 6, 16, 4⟩], 0⟩
      [.op .deepcopy, .op (.append 62), .op (.setLength 1 true), .switch 0, .op (.append (-1))]).objs.map Seq.events
    = [[60, -2, -1], [62]] := by decide

/-- the hypotheses of `deepcopy_independent` hold in every class: deepcopy (and, where it exists,
slicing) returns a new object, and on a consistent object deepcopy succeeds and yields an equal
object (Melody: up to the cleaning of leading NOTE_OFFs done by its constructor) -/
theorem deepcopy_independent_classes :
    (∀ (c : Cls α), (seqSem c).fresh .deepcopy = true ∧
      (∀ i j, (seqSem c).fresh (.slice i j) = true) ∧ (∀ i j k, (seqSem c).fresh (.sliceStep i j k) = true)) ∧
    (∀ (c : Cls α) (a : Seq α), Lawful c → Inv c a → ∃ b, (seqSem c).step a .deepcopy = .ok b ∧ Inv c b ∧
      b.events = c.clean a.events ∧ b.start = a.start ∧ b.stop = a.stop ∧ b.spb = a.spb ∧ b.spq = a.spq) ∧
    (rollSem.fresh .deepcopy = true ∧ ∀ r, rollSem.step r .deepcopy = .ok r) ∧
    (perfSem.fresh .deepcopy = true ∧ ∀ p, perfSem.step p .deepcopy = .ok p) ∧
    (nperfSem.fresh .deepcopy = true ∧ ∀ p, nperfSem.step p .deepcopy = .ok p) := by
  refine ⟨fun c => ⟨rfl, fun _ _ => rfl, fun _ _ _ => rfl⟩, ?_, ⟨rfl, fun _ => rfl⟩, ⟨rfl, fun _ => rfl⟩, ⟨rfl, fun _ => rfl⟩⟩
  intro c a hc hi
  have hv := fromEventList_of_valid c a.events a.start a.spb a.spq hi.2
  refine ⟨_, hv, inv_from_event_list c hc _ _ _ _ _ hv, rfl, rfl, ?_, rfl, rfl⟩
  have := hi.1
  simp only [hc.clean_length]
  omega

/-- the invariant of the property holds for EVERY object of the heap after any interleaved history
(SimpleEventSequence, Melody, DrumTrack, ChordProgression) -/
theorem heap_inv_reachable (c : Cls α) (hc : Lawful c) (ops : List (HOp (Op α))) (h : Heap (Seq α))
    (hall : ∀ s ∈ h.objs, Inv c s) (hok : ∀ o, HOp.op o ∈ ops → OpOk c o) :
    ∀ s ∈ (hrun (seqSem c) h ops).objs, Inv c s :=
  hrun_all (seqSem c) (Inv c) (OpOk c) (fun s o _ _ => stepSkip_cases c s o)
    (fun s o s' hi ho hs => inv_step c hc s s' o hi ho hs) ops h hall hok

example : ∀ s ∈ (hrun (seqSem (simpleCls (0 : Int))) ⟨[⟨[1, 2, 3], 4, 7, 16, 4⟩], 0⟩
    [.op (.slice (some (-2)) none), .op (.setLength 4 true), .switch 0, .op (.sliceStep none none (-1)), .op .deepcopy]).objs,
    s.stop - s.start = (s.events.length : Int) := by decide

/-- every event of every Melody object of the heap stays within -2..127 -/
theorem melody_heap_in_range (ops : List (HOp (Op Int))) (h : Heap (Seq Int))
    (hall : ∀ s ∈ h.objs, Inv melodyCls s) (hok : ∀ o, HOp.op o ∈ ops → OpOk melodyCls o) :
    ∀ s ∈ (hrun (seqSem melodyCls) h ops).objs, ∀ e ∈ s.events, -2 ≤ e ∧ e ≤ 127 :=
  fun s hs => melody_in_range s (heap_inv_reachable melodyCls melody_lawful ops h hall hok s hs)

/-- Performance / MetricPerformance: every object of the heap keeps the validator's guarantee and
its `max_shift_steps ≥ 1` -/
theorem perf_heap_inv_reachable (ops : List (HOp POp)) (h : Heap Perf)
    (hall : ∀ p ∈ h.objs, PInv p) (hok : ∀ o, HOp.op o ∈ ops → POpOk o) :
    ∀ p ∈ (hrun perfSem h ops).objs, PInv p :=
  hrun_all perfSem PInv POpOk pstepSkip_cases (fun p o p' hi ho hs => (perf_inv_step p p' o hi ho hs).1)
    ops h hall hok

example : ((hrun perfSem ⟨[⟨[⟨1, 60⟩, ⟨3, 2⟩], 7, 3⟩], 0⟩
    [.op .deepcopy, .op (.setLength 7 false), .switch 0, .op (.trimSteps 1)]).objs.map Perf.numSteps) = [1, 7] := by decide

/-- references never dangle -/
theorem store_wf_reachable (ops : List SOp) (st : LStore) (hw : WF st) : WF (srun st ops) :=
  foldl_inv sskip WF (fun _ => True) (fun st op hw _ => (sskip_step st op hw).wf hw) ops st hw (fun _ _ => trivial)

theorem single_wf (l : LeadSheet) : WF (LStore.single l) := by
  refine ⟨by simp [LStore.single], ?_⟩
  intro k mi ci hk
  cases k with
  | zero => simp [LStore.single] at hk; simp [LStore.single, ← hk.1, ← hk.2]
  | succ k => simp [LStore.single] at hk

/-- a deep-copied lead sheet is private: after `deepcopy` and a switch back to any older lead sheet
`k`, no other lead sheet holds the copy's Melody or ChordProgression object -/
theorem lead_copy_is_private (st : LStore) (hw : WF st) (a b : LeadSheet)
    (ha : st.view st.cur = some a) (hd : lstep a .deepcopy = .ok b) (k : Nat) (hk : k < st.leads.length) :
    sskip st (.lead .deepcopy) = st.apply (.alloc b) ∧
    sskip (st.apply (.alloc b)) (.switch k) = { st.apply (.alloc b) with cur := k } ∧
    Priv st.leads.length st.mels.length st.chds.length (sskip (sskip st (.lead .deepcopy)) (.switch k)) := by
  have e : sskip st (.lead .deepcopy) = st.apply (.alloc b) := by
    simp only [sskip, effect, ha, hd, lopFresh, if_true]
  have hwf1 : WF (st.apply (.alloc b)) := e ▸ (sskip_step st _ hw).wf hw
  have hlead : (st.apply (.alloc b)).leads[st.leads.length]? = some (st.mels.length, st.chds.length) := by
    simp [LStore.apply]
  have hsw : sskip (st.apply (.alloc b)) (.switch k) = { st.apply (.alloc b) with cur := k } := by
    simp only [sskip, effect, LStore.apply, List.length_append, List.length_singleton]
    rw [if_pos (by omega)]
  refine ⟨e, hsw, ?_⟩
  rw [e, hsw]
  refine ⟨⟨by simp [LStore.apply]; omega, hwf1.2⟩, by simp; omega, hlead, ?_⟩
  intro j mi ci hj hjr
  simp only [LStore.apply] at hjr
  rcases getElem?_snoc _ _ _ _ hjr with hjr | ⟨hj', _⟩
  · have := hw.2 j mi ci hjr; omega
  · exact (hj hj').elim

/-- the hypotheses are satisfiable: a store with one lead sheet, its deepcopy -/
example : WF (LStore.single ⟨⟨[60], 0, 1, 16, 4⟩, ⟨["C"], 0, 1, 16, 4⟩⟩) ∧
    (LStore.single ⟨⟨[60], 0, 1, 16, 4⟩, ⟨["C"], 0, 1, 16, 4⟩⟩).view 0 = some ⟨⟨[60], 0, 1, 16, 4⟩, ⟨["C"], 0, 1, 16, 4⟩⟩ ∧
    lstep ⟨⟨[60], 0, 1, 16, 4⟩, ⟨["C"], 0, 1, 16, 4⟩⟩ .deepcopy = .ok ⟨⟨[60], 0, 1, 16, 4⟩, ⟨["C"], 0, 1, 16, 4⟩⟩ :=
  ⟨single_wf _, rfl, rfl⟩

/-- a lead sheet whose two objects no other lead sheet holds is not affected by anything done
elsewhere; (2) of `lead_deepcopy_independent` is the case of a fresh copy -/
theorem lead_private_untouched (b bm bc : Nat) (ops : List SOp) (st : LStore) (h : Priv b bm bc st)
    (hops : ∀ op ∈ ops, SOpAvoid b op) : (srun st ops).view b = st.view b := by
  obtain ⟨_, m1, c1, l1⟩ := srun_sep _ _ _ ops st h.sep (fun op ho => (hops op ho).sep)
  exact view_congr st _ b bm bc h.2.2.1 ((l1 b rfl).trans h.2.2.1) (m1 bm rfl) (c1 bc rfl)

/-- `b = deepcopy(a)` for lead sheets: `b` holds a new Melody and a new ChordProgression object,
so it shares nothing with `a`, with the Melody / ChordProgression objects `a` was built from, or
with any other lead sheet built from them.
(1) Any history confined to `b` and to objects created after it (`SOpConf`: no switch to, and no
`LeadSheet(x.melody, y.chords)` from, an older lead sheet; calls on `b`'s own melody / chords
objects from outside are allowed) leaves EVERY older Melody object, ChordProgression object and
lead sheet exactly as it was.
(2) Vice versa, going back to any older lead sheet `k` and running any history that avoids `b`
(`SOpAvoid`: no switch to `b`, no new lead sheet built from `b`'s parts) — including direct calls
on the older melody / chords objects and lead sheets sharing them — leaves `b` exactly the copy
that was made. -/
theorem lead_deepcopy_independent (st : LStore) (hw : WF st) (a b : LeadSheet)
    (ha : st.view st.cur = some a) (hd : lstep a .deepcopy = .ok b) :
    sskip st (.lead .deepcopy) = st.apply (.alloc b) ∧
    (sskip st (.lead .deepcopy)).view st.leads.length = some b ∧
    (∀ ops, (∀ op ∈ ops, SOpConf st.leads.length op) →
      (∀ i, i < st.mels.length → (srun (sskip st (.lead .deepcopy)) ops).mels[i]? = st.mels[i]?) ∧
      (∀ i, i < st.chds.length → (srun (sskip st (.lead .deepcopy)) ops).chds[i]? = st.chds[i]?) ∧
      (∀ k, k < st.leads.length → (srun (sskip st (.lead .deepcopy)) ops).leads[k]? = st.leads[k]? ∧
        (srun (sskip st (.lead .deepcopy)) ops).view k = st.view k)) ∧
    (∀ ops k, k < st.leads.length → (∀ op ∈ ops, SOpAvoid st.leads.length op) →
      (srun (sskip (sskip st (.lead .deepcopy)) (.switch k)) ops).view st.leads.length = some b) := by
  have e := (lead_copy_is_private st hw a b ha hd st.cur hw.1).1
  have hwf1 : WF (st.apply (.alloc b)) := e ▸ (sskip_step st _ hw).wf hw
  have hv : (st.apply (.alloc b)).view st.leads.length = some b := by
    simp [LStore.apply, LStore.view]
  refine ⟨e, e ▸ hv, ?_, ?_⟩
  · intro ops hops
    have hsep : Sep (· < st.leads.length) (· < st.mels.length) (· < st.chds.length) (st.apply (.alloc b)) := by
      refine ⟨hwf1, Nat.lt_irrefl _, ?_, ?_, ?_, ?_⟩
      · intro k hk; simp only [LStore.apply, List.length_append]; omega
      · intro k hk; simp only [LStore.apply, List.length_append]; omega
      · intro k hk; simp only [LStore.apply, List.length_append]; omega
      · intro k mi ci hk hkr
        simp only [LStore.apply] at hkr
        rcases getElem?_snoc _ _ _ _ hkr with hkr | ⟨_, hkr⟩
        · exact (hk (getElem?_lt _ _ _ hkr)).elim
        · cases hkr; exact ⟨Nat.lt_irrefl _, Nat.lt_irrefl _⟩
    obtain ⟨_, m1, c1, l1⟩ := srun_sep _ _ _ ops _ hsep (fun op h => (hops op h).sep)
    rw [e]
    have m2 := fun i (hi : i < st.mels.length) => (m1 i hi).trans (List.getElem?_append_left hi)
    have c2 := fun i (hi : i < st.chds.length) => (c1 i hi).trans (List.getElem?_append_left hi)
    have l2 := fun k (hk : k < st.leads.length) => (l1 k hk).trans (List.getElem?_append_left hk)
    refine ⟨m2, c2, fun k hk => ⟨l2 k hk, ?_⟩⟩
    have hr := List.getElem?_eq_getElem hk
    obtain ⟨b1, b2⟩ := hw.2 k _ _ hr
    exact view_congr st _ k _ _ hr ((l2 k hk).trans hr) (m2 _ b1) (c2 _ b2)
  · intro ops k hk hops
    obtain ⟨_, hsw, hpriv⟩ := lead_copy_is_private st hw a b ha hd k hk
    rw [e, hsw] at hpriv
    rw [e, hsw, lead_private_untouched _ _ _ ops _ hpriv hops]
    exact hv

/-- `Priv` is what `lead_copy_is_private` establishes for a deep-copied lead sheet -/
example : Priv 1 1 1 (sskip (sskip (LStore.single ⟨⟨[60], 0, 1, 16, 4⟩, ⟨["C"], 0, 1, 16, 4⟩⟩) (.lead .deepcopy)) (.switch 0)) :=
  (lead_copy_is_private _ (single_wf _) _ _ rfl rfl 0 (by decide)).2.2

/-- deepcopy versus the constructor: `LeadSheet(l.melody, l.chords)` shares both objects with `l`
(an append through the new lead sheet shows in `l`), `deepcopy(l)` shares nothing (it does not);
and a call on the shared Melody object from outside desynchronises every lead sheet holding it -/
example : ((srun (LStore.single ⟨⟨[60], 0, 1, 16, 4⟩, ⟨["C"], 0, 1, 16, 4⟩⟩)
      [.share 0 0, .lead (.append 62 "G")]).view 0).map LeadSheet.iter = some [(60, "C"), (62, "G")] ∧
    ((srun (LStore.single ⟨⟨[60], 0, 1, 16, 4⟩, ⟨["C"], 0, 1, 16, 4⟩⟩)
      [.lead .deepcopy, .lead (.append 62 "G")]).view 0).map LeadSheet.iter = some [(60, "C")] ∧
    ((srun (LStore.single ⟨⟨[60], 0, 1, 16, 4⟩, ⟨["C"], 0, 1, 16, 4⟩⟩)
      [.lead .deepcopy, .lead (.append 62 "G")]).view 1).map LeadSheet.iter = some [(60, "C"), (62, "G")] ∧
    ((srun (LStore.single ⟨⟨[60], 0, 1, 16, 4⟩, ⟨["C"], 0, 1, 16, 4⟩⟩)
      [.share 0 0, .melody (.append 64)]).view 0).map (fun l => (l.len, l.iter.length)) = some (2, 1) := by
  decide

/-- every lead sheet of the store is consistent (melody and chords individually consistent and in
agreement, melody events within -2..127) after any interleaved history of LeadSheet's own methods
— append, set_length, both kinds of slice, increase_resolution, deepcopy, construction, `_reset` —
on any of the lead sheets, as long as no two lead sheets hold the same object (which these
operations never bring about) -/
theorem lead_store_inv_reachable (ops : List SOp) (st : LStore) (h : AllInv st) (hops : ∀ op ∈ ops, SOpOwn op) :
    AllInv (srun st ops) ∧
    ∀ k l, (srun st ops).view k = some l → LInv l ∧ ∀ e ∈ l.melody.events, -2 ≤ e ∧ e ≤ 127 := by
  have hr := foldl_inv sskip AllInv SOpOwn
    (fun st op h hop => (sskip_step st op h.1).allinv h hop lead_inv_step) ops st h hops
  exact ⟨hr, fun k l hv => ⟨hr.2.2 k l hv, melody_in_range _ (hr.2.2 k l hv).1⟩⟩

/-- a store with one consistent lead sheet is such a starting point -/
example (l : LeadSheet) (hl : LInv l) : AllInv (LStore.single l) := by
  refine ⟨single_wf l, ?_, ?_⟩
  · intro k k' mi ci mi' ci' hne hk hk'
    cases k <;> cases k' <;> simp [LStore.single] at hk hk' hne
  · intro k l' hv
    cases k with
    | zero =>
      simp [LStore.single, LStore.view] at hv
      rw [← hv]; exact hl
    | succ k => simp [LStore.single, LStore.view] at hv

end NSV.C17

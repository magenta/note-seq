import NoteSeqVerif.Props.C13
import Mathlib.Tactic.Linarith
import NoteSeqVerif.Proofs.C11WF
-- THEOREMS: wf_of_moved wf_shift wf_stretch no_invention_shift no_invention_stretch
/-! # C11 (b) — shift_sequence_times / stretch_note_sequence return well-formed sequences and invent nothing
Corollaries of `NSV.C13.shift_spec` / `stretch_spec` (model owned by C13).
`R`: any monotone rounding operator with `R 0 = 0`. -/
namespace NSV.C11
open NSV.C13

theorem wf_of_moved (g q : Rat → Rat) (hg : ∀ a b, a ≤ b → g a ≤ g b) (hg0 : 0 ≤ g 0) {s r : NoteSeq}
    (hw : WF s) (hm : Moved g q s r) : WF r := by
  have nn : ∀ t : Rat, 0 ≤ t → 0 ≤ g t := fun t ht => le_trans hg0 (hg _ _ ht)
  have ev := hw.events
  refine ⟨?_, by rw [hm.totalTime]; exact nn _ hw.total, ⟨?_, ?_, ?_, ?_, ?_, ?_, ?_⟩⟩
  · rw [hm.notes, hm.totalTime]
    refine List.forall_mem_map.mpr fun m hm' => ?_
    obtain ⟨h0, h1, h2⟩ := hw.notes m hm'
    exact ⟨nn _ h0, hg _ _ h1, hg _ _ h2⟩
  · rw [hm.tempos]; exact List.forall_mem_map.mpr fun m h => nn _ (ev.tempos m h)
  · rw [hm.timeSigs]; exact List.forall_mem_map.mpr fun m h => nn _ (ev.timeSigs m h)
  · rw [hm.keySigs]; exact List.forall_mem_map.mpr fun m h => nn _ (ev.keySigs m h)
  · rw [hm.texts]; exact List.forall_mem_map.mpr fun m h => nn _ (ev.texts m h)
  · rw [hm.ccs]; exact List.forall_mem_map.mpr fun m h => nn _ (ev.ccs m h)
  · rw [hm.bends]; exact List.forall_mem_map.mpr fun m h => nn _ (ev.bends m h)
  · rw [hm.sectionAnns]; exact List.forall_mem_map.mpr fun m h => nn _ (ev.sectionAnns m h)

theorem no_invention_of_moved {g q : Rat → Rat} {s r : NoteSeq} (hm : Moved g q s r) :
    NoInvention s.notes r.notes ∧ NoDuplication s.notes r.notes ∧ r.notes.length = s.notes.length := by
  rw [hm.notes]
  apply no_invention_map
  intro n
  exact SameNote.refl n

theorem shift_ok_moved {R : Rat → Rat} {d : Rat} {s r : NoteSeq} (h : shiftR R d s = .ok r) :
    0 < d ∧ Moved (fun t => R (t + d)) id s r := by
  rw [shiftR_eq] at h
  by_cases hd : d ≤ 0
  · rw [if_pos hd] at h; cases h
  cases hq : s.isQuantized <;> rw [if_neg hd, hq] at h <;> cases h
  exact ⟨not_le.mp hd, shiftSeq_moved R d s⟩

theorem stretch_ok_moved {R : Rat → Rat} {f : Rat} {s r : NoteSeq} (h : stretchR R f s = .ok r) :
    r = s ∨ Moved (fun t => R (t * f)) (fun q => R (q / f)) s r := by
  rw [stretchR_eq] at h
  cases hq : s.isQuantized <;> rw [hq] at h
  · by_cases h1 : f = 1
    · rw [if_neg Bool.false_ne_true, if_pos h1] at h; cases h; exact Or.inl rfl
    by_cases h0 : f = 0 ∧ s.tempos ≠ []
    · rw [if_neg Bool.false_ne_true, if_neg h1, if_pos h0] at h; cases h
    rw [if_neg Bool.false_ne_true, if_neg h1, if_neg h0] at h
    cases h
    exact Or.inr (movedSeq_moved _ _ s)
  · cases h

theorem wf_shift (R : Rat → Rat) (hR : ∀ a b, a ≤ b → R a ≤ R b) (hR0 : R 0 = 0) (d : Rat) (s r : NoteSeq)
    (hw : WF s) (h : shiftR R d s = .ok r) : WF r := by
  obtain ⟨hd, hm⟩ := shift_ok_moved h
  refine wf_of_moved _ _ (fun a b hab => hR _ _ (add_le_add_left hab d)) ?_ hw hm
  exact le_of_eq_of_le hR0.symm (hR 0 (0 + d) (by rw [zero_add]; exact le_of_lt hd))

theorem wf_stretch (R : Rat → Rat) (hR : ∀ a b, a ≤ b → R a ≤ R b) (hR0 : R 0 = 0) (f : Rat) (hf : 0 < f)
    (s r : NoteSeq) (hw : WF s) (h : stretchR R f s = .ok r) : WF r := by
  rcases stretch_ok_moved h with rfl | hm
  · exact hw
  · refine wf_of_moved _ _ (fun a b hab => hR _ _ (mul_le_mul_of_nonneg_right hab (le_of_lt hf))) ?_ hw hm
    simp [hR0]

theorem no_invention_shift (R : Rat → Rat) (d : Rat) (s r : NoteSeq) (h : shiftR R d s = .ok r) :
    NoInvention s.notes r.notes ∧ NoDuplication s.notes r.notes ∧ r.notes.length = s.notes.length :=
  no_invention_of_moved (shift_ok_moved h).2

theorem no_invention_stretch (R : Rat → Rat) (f : Rat) (s r : NoteSeq) (h : stretchR R f s = .ok r) :
    NoInvention s.notes r.notes ∧ NoDuplication s.notes r.notes ∧ r.notes.length = s.notes.length := by
  rcases stretch_ok_moved h with rfl | hm
  · exact ⟨fun n hn => ⟨n, hn, SameNote.refl n⟩, fun _ => Nat.le_refl _, rfl⟩
  · exact no_invention_of_moved hm

/-! non-vacuity: C13's example sequence is well-formed, shifts and stretches -/
example : WF exSeq :=
  ⟨by decide, by decide, ⟨by decide, by decide, by decide, by decide, by decide, by decide, by decide⟩⟩

example : (shiftR id (1/2) exSeq).toOption.isSome = true ∧ (stretchR id 2 exSeq).toOption.isSome = true := by
  decide +kernel

end NSV.C11

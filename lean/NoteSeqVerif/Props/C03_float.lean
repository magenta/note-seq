import NoteSeqVerif.Proofs.C03Float
import NoteSeqVerif.Proofs.C03FloatGen
import Mathlib.Tactic.Linarith
import Mathlib.Tactic.Ring
import Mathlib.Tactic.FieldSimp
import Mathlib.Tactic.NormNum
import Mathlib.Tactic.Positivity
/-! C03 — the FLOATING-POINT side of the tick / tempo arithmetic.

`Props/C03.lean` proves the tick-map theorems for exact arithmetic (`R = id`).  Every theorem here that carries
`hR : Rounding R` holds for EVERY rounding operator with the facts of `Proofs/Rounding.lean` (monotone, `R 0 = 0`,
idempotent, exact on integers up to `2^53` and on dyadic scalings, relative error `2^-53`) — in particular for the
executable float64 model `rne53` (`rounding_rne53`) that the harness compares bit-exactly with pretty_midi's
`_update_tick_to_time`, `time_to_tick`, `get_tempo_changes` and with the tempo formula of `PrettyMIDI.write`.

What is true in floats and what is not:
* `tick_to_time` and `time_to_tick` are (weakly) monotone on every map with positive scales and sorted tempo ticks
  (`WF`; `time_to_tick` for arrays of up to `2^53 + 1` entries) — only weakly: two ticks can get the same float time;
* under one tempo the round trip time → tick → time moves a time by at most half a tick (inflated by `2^-53`) plus
  `t·2^-51`, and grid times are fixed points up to tick `2^50`;
* on a map with any number of tempo segments the same bound holds with `2^-49` terms
  (`midi_tick_roundtrip_float_general`); a grid time inside the array is a fixed point iff it is strictly above the
  time of the tick before it, one beyond the array under a size condition;
* the microsecond tempo `write` stores is NOT always the exact one: it is the exact integer or ONE LESS, and which of
  the two is decided by a single float comparison (`midi_tempo_quantisation_float`); kernel-checked float64 instances
  of the loss are `midi_tempo_truncated_witness`.  This is the mechanism of the open finding F-C03-3;
* `midi_drift_of_truncated_tempo` (exact arithmetic) quantifies what the lost microsecond does to every later time. -/
namespace NSV.C03

variable {R : ℚ → ℚ}

/-- pretty_midi's `__tick_to_time` array is nondecreasing in floating point (every tick map with positive scales and
sorted tempo ticks, every pair of ticks, no bound on the array length), starts at `0.0` and is nonnegative. -/
theorem midi_tick_to_time_mono_float (hR : Rounding R) (m : TickMap) (hw : WF m) :
    (∀ j k : Int, j ≤ k → tickToTime R m j ≤ tickToTime R m k) ∧ tickToTime R m 0 = 0 ∧
    (∀ k : Int, 0 ≤ k → 0 ≤ tickToTime R m k) :=
  ⟨fun _ _ h => arr_mono_R hR m hw.toWF0 h, arr_zero hR.zero hw.sorted, fun _ h => arr_nonneg_R hR m hw.toWF0 h⟩

/-- `time_to_tick` is nondecreasing in floating point: no two event times are written in the wrong order, whatever
the length `M + 1 ≤ 2^53 + 1` of the array (`write` uses the last tempo tick). -/
theorem midi_time_to_tick_mono_float (hR : Rounding R) (m : TickMap) (hw : WF m) (M : Int) (hM : 0 ≤ M)
    (hM2 : M ≤ 2 ^ 53) (t t' : ℚ) (h : t ≤ t') : timeToTick R m M t ≤ timeToTick R m M t' :=
  timeToTick_mono (fun _ _ => hR.mono _ _) hR.zero (lastScale_pos m hw) (arr_mono_R hR m hw.toWF0) hM
    (hR.exact_int_le (by norm_num) M (by omega)) h

/-- A note with `start ≤ end` is written with start tick ≤ end tick, and read back — through ANY reader-side tick map
`m'` with positive scales, e.g. the one rebuilt from truncated tempos — with start time ≤ end time: pretty_midi never
sees a reversed note. -/
theorem midi_note_order_kept_float (hR : Rounding R) (m m' : TickMap) (hw : WF m) (hw' : WF m') (M : Int) (hM : 0 ≤ M)
    (hM2 : M ≤ 2 ^ 53) (n : PMNote) (h : n.start ≤ n.end_) :
    timeToTick R m M n.start ≤ timeToTick R m M n.end_ ∧
    tickToTime R m' (timeToTick R m M n.start) ≤ tickToTime R m' (timeToTick R m M n.end_) :=
  have h' := midi_time_to_tick_mono_float hR m hw M hM hM2 _ _ h
  ⟨h', arr_mono_R hR m' hw'.toWF0 h'⟩

/-- non-vacuity (float64): 120 qpm then 240 qpm from tick 440 at resolution 220, scales as pretty_midi computes them -/
example : WF ⟨rne53 (60 / rne53 (220 * 120)), [(440, rne53 (60 / rne53 (220 * 240)))]⟩ ∧
    timeToTick rne53 ⟨rne53 (60 / rne53 (220 * 120)), [(440, rne53 (60 / rne53 (220 * 240)))]⟩ 440 (6 / 5) = 616 := by
  refine ⟨⟨by decide +kernel, ?_, by simp [SortedFrom]⟩, by decide +kernel⟩
  intro p hp
  simp only [List.mem_singleton] at hp
  subst hp
  decide +kernel

/-- Float round trip time → tick → time for the single-tempo map the writer builds from `qpm` and the resolution
(`c = R (60 / R (res · qpm))`, array of length 1 as in `write`): the tick is `≥ 0` and the time read back differs from
`t ≥ 0` by at most `c/2 · (1 + 2^-53) + t · 2^-51` (half a tick, plus four roundings).  The model has no overflow,
so no upper bound on `t` is needed. -/
theorem midi_tick_roundtrip_float (hR : Rounding R) (res : Int) (qpm c : ℚ) (hc : scaleOfQpm R res qpm = .ok c)
    (t : ℚ) (ht : 0 ≤ t) :
    0 < c ∧ 0 ≤ timeToTick R ⟨c, []⟩ 0 t ∧
    |tickToTime R ⟨c, []⟩ (timeToTick R ⟨c, []⟩ 0 t) - t| ≤ c / 2 * (1 + 1 / 2 ^ 53) + t * (1 / 2 ^ 51) := by
  have h0 := scaleOfQpm_pos (fun _ => hR.relErr.pos (by norm_num)) hc
  exact ⟨h0, single_roundtrip_R hR c h0 t ht⟩

/-- Float grid times are fixed points: the time pretty_midi assigns to tick `k` (as computed, `R (c · k)`) is written
back to tick `k` exactly, for every `0 ≤ k ≤ 2^50` and every tick length `c > 0`. -/
theorem midi_tick_grid_fixed_float (hR : Rounding R) (c : ℚ) (hc : 0 < c) (k : Int) (hk : 0 ≤ k) (hk2 : k ≤ 2 ^ 50) :
    timeToTick R ⟨c, []⟩ 0 (tickToTime R ⟨c, []⟩ k) = k := by
  rw [timeToTick_single hR c hc, tickToTime_single hR]
  rcases Int.lt_or_eq_of_le hk with hpos | h0
  · -- `R (c·k) / c`, rounded, is within two roundings of `k`, and `k·3·2^-53 < 1/2`
    have hp : 1 ≤ 53 := by norm_num
    have hkq : (0 : ℚ) < (k : ℚ) := by exact_mod_cast hpos
    have hkq2 : (k : ℚ) ≤ 2 ^ 50 := by exact_mod_cast hk2
    have hck : 0 < c * (k : ℚ) := mul_pos hc hkq
    rw [if_pos (hR.relErr.pos (by norm_num) hck), hR.idem]
    have h2 := (((NearN.lit hck.le).rnd hR.relErr).div hp (.lit hc.le) hc).rnd hR.relErr
    rw [mul_div_cancel_left₀ _ hc.ne'] at h2
    have := h2.2.abs_le (c := 3 / 2 ^ 53) hkq (by norm_num) (by norm_num) (by norm_num)
    exact roundHalfEven_eq_of_close (lt_of_le_of_lt this (by linarith only [hkq2]))
  · subst h0
    simp [hR.zero]

/-- … hence the float round trip is idempotent under one tempo: a time that was read back is written to the same
tick and read back as the same float again. -/
theorem midi_tick_roundtrip_idempotent_float (hR : Rounding R) (c : ℚ) (hc : 0 < c) (t : ℚ) (ht : 0 ≤ t)
    (hk : timeToTick R ⟨c, []⟩ 0 t ≤ 2 ^ 50) :
    tickToTime R ⟨c, []⟩ (timeToTick R ⟨c, []⟩ 0 (tickToTime R ⟨c, []⟩ (timeToTick R ⟨c, []⟩ 0 t))) =
      tickToTime R ⟨c, []⟩ (timeToTick R ⟨c, []⟩ 0 t) := by
  rw [midi_tick_grid_fixed_float hR c hc _ (single_roundtrip_R hR c hc t ht).1 hk]

/-- non-vacuity (float64): 120 qpm at 480 ticks per quarter, `t = 0.1` (not a float64 grid time) goes to tick 96 -/
example : scaleOfQpm rne53 480 120 = .ok (rne53 (1 / 960)) ∧
    timeToTick rne53 ⟨rne53 (1 / 960), []⟩ 0 (rne53 (1 / 10)) = 96 := by
  constructor <;> decide +kernel

/-- Float round trip time → tick → time on ANY tick map with positive scales and sorted tempo ticks, array of any length
`maxScaleTick m ≤ M ≤ 2^53`: the tick is `≥ 0` and the float time of that tick differs from `t ≥ 0` by at most half the
longest tick, up to a relative `2^-49` of the tick, of `t`, and of `lastScale · M` (what the float addition
`M + (t - arr[M]) / scale` beyond the end of the array can lose).  The bound does not depend on the number of tempo
segments: the round trip is measured against the float array itself, not against the exact piecewise-linear map.
(`midi_tick_roundtrip` is the exact-arithmetic counterpart, without the `2^-49` terms.) -/
theorem midi_tick_roundtrip_float_general (hR : Rounding R) (m : TickMap) (hw : WF m) (M : Int)
    (hM : maxScaleTick m ≤ M) (hM2 : M ≤ 2 ^ 53) (t : ℚ) (ht : 0 ≤ t) :
    0 ≤ timeToTick R m M t ∧
    |tickToTime R m (timeToTick R m M t) - t| ≤
      maxScale m / 2 * (1 + 1 / 2 ^ 49) + (t + lastScale m * (M : ℚ)) * (1 / 2 ^ 49) := by
  have hw0 := hw.toWF0
  have hs0 := maxScaleTick_nonneg m
  have hM0 : 0 ≤ M := le_trans hs0 hM
  have hls := lastScale_pos m hw
  have hextra : 0 ≤ lastScale m * (M : ℚ) := mul_nonneg hls.le (by exact_mod_cast hM0)
  rcases timeToTick_cases (arr_mono_R hR m hw0) M hM0 t with ⟨hgt, e⟩ | ⟨i, a1, hiM, a3, a4, e⟩
  · rw [e]
    have hKM := beyond_ge (fun _ _ => hR.mono _ _) hR.zero hls (hR.exact_int_le (by norm_num) M (by omega)) hgt
    obtain ⟨r1, r2, _⟩ := roundHalfEven_spec (R ((M : ℚ) + R (R (t - tickToTime R m M) / lastScale m)))
    generalize roundHalfEven (R ((M : ℚ) + R (R (t - tickToTime R m M) / lastScale m))) = K at *
    exact ⟨by omega, beyond_num hR hls (lastScale_le m) (Int.cast_nonneg hs0) (Int.cast_le.mpr hM)
      (Int.cast_le.mpr hKM) (tickToTime_tail hR m hw0 hM) (tickToTime_tail hR m hw0 (by omega)) hgt r1 r2⟩
  · rw [e]
    by_cases hi0 : i = 0
    · subst hi0
      rw [if_neg (by simp)]
      have h0 := arr_zero hR.zero hw.sorted
      have : t ≤ 0 := by rwa [h0] at a4
      have : t = 0 := le_antisymm this ht
      subst this
      rw [h0]
      refine ⟨le_refl _, ?_⟩
      have hC0 : 0 ≤ maxScale m := hls.le.trans (lastScale_le m)
      rw [sub_self, abs_zero]
      linarith only [hC0, hextra]
    · obtain ⟨j, rfl⟩ : ∃ j, i = j + 1 := ⟨i - 1, by omega⟩
      rw [Int.add_sub_cancel]
      have hj : 0 ≤ j := by omega
      have hA : tickToTime R m j < t := a3 j hj (by omega)
      have hA' : t ≤ tickToTime R m (j + 1) := a4
      obtain ⟨V, c0, hcC, sA, sA'⟩ := tickToTime_seg hR m hw0 j hj
      obtain ⟨n1, n2⟩ := inside_num hR hcC hextra sA sA' hA hA'
      by_cases hc : absR (R (t - tickToTime R m j)) < absR (R (t - tickToTime R m (j + 1)))
      · rw [if_pos ⟨hi0, hc⟩]
        exact ⟨hj, n1 hc⟩
      · rw [if_neg (fun h => hc h.2)]
        exact ⟨a1, n2 hc⟩

/-- Float grid times inside the array: the time of tick `k ≤ M` is written back to tick `k` IF AND ONLY IF it is
strictly above the time of tick `k - 1` (`searchsorted(side='left')` returns the first of equal entries; in floats
two ticks do get the same time once a tick is shorter than an ulp of the accumulated time — see the example). -/
theorem midi_tick_grid_fixed_float_inside (hR : Rounding R) (m : TickMap) (hw : WF m) (M k : Int) (hk : 0 ≤ k)
    (hkM : k ≤ M) :
    timeToTick R m M (tickToTime R m k) = k ↔ (k = 0 ∨ tickToTime R m (k - 1) < tickToTime R m k) := by
  have hw0 := hw.toWF0
  rcases timeToTick_cases (arr_mono_R hR m hw0) M (hk.trans hkM) (tickToTime R m k) with
    ⟨hgt, -⟩ | ⟨i, a1, hiM, a3, a4, e⟩
  · exact absurd (hgt.trans_le (arr_mono_R hR m hw0 hkM)) (lt_irrefl _)
  have hik : i ≤ k := by
    by_contra h
    exact lt_irrefl _ (a3 k hk (by omega))
  rw [e]
  constructor
  · intro h
    by_cases hk0 : k = 0
    · exact Or.inl hk0
    · right
      split_ifs at h with hc
      · omega
      · subst h
        exact a3 (i - 1) (by omega) (by omega)
  · intro h
    have hi : i = k := by
      rcases h with h | h
      · omega
      · by_contra hne
        exact absurd (h.trans_le (a4.trans (arr_mono_R hR m hw0 (show i ≤ k - 1 by omega)))) (lt_irrefl _)
    subst hi
    -- the distance to tick `i` itself is `0`, nothing is nearer
    rw [if_neg]
    rintro ⟨_, hlt⟩
    rw [sub_self, hR.zero, absR_eq, absR_eq, abs_zero] at hlt
    exact absurd hlt (not_lt.mpr (abs_nonneg _))

/-- Float grid times beyond the array (ticks after the last tempo change, general map): the time of tick `k ≥ M` is
written back to tick `k` whenever it lies beyond the array's last entry at all and
`arr[k] + lastScale · k ≤ 2^47 · lastScale` (e.g. `k ≤ 2^46` and `arr[k] ≤ 2^46` final ticks). -/
theorem midi_tick_grid_fixed_float_beyond (hR : Rounding R) (m : TickMap) (hw : WF m) (M : Int)
    (hM : maxScaleTick m ≤ M) (k : Int) (hk : M ≤ k) (hstrict : tickToTime R m M < tickToTime R m k)
    (hbound : tickToTime R m k + lastScale m * (k : ℚ) ≤ 2 ^ 47 * lastScale m) :
    timeToTick R m M (tickToTime R m k) = k := by
  have hw0 := hw.toWF0
  have hs0 := maxScaleTick_nonneg m
  have hM0 : 0 ≤ M := le_trans hs0 hM
  rcases timeToTick_cases (arr_mono_R hR m hw0) M hM0 (tickToTime R m k) with
    ⟨-, e⟩ | ⟨i, _, hiM, -, a4, -⟩
  swap
  · exact absurd (hstrict.trans_le (a4.trans (arr_mono_R hR m hw0 hiM))) (lt_irrefl _)
  rw [e]
  exact roundHalfEven_eq_of_close (beyond_grid_num hR (lastScale_pos m hw) (Int.cast_nonneg hs0)
    (Int.cast_le.mpr hM) (Int.cast_le.mpr hk) (tickToTime_tail hR m hw0 hM) (tickToTime_tail hR m hw0 (hM.trans hk))
    hstrict hbound)

/-- the strictness condition cannot be dropped (float64): 8192 ticks of `2^40` s reach `2^53` s; the next tick of
1/4 s is absorbed (`2^53 + 1/4` rounds to `2^53`), so tick 8193 has the time of tick 8192 and is written back to 8192 -/
example : tickToTime rne53 ⟨2 ^ 40, [(8192, 1 / 4)]⟩ 8193 = tickToTime rne53 ⟨2 ^ 40, [(8192, 1 / 4)]⟩ 8192 ∧
    timeToTick rne53 ⟨2 ^ 40, [(8192, 1 / 4)]⟩ 8200 (tickToTime rne53 ⟨2 ^ 40, [(8192, 1 / 4)]⟩ 8193) = 8192 := by
  constructor <;> decide +kernel

/-- non-vacuity (float64) of the general statements: 120 qpm, 240 qpm from tick 440, 90 qpm from tick 1000 at
resolution 220; a time beyond the array, a grid time inside and one beyond -/
example :
    timeToTick rne53 ⟨rne53 (60 / rne53 (220 * 120)), [(440, rne53 (60 / rne53 (220 * 240))),
      (1000, rne53 (60 / rne53 (220 * 90)))]⟩ 1000 (7 / 3) = 1230 ∧
    timeToTick rne53 ⟨rne53 (60 / rne53 (220 * 120)), [(440, rne53 (60 / rne53 (220 * 240))),
      (1000, rne53 (60 / rne53 (220 * 90)))]⟩ 1000
      (tickToTime rne53 ⟨rne53 (60 / rne53 (220 * 120)), [(440, rne53 (60 / rne53 (220 * 240))),
        (1000, rne53 (60 / rne53 (220 * 90)))]⟩ 777) = 777 ∧
    timeToTick rne53 ⟨rne53 (60 / rne53 (220 * 120)), [(440, rne53 (60 / rne53 (220 * 240))),
      (1000, rne53 (60 / rne53 (220 * 90)))]⟩ 1000
      (tickToTime rne53 ⟨rne53 (60 / rne53 (220 * 120)), [(440, rne53 (60 / rne53 (220 * 240))),
        (1000, rne53 (60 / rne53 (220 * 90)))]⟩ 4321) = 4321 := by
  refine ⟨?_, ?_, ?_⟩ <;> decide +kernel

/-- When every intermediate value is a float (`R`-fixed) the whole tempo chain is exact in floating point: for a
tempo of `n` µs per quarter whose qpm `6e7/n`, `res · qpm`, tick scale `n / (res · 10^6)` and seconds per quarter
`n / 10^6` are floats, the constructor computes exactly that tick scale, `write` stores exactly `n`, the loader
rebuilds the same scale and `get_tempo_changes` reports the same qpm.  (That the qpm `6e7/n` is a float is not enough:
see `midi_tempo_truncated_witness` for tempos `6e7/n` that ARE floats and still lose a microsecond.) -/
theorem midi_tempo_exact_float (hR : Rounding R) (res n : Int) (hres : 0 < res) (hn : 0 < n) (hn2 : n ≤ 2 ^ 53)
    (h1 : R (60000000 / (n : ℚ)) = 60000000 / (n : ℚ))
    (h2 : R ((res : ℚ) * (60000000 / (n : ℚ))) = (res : ℚ) * (60000000 / (n : ℚ)))
    (h3 : R ((n : ℚ) / ((res : ℚ) * 1000000)) = (n : ℚ) / ((res : ℚ) * 1000000))
    (h4 : R ((n : ℚ) / 1000000) = (n : ℚ) / 1000000) :
    scaleOfQpm R res (60000000 / (n : ℚ)) = .ok ((n : ℚ) / ((res : ℚ) * 1000000)) ∧
    tempoMicros R res ((n : ℚ) / ((res : ℚ) * 1000000)) = n ∧
    scaleOfMicros R res n = (n : ℚ) / ((res : ℚ) * 1000000) ∧
    qpmOfScale R res ((n : ℚ) / ((res : ℚ) * 1000000)) = 60000000 / (n : ℚ) :=
  tempo_chain_exact R res n hres hn h1 h2 h3 h4 (hR.exact_int_le (by norm_num) n (by omega))

/-- non-vacuity (float64): 64 qpm (937500 µs) at 480 ticks per quarter — tick scale `1/512` -/
example : tempoMicros rne53 480 ((937500 : Int) / ((480 : Int) * 1000000)) = 937500 :=
  (midi_tempo_exact_float rounding_rne53 480 937500 (by norm_num) (by norm_num) (by norm_num)
    (by decide +kernel) (by decide +kernel) (by decide +kernel) (by decide +kernel)).2.1

/-- The float tempo chain in general.  The sequence stores `qpm` within one rounding of `6e7 / n` for an integral
`1 ≤ n ≤ 2^24` µs per quarter (`qpm = R (6e7 / n)` — how a MIDI tempo becomes a qpm — or the exact quotient when that is
a float); `c` is the tick scale the writer computes; `f = R (60 / R (c · res))` is the qpm `get_tempo_changes` reports
and `g = R (6e7 / f)` the float that `write` truncates.  Then
* `write` stores `n` or `n - 1` — never anything else;
* it stores `n` exactly when `n ≤ g`, and `n - 1` exactly when `g < n` (the truncation `int(·)` of a float that
  six roundings have pushed just below the integer);
* sufficient in terms of the recovered qpm `f`: `f · n ≤ 6e7` gives `n`; `6e7 / f ≤ n - 2^-29` gives `n - 1`;
* `f` is within `2^-50` (relative) of `6e7 / n`. -/
theorem midi_tempo_quantisation_float (hR : Rounding R) (res n : Int) (hres : 0 < res) (hn : 1 ≤ n) (hn2 : n ≤ 2 ^ 24)
    (qpm c : ℚ) (hq : |qpm - 60000000 / (n : ℚ)| ≤ 60000000 / (n : ℚ) * (1 / 2 ^ 53))
    (hc : scaleOfQpm R res qpm = .ok c) :
    (tempoMicros R res c = n ∨ tempoMicros R res c = n - 1) ∧
    (tempoMicros R res c = n ↔ (n : ℚ) ≤ R (60000000 / qpmOfScale R res c)) ∧
    (tempoMicros R res c = n - 1 ↔ R (60000000 / qpmOfScale R res c) < (n : ℚ)) ∧
    (qpmOfScale R res c * (n : ℚ) ≤ 60000000 → tempoMicros R res c = n) ∧
    (60000000 / qpmOfScale R res c ≤ (n : ℚ) - 1 / 2 ^ 29 → tempoMicros R res c = n - 1) ∧
    |qpmOfScale R res c - 60000000 / (n : ℚ)| ≤ 60000000 / (n : ℚ) * (1 / 2 ^ 50) := by
  have hp : 1 ≤ 53 := by norm_num
  have hnq : (0 : ℚ) < (n : ℚ) := by exact_mod_cast (by omega : 0 < n)
  have hQ : (0 : ℚ) < 60000000 / (n : ℚ) := by positivity
  have hnear := near_of_abs hQ hq
  obtain ⟨-, rfl⟩ := scaleOfQpm_eq_ok.mp hc
  obtain ⟨nf, ng⟩ := tempo_chain_near hR res hres qpm _ hQ hnear
  rw [show (60000000 : ℚ) / (60000000 / (n : ℚ)) = (n : ℚ) by field_simp] at ng
  obtain ⟨t1, t2⟩ := trunc_near_int hn (by omega) ng
  rw [← tempoMicros_eq] at t1 t2
  set f := qpmOfScale R res (R (60 / R ((res : ℚ) * qpm))) with hf
  set g := R (60000000 / f) with hg
  have hfpos : 0 < f := nf.2.pos hp hQ
  have hnfix : R (n : ℚ) = (n : ℚ) := hR.exact_int_le hp n (by omega)
  refine ⟨?_, ⟨?_, t1⟩, ⟨?_, t2⟩, ?_, ?_, ?_⟩
  · rcases le_or_gt (n : ℚ) g with h | h
    · exact Or.inl (t1 h)
    · exact Or.inr (t2 h)
  · intro h
    by_contra hlt
    have := t2 (not_le.mp hlt)
    omega
  · intro h
    by_contra hge
    have := t1 (not_lt.mp hge)
    omega
  · intro h
    apply t1
    have := hR.mono _ _ ((le_div_iff₀ hfpos).mpr ((mul_comm _ _).trans_le h))
    rwa [hnfix] at this
  · intro h
    apply t2
    have hfix : R ((n : ℚ) - 1 / 2 ^ 29) = (n : ℚ) - 1 / 2 ^ 29 := by
      have := hR.exact_dyadic hp (n * 2 ^ 29 - 1) (by omega) (-29)
      have e : (((n * 2 ^ 29 - 1 : Int) : ℚ)) * 2 ^ (-29 : Int) = (n : ℚ) - 1 / 2 ^ 29 := by
        push_cast; ring
      rwa [e] at this
    have := hR.mono _ _ h
    rw [hfix] at this
    exact this.trans_lt (sub_lt_self _ (by positivity))
  · exact (nf.abs_le hp (by norm_num)).trans (mul_le_mul_of_nonneg_left (by norm_num) hQ.le)

/-- The loss happens (float64, kernel-evaluated): at 960 ticks per quarter the tempo of 250001 µs per quarter
(`qpm = 6e7/250001` rounded, the replay of F-C03-3) is stored as 250000 µs; and even tempos whose qpm IS a float lose a
microsecond at some resolutions: 120 qpm (500000 µs) at 49 ticks per quarter is stored as 499999 µs, 64 qpm
(937500 µs) at the common resolution 220 as 937499 µs — while 120 qpm at 220 / 480 / 960 is stored exactly. -/
theorem midi_tempo_truncated_witness :
    tempoMicros rne53 960 (rne53 (60 / rne53 (960 * rne53 (60000000 / 250001)))) = 250000 ∧
    tempoMicros rne53 49 (rne53 (60 / rne53 (49 * 120))) = 499999 ∧
    tempoMicros rne53 220 (rne53 (60 / rne53 (220 * 64))) = 937499 ∧
    tempoMicros rne53 220 (rne53 (60 / rne53 (220 * 120))) = 500000 ∧
    tempoMicros rne53 480 (rne53 (60 / rne53 (480 * 120))) = 500000 ∧
    tempoMicros rne53 960 (rne53 (60 / rne53 (960 * 120))) = 500000 := by
  refine ⟨?_, ?_, ?_, ?_, ?_, ?_⟩ <;> decide +kernel

/-- non-vacuity of `midi_tempo_quantisation_float`, and its criterion at work on the replay of F-C03-3: the float that
is truncated lies below 250001 -/
example : scaleOfQpm rne53 960 (rne53 (60000000 / 250001)) = .ok (rne53 (60 / rne53 (960 * rne53 (60000000 / 250001)))) ∧
    rne53 (60000000 / qpmOfScale rne53 960 (rne53 (60 / rne53 (960 * rne53 (60000000 / 250001))))) < 250001 := by
  constructor <;> decide +kernel

/-- Exact arithmetic.  If the reader's tick map is the writer's with every tick scale multiplied by `ρ` (all tempos too
fast by the same factor), a time `t ≥ 0` comes back as `ρ · t` up to half a (longest, rescaled) tick. -/
theorem midi_drift_of_scaled_map (m : TickMap) (hw : WF m) (M : Int) (hM : maxScaleTick m ≤ M) (ρ : ℚ) (hρ : 0 ≤ ρ)
    (t : ℚ) (ht : 0 ≤ t) :
    |tickToTime id (scaleMap ρ m) (timeToTick id m M t) - ρ * t| ≤ ρ * (maxScale m / 2) := by
  rw [tickToTime_scaleMap, ← mul_sub, abs_mul, abs_of_nonneg hρ]
  exact mul_le_mul_of_nonneg_left (nearTick_bound m hw (timeToTick_nearTick m hw M hM t) ht) hρ

/-- Exact arithmetic: the drift behind F-C03-3.  A single tempo of `n > 1` µs per quarter; the writer's ticks have
length `c = n / (res · 10^6)`; `write` stores `n - 1` µs (as `midi_tempo_quantisation_float` says it may), so the
loader's ticks have length `c' = c · (n-1)/n`.  Then a time `t ≥ 0` is read back as `t · (n-1)/n` up to half a reader
tick: it comes back EARLY by `t/n` up to half a tick, which is more than one whole tick as soon as
`t ≥ 3/2 · n · c` seconds (`= 3/2 · n² / (res · 10^6)`). -/
theorem midi_drift_of_truncated_tempo (res n : Int) (hres : 0 < res) (hn : 1 < n) (c : ℚ)
    (hc : scaleOfQpm id res (60000000 / (n : ℚ)) = .ok c) (M : Int) (hM : 0 ≤ M) (t : ℚ) (ht : 0 ≤ t) :
    c = (n : ℚ) / ((res : ℚ) * 1000000) ∧
    scaleOfMicros id res (n - 1) = c * (((n : ℚ) - 1) / (n : ℚ)) ∧
    |tickToTime id ⟨scaleOfMicros id res (n - 1), []⟩ (timeToTick id ⟨c, []⟩ M t) - t * (((n : ℚ) - 1) / (n : ℚ))|
      ≤ scaleOfMicros id res (n - 1) / 2 ∧
    t / (n : ℚ) - c / 2 < t - tickToTime id ⟨scaleOfMicros id res (n - 1), []⟩ (timeToTick id ⟨c, []⟩ M t) ∧
    (3 / 2 * (n : ℚ) * c ≤ t →
      c < t - tickToTime id ⟨scaleOfMicros id res (n - 1), []⟩ (timeToTick id ⟨c, []⟩ M t)) := by
  have hr : (0 : ℚ) < (res : ℚ) := by exact_mod_cast hres
  have hnq : (1 : ℚ) < (n : ℚ) := by exact_mod_cast hn
  have hn0 : (0 : ℚ) < (n : ℚ) := one_pos.trans hnq
  have hcv : c = (n : ℚ) / ((res : ℚ) * 1000000) :=
    (Except.ok.inj ((tempo_chain_exact id res n hres (by omega) rfl rfl rfl rfl rfl).1.symm.trans hc)).symm
  have hcpos : 0 < c := by rw [hcv]; positivity
  have hs : scaleOfMicros id res (n - 1) = ((n : ℚ) - 1) / (n : ℚ) * c := by
    rw [(tempo_chain_exact id res (n - 1) hres (by omega) rfl rfl rfl rfl rfl).2.2.1, hcv]
    push_cast
    field_simp
  -- the reader's map is the writer's rescaled by `ρ = (n-1)/n`
  rw [hs]
  have e : t / (n : ℚ) = t - ((n : ℚ) - 1) / (n : ℚ) * t := by field_simp; ring
  have hρ0 : 0 < ((n : ℚ) - 1) / (n : ℚ) := div_pos (sub_pos.mpr hnq) hn0
  have hρ1 : ((n : ℚ) - 1) / (n : ℚ) < 1 := (div_lt_one hn0).mpr (sub_one_lt _)
  generalize ((n : ℚ) - 1) / (n : ℚ) = ρ at *
  have hb : |tickToTime id ⟨ρ * c, []⟩ (timeToTick id ⟨c, []⟩ M t) - ρ * t| ≤ ρ * (c / 2) :=
    midi_drift_of_scaled_map ⟨c, []⟩ (wf_single hcpos) M hM ρ hρ0.le t ht
  rw [abs_le] at hb
  generalize tickToTime id ⟨ρ * c, []⟩ (timeToTick id ⟨c, []⟩ M t) = T at *
  have hlt : ρ * c < c := mul_lt_of_lt_one_left hcpos hρ1
  refine ⟨hcv, mul_comm _ _, by rw [mul_comm t ρ, mul_div_assoc]; exact abs_le.mpr hb,
    by linarith only [hb.2, e, hlt], fun h => ?_⟩
  have h3 : 3 / 2 * c ≤ t / (n : ℚ) := by rw [le_div_iff₀ hn0, mul_right_comm]; exact h
  linarith only [h3, hb.2, e, hlt]

/-- non-vacuity, the replay of F-C03-3 in exact arithmetic: 250001 µs per quarter at 960 ticks per quarter, read back
with 250000 µs: the note at 200 s (tick 767997) comes back exactly 3 reader ticks (2.99999 writer ticks) early; the
threshold `3/2 · n · c` is below 98 s -/
example : scaleOfQpm id 960 (60000000 / ((250001 : Int) : ℚ)) = .ok (250001 / 960000000) ∧
    timeToTick id ⟨250001 / 960000000, []⟩ 0 200 = 767997 ∧
    200 - tickToTime id ⟨scaleOfMicros id 960 (250001 - 1), []⟩ (timeToTick id ⟨250001 / 960000000, []⟩ 0 200) =
      3 * scaleOfMicros id 960 250000 ∧
    (3 / 2 * ((250001 : Int) : ℚ) * (250001 / 960000000) : ℚ) < 98 := by
  refine ⟨by decide +kernel, by decide +kernel, by decide +kernel, by norm_num⟩

/-- the same replay end to end in float64 (writer's scale from `R (6e7/250001)`, 250000 µs stored, loader's scale from
250000): the time read back for 200 s lies 3 writer ticks before 200 s -/
example :
    timeToTick rne53 ⟨rne53 (60 / rne53 (960 * rne53 (60000000 / 250001))), []⟩ 0 200 = 767997 ∧
    timeToTick rne53 ⟨rne53 (60 / rne53 (960 * rne53 (60000000 / 250001))), []⟩ 0
      (tickToTime rne53 ⟨scaleOfMicros rne53 960 250000, []⟩ 767997) = 767994 := by
  constructor <;> decide +kernel

end NSV.C03

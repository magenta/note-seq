import NoteSeqVerif.Proofs.C12AConcatFull
import NoteSeqVerif.Props.C12_stretch
/-! C12 — `concatenate_sequences` and `repeat_sequence_to_duration` do not depend on the storage order
of any repeated field of their inputs, **under the property's own quantifier**: no two state events of
one kind share a time *inside each input sequence*.  (`C12_stretch.lean` proves the same conclusions
under `ConcatNoTies` / `RepeatNoTies`: no coincidence at all in the shifted-and-merged sequence, which
rules out the ordinary case of a tempo / time signature at the very start of every piece meeting an
event at the end of the previous piece.)

Why the weaker hypothesis is enough: `remove_redundant_data` and `extract_subsequence` read the merged
containers through a *stable* sort by time, and the merged containers are the shifted pieces appended in
the order of the argument list, which is the same for both calls.  A stable sort orders events of one
time by stored position; two events of one time come from different pieces (inside a piece times are
distinct), and pieces keep their relative position.  So the stably sorted containers of the two calls are
equal (`sortByRat_eq_of_classes` in `Proofs/C12A.lean`, `SameClasses.append` in `Proofs/C12AConcatFull.lean`).

Two forms each:
* `…_pieces` — every rounding operator `R` (so also the compiled float model, `R = rne53`), hypothesis on
  the pieces *as the loop shifts them* (`ConcatPieces`, decidable) — float rounding of `time + offset`
  may make two distinct times of one input coincide, which is why the hypothesis cannot be on the inputs;
* `concat_perm`, `repeat_perm` — exact arithmetic (`R = id`), hypothesis on the inputs alone.
`concat_input_ties_matter` shows the per-input condition cannot be dropped. -/
namespace NSV.C12
open NSV.C13

/-- `concatenate_sequences(sequences, sequence_durations)` on two lists of sequences that differ position
by position only in storage order, any rounding `R`: if no input, *shifted to its place by the loop*,
has two time signatures / two key signatures / two tempos at one time (`P` = `StateNoTies`, or anything that
implies it), then both calls raise the same error or return the same sequence up to storage order.
Coincidences between different inputs are allowed. -/
theorem concat_perm_pieces {P : NoteSeq → Prop} (hP : ∀ s, P s → StateNoTies s) (R : Rat → Rat)
    (mm : List String → String) {seqs seqs' : List MSeq} (h : MPermList seqs seqs') (durs : List Rat)
    (hn : ConcatPieces P R seqs durs) : ResPermM (concatR R mm seqs durs) (concatR R mm seqs' durs) :=
  concat_perm_of_finish R mm h durs fun _ _ h1 h2 hc =>
    (finishCat_classes mm h hc (catLoop_stateClasses hP R _ (catPairs_perm h durs) hn h1 h2)).1

/-- **the full statement** (exact arithmetic): it is enough that no two time signatures / key signatures /
tempos *of one input sequence* share a time -/
theorem concat_perm (mm : List String → String) {seqs seqs' : List MSeq} (durs : List Rat)
    (h : MPermList seqs seqs') (hn : ∀ m ∈ seqs, StateNoTies m.ns) :
    ResPermM (concatR id mm seqs durs) (concatR id mm seqs' durs) :=
  concat_perm_pieces (fun _ x => x) id mm h durs
    (concatPieces_exact (fun o _ => stateNoTies_placed o) durs hn)

/-- `ConcatPermFull`, stated in `C12_stretch.lean` as a `def … : Prop`, holds -/
theorem concatPermFull_holds : ConcatPermFull :=
  fun mm _ _ durs h hn => concat_perm mm durs h hn

/-- the hypothesis of `concat_perm_pieces` does not depend on which storage order it is evaluated on -/
theorem concatPieces_perm (R : Rat → Rat) {seqs seqs' : List MSeq} (h : MPermList seqs seqs')
    (durs : List Rat) (hn : ConcatPieces StateNoTies R seqs durs) : ConcatPieces StateNoTies R seqs' durs :=
  piecesOK_perm (fun hp hs => StateNoTies.perm hp hs) R _ _ _ (catPairs_perm h durs) 0 emptyM emptyM (MPerm.refl _) hn

/-- the hypothesis of `repeat_perm_pieces`: each of the `n` copies, shifted to its place, satisfies
extraction's `NoTies` (the final cut is C02's `extract_subsequence`) -/
def RepeatPieces (R : Rat → Rat) (m : MSeq) (dur sd : Rat) : Prop :=
  let d := if sd = 0 then m.ns.totalTime else sd
  let n := (R (dur / d)).ceil.toNat
  ConcatPieces (NoTies NSV.C02.Gen.PRESERVE) R (List.replicate n m) (List.replicate n d)

instance (R : Rat → Rat) (m : MSeq) (dur sd : Rat) : Decidable (RepeatPieces R m dur sd) := by
  unfold RepeatPieces; infer_instance

/-- `repeat_sequence_to_duration(sequence, duration, sequence_duration)` (with C02's model of
`extract_subsequence` for the final cut) on two storage orders of one sequence, any rounding `R`:
copies may meet at the seams (and overlap, when events lie beyond `total_time`) in any way -/
theorem repeat_perm_pieces (R : Rat → Rat) (mm : List String → String) {m m' : MSeq} (h : MPerm m m')
    (dur sd : Rat) (hn : RepeatPieces R m dur sd) :
    ResPermM (repeatFullR R mm m dur sd) (repeatFullR R mm m' dur sd) := by
  refine repeat_perm_of_concat R mm h dur sd fun d n hd hn' => ?_
  subst hd hn'
  have hl := MPermList.replicate (R (dur / if sd = 0 then m.ns.totalTime else sd)).ceil.toNat h
  have hc := concat_perm_pieces (fun _ (x : NoTies NSV.C02.Gen.PRESERVE _) => ⟨x.2.1, x.2.2.1, x.1⟩) R mm hl _ hn
  refine ⟨hc, fun r r' h1 h2 => ?_⟩
  rw [h1, h2] at hc
  exact extractSubsequence_perm_of_agree R NSV.C02.Gen.PRESERVE hc.1
    (concat_sortAgree R mm NSV.C02.Gen.PRESERVE hl _ hn h1 h2).2 0 dur

/-- the full statement for repetition, as a proposition: exact arithmetic, hypothesis on the repeated
sequence alone -/
def RepeatPermFull : Prop :=
  ∀ (mm : List String → String) (m m' : MSeq) (dur sd : Rat), MPerm m m' →
    NoTies NSV.C02.Gen.PRESERVE m.ns → ResPermM (repeatFullR id mm m dur sd) (repeatFullR id mm m' dur sd)

/-- **the full statement** (exact arithmetic): extraction's `NoTies` of the repeated sequence itself is enough -/
theorem repeat_perm (mm : List String → String) {m m' : MSeq} (h : MPerm m m') (dur sd : Rat)
    (hn : NoTies NSV.C02.Gen.PRESERVE m.ns) :
    ResPermM (repeatFullR id mm m dur sd) (repeatFullR id mm m' dur sd) := by
  refine repeat_perm_pieces id mm h dur sd ?_
  unfold RepeatPieces
  simp only []
  refine concatPieces_exact (fun o _ => noTies_placed o) _ ?_
  intro x hx
  rw [(List.mem_replicate.mp hx).2]
  exact hn

theorem repeatPermFull_holds : RepeatPermFull :=
  fun mm _ _ dur sd h hn => repeat_perm mm h dur sd hn

/-! ## non-vacuity, and the necessity of the per-input condition

(`List.mergeSort` does not reduce in the kernel, so the examples evaluate the sort of an already sorted
list with `sortByRat_of_pairwise`.) -/

/-- `exM1` with its second tempo moved to the very end (time 2 = `total_time`): concatenated with
another copy, that tempo meets the copy's first tempo (time 0, shifted to 2) -/
def exSeam : MSeq := { exM1 with ns := { exM1.ns with tempos := [⟨0, 120⟩, ⟨2, 90⟩] } }
def exSeam' : MSeq := { exSeam with ns := { exSeam.ns with
  notes := exSeam.ns.notes.reverse, tempos := [⟨2, 90⟩, ⟨0, 120⟩] } }

theorem exSeam_perm : MPermList [exSeam, exSeam] [exSeam', exSeam] := by
  refine ⟨⟨?_, rfl, rfl⟩, MPerm.refl _, trivial⟩
  constructor <;> first | rfl | (simp only [exSeam, exSeam', exM1]; decide +kernel)
-- each input is free of ties …
example : ∀ m ∈ [exSeam, exSeam], StateNoTies m.ns := by decide +kernel
-- … the merged sequence is not: `concat_perm_partial` does not apply, `concat_perm` does
example : ¬ ConcatNoTies id [exSeam, exSeam] [] := by decide +kernel
example : ConcatPieces StateNoTies id [exSeam, exSeam] [] := by decide +kernel
-- the result has the tempos 120@0, 90@2, 120@2, 90@4: at the seam the earlier piece's event comes first …
example : (concatR id (fun _ => "-") [exSeam, exSeam] []).toOption.map (·.ns.tempos) =
    some [⟨0, 120⟩, ⟨2, 90⟩, ⟨2, 120⟩, ⟨4, 90⟩] := by
  rw [concat_tempos_of_sorted [⟨0, 120⟩, ⟨2, 90⟩, ⟨2, 120⟩, ⟨4, 90⟩] (by decide +kernel) (by decide +kernel)
    (by decide +kernel)]
  decide +kernel
-- … and the call on the other storage order of the first input returns the same, by the theorem
example : ResPermM (concatR id (fun _ => "-") [exSeam, exSeam] []) (concatR id (fun _ => "-") [exSeam', exSeam] []) :=
  concat_perm _ [] exSeam_perm (by decide +kernel)

-- repetition: 5 seconds of a 2-second phrase = three copies, tempos meeting at both seams
example : NoTies NSV.C02.Gen.PRESERVE exSeam.ns := by decide +kernel
example : RepeatPieces id exSeam 5 0 := by decide +kernel
example : ¬ RepeatNoTies id (fun _ => "-") exSeam 5 0 := by
  intro h
  unfold RepeatNoTies at h
  simp only [] at h
  exact absurd h.1 (by decide +kernel)

/-- two tempos of ONE input at one time (1), a third with the qpm of one of them just before -/
def exTies : MSeq := { ns := { tempos := [⟨0, 120⟩, ⟨1, 60⟩, ⟨1, 120⟩], totalTime := 2 } }
def exTies' : MSeq := { ns := { tempos := [⟨0, 120⟩, ⟨1, 120⟩, ⟨1, 60⟩], totalTime := 2 } }

/-- **the per-input condition is necessary**: stored as 120@0, 60@1, 120@1 all three tempos survive
`remove_redundant_data`; stored as 120@0, 120@1, 60@1 the second is dropped as a repetition of the first —
the two results are not even equal as multisets -/
theorem concat_input_ties_matter :
    MPermList [exTies] [exTies'] ∧
    (concatR id (fun _ => "-") [exTies] []).toOption.map (·.ns.tempos) = some [⟨0, 120⟩, ⟨1, 60⟩, ⟨1, 120⟩] ∧
    (concatR id (fun _ => "-") [exTies'] []).toOption.map (·.ns.tempos) = some [⟨0, 120⟩, ⟨1, 60⟩] ∧
    ¬ ResPermM (concatR id (fun _ => "-") [exTies] []) (concatR id (fun _ => "-") [exTies'] []) := by
  have e1 : (concatR id (fun _ => "-") [exTies] []).toOption.map (·.ns.tempos) =
      some [⟨0, 120⟩, ⟨1, 60⟩, ⟨1, 120⟩] := by
    rw [concat_tempos_of_sorted exTies.ns.tempos (by decide +kernel) (by decide +kernel) (by decide +kernel)]
    decide +kernel
  have e2 : (concatR id (fun _ => "-") [exTies'] []).toOption.map (·.ns.tempos) = some [⟨0, 120⟩, ⟨1, 60⟩] := by
    rw [concat_tempos_of_sorted exTies'.ns.tempos (by decide +kernel) (by decide +kernel) (by decide +kernel)]
    decide +kernel
  refine ⟨⟨⟨?_, rfl, rfl⟩, trivial⟩, e1, e2, ?_⟩
  · constructor <;> first | rfl | (simp only [exTies, exTies']; decide +kernel)
  · intro h
    cases h1 : concatR id (fun _ => "-") [exTies] [] with
    | error e => rw [h1] at e1; simp [Except.toOption] at e1
    | ok r =>
      cases h2 : concatR id (fun _ => "-") [exTies'] [] with
      | error e' => rw [h2] at e2; simp [Except.toOption] at e2
      | ok r' =>
        rw [h1, h2] at h
        have hl := h.1.tempos.length_eq
        rw [h1] at e1
        rw [h2] at e2
        simp only [Except.toOption, Option.map_some, Option.some.injEq] at e1 e2
        rw [e1, e2] at hl
        simp at hl

end NSV.C12

import NoteSeqVerif.Proofs.C04
import NoteSeqVerif.Proofs.C04_time
import NoteSeqVerif.Proofs.C04_expand
import NoteSeqVerif.Proofs.C04_repeatsG
import NoteSeqVerif.Props.C04_keys
import Mathlib.Tactic.Ring
import Mathlib.Tactic.NormNum
/-! C04 — property theorems about the ABC parser model (`Model/C04.lean`).

The model reads the TOKEN STREAM the regular expressions of `abc_parser.py` produce (the regex
layer is modelled by the harness's grammar, not verified).  `R` is the rounding operator applied
after every float operation; the exact-arithmetic theorems take `R = id`.  An `Item` list is a
whole tune: field lines, music-line starts and music tokens in textual order (`flatten`). -/
namespace NSV.C04
open Gen

/-- the last explicit (single) accidental a `K:` field gives for letter `L`, if any -/
def explicitFor (L : Char) : List (Acc × Char) → Option Int
  | [] => none
  | (a, c) :: r =>
    match explicitFor L r with
    | some v => some v
    | none => if upperC c = L then accInt a else none

theorem applyKeyAccs_spec (accs : List (Acc × Char)) (a0 a : Accs) (h : applyKeyAccs accs a0 = .ok a) (L : Char) :
    lookup L a = match explicitFor L accs with
      | some v => some v
      | none => lookup L a0 := by
  induction accs generalizing a0 with
  | nil => simp only [applyKeyAccs, Except.ok.injEq] at h; subst h; simp [explicitFor]
  | cons p r ih =>
    obtain ⟨ac, c⟩ := p
    simp only [applyKeyAccs] at h
    simp only [explicitFor]
    split at h
    · simp at h
    · rename_i hv
      rw [ih a0 h]
      cases hx : explicitFor L r with
      | some v => simp
      | none =>
        have : accInt ac = none := by cases ac <;> simp_all [accValue, accInt]
        simp [this]
    · rename_i v hv
      rw [ih _ h]
      cases hx : explicitFor L r with
      | some w => simp
      | none =>
        have : accInt ac = some v := by cases ac <;> simp_all [accValue, accInt]
        simp only [this, lookup_upsert]
        split <;> rfl

/-- Explicit accidentals after the key (and `exp`) override the signature exactly for the named
letters: for every letter the accidental in force is the last explicit one naming it, else the
signature's (`exp`: none), and a successful parse contains no double accidental. -/
theorem abc_explicit_accidentals (k : KeyTok) (a : Accs) (pk pm : Nat) (h : parseKey k = .ok (a, pk, pm)) :
    ∃ sig base,
      lookup (([k.tonic] ++ k.acc ++ normMode k.mode).map lowerC) KEY_TO_SIG = some sig ∧
      sigToAccs (if k.exp then 0 else sig) = .ok base ∧
      (∀ L, lookup L a = match explicitFor L k.accs with
        | some v => some v
        | none => lookup L base) ∧
      (∀ p ∈ k.accs, p.1 ≠ .dsharp ∧ p.1 ≠ .dflat) := by
  obtain ⟨sig, base, hsig, hbase, ha, _, _⟩ := parseKey_eq_ok.mp h
  exact ⟨sig, base, hsig, hbase, applyKeyAccs_spec _ _ _ ha, applyKeyAccs_single ha⟩

/-- non-vacuity: `K:D Phr ^f` (D phrygian = two flats, F sharpened explicitly) -/
example : parseKey { tonic := 'D', acc := [], mode := "Phr".toList, exp := false, accs := [(.sharp, 'f')] } =
    .ok ([('A', 0), ('B', -1), ('C', 0), ('D', 0), ('E', -1), ('F', 1), ('G', 0)], 2, 5) := by decide +kernel

/-- a double accidental in the key is rejected with ABCParseError (as the code does) -/
example : parseKey { tonic := 'C', acc := [], mode := [], exp := true, accs := [(.dsharp, 'f')] } = .error eParse := by
  decide +kernel

/-- ABC 2.1 §4.1: `C` = middle C = MIDI 60, lower-case letters one octave up -/
def specBase (c : Char) : Int :=
  60 + pitchClassOf (upperC c) + (if 'a' ≤ c ∧ c ≤ 'z' then 12 else 0)

/-- the generated `ABC_NOTE_TO_MIDI` is that rule, for all 14 note letters -/
theorem abc_note_table : ∀ c ∈ "CDEFGABcdefgab".toList, lookup c ABC_NOTE_TO_MIDI = some (specBase c) := by
  decide +kernel

/-- For EVERY tune (item list) the parser accepts and every note token in it: the pitch of the note
it produced is `base(letter) + accidental + 12·(#' − #,)`, where the accidental is the token's own,
else the most recent explicit accidental on that letter (any octave) since the last bar-line token,
else the accidental of the key in force (the most recent `K:` field, line or inline; none before
any); and that pitch is a MIDI pitch.  `barAccOf` / `keyAccOf` scan the processed items backwards;
the proof is the invariant "bar_accidentals = explicit accidentals since the last bar token". -/
theorem abc_pitch (R : Rat → Rat) (pre post : List Item) (a : Acc) (l : Char) (o : List Bool) (n : LenSpec)
    (st' : St) (h : runItems R init (pre ++ .tok (.note a l o n) :: post) = .ok st') :
    ∃ base v,
      lookup l ABC_NOTE_TO_MIDI = some base ∧
      effectiveAcc a (barAccOf (upperC l) none pre.reverse) (lookup (upperC l) (keyAccOf zeroAccs pre.reverse)) = some v ∧
      (st'.notes.map (·.pitch))[noteCount pre]? = some (base + v + octaveShift o) ∧
      MIN_MIDI_PITCH ≤ base + v + octaveShift o ∧ base + v + octaveShift o ≤ MAX_MIDI_PITCH := by
  obtain ⟨st1, st2, h1, h2, h3⟩ := (runItems_run h).split
  obtain ⟨hb1, hk1, s1, hs1, hl1⟩ := h1.pitches
  obtain ⟨_, _, s2, hs2, _⟩ := h3.pitches
  rcases h2.pitches.2.2 with ⟨a', l', o', n', base, v, hi, hbase, hv, hlo, hhi, hp⟩ | ⟨hn, _⟩
  · simp only [Item.tok.injEq, Tok.note.injEq] at hi
    obtain ⟨rfl, rfl, rfl, rfl⟩ := hi
    refine ⟨base, v, hbase, ?_, ?_, hlo, hhi⟩
    · rw [hb1, hk1] at hv
      simpa [init, lookup] using hv
    · rw [hs2, hp, hs1]
      simp only [init, List.map_nil, List.nil_append, List.append_assoc]
      rw [List.getElem?_append_right (by omega)]
      simp [hl1]
  · simp [isNote] at hn

/-- the same for `ABCTune(lines).note_sequence` -/
theorem abc_pitch_tune (R : Rat → Rat) (lines : List Line) (tune : Tune) (h : parseTune R lines = .ok tune)
    (pre post : List Item) (a : Acc) (l : Char) (o : List Bool) (n : LenSpec)
    (hl : flatten lines = pre ++ .tok (.note a l o n) :: post) :
    ∃ base v,
      lookup l ABC_NOTE_TO_MIDI = some base ∧
      effectiveAcc a (barAccOf (upperC l) none pre.reverse) (lookup (upperC l) (keyAccOf zeroAccs pre.reverse)) = some v ∧
      (tune.notes.map (·.pitch))[noteCount pre]? = some (base + v + octaveShift o) := by
  obtain ⟨st, st1, st2, hst, e1, _, _, _, _, _, _, hfin, rfl⟩ := parseTune_ok h
  rw [hl] at hst
  obtain ⟨base, v, h1, h2, h3, _, _⟩ := abc_pitch R pre post a l o n st hst
  exact ⟨base, v, h1, h2, by rw [toTune, finalizeSections_notes hfin, e1]; exact h3⟩

/-- `^^` / `__` and pitches outside 0..127 raise ABCParseError (the code rejects double accidentals) -/
theorem abc_pitch_rejects (R : Rat → Rat) (pre post : List Item) (a : Acc) (l : Char) (o : List Bool) (n : LenSpec)
    (st1 : St) (base : Int) (hpre : runItems R init pre = .ok st1) (hb : lookup l ABC_NOTE_TO_MIDI = some base)
    (hbad : a = .dsharp ∨ a = .dflat ∨
      ∃ v, effectiveAcc a (barAccOf (upperC l) none pre.reverse) (lookup (upperC l) (keyAccOf zeroAccs pre.reverse)) = some v ∧
        (base + v + octaveShift o < MIN_MIDI_PITCH ∨ MAX_MIDI_PITCH < base + v + octaveShift o)) :
    runItems R init (pre ++ .tok (.note a l o n) :: post) = .error eParse := by
  apply runItems_error_of_step hpre
  simp only [stepItem, stepTok, stepNote, hb]
  rcases hbad with rfl | rfl | ⟨v, hv, hr⟩
  · simp [noteAccidental, accValue]
  · simp [noteAccidental, accValue]
  · obtain ⟨hb1, hk1, _⟩ := (runItems_run hpre).pitches
    have hbar := hb1 (upperC l)
    simp only [init, lookup] at hbar
    have hkey : st1.keyAcc = keyAccOf zeroAccs pre.reverse := hk1
    rw [← hbar, ← hkey] at hv
    by_cases h1 : a = .dsharp
    · subst h1; simp [noteAccidental, accValue]
    by_cases h2 : a = .dflat
    · subst h2; simp [noteAccidental, accValue]
    rw [noteAccidental_eq_ok.mpr ⟨hv, h1, h2, rfl⟩]
    simp [hr]

/-- non-vacuity: `K:G` / `=F f | f`: the explicit natural (65), bar-scoped also in the other octave (77), the
sharp of the key again after the bar line (78) -/
example :
    (runItems id init [.field (.key { tonic := 'G', acc := [], mode := [], exp := false, accs := [] }), .start,
      .tok (.note .natural 'F' [] ⟨none, 0, none⟩), .tok (.note .none 'f' [] ⟨none, 0, none⟩),
      .tok (.bar 0 1 0), .tok (.note .none 'f' [] ⟨none, 0, none⟩)]).map (fun st => st.notes.map (·.pitch)) =
    .ok [65, 77, 78] := by decide +kernel

/-- the note-length shorthands of ABC 2.1 §4.3, in whole notes, for every unit length `u`:
`A` = u, `An` = n·u, `A/` `A//` … = u/2^k, `A/d` = u/d, `An/` = n·u/2, `An/d` = n·u/d;
a zero divisor and `//d` are Python errors (ZeroDivisionError / ValueError escape), `n//…` is an
ABCParseError — exactly as the code behaves. -/
theorem abc_length (u : Rat) (n d k : Nat) :
    noteLength u ⟨none, 0, none⟩ = .ok u ∧
    noteLength u ⟨some n, 0, none⟩ = .ok (u * n) ∧
    noteLength u ⟨none, k + 1, none⟩ = .ok (u / 2 ^ (k + 1)) ∧
    (d ≠ 0 → noteLength u ⟨none, 1, some d⟩ = .ok (u / d)) ∧
    noteLength u ⟨some n, 1, none⟩ = .ok (u * (n / 2)) ∧
    (d ≠ 0 → noteLength u ⟨some n, 1, some d⟩ = .ok (u * (n / d))) ∧
    noteLength u ⟨none, 1, some 0⟩ = .error (.esc "ZeroDivisionError") ∧
    noteLength u ⟨some n, 1, some 0⟩ = .error (.esc "ZeroDivisionError") ∧
    noteLength u ⟨none, k + 2, some d⟩ = .error (.esc "ValueError") ∧
    noteLength u ⟨some n, k + 2, none⟩ = .error eParse ∧ noteLength u ⟨some n, k + 2, some d⟩ = .error eParse := by
  refine ⟨rfl, rfl, rfl, ?_, rfl, ?_, rfl, rfl, rfl, rfl, rfl⟩ <;> intro h <;> simp [noteLength, h]

/-- Default unit note length (ABC 2.1 §3.1.7): no `L:` in the header → 1/8 for free meter (no `M:`
or `M:none`), else 1/16 if the meter `n/d` is below 3/4, else 1/8; an explicit `L:` is kept; two
meters in the header without `L:` are an ABCParseError (as the code does).  Exact arithmetic. -/
theorem abc_default_unit (st : St) (t : Rat) (n d : Int) (u : Rat) :
    (st.unit = some u → u ≠ 0 → setUnitFromHeader id st = .ok st) ∧
    (unitSet st.unit = false → st.timeSigs = [] → setUnitFromHeader id st = .ok { st with unit := some (1 / 8) }) ∧
    (unitSet st.unit = false → st.timeSigs = [(t, n, d)] → d ≠ 0 → (n : Rat) / d < 3 / 4 →
      setUnitFromHeader id st = .ok { st with unit := some (1 / 16) }) ∧
    (unitSet st.unit = false → st.timeSigs = [(t, n, d)] → d ≠ 0 → ¬ (n : Rat) / d < 3 / 4 →
      setUnitFromHeader id st = .ok { st with unit := some (1 / 8) }) ∧
    (unitSet st.unit = false → 2 ≤ st.timeSigs.length → setUnitFromHeader id st = .error eParse) := by
  refine ⟨?_, ?_, ?_, ?_, ?_⟩
  · intro h1 h2; simp [setUnitFromHeader, unitSet, h1, h2]
  · intro h1 h2; simp [setUnitFromHeader, h1, h2, UNIT_FREE]
  · intro h1 h2 h3 h4
    simp only [setUnitFromHeader, h1, h2, h3, id, UNIT_THRESHOLD, UNIT_BELOW]
    simp [h4]
  · intro h1 h2 h3 h4
    simp only [setUnitFromHeader, h1, h2, h3, id, UNIT_THRESHOLD, UNIT_OTHERWISE]
    simp [h4]
  · intro h1 h2
    simp only [setUnitFromHeader, h1]
    match hts : st.timeSigs, h2 with
    | a :: b :: r, _ => simp
    | [_], h2 => simp at h2
    | [], h2 => simp at h2

/-- `Q:a/b c/d=r` sets `qpm = 4·(a/b + c/d)·r`; a bare `Q:r` counts unit note lengths:
`qpm = 4·unit·r`; both at the current time.  Exact arithmetic. -/
theorem abc_tempo (st : St) (beats : List (Nat × Nat)) (r : Nat) (u : Rat) (hh : st.inHeader = false)
    (hd : ∀ b ∈ beats, b.2 ≠ 0) (hu : st.unit = some u) :
    parseField id st (.tempo beats r) =
      .ok { st with tempos := st.tempos ++ [(st.time, 4 * (beats.map (fun b => (b.1 : Rat) / (b.2 : Rat))).sum * r)] } ∧
    parseField id st (.tempoOld r) = .ok { st with tempos := st.tempos ++ [(st.time, 4 * u * r)] } := by
  have e : ∀ x : Rat, x / (1 / 4) * (r : Rat) = 4 * x * r := fun x => by ring
  constructor
  · have hs : sumBeats beats = .ok (beats.map (fun b => (b.1 : Rat) / (b.2 : Rat))).sum := by
      induction beats with
      | nil => simp [sumBeats]
      | cons b rest ih =>
        obtain ⟨n, d⟩ := b
        have hd0 : d ≠ 0 := hd (n, d) (by simp)
        simp [sumBeats, hd0, ih (fun b hb => hd b (by simp [hb]))]
    simp only [parseField, hs, setTempo, hh, Bool.false_eq_true, ↓reduceIte, addTempo, id, e]
  · simp only [parseField, setTempo, hh, Bool.false_eq_true, ↓reduceIte, addTempo, hu, id, e]

/-- Onsets and durations, exact arithmetic (`R = id`), for EVERY body item list without broken-rhythm
tokens that the parser accepts from a state after the header (unit length `c.unit`, tempo `c.qpm`):
the k-th note token starts at `t₀ + Σ_{j<k} dur_j` and ends at `t₀ + Σ_{j≤k} dur_j`, where
`dur_j = unit_j · factor_j · 240 / qpm_j` with the unit length and tempo in force at token j
(`specDurs`: the last `L:` / `Q:` field, line or inline, wins), and the clock ends at `t₀ + Σ dur`. -/
theorem abc_onsets_exact (st st' : St) (c : Ctx) (items : List Item)
    (hh : st.inHeader = false) (hu : st.unit = some c.unit) (hq : qpm st = c.qpm) (hb : st.broken = none)
    (hnb : ∀ i ∈ items, isBrokenItem i = false) (h : runItems id st items = .ok st') :
    st'.notes.map span = st.notes.map span ++ spans st.time (specDurs c items) ∧
    st'.time = st.time + (specDurs c items).sum ∧
    (∀ k, k < (specDurs c items).length →
      (st'.notes.map span)[st.notes.length + k]? =
        some (st.time + ((specDurs c items).take k).sum, st.time + ((specDurs c items).take (k + 1)).sum)) := by
  obtain ⟨h1, h2⟩ := (runItems_run h).body ⟨hh, hu, hq, hb⟩ hnb
  exact ⟨h1, h2, spans_nth h1⟩

/-- non-vacuity: `L:1/8`, 120 qpm: `A2 [L:1/16] B/ [Q:1/4=60] c3/2` → 0.5 s, 0.0625 s, 0.375 s -/
example : specDurs ⟨1/8, 120⟩ [.tok (.note .none 'A' [] ⟨some 2, 0, none⟩), .tok (.inline (.unitLen 1 16)),
    .tok (.note .none 'B' [] ⟨none, 1, none⟩), .tok (.inline (.tempo [(1, 4)] 60)),
    .tok (.note .none 'c' [] ⟨some 3, 1, some 2⟩)] = [1/2, 1/16, 3/8] := by
  norm_num [specDurs, itemCtx, fieldCtx, specFactor]

/-- Broken rhythm (ABC 2.1 §4.4), exact arithmetic: on two notes of equal length `d` (the last two
notes), `k` marks keep the pair's start and end and split its total `2d` as
`d·(2 − 2^-k) : d·2^-k` (`>`: long–short, `<`: short–long); every earlier note is untouched;
fewer than two notes is an ABCParseError. -/
theorem abc_broken_rhythm (pre : List Note) (n1 n2 : Note) (gt : Bool) (k : Nat) (d : Rat)
    (h1 : n1.end_ - n1.start = d) (h2 : n2.end_ - n2.start = d) :
    ∃ m1 m2, applyBroken id (pre ++ [n1, n2]) gt k = .ok (pre ++ [m1, m2]) ∧
      m1.pitch = n1.pitch ∧ m2.pitch = n2.pitch ∧ m1.start = n1.start ∧ m2.end_ = n2.end_ ∧
      m1.end_ - n1.end_ = m2.start - n2.start ∧
      (gt = true → m1.end_ - m1.start = d * (2 - (1 / 2) ^ k) ∧ m2.end_ - m2.start = d * (1 / 2) ^ k) ∧
      (gt = false → m1.end_ - m1.start = d * (1 / 2) ^ k ∧ m2.end_ - m2.start = d * (2 - (1 / 2) ^ k)) ∧
      applyBroken id [] gt k = .error eParse ∧ applyBroken id [n1] gt k = .error eParse := by
  refine ⟨_, _, applyBroken_exact pre n1 n2 gt k (by rw [h1, h2]), rfl, rfl, rfl, rfl, ?_, ?_, ?_, rfl, rfl⟩
  · cases gt <;> simp
  -- the boundary moves by `d - d / 2^k`
  · rintro rfl
    simp only [↓reduceIte, h1, one_div_pow]
    constructor
    · rw [← h1]; ring
    · rw [← h2]; ring
  · rintro rfl
    simp only [Bool.false_eq_true, ↓reduceIte, h1, one_div_pow]
    constructor
    · rw [← h1]; ring
    · rw [← h2]; ring

/-- non-vacuity (the case of F-C04-2): `L:1/4 Q:1/4=60 A>>B` is 1.75 s + 0.25 s -/
example : applyBroken id [⟨69, 90, 0, 1⟩, ⟨71, 90, 1, 2⟩] true 2 = .ok [⟨69, 90, 0, 7/4⟩, ⟨71, 90, 7/4, 2⟩] := by
  decide +kernel

/-- For EVERY header (any fields in any order) the parser accepts, at the first music line: the time
signatures are those of the `M:` fields (`C` = 4/4, `C|` = 2/2, `none` adds none) at time 0, the key
signatures are tonic pitch class and mode of the `K:` fields (what `parse_key` returns:
`abc_key_table_total`), the accidentals in force are those of the last `K:`, the reference number is
the last `X:`, the unit note length is the last `L:` if that is non-zero, else the ABC default for the meter
(1/16 below 3/4, else 1/8; 1/8 for free meter), and the tempo is the last `Q:` of the header:
`Q:a/b=r` ⇒ qpm = 4·(a/b)·r, bare `Q:r` ⇒ qpm = 4·unit·r, no or zero-rate `Q:` ⇒ none. (`R = id`.) -/
theorem abc_header (fs : List Field) (st : St) (h : runItems id init (fs.map .field ++ [.start]) = .ok st) :
    st.timeSigs = hdrMeters fs ∧ st.keySigs = hdrKeys fs ∧ st.keyAcc = hdrKeyAcc zeroAccs fs ∧
    st.refnum = hdrRef 0 fs ∧ st.time = 0 ∧ st.notes = [] ∧ st.inHeader = false ∧ st.broken = none ∧
    st.sections = [] ∧ st.groups = [] ∧
    ∃ u, unitAtEnd (hdrUnit none fs) (hdrMeters fs) = some u ∧ st.unit = some u ∧
      st.tempos = tempoAtEnd u 0 (hdrTempo none fs) := by
  obtain ⟨st1, _, h1, hs, ⟨⟩⟩ := (runItems_run h).split
  obtain ⟨i1, i2, i3, i4, i5, i6, _, i8, i9, i10, i11, i12⟩ := Run.header rfl rfl h1
  obtain ⟨_, ik, _⟩ := h1.pitches
  cases hs with | start u t _ hhdr
  obtain ⟨u', hu, e⟩ := finishHeader_exact (hhdr i1)
  obtain ⟨rfl, rfl⟩ : t = _ ∧ u = _ := by simpa using e
  simp only [init] at i3 i4 i5 i6 i8 i9 i10 i11 i12 ik
  refine ⟨by simpa using i8, by simpa using i9, ?_, i11, i2, i3, rfl, rfl, i5, i6, u', ?_, rfl, ?_⟩
  · simpa [hdrKeyAcc] using ik
  · simpa [i8, i10] using hu
  · simp only [i4, i2, List.nil_append]
    rw [i12]; rfl

set_option synthInstance.maxSize 2048 in
/-- non-vacuity: `X:7 / M:6/8 / Q:3/8=100 / K:F#m` → 6/8, unit 1/8 (6/8 = 3/4 is not below 3/4),
150 qpm, key F# (6) minor (1) with three sharps -/
example :
    (runItems id init ([Field.refnum 7, .meter 6 8, .tempo [(3, 8)] 100,
        .key { tonic := 'F', acc := ['#'], mode := ['m'], exp := false, accs := [] }].map .field ++ [.start])).map
      (fun st => (st.refnum, st.timeSigs, st.unit, st.tempos)) =
    .ok (7, [(0, 6, 8)], some (1/8), [(0, 150)]) := by
  decide +kernel

set_option synthInstance.maxSize 2048 in
example :
    (runItems id init ([Field.refnum 7, .meter 6 8, .tempo [(3, 8)] 100,
        .key { tonic := 'F', acc := ['#'], mode := ['m'], exp := false, accs := [] }].map .field ++ [.start])).map
      (fun st => (st.keySigs, st.keyAcc)) =
    .ok ([(0, 6, 1)], [('A', 0), ('B', 0), ('C', 1), ('D', 0), ('E', 0), ('F', 1), ('G', 1)]) := by
  decide +kernel

/-- A tune that raises an `ABCParseError` (sub)class `c` — chords, tuplets, variant endings, parts,
voices, invalid characters, … — anywhere in the tune sections of a book: the book with the tune
returns exactly the tunes of the book without it (same order, same contents), its exception list is
the other book's with exactly one entry `c` inserted (at the tune's position among the rejected
tunes), and if the other book raises (duplicate reference numbers, an escaping exception) so does
this one, identically.  For every header, every accumulator, every `R`. -/
theorem abc_isolation (R : Rat → Rat) (hdr : List Line) (ts1 ts2 : List (List Line)) (t : List Line) (c : String)
    (ht : parseTune R (hdr ++ t) = .error (.abc c)) (T : List Tune) (E : List String) :
    (∀ e, bookLoop R hdr (ts1 ++ ts2) T E = .error e → bookLoop R hdr (ts1 ++ t :: ts2) T E = .error e) ∧
    (∀ tunes excs, bookLoop R hdr (ts1 ++ ts2) T E = .ok (tunes, excs) →
      ∃ T1 e1 e2, bookLoop R hdr ts1 T E = .ok (T1, e1) ∧ excs = e1 ++ e2 ∧
        bookLoop R hdr (ts1 ++ t :: ts2) T E = .ok (tunes, e1 ++ c :: e2)) := by
  rw [bookLoop_append, bookLoop_append]
  cases h1 : bookLoop R hdr ts1 T E with
  | error e => simp
  | ok p =>
    obtain ⟨T1, E1⟩ := p
    simp only [bookLoop, ht]
    rw [bookLoop_excs R hdr ts2 T1 E1, bookLoop_excs R hdr ts2 T1 (E1 ++ [c])]
    cases h2 : bookLoop R hdr ts2 T1 [] with
    | error e => simp
    | ok q =>
      obtain ⟨T2, X⟩ := q
      simp only [reduceCtorEq, false_implies, implies_true, Except.ok.injEq, Prod.mk.injEq, true_and]
      intro tunes excs h
      obtain ⟨rfl, rfl⟩ := h
      exact ⟨T1, E1, X, ⟨rfl, rfl⟩, rfl, rfl, by simp⟩

/-- the same for `parse_abc_tunebook` when the first section is a tune (has an `X:` line): no file
header is split off in either book; here the new entry `c` is only said to sit somewhere in the
exception list (`∃ e1 e2`), its position is what `abc_isolation` gives -/
theorem abc_isolation_book (R : Rat → Rat) (s0 : List Line) (ts1 ts2 : List (List Line)) (t : List Line)
    (c : String) (h0 : s0.any isRefLine = true) (ht : parseTune R t = .error (.abc c)) :
    (∀ e, parseBook R (s0 :: (ts1 ++ ts2)) = .error e → parseBook R (s0 :: (ts1 ++ t :: ts2)) = .error e) ∧
    (∀ tunes excs, parseBook R (s0 :: (ts1 ++ ts2)) = .ok (tunes, excs) →
      ∃ e1 e2, excs = e1 ++ e2 ∧ parseBook R (s0 :: (ts1 ++ t :: ts2)) = .ok (tunes, e1 ++ c :: e2)) := by
  have hb : ∀ rest, parseBook R (s0 :: rest) = bookLoop R [] (s0 :: rest) [] [] := by
    intro rest; simp [parseBook, h0]
  rw [hb, hb]
  have := abc_isolation R [] (s0 :: ts1) ts2 t c (by simpa using ht) [] []
  simp only [List.cons_append] at this
  refine ⟨this.1, fun tunes excs h => ?_⟩
  obtain ⟨T1, e1, e2, _, h2, h3⟩ := this.2 tunes excs h
  exact ⟨e1, e2, h2, h3⟩

/-- non-vacuity: a tune with a chord is rejected with ChordError -/
example : parseTune id [.field (.refnum 2), .music [.note .none 'C' [] ⟨none, 0, none⟩, .chord]] =
    .error (.abc "ChordError") := by decide +kernel

/-- Unbalanced / mismatched repeats raise RepeatParseError exactly as characterised: (1) a colon-only
run with an odd number of colons; (2) a repeat token whose backward count differs from the count
the open forward repeat expects (in particular a second `|:` while one is open, or `:|` for `|::`);
(3) a backward repeat at time 0; (4) a forward repeat still open at the end of the tune.
Conversely a repeat token that passes (1)–(3) never raises a RepeatParseError. -/
theorem abc_repeat_errors (R : Rat → Rat) (st : St) (n : Nat) :
    (n % 2 = 1 → stepTok R st (.colons n) = .error eRepeat) ∧
    (∀ t b f, barCounts t = some (b, f) → (∀ m, t = .colons m → m % 2 = 0) →
      truthy st.expected = true → b ≠ st.expected → stepTok R st t = .error eRepeat) ∧
    (∀ t b f, barCounts t = some (some b, f) → (∀ m, t = .colons m → m % 2 = 0) →
      (truthy st.expected = true → some b = st.expected) → st.time = 0 → stepTok R st t = .error eRepeat) ∧
    (∀ t b f, barCounts t = some (b, f) → (∀ m, t = .colons m → m % 2 = 0) →
      (truthy st.expected = true → b = st.expected) → (b ≠ none → st.time ≠ 0) →
      stepTok R st t ≠ .error eRepeat) ∧
    (st.inHeader = false → truthy st.expected = true → finishTune R st = .error eRepeat) := by
  refine ⟨?_, ?_, ?_, ?_, ?_⟩
  · intro h; simp [stepTok, stepColons, h]
  · intro t b f hc hev he hne
    rw [stepTok_eq_doRepeat hc hev]
    exact doRepeat_mismatch _ b f he hne
  · intro t b f hc hev he h0
    rw [stepTok_eq_doRepeat hc hev]
    exact doRepeat_time_zero _ b f he (fun hb => (barCounts_props hc).1 (by rw [hb])) h0
  · intro t b f hc hev he ht
    rw [stepTok_eq_doRepeat hc hev]
    exact doRepeat_no_repeat_error _ b f he (fun x hx _ => ht (by rw [hx]; simp))
  · intro hh he
    simp [finishTune, hh, he]

/-- `expand_section_groups` (notes; exact arithmetic) on ANY sequence whose notes are partitioned by
its section annotations — increasing section starts below the total time, every note starting
inside its section and ending no later than the section's end, notes in onset order, group ids in
range: the expansion succeeds and consists, group by group, of the notes of the group's section
played `num_times` times, pitches and durations in order. -/
theorem abc_repeats_expansion (bs : List Block) (T : Rat) (groups : List (Int × Nat)) (base : Tune)
    (hwf : BlocksWF bs T) (hsorted : (blockNotes bs).Pairwise (fun a b => a.start ≤ b.start))
    (hne : groups ≠ []) (hids : ∀ g ∈ groups, 0 ≤ g.1 ∧ g.1 < bs.length) :
    ∃ L, expand id (tuneOfBlocks bs T groups base) = .ok L ∧
      L.map pd = groups.flatMap (fun g => (List.replicate g.2 (blockPd bs g.1)).flatten) :=
  ⟨_, expand_blocks_full bs T groups base hwf hsorted hne hids, placed_blocks_pd bs T groups 0⟩

/-- a sequence without section groups expands to itself -/
theorem abc_repeats_no_groups (R : Rat → Rat) (t : Tune) (h : t.groups = []) : expand R t = .ok t.notes := by
  simp [expand, h]

/-- THE REPEAT CLAUSE, for every tune (any header, any token list, no size bound) without
broken-rhythm tokens that the parser accepts, whose notes all have positive duration and whose
repeats are non-degenerate: `expand_section_groups` succeeds on the parsed tune and its notes are, in
pitch and duration, exactly the played order the bar tokens notate (`unfold`: at `:|`×n go back to
the most recent section start n−1 times; double bars outside a repeat and repeat signs start
sections; `Player`, `NonDegenerate` in `Proofs/C04_repeats.lean`).  Proof: the case of `repeats_general`
(`Proofs/C04_repeatsG.lean`) in which no broken rhythm is pending anywhere and the player of the code is
`unfold`.  Exact arithmetic (`R = id`). -/
theorem abc_repeats (lines : List Line) (tune : Tune) (h : parseTune id lines = .ok tune)
    (hnb : ∀ i ∈ flatten lines, isBrokenItem i = false) (hpos : ∀ n ∈ tune.notes, n.start < n.end_)
    (hnd : NonDegenerate (flatten lines)) :
    ∃ L, expand id tune = .ok L ∧ unfold (flatten lines) (tune.notes.map pd) = some (L.map pd) := by
  obtain ⟨L, hL, hu, _⟩ := repeats_general lines tune h hpos (brokenOK_of_no_broken hnb)
  exact ⟨L, hL, unfoldQ_eq_unfold hnd hu⟩

/-- `C D |:: E F ::| G` -/
abbrev repeatExample : List Line :=
  [.field (.refnum 1), .music [.note .none 'C' [] ⟨none, 0, none⟩, .note .none 'D' [] ⟨none, 0, none⟩,
    .bar 0 1 2, .note .none 'E' [] ⟨none, 0, none⟩, .note .none 'F' [] ⟨none, 0, none⟩, .bar 2 1 0,
    .note .none 'G' [] ⟨none, 0, none⟩]]

/-- non-vacuity (parser side): the example parses to three sections and the groups 0×1, 1×3, 2×1 -/
example : (parseTune id repeatExample).map (fun t => (t.sections.map (·.2), t.groups)) =
    .ok ([0, 1, 2], [(0, 1), (1, 3), (2, 1)]) := by decide +kernel

/-- non-vacuity of `abc_repeats`: its hypotheses hold for `C D |:: E F ::| G`, so the expansion of the
parsed tune is C D E F E F E F G -/
example : ∃ tune L, parseTune id repeatExample = .ok tune ∧ expand id tune = .ok L ∧
    (L.map pd).map (·.1) = [60, 62, 64, 65, 64, 65, 64, 65, 67] := by
  obtain ⟨tune, hp, hpos, hu⟩ := ok_of_decide (x := parseTune id repeatExample)
    (P := fun t => (∀ n ∈ t.notes, n.start < n.end_) ∧
      (unfold (flatten repeatExample) (t.notes.map pd)).map (·.map (·.1)) =
        some [60, 62, 64, 65, 64, 65, 64, 65, 67]) (by decide +kernel)
  obtain ⟨L, hL, hu'⟩ := abc_repeats repeatExample tune hp (by decide +kernel) hpos
    (nonDegenerate_of_check (by decide +kernel))
  rw [hu'] at hu
  exact ⟨tune, L, hp, hL, by simpa using hu⟩

end NSV.C04

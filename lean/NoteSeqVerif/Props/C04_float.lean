import NoteSeqVerif.Proofs.C04_float
import Mathlib.Tactic.Linarith
import Mathlib.Tactic.Ring
import Mathlib.Tactic.NormNum
import Mathlib.Tactic.Positivity
import Mathlib.Tactic.Convert
/-! C04 — the timing clause in FLOATING POINT (`R` = any rounding operator with the algebraic facts of
`Proofs/Rounding.lean`; the executable `rne53` that the correspondence compares bit-exactly with the
Python is one: `rounding_rne53`).

What is float in `abc_parser.py` and what is exact: header of `Proofs/C04_float.lean`, where `FBody` (the
parser is in the tune body, unit length exact, tempo rounded once, clock a float), `posDurs` and `dyadicDurs` are
defined.  `specDurs c items` are the NOTATED durations `unit·factor·240/Q` (exact rationals,
`Proofs/C04_time.lean`). -/
namespace NSV.C04

variable {R : ℚ → ℚ}

/-- ONE NOTE TOKEN, any rounding: for a positive notated length under a positive notated tempo the
float clock advance `dt` is positive and within `6·2^-53` (relative) of the notated duration
`d = unit·factor·240/Q` (5 roundings: tempo, `/60`, `1/·`, `float(4·length)`, `·`); the note is
`(clock, R (clock + dt))`, its end is not before its start, and the clock moves to the note's end. -/
theorem abc_float_note (hR : Rounding R) (st st' : St) (c : Ctx) (hb : FBody R st c)
    (a : Acc) (l : Char) (o : List Bool) (len : LenSpec)
    (hl : 0 < c.unit * specFactor len) (hq : 0 < c.qpm)
    (h : stepTok R st (.note a l o len) = .ok st') :
    ∃ p dt, 0 < dt ∧ Near 53 5 dt (c.unit * specFactor len * 240 / c.qpm) ∧
      |dt - c.unit * specFactor len * 240 / c.qpm| ≤ c.unit * specFactor len * 240 / c.qpm * (6 * u53) ∧
      st'.notes = st.notes ++ [newNote p st.time (R (st.time + dt))] ∧
      st.time ≤ R (st.time + dt) ∧ st'.time = R (st.time + dt) ∧ FBody R st' c := by
  obtain ⟨hb', hcase⟩ := (stepItem_step (i := .tok (.note a l o len)) h).fbody hR hb rfl
  rcases hcase with ⟨a', l', o', len', p, dt, hi, hdt, hn, ht⟩ | ⟨hni, _, _⟩
  · simp only [Item.tok.injEq, Tok.note.injEq] at hi
    obtain ⟨rfl, rfl, rfl, rfl⟩ := hi
    obtain ⟨hpos, hnear⟩ := seconds_float hR hq hl hdt
    have hd0 : 0 ≤ c.unit * specFactor len * 240 / c.qpm := by positivity
    have habs := near_abs hnear hd0 (by norm_num)
    refine ⟨p, dt, hpos, hnear, ?_, hn, ?_, ht, hb'⟩
    · norm_num at habs ⊢; linarith
    · have := hR.mono st.time (st.time + dt) (by linarith)
      rwa [hb.tfix] at this
  · simp [isNote] at hni

/-- ORDER, any rounding, for every body item list without broken-rhythm tokens with positive notated
lengths that the parser accepts: one note per note token; every note ends no earlier than it starts
(`end = R (start + dt) ≥ start`); each note starts exactly where the previous one ends, so onsets are
non-decreasing in token order; the clock never goes back and ends at the last note's end. -/
theorem abc_float_order (hR : Rounding R) (st st' : St) (c : Ctx) (items : List Item) (hb : FBody R st c)
    (hnb : ∀ i ∈ items, isBrokenItem i = false) (hpos : posDurs c items) (h : runItems R st items = .ok st') :
    ∃ new, st'.notes = st.notes ++ new ∧ new.length = (specDurs c items).length ∧
      st.time ≤ st'.time ∧ (∀ n ∈ new, st.time ≤ n.start ∧ n.start ≤ n.end_ ∧ n.end_ ≤ st'.time) ∧
      new.Pairwise (fun a b => a.start ≤ b.start ∧ a.end_ ≤ b.start) := by
  obtain ⟨new, hnew, hch⟩ := (runItems_run h).fbody hR hb hnb hpos
  obtain ⟨h1, _, h3, h4⟩ := FChain.order hR hb.tfix hch
  exact ⟨new, hnew, hch.length, h1, h3, h4⟩

/-- ACCURACY, any rounding: if the clock is `m + 5` roundings away from the notated time `T ≥ 0`
(`m = 0`, `T = 0` at the first music line), the k-th note of the body starts `m + k + 5` and ends
`m + k + 6` roundings away from the notated running sums `T + Σ_{j<k} d_j`, `T + Σ_{j≤k} d_j`. -/
theorem abc_float_onsets_near (hR : Rounding R) (st st' : St) (c : Ctx) (items : List Item) (T : ℚ) (m : ℕ)
    (hb : FBody R st c) (hnb : ∀ i ∈ items, isBrokenItem i = false) (hpos : posDurs c items)
    (hT : 0 ≤ T) (ht : Near 53 (m + 5) st.time T) (h : runItems R st items = .ok st') :
    Near 53 (m + (specDurs c items).length + 5) st'.time (T + (specDurs c items).sum) ∧
    ∀ k, k < (specDurs c items).length → ∃ n, st'.notes[st.notes.length + k]? = some n ∧
      Near 53 (m + k + 5) n.start (T + ((specDurs c items).take k).sum) ∧
      Near 53 (m + k + 6) n.end_ (T + ((specDurs c items).take (k + 1)).sum) := by
  obtain ⟨new, hnew, hch⟩ := (runItems_run h).fbody hR hb hnb hpos
  obtain ⟨r1, r2⟩ := FChain.near hR ht hT (posDurs_pos hpos) hch
  refine ⟨r1, fun k hk => ?_⟩
  obtain ⟨n, hn, a, b⟩ := r2 k hk
  refine ⟨n, ?_, a, b⟩
  rw [hnew, List.getElem?_append_right (by omega)]
  simpa using hn

/-- THE ERROR BOUND, from the first music line (clock 0): the k-th onset differs from the notated
running sum `Σ_{j<k} d_j` by at most `(k + 6)·2^-53` of it, the k-th note end from `Σ_{j≤k} d_j` by at
most `(k + 7)·2^-53` of it — for every tune body of fewer than 94 906 000 notes (`(k+6)(k+7) ≤ 2^53`).
The constant: 5 roundings per duration, one per `current_time +=`, and sums of non-negative terms
do not add their indices. -/
theorem abc_float_onsets (hR : Rounding R) (st st' : St) (c : Ctx) (items : List Item)
    (hb : FBody R st c) (hnb : ∀ i ∈ items, isBrokenItem i = false) (hpos : posDurs c items)
    (ht : st.time = 0) (h : runItems R st items = .ok st') :
    ∀ k, k < (specDurs c items).length → (k + 6) * (k + 7) ≤ 2 ^ 53 →
      ∃ n, st'.notes[st.notes.length + k]? = some n ∧
        |n.start - ((specDurs c items).take k).sum| ≤ ((specDurs c items).take k).sum * (((k : ℚ) + 6) * u53) ∧
        |n.end_ - ((specDurs c items).take (k + 1)).sum| ≤
          ((specDurs c items).take (k + 1)).sum * (((k : ℚ) + 7) * u53) := by
  intro k hk hsz
  have h0 : Near 53 (0 + 5) st.time 0 := by rw [ht]; exact near_zero_zero _
  obtain ⟨_, r⟩ := abc_float_onsets_near hR st st' c items 0 0 hb hnb hpos (le_refl _) h0 h
  obtain ⟨n, hn, a, b⟩ := r k hk
  have hd := posDurs_pos hpos
  have hs : ∀ j, 0 ≤ ((specDurs c items).take j).sum := fun j =>
    List.sum_nonneg (fun x hx => (hd x (List.mem_of_mem_take hx)).le)
  simp only [zero_add] at a b
  have a' := near_abs a (hs k) (Nat.le_trans (Nat.mul_le_mul (by omega) (by omega)) hsz)
  have b' := near_abs b (hs (k + 1)) hsz
  refine ⟨n, hn, ?_, ?_⟩
  · push_cast at a'; convert a' using 2; ring
  · push_cast at b'; convert b' using 2; ring

/-- EXACTNESS, any rounding: when every operand is dyadic — each note sounds under a tempo `60·2^i`
and lasts a whole number of quanta `2^e`, the clock starts on a multiple `A·2^e` and the running total
stays within `2^53` quanta (`dyadicDurs`) — no operation rounds, and the float onsets and ends are
EXACTLY the notated running sums (the conclusion of `abc_onsets_exact`, for every `R`). -/
theorem abc_float_exact_dyadic (hR : Rounding R) (e : ℤ) (A : ℕ) (st st' : St) (c : Ctx) (items : List Item)
    (hb : FBody R st c) (hnb : ∀ i ∈ items, isBrokenItem i = false) (ht : st.time = (A : ℚ) * 2 ^ e)
    (hdy : dyadicDurs e c A items) (h : runItems R st items = .ok st') :
    st'.notes.map span = st.notes.map span ++ spans st.time (specDurs c items) ∧
    st'.time = st.time + (specDurs c items).sum ∧
    (∀ k, k < (specDurs c items).length →
      (st'.notes.map span)[st.notes.length + k]? =
        some (st.time + ((specDurs c items).take k).sum, st.time + ((specDurs c items).take (k + 1)).sum)) := by
  obtain ⟨h1, h2⟩ := (runItems_run h).dyadic hR hb hnb ht hdy
  exact ⟨h1, h2, spans_nth h1⟩

/-- THE FIRST MUSIC LINE, any rounding: after a header without tempo events the parser is in the body
phase (`FBody`) at clock 0 with some unit note length `u` (a Fraction, exact; WHICH one is not said here:
`abc_header`, `abc_float_default_unit`) and the tempo `R Q`, `Q` the notated tempo of the last header `Q:` (`4·beat·rate`, bare `Q:r` counts
unit lengths, none or rate 0 → the default 120). -/
theorem abc_float_header (hR : Rounding R) (st0 st : St) (hh : st0.inHeader = true) (ht : st0.time = 0)
    (htm : st0.tempos = []) (h : startMusic R st0 = .ok st) :
    ∃ u, st.unit = some u ∧ st.time = 0 ∧ st.notes = st0.notes ∧
      FBody R st ⟨u, match pendingTempo st0 with
        | some (some b, r) => if r = 0 then 120 else 4 * b * r
        | some (none, r) => if r = 0 then 120 else 4 * u * r
        | none => 120⟩ := by
  have h120 : R 120 = 120 := by
    have := hR.exact_int 120 (by norm_num); simpa using this
  cases stepItem_step (i := .start) h with | start u' t _ hhdr
  obtain ⟨u, _, e⟩ := finishHeader_ok (hhdr hh)
  obtain ⟨rfl, rfl⟩ : t = _ ∧ u' = _ := by simpa using e
  refine ⟨u, rfl, ht, rfl, rfl, rfl, ?_, rfl, by simp [ht, hR.zero]⟩
  -- the tempo in force: the pending header tempo rounded once, else the default
  simp only [htm, List.nil_append]
  rcases pendingTempo st0 with _ | ⟨_ | b, r⟩
  · simp [qpm, tempoAtEnd, Gen.DEFAULT_QPM, h120]
  all_goals by_cases hr0 : r = 0 <;> simp [qpm, tempoAtEnd, Gen.DEFAULT_QPM, h120, hr0]

/-- the state after the header `L:1/8`, `Q:1/4=100` -/
def fxSt : St := { inHeader := false, unit := some (1 / 8), tempos := [(0, 100)] }

/-- `A B3 c/ | [L:1/16] d` — notated 0.3 s, 0.9 s, 0.15 s, 0.15 s: none of them a float -/
def fxItems : List Item :=
  [.tok (.note .none 'A' [] ⟨none, 0, none⟩), .tok (.note .none 'B' [] ⟨some 3, 0, none⟩),
   .tok (.note .none 'c' [] ⟨none, 1, none⟩), .tok (.bar 0 1 0), .tok (.inline (.unitLen 1 16)),
   .tok (.note .none 'd' [] ⟨none, 0, none⟩)]

theorem fxBody : FBody rne53 fxSt ⟨1 / 8, 100⟩ :=
  ⟨rfl, rfl, by decide +kernel, rfl, by decide +kernel⟩

theorem fxPos : posDurs ⟨1 / 8, 100⟩ fxItems := by
  norm_num [fxItems, posDurs, specFactor, itemCtx, fieldCtx]

example : specDurs ⟨1 / 8, 100⟩ fxItems = [3 / 10, 9 / 10, 3 / 20, 3 / 20] := by
  norm_num [fxItems, specDurs, specFactor, itemCtx, fieldCtx]

/-- the hypotheses of `abc_float_order` / `abc_float_onsets` hold for a concrete tune body whose
durations all round, and the float run really is inexact there (the last onset is not 27/20) -/
example : ∃ st', runItems rne53 fxSt fxItems = .ok st' ∧ st'.notes.length = 4 ∧
    (∀ k, k < 4 → ∃ n, st'.notes[k]? = some n ∧
      |n.start - (([3 / 10, 9 / 10, 3 / 20, 3 / 20] : List ℚ).take k).sum| ≤
        (([3 / 10, 9 / 10, 3 / 20, 3 / 20] : List ℚ).take k).sum * (((k : ℚ) + 6) * u53)) ∧
    (st'.notes.map (·.start))[3]? ≠ some (27 / 20) := by
  obtain ⟨st', h, hok⟩ := ok_of_decide (x := runItems rne53 fxSt fxItems)
    (P := fun s => (s.notes.map Note.start)[3]? ≠ some (27 / 20)) (by decide +kernel)
  have hd : specDurs ⟨1 / 8, 100⟩ fxItems = [3 / 10, 9 / 10, 3 / 20, 3 / 20] := by
    norm_num [fxItems, specDurs, specFactor, itemCtx, fieldCtx]
  have hnb : ∀ i ∈ fxItems, isBrokenItem i = false := by decide
  obtain ⟨new, hnew, hlen, _⟩ := abc_float_order rounding_rne53 fxSt st' _ fxItems fxBody hnb fxPos h
  have hbound := abc_float_onsets rounding_rne53 fxSt st' _ fxItems fxBody hnb fxPos rfl h
  rw [hd] at hbound hlen
  refine ⟨st', h, by rw [hnew]; simp [fxSt, hlen], fun k hk => ?_, by simpa using hok⟩
  obtain ⟨n, hn, a, _⟩ := hbound k (by simpa using hk) (Nat.le_trans (Nat.mul_le_mul (show k + 6 ≤ 10 by omega) (show k + 7 ≤ 11 by omega)) (by norm_num))
  exact ⟨n, by simpa [fxSt] using hn, a⟩

/-- non-vacuity of `abc_float_exact_dyadic`: `L:1/8`, `Q:1/4=120` (= 60·2), `A B3 c/`: quanta of 2^-3 s -/
example : dyadicDurs (-3) ⟨1 / 8, 120⟩ 0
    [.tok (.note .none 'A' [] ⟨none, 0, none⟩), .tok (.note .none 'B' [] ⟨some 3, 0, none⟩),
     .tok (.note .none 'c' [] ⟨none, 1, none⟩)] := by
  refine ⟨1, 2, by norm_num, by norm_num [specFactor], by norm_num, 1, 6, by norm_num, by norm_num [specFactor],
    by norm_num, 1, 1, by norm_num, by norm_num [specFactor], by norm_num, trivial⟩


/-- THE DEFAULT UNIT NOTE LENGTH, any rounding: the code compares the FLOAT quotient `n / d` of the
meter with 0.75.  For a meter denominator `0 < d ≤ 2^51` the float comparison decides exactly what the
exact one does (`round_div_lt_three_quarters`), so `_set_unit_note_length_from_header` returns what
`abc_default_unit` says, for every `R`. -/
theorem abc_float_default_unit (hR : Rounding R) (st : St)
    (hm : ∀ t n d, st.timeSigs = [(t, n, d)] → 0 < d ∧ d ≤ 2 ^ 51) :
    setUnitFromHeader R st = setUnitFromHeader id st := by
  unfold setUnitFromHeader
  split
  · rfl
  · split
    · rfl
    · rename_i t n d hts
      obtain ⟨hd0, hd1⟩ := hm t n d hts
      have hiff : R ((n : ℚ) / d) < Gen.UNIT_THRESHOLD ↔ (n : ℚ) / d < Gen.UNIT_THRESHOLD :=
        round_div_lt_three_quarters hR hd0 hd1
      simp only [id]
      by_cases hc : (n : ℚ) / d < Gen.UNIT_THRESHOLD
      · rw [if_pos (hiff.mpr hc), if_pos hc]
      · rw [if_neg (mt hiff.mp hc), if_neg hc]
    · rfl

/-- the hypothesis on the denominator cannot be dropped: the meter `(3·2^53 − 1) / 2^55` is below 3/4
but its float quotient IS 0.75, so the code picks 1/8 where the exact rule gives 1/16 -/
example : ((3 * 2 ^ 53 - 1 : ℤ) : ℚ) / ((2 ^ 55 : ℤ) : ℚ) < 3 / 4 ∧
    rne53 (((3 * 2 ^ 53 - 1 : ℤ) : ℚ) / ((2 ^ 55 : ℤ) : ℚ)) = 3 / 4 := by
  refine ⟨by norm_num, by decide +kernel⟩


/-- BROKEN RHYTHM, any rounding: when `_apply_broken_rhythm` accepts the last two notes `n1`, `n2` (which
share the boundary `t = n1.end = n2.start`, a float), the boundary STAYS shared — both notes get the very
same float `b` — the first note keeps its start, the second its end, everything before is untouched; the
shift is `adj = R (l1·(1 − 2^-k))` with `l1 = R (t − n1.start)` the float length of the first note
(`l1 / 2^k` is exact), `0 ≤ adj ≤ l1`; `>` moves the boundary to `R (t + adj) ≥ t`, `<` to `R (t − adj) ≤ t`. -/
theorem abc_float_broken (hR : Rounding R) (pre L : List Note) (n1 n2 : Note) (gt : Bool) (k : Nat)
    (hc : n1.end_ = n2.start) (hfix : R n1.end_ = n1.end_) (h1 : n1.start ≤ n1.end_)
    (h : applyBroken R (pre ++ [n1, n2]) gt k = .ok L) :
    ∃ adj b, L = pre ++ [{ n1 with end_ := b }, { n2 with start := b }] ∧
      adj = R (R (n1.end_ - n1.start) * (1 - 1 / 2 ^ k)) ∧ 0 ≤ adj ∧ adj ≤ R (n1.end_ - n1.start) ∧
      (gt = true → b = R (n1.end_ + adj) ∧ n1.end_ ≤ b) ∧ (gt = false → b = R (n1.end_ - adj) ∧ b ≤ n1.end_) := by
  obtain ⟨hadj, hadj0, hadj1⟩ := broken_shift hR (hR.nonneg (sub_nonneg.mpr h1)) (hR.idem _) k
  unfold applyBroken at h
  have hrev : (pre ++ [n1, n2]).reverse = n2 :: n1 :: pre.reverse := by simp
  rw [hrev] at h
  simp only [List.reverse_reverse] at h
  split at h
  · simp at h
  rw [hadj, ← hc] at h
  cases gt with
  | true =>
    simp only [↓reduceIte, Except.ok.injEq] at h
    refine ⟨_, _, h.symm, rfl, hadj0, hadj1, fun _ => ⟨rfl, ?_⟩, by simp⟩
    have := hR.mono _ _ (le_add_of_nonneg_right (a := n1.end_) hadj0)
    rwa [hfix] at this
  | false =>
    simp only [Bool.false_eq_true, ↓reduceIte, Except.ok.injEq] at h
    refine ⟨_, _, h.symm, rfl, hadj0, hadj1, by simp, fun _ => ⟨rfl, ?_⟩⟩
    have := hR.mono _ _ (sub_le_self n1.end_ hadj0)
    rwa [hfix] at this

/-- non-vacuity: `L:1/8`, 100 qpm, `A>B` in float64: the two notes 0–0.3 and 0.3–0.6 (floats) become
0–b and b–0.6 with one shared float `b` -/
example : ∃ L b, applyBroken rne53 [⟨69, 90, 0, rne53 (3 / 10)⟩, ⟨71, 90, rne53 (3 / 10), rne53 (rne53 (3 / 10) + rne53 (3 / 10))⟩]
      true 1 = .ok L ∧
    L = [⟨69, 90, 0, b⟩, ⟨71, 90, b, rne53 (rne53 (3 / 10) + rne53 (3 / 10))⟩] ∧ rne53 (3 / 10) ≤ b := by
  obtain ⟨L, hx, _⟩ := ok_of_decide (P := fun _ => True) (x := applyBroken rne53 [⟨69, 90, 0, rne53 (3 / 10)⟩,
    ⟨71, 90, rne53 (3 / 10), rne53 (rne53 (3 / 10) + rne53 (3 / 10))⟩] true 1) (by decide +kernel)
  obtain ⟨adj, b, hL, _, _, _, hgt, _⟩ := abc_float_broken rounding_rne53 [] L _ _ true 1 rfl
    (rounding_rne53.idem _) (by decide +kernel) hx
  exact ⟨L, b, hx, by simpa using hL, (hgt rfl).2⟩

end NSV.C04

import NoteSeqVerif.Props.C12_extract
import NoteSeqVerif.Proofs.Rounding
/-! C12 — extraction / splitting on two storage orders, for the compiled float model (`R = rne53`, what the driver
`drv_c02` runs): the instance of the theorems of `Props/C12_extract.lean`.  The silence splitter's `SilenceOK` is the
one place that asks something of the rounding operator: that it is monotone (`rne53_mono`). -/
namespace NSV.C12
open NSV.C02

theorem silenceOK_float {gap : Rat} (hg : 0 ≤ gap) {notes : List Note}
    (hv : ∀ n ∈ notes, n.start ≤ n.end_) (hf : ∀ n ∈ notes, rne53 n.end_ = n.end_) :
    SilenceOK rne53 gap notes :=
  silenceOK_of_mono (fun _ _ hab => rne53_mono hab) hg hv hf

theorem extract_float_perm {s s' : NoteSeq} (h : NSPerm s s') (hn : NoTies Gen.PRESERVE s) :
    (∀ st, ResPermList (extractSubsequences s st) (extractSubsequences s' st)) ∧
    (∀ a b, ResPerm (extractSubsequence s a b) (extractSubsequence s' a b)) ∧
    (∀ hops skip, ResPermList (splitHopList s hops skip) (splitHopList s' hops skip)) ∧
    (∀ hop skip, ResPermList (splitHop s hop skip) (splitHop s' hop skip)) ∧
    (∀ skip, ResPermList (splitTimeChanges s skip) (splitTimeChanges s' skip)) ∧
    (∀ gap, 0 ≤ gap → (∀ n ∈ s.notes, n.start ≤ n.end_ ∧ rne53 n.end_ = n.end_) →
      ResPermList (splitSilence s gap) (splitSilence s' gap)) :=
  ⟨fun st => extractSubsequences_perm rne53 _ h hn st,
   fun a b => extractSubsequence_perm rne53 _ h hn a b,
   fun hops skip => splitHopList_perm rne53 _ h hn hops skip,
   fun hop skip => splitHop_perm rne53 _ h hn hop skip,
   fun skip => splitTimeChanges_perm rne53 _ _ h hn skip,
   fun gap hg hv => splitSilence_perm rne53 _ h hn gap
     (silenceOK_float hg (fun n hn => (hv n hn).1) (fun n hn => (hv n hn).2))⟩

end NSV.C12

import NoteSeqVerif.Proofs.C07Perf
/-! C07 — property theorems (DESIGN 6.7) and non-vacuity examples. -/
namespace NSV.C07

/-- the bar length is rejected exactly when `spq·4·num/den` is not an integer, and is that integer otherwise -/
theorem steps_per_bar_nonInteger_iff (R : Rat → Rat) (s : NoteSeq) (ts : TimeSig) (rest : List TimeSig)
    (hts : s.timeSigs = ts :: rest) (hq : 0 < s.spq) (hden : ts.den ≠ 0)
    (hR : SpbExact R s.spq ts.num ts.den) :
    (stepsPerBarR R s = .error .nonIntegerStepsPerBarError ↔ ¬ ts.den ∣ s.spq * 4 * ts.num) ∧
    (∀ k : Int, stepsPerBarR R s = .ok k ↔ s.spq * 4 * ts.num = k * ts.den) := by
  have hden' : (ts.den : Rat) ≠ 0 := by exact_mod_cast hden
  have hval : stepsPerBarFloatR R s = .ok (((s.spq * 4 * ts.num : Int) : Rat) / (ts.den : Rat)) := by
    simp only [stepsPerBarFloatR, hq, not_true_eq_false, ↓reduceIte, hts, hden]
    rw [hR.1, hR.2.1, hR.2.2]
    congr 1
    have : ((s.spq * 4 * ts.num : Int) : Rat) = (s.spq : Rat) * 4 * (ts.num : Rat) := by norm_cast
    rw [this]; grind
  have hint := rat_isInt_iff (s.spq * 4 * ts.num) ts.den hden
  have hk := fun k => rat_div_eq_intCast (s.spq * 4 * ts.num) ts.den k hden
  unfold stepsPerBarR
  rw [hval]
  generalize ((s.spq * 4 * ts.num : Int) : Rat) / (ts.den : Rat) = q at hint hk
  by_cases hd : q.den = 1
  · simp only [hd, ne_eq, not_true_eq_false, ↓reduceIte, reduceCtorEq, false_iff, Decidable.not_not,
      Except.ok.injEq]
    refine ⟨hint.mp hd, fun k => ⟨fun h => (hk k).mp (h ▸ Rat.ext rfl hd), fun h => ?_⟩⟩
    rw [(hk k).mpr h]; exact Rat.num_intCast k
  · simp only [hd, ne_eq, not_false_eq_true, ↓reduceIte, true_iff, reduceCtorEq, false_iff]
    exact ⟨fun h => hd (hint.mpr h), fun k h => hd (hint.mpr ⟨k, by rw [h, Int.mul_comm]⟩)⟩

/-- with exact arithmetic (`R = id`) the hypothesis is void -/
theorem spbExact_id (spq num den : Int) : SpbExact id spq num den := ⟨rfl, rfl, rfl⟩

/-- Melody, DrumTrack and ChordProgression extraction raise `NonIntegerStepsPerBarError` exactly when the bar
length computation does (see `steps_per_bar_nonInteger_iff` for when that is) -/
theorem extractors_nonInteger_iff (s : NoteSeq) :
    (∀ ss inst gap ip pad fd, melodyFromQuantized s ss inst gap ip pad fd = .error .nonIntegerStepsPerBarError ↔
      stepsPerBar s = .error .nonIntegerStepsPerBarError) ∧
    (∀ ss gap pad ign, drumsFromQuantized s ss gap pad ign = .error .nonIntegerStepsPerBarError ↔
      stepsPerBar s = .error .nonIntegerStepsPerBarError) ∧
    (∀ a b, chordsFromQuantized s a b = .error .nonIntegerStepsPerBarError ↔
      stepsPerBar s = .error .nonIntegerStepsPerBarError) := by
  -- in every branch but the first the result is a value, a literal other error, or the error of a loop
  refine ⟨fun ss inst gap ip pad fd => ?_, fun ss gap pad ign => ?_, fun a b => ?_⟩
  · fun_cases melodyFromQuantized s ss inst gap ip pad fd
    case case5 he => rcases melLoop_error _ _ _ _ _ _ _ he with rfl | rfl | rfl <;> simp [*]
    all_goals simp [*]
  · fun_cases drumsFromQuantized s ss gap pad ign <;> simp [*]
  · fun_cases chordsFromQuantized s a b
    case case2 he => rcases chordLoop_error _ _ _ _ _ _ _ he with rfl | rfl <;> simp [*]
    case case3 he => cases chordFinish_error he; simp [*]
    all_goals simp [*]

/-- `first − (first − search_start) mod spb` is the first step of the bar (counted from `search_start_step`) that
contains `first` -/
theorem bar_start (first ss spb : Int) (hpos : 0 < spb) :
    let st := first - Int.fmod (first - ss) spb
    st ≤ first ∧ first < st + spb ∧ Int.fmod (st - ss) spb = 0 := by
  intro st
  have h0 := Int.fmod_nonneg_of_pos (first - ss) hpos
  have h1 := Int.fmod_lt_of_pos (first - ss) hpos
  refine ⟨by omega, by omega, ?_⟩
  have : st - ss = spb * (first - ss).fdiv spb := by
    have := Int.fmod_def (first - ss) spb
    omega
  rw [this, Int.mul_fmod_right]

/-- `pianoroll_frames`: for `0 < spq`, `start_step ≤ total_quantized_steps`, a non-negative pitch range and notes that
do not end before they start nor start beyond the total, extraction returns exactly the frames of the statement:
`total − start` frames, frame `f` = the increasing list of pitch offsets `p` with `rollSpec … f p` (`rollSpec_iff`).
No overlap precondition is needed: painting in start order makes the silenced frame before a re-strike win. -/
theorem pianoroll_frames (s : NoteSeq) (startStep minP maxP : Int) (split : Bool)
    (hq : 0 < s.spq) (hT : startStep ≤ s.totalQSteps) (hW : minP ≤ maxP + 1)
    (hwf : ∀ n ∈ s.notes, n.qs ≤ n.qe ∧ n.qs ≤ s.totalQSteps) :
    pianorollFromQuantized s startStep minP maxP split =
      .ok (specFrames s.notes ⟨startStep, minP, maxP, split, s.totalQSteps - startStep⟩) := by
  have hnoerr : (sortByInt (·.qs) s.notes).any
      (rollIndexErr ⟨startStep, minP, maxP, split, s.totalQSteps - startStep⟩) = false := by
    have hperm : (sortByInt (·.qs) s.notes).Perm s.notes := List.mergeSort_perm _ _
    rw [hperm.any_eq, Bool.eq_false_iff]; intro h
    rw [List.any_eq_true] at h
    obtain ⟨n, hn, he⟩ := h
    have := hwf n hn
    simp only [rollIndexErr, rollSel, Bool.and_eq_true, decide_eq_true_eq] at he
    omega
  unfold pianorollFromQuantized
  simp only [hq, not_true_eq_false, ↓reduceIte, hnoerr]
  rw [if_neg (by omega)]
  simp only [Bool.false_eq_true, ↓reduceIte]
  rw [rollFrames_paint _ _ fun n hn => ⟨(hwf n hn).1, by have := (hwf n hn).2; simp only; omega⟩]

theorem rollSpec_iff (notes : List Note) (c : RollCfg) (f p : Int) :
    rollSpec notes c f p = true ↔
      (∃ n ∈ notes, rollSel c n = true ∧ n.qs ≤ f + c.start ∧ f + c.start < n.qe ∧ n.pitch = p + c.minP) ∧
      (c.split = true → ¬ ∃ n ∈ notes, rollSel c n = true ∧ n.qs = f + c.start + 1 ∧ n.pitch = p + c.minP) := by
  simp only [rollSpec, Bool.and_eq_true, List.any_eq_true, decide_eq_true_eq, beq_iff_eq,
    Bool.not_eq_true', Bool.and_eq_false_iff, List.any_eq_false]
  constructor
  · rintro ⟨⟨n, hn, ⟨⟨hs, h1⟩, h2⟩, h3⟩, h4⟩
    refine ⟨⟨n, hn, hs, h1, h2, h3⟩, ?_⟩
    intro hsp ⟨m, hm, hms, hmq, hmp⟩
    rcases h4 with h4 | h4
    · rw [hsp] at h4; exact absurd h4 (by simp)
    · exact h4 m hm ⟨⟨hms, hmq⟩, hmp⟩
  · rintro ⟨⟨n, hn, hs, h1, h2, h3⟩, h4⟩
    refine ⟨⟨n, hn, ⟨⟨hs, h1⟩, h2⟩, h3⟩, ?_⟩
    cases hsp : c.split with
    | false => left; rfl
    | true =>
      right
      intro m hm hcon
      exact h4 hsp ⟨m, hm, hcon.1.1, hcon.1.2, hcon.2⟩

/-- frame `f` of the roll contains pitch offset `p` iff `p` is in range and the statement's condition holds -/
theorem pianoroll_frame_mem (s : NoteSeq) (startStep minP maxP : Int) (split : Bool)
    (hq : 0 < s.spq) (hT : startStep ≤ s.totalQSteps) (hW : minP ≤ maxP + 1)
    (hwf : ∀ n ∈ s.notes, n.qs ≤ n.qe ∧ n.qs ≤ s.totalQSteps) :
    ∃ evs, pianorollFromQuantized s startStep minP maxP split = .ok evs ∧
      (evs.length : Int) = s.totalQSteps - startStep ∧
      ∀ (f : Nat) (frame : List Int), evs[f]? = some frame →
        frame.Pairwise (· < ·) ∧
        ∀ p : Int, p ∈ frame ↔ (0 ≤ p ∧ p ≤ maxP - minP ∧
          rollSpec s.notes ⟨startStep, minP, maxP, split, s.totalQSteps - startStep⟩ f p = true) := by
  refine ⟨_, pianoroll_frames s startStep minP maxP split hq hT hW hwf, ?_, ?_⟩
  · simp only [specFrames, List.length_map, List.length_range]; omega
  · intro f frame hf
    simp only [specFrames, List.getElem?_map] at hf
    by_cases hlt : f < (s.totalQSteps - startStep).toNat
    · rw [List.getElem?_range hlt] at hf
      simp only [Option.map_some, Option.some.injEq] at hf
      subst hf
      constructor
      · rw [List.pairwise_map]
        apply List.Pairwise.filter
        apply List.Pairwise.imp _ (List.pairwise_lt_range)
        intro a b h; omega
      · intro p
        simp only [List.mem_map, List.mem_filter, List.mem_range]
        constructor
        · rintro ⟨q, ⟨hq1, hq2⟩, rfl⟩
          exact ⟨by omega, by omega, hq2⟩
        · rintro ⟨h0, h1, h2⟩
          refine ⟨p.toNat, ⟨by omega, ?_⟩, by omega⟩
          rw [show ((p.toNat : Nat) : Int) = p by omega]; exact h2
    · rw [List.getElem?_eq_none (by simp; omega)] at hf
      exact absurd hf (by simp)

/-- `IndexError` exactly when a selected note with `split_repeats` starts beyond the end of the roll -/
theorem pianoroll_index_error_iff (s : NoteSeq) (startStep minP maxP : Int) (split : Bool)
    (hq : 0 < s.spq) (hT : startStep ≤ s.totalQSteps) (hW : minP ≤ maxP + 1) :
    pianorollFromQuantized s startStep minP maxP split = .error .indexError ↔
      ∃ n ∈ s.notes, rollSel ⟨startStep, minP, maxP, split, s.totalQSteps - startStep⟩ n = true ∧
        split = true ∧ s.totalQSteps < n.qs := by
  have hperm : (sortByInt (·.qs) s.notes).Perm s.notes := List.mergeSort_perm _ _
  unfold pianorollFromQuantized
  simp only [hq, not_true_eq_false, ↓reduceIte]
  rw [if_neg (by omega), hperm.any_eq]
  by_cases hany : s.notes.any (rollIndexErr ⟨startStep, minP, maxP, split, s.totalQSteps - startStep⟩) = true
  · simp only [hany, ↓reduceIte, true_iff]
    rw [List.any_eq_true] at hany
    obtain ⟨n, hn, he⟩ := hany
    simp only [rollIndexErr, Bool.and_eq_true, decide_eq_true_eq] at he
    exact ⟨n, hn, he.1.1.1, he.1.1.2, by omega⟩
  · simp only [hany, Bool.false_eq_true, ↓reduceIte, reduceCtorEq, false_iff]
    rintro ⟨n, hn, hs, hsp, hgt⟩
    apply hany
    rw [List.any_eq_true]
    refine ⟨n, hn, ?_⟩
    have hs' := hs
    simp only [rollSel, Bool.and_eq_true, decide_eq_true_eq] at hs'
    simp only [rollIndexErr, Bool.and_eq_true, decide_eq_true_eq]
    exact ⟨⟨⟨hs, hsp⟩, by omega⟩, by omega⟩

/-- no selected drum note (drum or `ignore_is_drum`, non-zero velocity, `qs ≥ search_start_step`): the track stays empty
with `start_step = end_step = 0` -/
theorem drums_empty (s : NoteSeq) (searchStart gapBars : Int) (padEnd ignoreIsDrum : Bool) (spb : Int)
    (hspb : stepsPerBar s = .ok spb)
    (hsel : s.notes.filter (drumSel searchStart ignoreIsDrum) = []) :
    drumsFromQuantized s searchStart gapBars padEnd ignoreIsDrum = .ok ⟨[], 0, 0, spb, s.spq⟩ := by
  simp [drumsFromQuantized, hspb, hsel, canonSet]

/-- the extraction once the bar length and the first selected step are known: the loop's events, padded -/
theorem drumsFromQuantized_eq (s : NoteSeq) (searchStart gapBars : Int) (padEnd ignoreIsDrum : Bool)
    (spb first : Int) (rest : List Int) (hspb : stepsPerBar s = .ok spb) (hpos : 0 < spb)
    (hsteps : canonSet ((s.notes.filter (drumSel searchStart ignoreIsDrum)).map (·.qs)) = first :: rest) :
    drumsFromQuantized s searchStart gapBars padEnd ignoreIsDrum =
      (let sel := s.notes.filter (drumSel searchStart ignoreIsDrum)
       let trackStart := first - Int.fmod (first - searchStart) spb
       let ev := drumLoop sel trackStart (gapBars * spb) (first :: rest) [] 0
       if ev.length = 0 then .ok ⟨[], 0, 0, spb, s.spq⟩
       else
         let length : Int := if padEnd then ev.length + Int.fmod (-(ev.length : Int)) spb else ev.length
         .ok ⟨setLength [] ev length.toNat, trackStart, trackStart + length, spb, s.spq⟩) := by
  unfold drumsFromQuantized
  simp only [hspb, hsteps, show ¬ spb = 0 by omega, show ¬ spb < 0 by omega, ↓reduceIte]

/-- `drums_steps`: with `first` the earliest selected step and `last` the step the track stops at —
* the track starts at the bar of `first` (`bar_start`);
* `last` is a selected step reached from `first` by hops that leave fewer than `gap_bars` bars of empty steps, and
  every later selected step is `gap_bars` bars or more after `last + 1` (so `last` is unique);
* the length is `last − start + 1`, rounded up to a bar iff `pad_end`; `end_step = start_step + length`;
* event `i` is the set of pitches (`pitchesAt`: strictly increasing list, `mem_pitchesAt`) of the selected notes with
  `qs = start + i` up to `last`, and empty in the padding. -/
theorem drums_steps (s : NoteSeq) (searchStart gapBars : Int) (padEnd ignoreIsDrum : Bool) (spb : Int)
    (hspb : stepsPerBar s = .ok spb) (hpos : 0 < spb)
    (hne : s.notes.filter (drumSel searchStart ignoreIsDrum) ≠ []) :
    ∃ r first last,
      drumsFromQuantized s searchStart gapBars padEnd ignoreIsDrum = .ok r ∧
      (∃ n ∈ s.notes.filter (drumSel searchStart ignoreIsDrum), n.qs = first) ∧
      (∀ n ∈ s.notes.filter (drumSel searchStart ignoreIsDrum), first ≤ n.qs) ∧
      r.startStep = first - Int.fmod (first - searchStart) spb ∧
      r.stepsPerBar = spb ∧ r.stepsPerQuarter = s.spq ∧
      (∃ n ∈ s.notes.filter (drumSel searchStart ignoreIsDrum), n.qs = last) ∧
      (∀ n ∈ s.notes.filter (drumSel searchStart ignoreIsDrum), n.qs ≤ last →
          n.qs = first ∨ ∃ m ∈ s.notes.filter (drumSel searchStart ignoreIsDrum),
            m.qs < n.qs ∧ n.qs - (m.qs + 1) < gapBars * spb) ∧
      (∀ n ∈ s.notes.filter (drumSel searchStart ignoreIsDrum), last < n.qs →
          gapBars * spb ≤ n.qs - (last + 1)) ∧
      r.endStep = r.startStep + r.events.length ∧
      (r.events.length : Int) = (last - r.startStep + 1) +
          (if padEnd then Int.fmod (-(last - r.startStep + 1)) spb else 0) ∧
      ∀ i : Nat, i < r.events.length →
        r.events[i]? = some (if r.startStep + i ≤ last
          then pitchesAt (s.notes.filter (drumSel searchStart ignoreIsDrum)) (r.startStep + i) else []) := by
  generalize hseldef : s.notes.filter (drumSel searchStart ignoreIsDrum) = sel at hne ⊢
  have hsorted := canonSet_sorted (sel.map (·.qs))
  have hmem : ∀ t, t ∈ canonSet (sel.map (·.qs)) ↔ ∃ n ∈ sel, n.qs = t := by
    intro t; simp [mem_canonSet]
  cases hsteps : canonSet (sel.map (·.qs)) with
  | nil =>
    obtain ⟨n, hn⟩ := List.exists_mem_of_ne_nil sel hne
    have := (hmem n.qs).mpr ⟨n, hn, rfl⟩
    rw [hsteps] at this; cases this
  | cons first rest =>
    rw [hsteps, List.pairwise_cons] at hsorted
    rw [hsteps] at hmem
    have hsteps_mem : ∀ n ∈ sel, n.qs = first ∨ n.qs ∈ rest := fun n hn =>
      List.mem_cons.mp ((hmem n.qs).mpr ⟨n, hn, rfl⟩)
    have hfirst_le : ∀ n ∈ sel, first ≤ n.qs := fun n hn =>
      (hsteps_mem n hn).elim (fun h => by omega) fun h => by have := hsorted.1 _ h; omega
    have hfm0 := Int.fmod_nonneg_of_pos (first - searchStart) hpos
    rw [drumsFromQuantized_eq s searchStart gapBars padEnd ignoreIsDrum spb first rest hspb hpos
      (by rw [hseldef]; exact hsteps)]
    dsimp only
    rw [hseldef]
    generalize hstart : first - Int.fmod (first - searchStart) spb = start
    -- the first step is always taken; from there on the events are non-empty
    obtain ⟨hlen1, hev1⟩ := drumFrames_extend (sel := sel) (start := start) (ev := []) first
      (fun i hi => absurd hi (Nat.not_lt_zero _)) (by simp only [List.length_nil]; omega)
      (fun n hn _ h2 => by have := hfirst_le n hn; omega)
    have hout : drumLoop sel start (gapBars * spb) (first :: rest) [] 0 = drumLoop sel start (gapBars * spb) rest
        ((setLength [] [] (first - start + 1).toNat).set (first - start).toNat (pitchesAt sel first))
        ((setLength [] [] (first - start + 1).toNat).set (first - start).toNat (pitchesAt sel first)).length := by
      rw [hlen1, drumLoop, if_neg (by simp)]
    rw [hout]
    obtain ⟨last, h1, h2, h3, h4, h5⟩ := drumLoop_spec sel start (gapBars * spb) rest _ first hlen1 (by omega)
      hsorted.2 hsorted.1 hev1 fun n hn hlt => (hsteps_mem n hn).resolve_left (by omega)
    generalize drumLoop sel start (gapBars * spb) rest _ _ = out at h1 h5 ⊢
    have hlast : last ∈ first :: rest := List.mem_cons.mpr h2
    have hfl : first ≤ last := by
      rcases h2 with rfl | h
      · omega
      · have := hsorted.1 _ h; omega
    rw [if_neg (by omega : ¬ out.length = 0), padEnd_eq, h1]
    have hd := padEnd_nonneg padEnd (last - start + 1) hpos
    refine ⟨_, first, last, rfl, (hmem first).mp (List.mem_cons_self ..), hfirst_le,
      hstart.symm, rfl, rfl, (hmem _).mp hlast, ?_, ?_, ?_, ?_, ?_⟩
    · intro n hn hle
      refine (hsteps_mem n hn).imp_right fun h => ?_
      obtain ⟨m, hm, hlt, hg⟩ := h4 n.qs h hle
      obtain ⟨m', hm', hq⟩ := (hmem m).mp (List.mem_cons.mpr hm)
      exact ⟨m', hm', by omega, by omega⟩
    · intro n hn hlt
      exact h3 n.qs ((hsteps_mem n hn).resolve_left (by omega)) hlt
    · simp only [length_setLength]; omega
    · simp only [length_setLength]; omega
    · intro i hi
      simp only [length_setLength] at hi
      rw [getElem?_setLength _ _ _ _ hi]
      dsimp only
      by_cases hil : i < out.length
      · rw [dif_pos hil, if_pos (by omega), ← List.getElem?_eq_getElem hil, h5 i hil]
      · rw [dif_neg hil, if_neg (by omega)]

/-- `CoincidentChordsError` exactly when two different chord symbols share a step inside `[start, end)` -/
theorem chords_coincident_iff (s : NoteSeq) (start end_ spb : Int) (hspb : stepsPerBar s = .ok spb)
    (hse : start < end_) :
    chordsFromQuantized s start end_ = .error .coincidentChordsError ↔ ChordsCoincident s start end_ := by
  rw [chordsFromQuantized_eq, hspb]
  simp only [show ¬ end_ ≤ start by omega, ↓reduceIte]
  by_cases hc : ChordsCoincident s start end_ <;> simp [hc]

/-- otherwise event `i` is the chord in force at step `start + i`: the text of the last chord annotation (in
`(step, time)` order — `chords_order` —, annotations equal in both in storage order) at or before that step,
`NO_CHORD` if there is none -/
theorem chords_steps (s : NoteSeq) (start end_ spb : Int) (hspb : stepsPerBar s = .ok spb)
    (hse : start < end_) (hnc : ¬ ChordsCoincident s start end_) :
    ∃ E, chordsFromQuantized s start end_ = .ok ⟨E, start, end_, spb, s.spq⟩ ∧
      (E.length : Int) = end_ - start ∧
      ∀ i : Nat, (i : Int) < end_ - start →
        E[i]? = some (chordAt Gen.NO_CHORD (chordAnns s) (start + i)) := by
  rw [chordsFromQuantized_eq, hspb]
  dsimp only
  rw [if_neg (by omega), if_neg hnc]
  refine ⟨_, rfl, by rw [length_chordTab]; omega, fun i hi => ?_⟩
  rw [getElem?_chordTab _ _ _ _ (by omega), Nat.zero_add]

/-- the list `chords_steps` reads the chord in force from is in the order of the sort key `(quantized_step, time)`
and is a rearrangement of the chord-symbol annotations: among chords quantized onto one step the one with the
latest unquantized time is in force afterwards -/
theorem chords_order (s : NoteSeq) :
    (chordAnns s).Pairwise ChordOrd ∧
    (chordAnns s).Perm (s.texts.filter (fun a => a.kind == Gen.CHORD_SYMBOL)) :=
  ⟨chordAnns_sorted s, List.mergeSort_perm _ _⟩

/-- one tuple per selected note, in `(start_time, pitch)` order: `(qs − previous qs, pitch, velocity bin, qe − qs)`,
when no shift and no duration exceeds its limit.  `hord`: the start-time order agrees with the step order
(true of quantizer output, which is monotone) -/
theorem noteperf_tuples (s : NoteSeq) (nb : Int) (inst : Option Int) (start ms md : Int)
    (hq : 0 < s.sps) (hnb1 : 1 ≤ nb) (hnb2 : nb ≤ 127)
    (hvalid : ∀ n ∈ s.notes, start ≤ n.qs → instOk inst n = true → NPValid n)
    (hord : (sortedNotes s start inst).Pairwise (fun a b => a.qs ≤ b.qs))
    (hlim : ∀ i n, (sortedNotes s start inst)[i]? = some n →
        n.qs - prevStep start (sortedNotes s start inst) i ≤ ms ∧ n.qe - n.qs ≤ md) :
    ∃ evs, notePerfFromQuantized s nb inst start ms md =
        .ok ⟨evs, start, nb, (programAndIsDrum s inst).1, (programAndIsDrum s inst).2, s.sps⟩ ∧
      evs.length = (sortedNotes s start inst).length ∧
      ∀ i n, (sortedNotes s start inst)[i]? = some n →
        evs[i]? = some (npTuple nb start (sortedNotes s start inst) i n) := by
  have hnbv : ¬ nb > Gen.MAX_NUM_VELOCITY_BINS := by simp only [Gen.MAX_NUM_VELOCITY_BINS]; omega
  rcases notePerfLoop_spec nb ms md (by omega) _ start (forall_sortedNotes.mpr hvalid)
      (forall_sortedNotes.mpr fun _ _ h _ => h) hord with
    ⟨_, evs, hevs, hlen, hspec⟩ | ⟨i, n, hin, hbad, _⟩
  · refine ⟨evs, ?_, hlen, hspec⟩
    simp only [notePerfFromQuantized, hnbv, ↓reduceIte, hq, not_true_eq_false, hevs]
  · exact absurd (hlim i n hin) hbad

/-- `TooManyTimeShiftStepsError` / `TooManyDurationStepsError` exactly when a value exceeds its limit; which of
the two is decided by the first offending note (its shift is checked before its duration) -/
theorem noteperf_errors (s : NoteSeq) (nb : Int) (inst : Option Int) (start ms md : Int)
    (hq : 0 < s.sps) (hnb1 : 1 ≤ nb) (hnb2 : nb ≤ 127)
    (hvalid : ∀ n ∈ s.notes, start ≤ n.qs → instOk inst n = true → NPValid n)
    (hord : (sortedNotes s start inst).Pairwise (fun a b => a.qs ≤ b.qs)) :
    let l := sortedNotes s start inst
    let r := notePerfFromQuantized s nb inst start ms md
    ((∃ i n, l[i]? = some n ∧ (n.qs - prevStep start l i > ms ∨ n.qe - n.qs > md)) ↔
      (r = .error .tooManyTimeShiftStepsError ∨ r = .error .tooManyDurationStepsError)) ∧
    (r = .error .tooManyTimeShiftStepsError ↔
      ∃ i n, l[i]? = some n ∧ n.qs - prevStep start l i > ms ∧
        ∀ j m, j < i → l[j]? = some m → m.qs - prevStep start l j ≤ ms ∧ m.qe - m.qs ≤ md) ∧
    (r = .error .tooManyDurationStepsError ↔
      ∃ i n, l[i]? = some n ∧ n.qs - prevStep start l i ≤ ms ∧ n.qe - n.qs > md ∧
        ∀ j m, j < i → l[j]? = some m → m.qs - prevStep start l j ≤ ms ∧ m.qe - m.qs ≤ md) := by
  intro l r
  have hnbv : ¬ nb > Gen.MAX_NUM_VELOCITY_BINS := by simp only [Gen.MAX_NUM_VELOCITY_BINS]; omega
  have hr : r = match notePerfLoop nb ms md start l with
      | .error x => .error x
      | .ok evs => .ok ⟨evs, start, nb, (programAndIsDrum s inst).1, (programAndIsDrum s inst).2, s.sps⟩ := by
    simp only [r, notePerfFromQuantized, hnbv, ↓reduceIte, hq, not_true_eq_false]
    rfl
  rcases notePerfLoop_spec nb ms md (by omega) l start (forall_sortedNotes.mpr hvalid)
      (forall_sortedNotes.mpr fun _ _ h _ => h) hord with
    ⟨hall, evs, hevs, _, _⟩ | ⟨i, n, hin, hbad, hbef, herr⟩
  · rw [hevs] at hr
    refine ⟨⟨?_, ?_⟩, ⟨?_, ?_⟩, ⟨?_, ?_⟩⟩
    · rintro ⟨i, n, hin, h | h⟩ <;> have := hall i n hin <;> omega
    · rintro (h | h) <;> rw [hr] at h <;> exact absurd h (by simp)
    · intro h; rw [hr] at h; exact absurd h (by simp)
    · rintro ⟨i, n, hin, h, _⟩; have := hall i n hin; omega
    · intro h; rw [hr] at h; exact absurd h (by simp)
    · rintro ⟨i, n, hin, _, h, _⟩; have := hall i n hin; omega
  · rw [herr] at hr
    simp only at hr
    -- the first note over a limit is the one the loop stopped at
    have huniq : ∀ i' n', l[i']? = some n' → ¬ (n'.qs - prevStep start l i' ≤ ms ∧ n'.qe - n'.qs ≤ md) →
        (∀ j m, j < i' → l[j]? = some m → m.qs - prevStep start l j ≤ ms ∧ m.qe - m.qs ≤ md) →
        i' = i ∧ n' = n := by
      intro i' n' hin' hbad' hbef'
      rcases Nat.lt_trichotomy i i' with h | h | h
      · exact absurd (hbef' i n h hin) hbad
      · subst h; rw [hin] at hin'; cases hin'; exact ⟨rfl, rfl⟩
      · exact absurd (hbef i' n' h hin') hbad'
    refine ⟨⟨fun _ => by rw [hr]; split <;> simp, fun _ => ⟨i, n, hin, by omega⟩⟩, ⟨?_, ?_⟩, ⟨?_, ?_⟩⟩
    · intro h
      rw [hr] at h
      split at h
      · exact ⟨i, n, hin, by assumption, hbef⟩
      · cases h
    · rintro ⟨i', n', hin', hgt', hbef'⟩
      obtain ⟨rfl, rfl⟩ := huniq i' n' hin' (by omega) hbef'
      rw [hr, if_pos hgt']
    · intro h
      rw [hr] at h
      split at h
      · cases h
      · exact ⟨i, n, hin, by omega, by omega, hbef⟩
    · rintro ⟨i', n', hin', hle', hgt', hbef'⟩
      obtain ⟨rfl, rfl⟩ := huniq i' n' hin' (by omega) hbef'
      rw [hr, if_neg (by omega)]

/-- `perf_shifts`: in the output of `BasePerformance._from_quantized_sequence` every TIME_SHIFT lies in
`1..max_shift_steps`; every NOTE_ON / NOTE_OFF happens — start step plus the shifts before it — exactly at the
quantized start / end step of its note, in `note_events` order; and the shifts sum to the elapsed steps
(the last note event's step minus `start_step`). -/
theorem perf_shifts (s : NoteSeq) (start nb ms : Int) (inst : Option Int) (evs : List PEvent)
    (hms : 1 ≤ ms)
    (hwf : ∀ n ∈ s.notes, start ≤ n.qs → instOk inst n = true → n.qs ≤ n.qe)
    (h : perfEvents s start nb ms inst = .ok evs) :
    (∀ v, PEvent.timeShift v ∈ evs → 1 ≤ v ∧ v ≤ ms) ∧
    noteStream start evs =
      (noteEvents (sortedNotes s start inst)).map (fun e => (e.toPEvent, e.step)) ∧
    (∀ e ∈ noteEvents (sortedNotes s start inst), e.step ≤ start + shiftSum evs) ∧
    (noteEvents (sortedNotes s start inst) = [] ∨
      ∃ e ∈ noteEvents (sortedNotes s start inst), e.step = start + shiftSum evs) := by
  obtain ⟨hs, hst, hle, hlast⟩ := perfEvents_stream s start nb ms inst evs hms hwf h
  exact ⟨hs, by rw [noteStream_eq_stream start 0, hst, List.map_map]; rfl, hle, hlast⟩

/-- the multiset of `(NOTE_ON pitch, step)` and `(NOTE_OFF pitch, step)` pairs in the event list is exactly: one
NOTE_ON at `qs` and one NOTE_OFF at `qe` for every selected note. -/
theorem perf_onoff_multiset (s : NoteSeq) (start nb ms : Int) (inst : Option Int) (evs : List PEvent)
    (hms : 1 ≤ ms)
    (hwf : ∀ n ∈ s.notes, start ≤ n.qs → instOk inst n = true → n.qs ≤ n.qe)
    (h : perfEvents s start nb ms inst = .ok evs) :
    (noteStream start evs).Perm
      ((selectNotes s start inst).map (fun n => (PEvent.noteOn n.pitch, n.qs)) ++
       (selectNotes s start inst).map (fun n => (PEvent.noteOff n.pitch, n.qe))) := by
  rw [(perf_shifts s start nb ms inst evs hms hwf h).2.1]
  have hp := (noteEvents_perm (sortedNotes s start inst)).map
    (fun e => (e.toPEvent, e.step))
  refine hp.trans ?_
  rw [List.map_append,
    onsets_map _ _ (fun n => (PEvent.noteOn n.pitch, n.qs)) (by intro n i; rfl),
    offsets_map _ _ (fun n => (PEvent.noteOff n.pitch, n.qe)) (by intro n i; rfl)]
  have hs : (sortedNotes s start inst).Perm (selectNotes s start inst) := List.mergeSort_perm _ _
  exact (hs.map _).append (hs.map _)

/-- `perf_notes_multiset`: the notes denoted by the event list — `_to_sequence`'s reading: FIFO matching per pitch,
velocity bin from the last VELOCITY event (`decodeNotes`) — are, as a multiset of `(pitch, qs, qe, velocity bin)`,
exactly the selected input notes, whenever no two selected notes of one pitch overlap -/
theorem perf_notes_multiset (s : NoteSeq) (start nb ms : Int) (inst : Option Int) (evs : List PEvent)
    (hms : 1 ≤ ms) (hno : NoSamePitchOverlap (selectNotes s start inst))
    (hpos : ∀ n ∈ selectNotes s start inst, n.qs < n.qe)
    (h : perfEvents s start nb ms inst = .ok evs) :
    (decodeNotes start evs).Perm
      ((selectNotes s start inst).map fun n => (n.pitch, n.qs, n.qe, binOf nb 0 n)) := by
  have hperm : (sortedNotes s start inst).Perm (selectNotes s start inst) := List.mergeSort_perm _ _
  have hpos' : ∀ n ∈ sortedNotes s start inst, n.qs < n.qe := fun n hn => hpos n (hperm.mem_iff.mp hn)
  have hno' : NoSamePitchOverlap (sortedNotes s start inst) := by
    unfold NoSamePitchOverlap at hno ⊢
    refine (List.Perm.pairwise_iff ?_ hperm).mpr hno
    intro a b hab hp
    exact (hab hp.symm).symm
  have habs := (perfEvents_stream s start nb ms inst evs hms
    (fun n hn hs hi => Int.le_of_lt (hpos n (List.mem_filter.mpr ⟨hn, by simp [hs, hi]⟩))) h).2.1
  obtain ⟨hopen, hout⟩ := fifo_noteEvents nb (sortedNotes s start inst) hpos' hno'
  unfold decodeNotes
  simp only [decode_abs, habs, hopen, List.filter_nil, List.map_nil, List.append_nil]
  exact hout.trans (hperm.map _)

/-- the order-preserving refinement on the onset side (no overlap precondition needed): the NOTE_ON events,
each with the step at which it happens and the velocity bin in force (last VELOCITY event before it; `0` = none,
which is the case exactly when `num_velocity_bins = 0`), are — in `note_events` order — the onsets of the selected
notes with their pitch, quantized start step and velocity bin; as a multiset: one per selected note. -/
theorem perf_onsets_in_order (s : NoteSeq) (start nb ms : Int) (inst : Option Int) (evs : List PEvent)
    (hms : 1 ≤ ms)
    (hwf : ∀ n ∈ s.notes, start ≤ n.qs → instOk inst n = true → n.qs ≤ n.qe)
    (h : perfEvents s start nb ms inst = .ok evs) :
    onStream start 0 evs =
      ((noteEvents (sortedNotes s start inst)).filter (fun e => !e.isOff)).map
        (fun e => (e.note.pitch, e.step, binOf nb 0 e.note)) ∧
    (onStream start 0 evs).Perm
      ((selectNotes s start inst).map (fun n => (n.pitch, n.qs, binOf nb 0 n))) := by
  have hon : onStream start 0 evs = ((noteEvents (sortedNotes s start inst)).filter (fun e => !e.isOff)).map
      (fun e => (e.note.pitch, e.step, binOf nb 0 e.note)) := by
    rw [onStream_eq_stream, (perfEvents_stream s start nb ms inst evs hms hwf h).2.1]
    generalize noteEvents (sortedNotes s start inst) = N
    induction N with
    | nil => rfl
    | cons e N ih =>
      simp only [List.map_cons, List.filterMap_cons, List.filter_cons, C06P.sevOfNEv, binOf]
      cases e.isOff <;> simp [ih, binOf]
  refine ⟨hon, ?_⟩
  rw [hon]
  refine ((filter_on_noteEvents (sortedNotes s start inst)).map _).trans ?_
  rw [onsets_map _ _ (fun n => (n.pitch, n.qs, binOf nb 0 n)) (by intro n i; rfl)]
  exact (List.mergeSort_perm _ _).map _

/-- on the quantifier's domain (pitches and — when velocity bins are used — velocities in MIDI range, at least one
step per shift) extraction returns an event list: none of the `ValueError`s of `PerformanceEvent` can fire -/
theorem perf_defined (s : NoteSeq) (start nb ms : Int) (inst : Option Int)
    (hms : 1 ≤ ms) (hnb : 0 ≤ nb)
    (hvalid : ∀ n ∈ s.notes, start ≤ n.qs → instOk inst n = true →
      (0 ≤ n.pitch ∧ n.pitch ≤ 127) ∧ (nb ≠ 0 → 1 ≤ n.velocity ∧ n.velocity ≤ 127)) :
    ∃ evs, perfEvents s start nb ms inst = .ok evs := by
  rw [perfEvents_eq s start nb ms inst hms hnb, if_pos]
  · exact ⟨_, rfl⟩
  · rw [List.all_eq_true]
    refine C06P.emit_valid nb ms hms _ start 0 fun y hy => ?_
    obtain ⟨e, he, rfl⟩ := List.mem_map.mp hy
    obtain ⟨hp, hv⟩ := forall_sortedNotes.mpr hvalid _ (mem_noteEvents he).1
    refine ⟨hp.1, hp.2, fun hoff h0 => ?_⟩
    simp only [C06P.sevOfNEv] at hoff ⊢
    simp only [hoff, Bool.false_eq_true, ↓reduceIte, h0]
    exact velocityToBin_range (by omega) (hv h0).1 (hv h0).2

/-- no selected note: the melody stays empty with `start_step = end_step = 0` -/
theorem melody_empty (s : NoteSeq) (ss inst gapBars : Int) (ip pad fd : Bool) (spb : Int)
    (hspb : stepsPerBar s = .ok spb) (hsel : s.notes.filter (melSel ss inst fd) = []) :
    melodyFromQuantized s ss inst gapBars ip pad fd = .ok ⟨[], 0, 0, spb, s.spq⟩ := by
  have : (s.notes.filter (melSel ss inst fd)).mergeSort melLe = [] := by rw [hsel]; simp
  simp only [melodyFromQuantized, hspb, this]

/-- `melody_steps` (DESIGN 6.7).  `first :: rest` are the selected notes (instrument, `qs ≥ search_start_step`, not a
filtered drum, non-zero velocity) in the order of `melody_order`; `first :: keptFrom … first rest` are the notes the
melody keeps (characterised declaratively by the `kept_*` theorems).  Then:
* `PolyphonicMelodyError` iff polyphony is not ignored and a second note on a kept onset is met (`dupFrom`);
* otherwise the melody starts at the bar of the first selected note, its length is the end of the last kept note —
  rounded up to a bar with `pad_end` — and every event follows the per-step rule `melRule`. -/
theorem melody_steps (s : NoteSeq) (ss inst gapBars : Int) (ip pad fd : Bool) (spb : Int)
    (hspb : stepsPerBar s = .ok spb) (hpos : 0 < spb)
    (hvalid : ∀ n ∈ s.notes, melSel ss inst fd n = true → n.qs < n.qe ∧ 0 ≤ n.pitch)
    (first : Note) (rest : List Note)
    (hL : (s.notes.filter (melSel ss inst fd)).mergeSort melLe = first :: rest) :
    (ip = false ∧ dupFrom (gapBars * spb) first rest = true →
      melodyFromQuantized s ss inst gapBars ip pad fd = .error .polyphonicMelodyError) ∧
    (¬ (ip = false ∧ dupFrom (gapBars * spb) first rest = true) →
      ∃ last evs, (first :: keptFrom (gapBars * spb) first rest).getLast? = some last ∧
        melodyFromQuantized s ss inst gapBars ip pad fd =
          .ok ⟨evs, first.qs - Int.fmod (first.qs - ss) spb,
               first.qs - Int.fmod (first.qs - ss) spb + evs.length, spb, s.spq⟩ ∧
        (evs.length : Int) = (last.qe - (first.qs - Int.fmod (first.qs - ss) spb)) +
          (if pad then Int.fmod (-(last.qe - (first.qs - Int.fmod (first.qs - ss) spb))) spb else 0) ∧
        ∀ i : Nat, i < evs.length →
          evs[i]? = some (melRule (first :: keptFrom (gapBars * spb) first rest)
            (first.qs - Int.fmod (first.qs - ss) spb + i))) := by
  have hmem : ∀ n ∈ first :: rest, n ∈ s.notes ∧ melSel ss inst fd n = true := by
    intro n hn
    rw [← hL, List.mem_mergeSort, List.mem_filter] at hn
    exact hn
  have hsel : ∀ n ∈ first :: rest, (fd && n.isDrum) = false ∧ n.velocity ≠ 0 := by
    intro n hn
    have := (hmem n hn).2
    simp only [melSel, Bool.and_eq_true, beq_iff_eq, decide_eq_true_eq, Bool.not_eq_true', bne_iff_ne, ne_eq] at this
    exact ⟨this.1.2, this.2⟩
  have hval : ∀ n ∈ first :: rest, n.qs < n.qe ∧ 0 ≤ n.pitch := fun n hn => hvalid n (hmem n hn).1 (hmem n hn).2
  have hsorted : (first :: rest).Pairwise (fun a b => a.qs ≤ b.qs) := by
    rw [← hL]
    apply List.Pairwise.imp _ (melSorted _)
    intro a b h; rcases h with h | h <;> omega
  have hfm0 := Int.fmod_nonneg_of_pos (first.qs - ss) hpos
  generalize hms : first.qs - Int.fmod (first.qs - ss) spb = mstart at *
  have hf_sel := hsel first (List.mem_cons_self ..)
  have hf_val := hval first (List.mem_cons_self ..)
  obtain ⟨A, hadd, hAlen, hA⟩ := addNote_form [] rfl first.pitch (first.qs - mstart) (first.qe - mstart)
    (by omega) (by omega)
  rw [toNat_span_shift] at hadd
  have hloop1 : melLoop fd ip (gapBars * spb) mstart (first :: rest) [] =
      melLoop fd ip (gapBars * spb) mstart rest (A ++ noteTail first.pitch (first.qe - first.qs - 1).toNat) := by
    rw [melLoop]
    simp only [hf_sel.1, Bool.false_eq_true, ↓reduceIte, hf_sel.2, List.length_nil, hadd]
  have hrule : ∀ i, i < A.length → A[i]? = some (melRule ([] ++ [first]) (mstart + i)) := by
    intro i hi
    rw [hA i hi, melRule_before [] first _ (by omega)]
    simp [melRule]
  have hspec := melLoop_spec fd ip (gapBars * spb) mstart rest [] first A
    (fun n hn => hsel n (List.mem_cons_of_mem _ hn)) (fun n hn => hval n (List.mem_cons_of_mem _ hn))
    hsorted ⟨hf_val, by simp, by omega, hrule⟩
  have hnz : ¬ spb = 0 ∧ ¬ spb < 0 := by omega
  by_cases hdup : (!ip && dupFrom (gapBars * spb) first rest) = true
  · rw [if_pos hdup] at hspec
    simp only [Bool.and_eq_true, Bool.not_eq_true'] at hdup
    refine ⟨fun _ => ?_, fun h => absurd hdup h⟩
    simp only [melodyFromQuantized, hspb, hL, hnz, ↓reduceIte, hms, hloop1, hspec]
  · rw [if_neg hdup] at hspec
    simp only [Bool.and_eq_true, Bool.not_eq_true'] at hdup
    refine ⟨fun h => absurd h hdup, fun _ => ?_⟩
    obtain ⟨A', k', K0', hK, hres, hinv⟩ := hspec
    have ⟨hk', _, hA'len, _⟩ := hinv
    simp only [List.nil_append] at hK
    have hlen0 : ¬ (A' ++ noteTail k'.pitch (k'.qe - k'.qs - 1).toNat).length = 0 := by simp [length_noteTail]
    simp only [melodyFromQuantized, hspb, hL, hnz, ↓reduceIte, hms, hloop1, hres, hlen0, getLast?_noteTail,
      dropLast_noteTail]
    have hlen1 : ((A' ++ k'.pitch :: List.replicate (k'.qe - k'.qs - 1).toNat Gen.MELODY_NO_EVENT).length : Int) =
        k'.qe - mstart := by
      simp only [List.length_append, List.length_cons, List.length_replicate]; omega
    rw [padEnd_eq, hlen1]
    have hd := padEnd_nonneg pad (k'.qe - mstart) hpos
    obtain ⟨hflen, hfidx⟩ := melSetLength_sustained _ (sustained_after_pitch A' _ (k'.qe - k'.qs - 1).toNat hk'.2)
      (k'.qe - mstart + if pad = true then Int.fmod (-(k'.qe - mstart)) spb else 0).toNat (by omega)
    refine ⟨k', _, by rw [← hK, List.getLast?_concat], by rw [hflen, Int.toNat_of_nonneg (by omega)],
      by rw [hflen]; omega, ?_⟩
    intro i hi
    rw [hflen] at hi
    rw [hfidx i hi, ← noteTail_concat, melEvents_rule hinv i, hK]

theorem keptFrom_sublist (gap : Int) : ∀ (ns : List Note) (k : Note), (keptFrom gap k ns).Sublist ns := by
  intro ns k
  fun_induction keptFrom gap k ns with
  | case1 => exact List.nil_sublist _
  | case2 k n ns _ ih => exact ih.cons _
  | case3 => exact List.nil_sublist _
  | case4 k n ns _ _ ih => exact ih.cons_cons _

theorem kept_increasing (gap : Int) : ∀ (ns : List Note) (k : Note),
    (k :: ns).Pairwise (fun a b => a.qs ≤ b.qs) →
    (k :: keptFrom gap k ns).Pairwise (fun a b => a.qs < b.qs) :=
  fun ns k h => (keptFrom_spec (fun _ _ h => h) gap ns k _ h (List.getLast?_eq_some_getLast (by simp))).1

/-- consecutive kept notes are closer than the gap: the next starts less than `gap` steps after the previous ends -/
theorem kept_chain (gap : Int) : ∀ (ns : List Note) (k : Note) (pre : List Note) (x y : Note) (post : List Note),
    k :: keptFrom gap k ns = pre ++ x :: y :: post → y.qs - x.qe < gap := by
  intro ns k
  fun_induction keptFrom gap k ns with
  | case1 | case3 =>
    intro pre x y post h
    have := congrArg List.length h
    simp at this; omega
  | case2 k n ns _ ih => exact ih
  | case4 k n ns _ hg ih =>
    intro pre x y post h
    cases pre with
    | nil =>
      simp only [List.nil_append, List.cons.injEq] at h
      obtain ⟨rfl, rfl, _⟩ := h
      omega
    | cons p pre =>
      simp only [List.cons_append, List.cons.injEq] at h
      exact ih pre x y post h.2

/-- the melody ends at a gap: every later selected note starts `gap` steps or more after the last kept note's end -/
theorem kept_stop (gap : Int) : ∀ (ns : List Note) (k last : Note),
    (k :: ns).Pairwise (fun a b => a.qs ≤ b.qs) →
    (k :: keptFrom gap k ns).getLast? = some last →
    ∀ n ∈ ns, last.qs < n.qs → gap ≤ n.qs - last.qe :=
  fun ns k last hs hl n hn =>
    ((keptFrom_spec (fun _ _ h => h) gap ns k last hs hl).2.2 n hn).1

/-- every selected note up to the last kept onset shares its onset with a kept note that is higher, or of the same
pitch and not later in (unquantized) start time: on each onset the melody keeps the highest note, and among notes
of that pitch the one starting first — the tie-break of the sort key `(step, −pitch, start_time)`; only notes
equal in all three are left in storage order -/
theorem kept_top (gap : Int) : ∀ (ns : List Note) (k last : Note),
    (k :: ns).Pairwise MelOrd →
    (k :: keptFrom gap k ns).getLast? = some last →
    ∀ n ∈ ns, n.qs ≤ last.qs → ∃ x ∈ k :: keptFrom gap k ns, x.qs = n.qs ∧
      (n.pitch < x.pitch ∨ (n.pitch = x.pitch ∧ x.start ≤ n.start)) := by
  intro ns k last hs hl n hn hle
  obtain ⟨x, hx, hxq, hor⟩ :=
    ((keptFrom_spec (fun a b h => by rcases h with h | h <;> omega) gap ns k last hs hl).2.2 n hn).2 hle
  refine ⟨x, hx, hxq, ?_⟩
  rcases hor with rfl | h | ⟨_, h | h⟩
  · exact .inr ⟨rfl, Rat.le_refl⟩
  · omega
  · exact .inl h
  · exact .inr h

/-- the list `melody_steps` and the `kept_*` theorems speak about is in the order of the sort key
`(quantized_start_step, −pitch, start_time)` and is a rearrangement of the selected notes -/
theorem melody_order (s : NoteSeq) (ss inst : Int) (fd : Bool) :
    ((s.notes.filter (melSel ss inst fd)).mergeSort melLe).Pairwise MelOrd ∧
    ((s.notes.filter (melSel ss inst fd)).mergeSort melLe).Perm (s.notes.filter (melSel ss inst fd)) :=
  ⟨melSorted _, List.mergeSort_perm _ _⟩

/-- `dupFrom`: some selected note up to the last kept onset has an earlier-listed selected note on the same start
step — two selected notes share a start step inside the extracted melody -/
theorem dup_iff (gap : Int) : ∀ (ns : List Note) (k last : Note),
    (k :: ns).Pairwise (fun a b => a.qs ≤ b.qs) →
    (k :: keptFrom gap k ns).getLast? = some last →
    (dupFrom gap k ns = true ↔
      ∃ pre n post, ns = pre ++ n :: post ∧ n.qs ≤ last.qs ∧ (n.qs = k.qs ∨ ∃ m ∈ pre, m.qs = n.qs)) := by
  intro ns k
  fun_induction keptFrom gap k ns with
  | case1 =>
    intro last _ _
    simp only [dupFrom, Bool.false_eq_true, false_iff]
    rintro ⟨pre, n, post, h, _⟩
    have := congrArg List.length h
    simp at this
  | case2 k n ns heq ih =>
    intro last hs hl
    have hge := (keptFrom_spec (fun _ _ h => h) gap ns k last (pairwise_skip hs) hl).2.1
    simp only [dupFrom, heq, ↓reduceIte, true_iff]
    exact ⟨[], n, ns, rfl, by omega, .inl heq⟩
  | case3 k n ns hne hg =>
    intro last hs hl
    rw [List.pairwise_cons] at hs
    simp only [List.getLast?_singleton, Option.some.injEq] at hl
    subst hl
    simp only [dupFrom, hne, hg, ↓reduceIte, Bool.false_eq_true, false_iff]
    rintro ⟨pre, n', post, h, hle, _⟩
    have hmem : n' ∈ n :: ns := by rw [h]; simp
    have hkn := hs.1 n (List.mem_cons_self ..)
    have : n.qs ≤ n'.qs := by
      rcases List.mem_cons.mp hmem with rfl | h
      · omega
      · exact (List.pairwise_cons.mp hs.2).1 n' h
    omega
  | case4 k n ns hne hg ih =>
    intro last hs hl
    rw [List.pairwise_cons] at hs
    rw [List.getLast?_cons_cons] at hl
    have hkn := hs.1 n (List.mem_cons_self ..)
    simp only [dupFrom, hne, hg, ↓reduceIte]
    rw [ih last hs.2 hl]
    constructor
    · rintro ⟨pre, n', post, h, hle, hor⟩
      refine ⟨n :: pre, n', post, by rw [h]; rfl, hle, .inr ?_⟩
      rcases hor with h' | ⟨m, hm, hmq⟩
      · exact ⟨n, List.mem_cons_self .., h'.symm⟩
      · exact ⟨m, List.mem_cons_of_mem _ hm, hmq⟩
    · rintro ⟨pre, n', post, h, hle, hor⟩
      cases pre with
      | nil =>
        simp only [List.nil_append, List.cons.injEq] at h
        obtain ⟨rfl, _⟩ := h
        rcases hor with h' | ⟨m, hm, _⟩
        · omega
        · simp at hm
      | cons p pre =>
        simp only [List.cons_append, List.cons.injEq] at h
        obtain ⟨rfl, h2⟩ := h
        refine ⟨pre, n', post, h2, hle, ?_⟩
        have hnn' : n.qs ≤ n'.qs := (List.pairwise_cons.mp hs.2).1 n' (by rw [h2]; simp)
        rcases hor with h' | ⟨m, hm, hmq⟩
        · omega
        · rcases List.mem_cons.mp hm with rfl | h
          · exact .inl hmq.symm
          · exact .inr ⟨m, h, hmq⟩

/-! ## Non-vacuity: the extractor theorems above (and `kept_top`, `bar_start`) are instantiated at a concrete,
non-trivial input whose hypotheses are discharged by evaluation, so their hypotheses are jointly satisfiable. -/

def exNote (pitch qs qe : Int) (vel : Int := 100) (inst : Int := 0) (drum : Bool := false) (start : Rat := 0) : Note :=
  { pitch := pitch, velocity := vel, start := start, end_ := 0, qs := qs, qe := qe, instrument := inst,
    program := 0, isDrum := drum, numerator := 0, denominator := 0, voice := 0, part := 0, pitchName := 0 }

/-- relative-quantized, 4 steps per quarter, 4/4: a drum hit at step 0 on instrument 0 (the F-C07-2 shape), a two-note
chord at step 0, two abutting notes of pitch 60 (the F-C12-1 shape), a note after more than a bar of silence; chords
with an identical coincident pair -/
def exRel : NoteSeq :=
  { notes := [exNote 36 0 1 100 0 true, exNote 64 0 2, exNote 55 0 2, exNote 60 2 4, exNote 60 4 6, exNote 62 24 26],
    timeSigs := [⟨0, 4, 4⟩], spq := 4, totalQSteps := 26,
    texts := [⟨0, 2, 1, "x43"⟩, ⟨0, 9, 1, "x47"⟩, ⟨0, 9, 1, "x47"⟩, ⟨0, 30, 1, "x46"⟩] }

/-- absolute-quantized, 100 steps per second, stored in `(start_time, pitch)` order -/
def exAbs : NoteSeq :=
  { notes := [exNote 60 0 4 10 0 false 0, exNote 60 4 8 120 0 false (1/25), exNote 64 4 6 10 0 false (1/25),
              exNote 67 30 31 64 0 false (3/10)],
    sps := 100, totalQSteps := 31 }

theorem exRel_spb : stepsPerBar exRel = .ok 16 := by decide +kernel

example := pianoroll_frames exRel 0 55 64 true (by decide) (by decide) (by decide) (by decide)
example := pianoroll_frame_mem exRel 0 55 64 true (by decide) (by decide) (by decide) (by decide)
example := pianoroll_index_error_iff exRel 0 55 64 true (by decide) (by decide) (by decide)
-- with `split_repeats`, step 3 is silenced before the re-strike of pitch 60 at step 4 (the F-C12-1 shape); step 5 is not
example : rollSpec exRel.notes ⟨0, 55, 64, true, 26⟩ 3 5 = false ∧ rollSpec exRel.notes ⟨0, 55, 64, true, 26⟩ 5 5 = true ∧
    rollSpec exRel.notes ⟨0, 55, 64, false, 26⟩ 3 5 = true := by decide

example := drums_steps exRel 0 1 true false 16 exRel_spb (by decide) (by decide)
example := drums_steps exRel 0 1 false true 16 exRel_spb (by decide) (by decide)
example := drums_empty exRel 16 1 false false 16 exRel_spb (by decide)

-- identical chords at step 9 are not a conflict
theorem exRel_noCoincidence : ¬ ChordsCoincident exRel 0 12 := by
  rintro ⟨a, ha, b, hb, _, _, hq, _, hlt, hne⟩
  simp only [exRel, List.mem_cons, List.not_mem_nil, or_false] at ha hb
  rcases ha with rfl | rfl | rfl | rfl <;> rcases hb with rfl | rfl | rfl | rfl <;> simp_all
example := chords_steps exRel 0 12 16 exRel_spb (by decide) exRel_noCoincidence
example := chords_coincident_iff exRel 0 12 16 exRel_spb (by decide)
example : ChordsCoincident { exRel with texts := exRel.texts ++ [⟨0, 9, 1, "x41"⟩] } 0 12 :=
  ⟨⟨0, 9, 1, "x47"⟩, by simp [exRel], ⟨0, 9, 1, "x41"⟩, by simp [exRel], rfl, rfl, rfl, by decide, by decide, by decide⟩

theorem exAbs_select : selectNotes exAbs 0 none = exAbs.notes := by decide +kernel
theorem exAbs_sorted : sortedNotes exAbs 0 none = exAbs.notes := by
  rw [sortedNotes, exAbs_select]
  exact List.mergeSort_of_pairwise (by decide +kernel)
theorem exAbs_valid : ∀ n ∈ exAbs.notes, (0 : Int) ≤ n.qs → instOk none n = true → NPValid n := by
  intro n hn _ _
  simp only [exAbs, List.mem_cons, List.not_mem_nil, or_false] at hn
  rcases hn with rfl | rfl | rfl | rfl <;> simp [NPValid, exNote]
theorem exAbs_ord : (sortedNotes exAbs 0 none).Pairwise (fun a b => a.qs ≤ b.qs) := by
  rw [exAbs_sorted]; decide
example := noteperf_errors exAbs 8 none 0 25 4 (by decide) (by decide) (by decide) exAbs_valid exAbs_ord
example := noteperf_tuples exAbs 8 none 0 26 4 (by decide) (by decide) (by decide) exAbs_valid exAbs_ord
  (by rw [exAbs_sorted]
      intro i n h
      simp only [exAbs] at h
      match i, h with
      | 0, h | 1, h | 2, h | 3, h =>
        simp only [List.getElem?_cons_zero, List.getElem?_cons_succ, Option.some.injEq] at h
        subst h; simp [prevStep, exAbs, exNote]
      | i + 4, h => simp at h)

-- max_shift_steps = 8: 22 steps of silence must be split
theorem exAbs_perf : ∃ evs, perfEvents exAbs 0 8 8 none = .ok evs :=
  perf_defined exAbs 0 8 8 none (by decide) (by decide) (by
    intro n hn _ _
    simp only [exAbs, List.mem_cons, List.not_mem_nil, or_false] at hn
    rcases hn with rfl | rfl | rfl | rfl <;> simp [exNote])
theorem exAbs_wf : ∀ n ∈ exAbs.notes, (0 : Int) ≤ n.qs → instOk none n = true → n.qs ≤ n.qe := by decide
example : ∃ evs, perfEvents exAbs 0 8 8 none = .ok evs ∧ (∀ v, PEvent.timeShift v ∈ evs → 1 ≤ v ∧ v ≤ 8) ∧
    (noteStream 0 evs).Perm ((selectNotes exAbs 0 none).map (fun n => (PEvent.noteOn n.pitch, n.qs)) ++
      (selectNotes exAbs 0 none).map (fun n => (PEvent.noteOff n.pitch, n.qe))) ∧
    (onStream 0 0 evs).Perm ((selectNotes exAbs 0 none).map (fun n => (n.pitch, n.qs, binOf 8 0 n))) :=
  let ⟨evs, h⟩ := exAbs_perf
  ⟨evs, h, (perf_shifts exAbs 0 8 8 none evs (by decide) exAbs_wf h).1,
    perf_onoff_multiset exAbs 0 8 8 none evs (by decide) exAbs_wf h,
    (perf_onsets_in_order exAbs 0 8 8 none evs (by decide) exAbs_wf h).2⟩

example : ∃ evs, perfEvents exAbs 0 8 8 none = .ok evs ∧
    (decodeNotes 0 evs).Perm ((selectNotes exAbs 0 none).map fun n => (n.pitch, n.qs, n.qe, binOf 8 0 n)) :=
  let ⟨evs, h⟩ := exAbs_perf
  ⟨evs, h, perf_notes_multiset exAbs 0 8 8 none evs (by decide)
    (by rw [exAbs_select]; unfold NoSamePitchOverlap; decide +kernel)
    (by rw [exAbs_select]; decide) h⟩

-- binary64 rounding is exact on 4/4 at 4 steps per quarter; 3/8 at 1 step is rejected
example := steps_per_bar_nonInteger_iff rne53 exRel ⟨0, 4, 4⟩ [] rfl (by decide) (by decide)
  ⟨by decide +kernel, by decide +kernel, by decide +kernel⟩
example : stepsPerBar { exRel with spq := 1, timeSigs := [⟨0, 3, 8⟩] } = .error .nonIntegerStepsPerBarError := by
  decide +kernel
example := extractors_nonInteger_iff exRel

-- instrument 0 with the drum hit filtered; selected notes in (start step, −pitch) order
theorem exRel_melSorted :
    (exRel.notes.filter (melSel 0 0 true)).mergeSort melLe =
      exNote 64 0 2 :: [exNote 55 0 2, exNote 60 2 4, exNote 60 4 6, exNote 62 24 26] := by
  have h : exRel.notes.filter (melSel 0 0 true) =
      [exNote 64 0 2, exNote 55 0 2, exNote 60 2 4, exNote 60 4 6, exNote 62 24 26] := by decide +kernel
  rw [h]
  exact List.mergeSort_of_pairwise (by decide +kernel)
theorem exRel_melValid : ∀ n ∈ exRel.notes, melSel 0 0 true n = true → n.qs < n.qe ∧ 0 ≤ n.pitch := by decide
example := melody_steps exRel 0 0 1 true false true 16 exRel_spb (by decide) exRel_melValid _ _ exRel_melSorted
example := melody_steps exRel 0 0 1 false true true 16 exRel_spb (by decide) exRel_melValid _ _ exRel_melSorted
-- the kept notes: the highest note of the chord, the two abutting notes; the note at step 24 is 18 ≥ 16 steps after
-- the end (6) of the last kept note; the chord at step 0 is the duplicate
example : keptFrom 16 (exNote 64 0 2) [exNote 55 0 2, exNote 60 2 4, exNote 60 4 6, exNote 62 24 26] =
    [exNote 60 2 4, exNote 60 4 6] ∧
    dupFrom 16 (exNote 64 0 2) [exNote 55 0 2, exNote 60 2 4, exNote 60 4 6, exNote 62 24 26] = true := by
  decide +kernel
example := melody_empty exRel 0 2 1 true false true 16 exRel_spb (by decide)
example := melody_order exRel 0 0 true
example := chords_order exRel
example := kept_top 16 [exNote 55 0 2, exNote 60 2 4, exNote 60 4 6, exNote 62 24 26] (exNote 64 0 2) (exNote 60 4 6)
  (by rw [← exRel_melSorted]; exact (melody_order exRel 0 0 true).1) (by decide +kernel)
-- the tie-breaks of the two sort keys: of two notes of pitch 60 on step 0
-- the one starting at 0 s precedes the one starting at 0.06 s (and not conversely); of two chords on step 2 the one at
-- 0.25 s precedes the one at 0.26 s
example : MelOrd (exNote 60 0 1 100 0 false 0) (exNote 60 0 3 100 0 false (3/50)) ∧
    ¬ MelOrd (exNote 60 0 3 100 0 false (3/50)) (exNote 60 0 1 100 0 false 0) := by unfold MelOrd; decide +kernel
example : ChordOrd ⟨1/4, 2, 1, "x43"⟩ ⟨13/50, 2, 1, "x47"⟩ ∧ ¬ ChordOrd ⟨13/50, 2, 1, "x47"⟩ ⟨1/4, 2, 1, "x43"⟩ := by
  unfold ChordOrd; decide +kernel
example := bar_start 24 0 16 (by decide)

end NSV.C07

import Batteries.Lean.Except
import NoteSeqVerif.Props.C18
import NoteSeqVerif.Proofs.C18EncD
import NoteSeqVerif.Proofs.C18Ons
/-! C18 — property theorems, second file: the ACTIVE roll for either setting of `add_blank_frame_before_onset`,
last-writer form of the weights roll, the `onset_velocities` roll; exactly which runs the decoder drops (any `R`, and
`R = id`); onset-only decoding (`pianoroll_onsets_to_note_sequence`) as a closed form; the round trips for either blank
setting, given that `time_to_frames` reads the grid times back.  Nothing here assumes anything of the rounding operator:
what does is in `Props/C18C`. -/
namespace NSV.C18

/-- **active roll as the fold it is** (any rounding, any parameters, either blank setting): a cell starts
at 0 and every note of its pitch, in start order, applies `aUpd` to it (`noteA`) -/
theorem enc_active_fold {R R32 : Rat → Rat} {eps : Rat} {c : Cfg} {total : Rat} {notes : List PNote}
    {ccs : List PCC} {pr : Pianoroll} (h : encode R R32 eps c total notes ccs = .ok pr) (f p : Nat)
    (hf : f < (numRows R c.fps total).toNat) (hp : p < (c.maxPitch - c.minPitch + 1).toNat) :
    getCell pr.active f p = some
      ((sortByStart notes).foldl (noteA R eps c total (numRows R c.fps total).toNat f p) 0) := by
  obtain ⟨_, _, _, _, _, _, rfl, rfl, rfl⟩ := encode_ok_iff.mp h
  rw [stepFn_cell (proj := (·.active)) runs_active _ rfl hf hp]
  exact congrArg some (foldl_congr_mem _ _ fun x nt _ => noteA_eq_prog nt hf p x)

open Classical in
/-- **active roll, either blank setting** (any rounding, any parameters): a cell is 1 exactly when some
note paints it and no note LATER in start order (`sorted(notes, key=start_time)`, stable) blanks it — i.e.
has it as the frame before its own first frame; every other cell is 0.  (`Blanks_not_covers`: a note
never blanks a frame of its own span, so the painter itself is not in question.) -/
theorem enc_active_cell_blank {R R32 : Rat → Rat} {eps : Rat} {c : Cfg} {total : Rat} {notes : List PNote}
    {ccs : List PCC} {pr : Pianoroll} (h : encode R R32 eps c total notes ccs = .ok pr) (f p : Nat)
    (hf : f < (numRows R c.fps total).toNat) (hp : p < (c.maxPitch - c.minPitch + 1).toNat) :
    getCell pr.active f p = some
      (if ∃ l1 nt l2, sortByStart notes = l1 ++ nt :: l2 ∧
          NoteCovers R eps c total (numRows R c.fps total).toNat (selActive c) f p nt = true ∧
          ∀ o ∈ l2, Blanks R eps c total (numRows R c.fps total).toNat f p o = false
       then 1 else 0) := by
  rw [enc_active_fold h f p hf hp]
  congr 1
  generalize (numRows R c.fps total).toNat = n at hf ⊢
  have hfun : noteA R eps c total n f p = fun x a =>
      if Blanks R eps c total n f p a = true then 0
      else if NoteCovers R eps c total n (selActive c) f p a = true then 1 else x := by
    funext x a; exact noteA_eq R eps c total n f p x a
  rw [hfun]
  obtain ⟨hv, hiff⟩ := foldl_blank_cover (sortByStart notes) (Blanks R eps c total n f p)
    (NoteCovers R eps c total n (selActive c) f p) 0 (Or.inl rfl)
  by_cases hex : ∃ l1 nt l2, sortByStart notes = l1 ++ nt :: l2 ∧
      NoteCovers R eps c total n (selActive c) f p nt = true ∧ ∀ o ∈ l2, Blanks R eps c total n f p o = false
  · rw [if_pos hex]
    obtain ⟨l1, nt, l2, hl, hc, hall⟩ := hex
    apply hiff.mpr
    left
    refine ⟨l1, nt, l2, hl, hc, ?_, hall⟩
    cases hb : Blanks R eps c total n f p nt with
    | false => rfl
    | true =>
      have := Blanks_not_covers R eps c total n f p nt hf hb
      rw [this] at hc; cases hc
  · rw [if_neg hex]
    rcases hv with h0 | h1
    · exact h0
    · exfalso
      rcases hiff.mp h1 with ⟨l1, nt, l2, hl, hc, _, hall⟩ | ⟨h01, _⟩
      · exact hex ⟨l1, nt, l2, hl, hc, hall⟩
      · exact absurd h01 (by decide)

/-- **active roll, closed form under separation** (any rounding, any parameters, either blank setting): if
no note's blank frame falls on a cell that a note paints — the situation of the round-trip clause, where
same-pitch notes are separated by at least one silent frame — the active roll is exactly the union of the
note spans, as without blank frames -/
theorem enc_active_cell_sep {R R32 : Rat → Rat} {eps : Rat} {c : Cfg} {total : Rat} {notes : List PNote}
    {ccs : List PCC} {pr : Pianoroll} (h : encode R R32 eps c total notes ccs = .ok pr) (f p : Nat)
    (hf : f < (numRows R c.fps total).toNat) (hp : p < (c.maxPitch - c.minPitch + 1).toNat)
    (hsep : ∀ a ∈ notes, ∀ b ∈ notes,
      NoteCovers R eps c total (numRows R c.fps total).toNat (selActive c) f p a = true →
      Blanks R eps c total (numRows R c.fps total).toNat f p b = false) :
    getCell pr.active f p = some
      (if ∃ nt ∈ notes, NoteCovers R eps c total (numRows R c.fps total).toNat (selActive c) f p nt = true
       then 1 else 0) := by
  rw [enc_active_cell_blank h f p hf hp]
  congr 1
  refine ite_congr_iff ⟨?_, ?_⟩ _ _
  · rintro ⟨l1, nt, l2, hl, hc, _⟩
    exact ⟨nt, by rw [← mem_sortByStart, hl]; simp, hc⟩
  · rintro ⟨nt, hnt, hc⟩
    obtain ⟨l1, l2, hl⟩ := List.append_of_mem ((mem_sortByStart nt notes).mpr hnt)
    refine ⟨l1, nt, l2, hl, hc, fun o ho => hsep nt hnt o ?_ hc⟩
    rw [← mem_sortByStart, hl]
    simp [ho]

/-- without blank frames nothing is blanked: the statement of `enc_active_cell` (Proofs/C18Enc, proved there
from the paint fold alone) is the `blank = false` instance of `enc_active_cell_sep` -/
theorem enc_active_cell_of_noblank {R R32 : Rat → Rat} {eps : Rat} {c : Cfg} {total : Rat} {notes : List PNote}
    {ccs : List PCC} {pr : Pianoroll} (hb : c.blank = false)
    (h : encode R R32 eps c total notes ccs = .ok pr) (f p : Nat)
    (hf : f < (numRows R c.fps total).toNat) (hp : p < (c.maxPitch - c.minPitch + 1).toNat) :
    getCell pr.active f p = some
      (if ∃ nt ∈ notes, NoteCovers R eps c total (numRows R c.fps total).toNat (selActive c) f p nt = true
       then 1 else 0) :=
  enc_active_cell_sep h f p hf hp (fun _ _ b _ _ => Blanks_of_noblank R eps c total _ f p b hb)

/-- **weights roll, last writer wins** (any rounding, any parameters, either blank setting): a cell that
no note touches holds 1; otherwise it holds what the LAST note in start order that touches it writes
(`noteWVal`) -/
theorem enc_weights_cell_last {R R32 : Rat → Rat} {eps : Rat} {c : Cfg} {total : Rat} {notes : List PNote}
    {ccs : List PCC} {pr : Pianoroll} (h : encode R R32 eps c total notes ccs = .ok pr) (f p : Nat)
    (hf : f < (numRows R c.fps total).toNat) (hp : p < (c.maxPitch - c.minPitch + 1).toNat) :
    ((∀ nt ∈ notes, NoteTouchesW R eps c total (numRows R c.fps total).toNat f p nt = false) ∧
      getCell pr.weights f p = some 1) ∨
    (∃ l1 nt l2, sortByStart notes = l1 ++ nt :: l2 ∧
      NoteTouchesW R eps c total (numRows R c.fps total).toNat f p nt = true ∧
      (∀ o ∈ l2, NoteTouchesW R eps c total (numRows R c.fps total).toNat f p o = false) ∧
      getCell pr.weights f p = some (noteWVal R R32 eps c total (numRows R c.fps total).toNat f nt)) := by
  rw [enc_weights_cell h f p hf hp]
  generalize (numRows R c.fps total).toNat = n
  have hfun : noteW R R32 eps c total n f p = fun x a =>
      if NoteTouchesW R eps c total n f p a = true then noteWVal R R32 eps c total n f a else x := by
    funext x a; exact noteW_eq R R32 eps c total n f p x a
  rw [hfun]
  rcases foldl_sel_cases (sortByStart notes) (NoteTouchesW R eps c total n f p)
      (noteWVal R R32 eps c total n f) 1 with ⟨hno, hv⟩ | ⟨l1, nt, l2, hl, hc, hall, hv⟩
  · exact Or.inl ⟨fun nt hnt => hno nt ((mem_sortByStart nt notes).mpr hnt), by rw [hv]⟩
  · exact Or.inr ⟨l1, nt, l2, hl, hc, hall, by rw [hv]⟩

/-- **onset_velocities roll** (any rounding, any parameters): cell by cell the float32 product of the
`active_velocities` cell and the `onsets` cell -/
theorem enc_onset_velocity_cell {R R32 : Rat → Rat} {eps : Rat} {c : Cfg} {total : Rat} {notes : List PNote}
    {ccs : List PCC} {pr : Pianoroll} (h : encode R R32 eps c total notes ccs = .ok pr) (f p : Nat)
    (hf : f < (numRows R c.fps total).toNat) (hp : p < (c.maxPitch - c.minPitch + 1).toNat) :
    ∃ v o, getCell pr.activeVelocities f p = some v ∧ getCell pr.onsets f p = some o ∧
      (o = 0 ∨ o = 1) ∧ getCell pr.onsetVelocities f p = some (R32 (v * o)) := by
  have ho := enc_onset_cell h f p hf hp
  have hv : ∃ v, getCell pr.activeVelocities f p = some v := by
    rcases enc_velocity_cell h f p hf hp with ⟨_, h0⟩ | ⟨_, _, _, _, _, _, h1⟩
    · exact ⟨_, h0⟩
    · exact ⟨_, h1⟩
  obtain ⟨v, hv⟩ := hv
  refine ⟨v, _, hv, ho, by split <;> simp, ?_⟩
  obtain ⟨_, _, _, _, _, _, rfl, rfl, rfl⟩ := encode_ok_iff.mp h
  rw [getCell_zipWith2]
  dsimp only at hv ho ⊢
  rw [hv, ho]

/-- **dec_drops_exactly** (every rounding `R`, no onset predictions): the decoder returns, for the
maximal runs `[s, e)` of active frames of a pitch column, a note if and only if
`min_duration_ms ≤ R (R (R (e·fl) − R (s·fl)) · 1000)` with `fl = R (1/fps)` — the test of `end_pitch`
in the code's own operation order — and nothing else: every returned note is such a run; no run is
returned twice. -/
theorem dec_drops_exactly (R Rv : Rat → Rat) (d : DCfg) (frames : List (List Bool)) (w : Nat)
    (hfps : d.fps ≠ 0) (hne : frames ≠ []) (hrect : isRect frames frames.length w = true)
    (hw : w ≤ Gen.VEL_SLOTS) :
    ∃ ems : List Emit,
      decode R Rv d frames none none none =
        .ok (ems.map (emitNote R (R (1 / d.fps)) d.minMidiPitch),
             R (((frames.length + 1 : Nat) : Rat) * R (1 / d.fps))) ∧
      ems.Nodup ∧
      (∀ em ∈ ems, em.pitch < w ∧ em.vel = d.velocity ∧ IsMaxRun (frameCol frames em.pitch) em.s em.e) ∧
      ∀ p s e : Nat, p < w → IsMaxRun (frameCol frames p) s e →
        ((⟨p, s, e, d.velocity⟩ : Emit) ∈ ems ↔
          d.minDurMs ≤ R (R (R ((e : Rat) * R (1 / d.fps)) - R ((s : Rat) * R (1 / d.fps))) * 1000)) := by
  obtain ⟨ems, hd, hsorted, hmem⟩ := runs_decode R Rv d frames w hfps hne hrect hw
  refine ⟨ems, hd, nodup_of_pairwise_emitLt ems hsorted, ?_, ?_⟩
  · intro em hem
    obtain ⟨h1, h2, _, h4⟩ := (hmem em).mp hem
    exact ⟨h1, h2, h4⟩
  · intro p s e hp hrun
    rw [hmem]
    simp only [keepR, decide_eq_true_eq]
    constructor
    · rintro ⟨_, _, hk, _⟩; exact hk
    · intro hk; exact ⟨hp, trivial, hk, hrun⟩

/-- the duration test in exact arithmetic: a run is kept iff (its length in frames) × (frame duration in
ms) is at least `min_duration_ms` — "drops only notes shorter than `min_duration_ms`" -/
theorem keepR_exact (fps minDur : Rat) (s e : Nat) :
    keepR id (id (1 / fps)) minDur s e = true ↔ minDur ≤ ((e : Rat) - (s : Rat)) * (1 / fps) * 1000 := by
  unfold keepR
  simp only [id, decide_eq_true_eq]
  rw [show ((e : Rat) * (1 / fps) - (s : Rat) * (1 / fps)) * 1000 = ((e : Rat) - (s : Rat)) * (1 / fps) * 1000 by grind]

/-- **dec_drops_exactly, exact arithmetic**: with `R = id` the dropped runs are exactly those shorter
than `min_duration_ms` -/
theorem dec_drops_exact_id (d : DCfg) (frames : List (List Bool)) (w : Nat)
    (hfps : d.fps ≠ 0) (hne : frames ≠ []) (hrect : isRect frames frames.length w = true)
    (hw : w ≤ Gen.VEL_SLOTS) :
    ∃ ems : List Emit,
      decode id id d frames none none none =
        .ok (ems.map (emitNote id (1 / d.fps) d.minMidiPitch),
             ((frames.length + 1 : Nat) : Rat) * (1 / d.fps)) ∧
      ∀ p s e : Nat, p < w → IsMaxRun (frameCol frames p) s e →
        ((⟨p, s, e, d.velocity⟩ : Emit) ∉ ems ↔
          ((e : Rat) - (s : Rat)) * (1 / d.fps) * 1000 < d.minDurMs) := by
  obtain ⟨ems, hd, _, _, hiff⟩ := dec_drops_exactly id id d frames w hfps hne hrect hw
  refine ⟨ems, hd, ?_⟩
  intro p s e hp hrun
  rw [hiff p s e hp hrun]
  exact (not_congr (decide_eq_true_iff.symm.trans (keepR_exact d.fps d.minDurMs s e))).trans Rat.not_le

/-- **onsets_decode** (every rounding `R`, `Rv`, every matrix size): whenever
`pianoroll_onsets_to_note_sequence` returns, its notes are — in this order — one `onsetNote` per cell of
the onset matrix that holds a 1, frames ascending and pitches ascending inside a frame (`np.nonzero`
order): the note starts at `R (f · R (1/fps))`, ends at `R (start + note_duration_seconds)`, has pitch
`p + min_midi_pitch` and velocity `_unscale_velocity (velocity_values[f, p])`; without
`velocity_values` the value is the `velocity` argument itself (so the note velocity is
`_unscale_velocity (velocity)`, not `velocity`).  `total_time = R (R (#frames · R (1/fps)) + duration)`. -/
theorem onsets_decode (R Rv : Rat → Rat) (d : DCfg) (dur : Rat) (onsets : List (List Bool))
    (vels : Option (List (List Rat))) (notes : List ONote) (total : Rat)
    (h : decodeOnsets R Rv d dur onsets vels = .ok (notes, total)) :
    d.fps ≠ 0 ∧
    total = R (R ((onsets.length : Rat) * R (1 / d.fps)) + dur) ∧
    notes = (List.range onsets.length).flatMap fun f =>
      ((List.range (rollWidth onsets)).filter fun p => onsetAt onsets f p).map fun p =>
        onsetNote R (unscale Rv d.scale d.bias) (R (1 / d.fps)) dur d.minMidiPitch f p (onsetVel d vels f p) := by
  rw [decodeOnsets_eq] at h
  split_ifs at h with hfps hshape
  obtain ⟨hO, hV⟩ : isRect onsets onsets.length (rollWidth onsets) = true ∧
      velsRect vels onsets.length (rollWidth onsets) = true := by simpa using hshape
  obtain ⟨rfl, rfl⟩ := Prod.mk.inj (Except.ok.inj h)
  refine ⟨hfps, rfl, ?_⟩
  rw [onsetRows_cells _ _ _ _ _ hO (velsOr_rect d hO hV), List.flatMap_def, List.flatMap_def]
  refine congrArg List.flatten (List.map_congr_left fun f hf => List.map_congr_left fun p hp => ?_)
  rw [getCell_velsOr d vels hO (List.mem_range.mp hf) (List.mem_range.mp (List.mem_filter.mp hp).1)]

/-- **onsets_decode, no exception**: the function returns for every rectangular onset matrix (with a
velocity matrix of the same shape, or none) and every non-zero frame rate -/
theorem onsets_decode_defined (R Rv : Rat → Rat) (d : DCfg) (dur : Rat) (onsets : List (List Bool))
    (vels : Option (List (List Rat))) (hfps : d.fps ≠ 0)
    (hO : isRect onsets onsets.length (rollWidth onsets) = true)
    (hV : ∀ v, vels = some v → isRect v onsets.length (rollWidth onsets) = true) :
    ∃ r, decodeOnsets R Rv d dur onsets vels = .ok r := by
  have hV' : velsRect vels onsets.length (rollWidth onsets) = true := by
    unfold velsRect
    cases vels with
    | none => rfl
    | some v => exact hV v rfl
  rw [decodeOnsets_eq, if_neg hfps, if_neg (by rw [hO, hV']; simp)]
  exact ⟨_, rfl⟩

/-- row-major order of matrix cells -/
def cellLt (a b : Nat × Nat) : Prop := a.1 < b.1 ∨ (a.1 = b.1 ∧ a.2 < b.2)

/-- **one note per predicted onset**: the notes are the image of a list of cells that is strictly
increasing in row-major order (so no cell occurs twice) and contains exactly the cells of the matrix
that hold a 1 -/
theorem onsets_decode_cells (R Rv : Rat → Rat) (d : DCfg) (dur : Rat) (onsets : List (List Bool))
    (vels : Option (List (List Rat))) (notes : List ONote) (total : Rat)
    (h : decodeOnsets R Rv d dur onsets vels = .ok (notes, total)) :
    ∃ cells : List (Nat × Nat),
      notes = cells.map (fun fp => onsetNote R (unscale Rv d.scale d.bias) (R (1 / d.fps)) dur d.minMidiPitch
        fp.1 fp.2 (onsetVel d vels fp.1 fp.2)) ∧
      cells.Pairwise cellLt ∧
      ∀ f p, (f, p) ∈ cells ↔ f < onsets.length ∧ p < rollWidth onsets ∧ onsetAt onsets f p = true := by
  obtain ⟨_, _, hn⟩ := onsets_decode R Rv d dur onsets vels notes total h
  refine ⟨(List.range onsets.length).flatMap fun f =>
      ((List.range (rollWidth onsets)).filter fun p => onsetAt onsets f p).map fun p => (f, p), ?_, ?_, ?_⟩
  · rw [hn, List.map_flatMap]
    simp only [List.map_map]
    rfl
  · rw [List.pairwise_flatMap]
    constructor
    · intro f _
      rw [List.pairwise_map]
      apply List.Pairwise.filter
      apply List.Pairwise.imp _ List.pairwise_lt_range
      intro a b hab
      right; exact ⟨rfl, hab⟩
    · apply List.Pairwise.imp _ List.pairwise_lt_range
      intro a b hab x hx y hy
      simp only [List.mem_map] at hx hy
      obtain ⟨_, _, rfl⟩ := hx
      obtain ⟨_, _, rfl⟩ := hy
      left; exact hab
  · intro f p
    simp only [List.mem_flatMap, List.mem_range, List.mem_map, List.mem_filter, Prod.mk.injEq]
    constructor
    · rintro ⟨f', hf', p', ⟨hp', ho⟩, rfl, rfl⟩; exact ⟨hf', hp', ho⟩
    · rintro ⟨hf, hp, ho⟩; exact ⟨f, hf, p, ⟨hp, ho⟩, rfl, rfl⟩

/-- **the closing assertion cannot fire**: for a monotone rounding and a frame length that is not
negative (`fps > 0`), every note ends at or before `total_time` (the code asserts it for the last note) -/
theorem onsets_decode_total_ge {R : Rat → Rat} (hmono : ∀ x y : Rat, x ≤ y → R x ≤ R y) (Rv : Rat → Rat)
    (d : DCfg) (dur : Rat) (onsets : List (List Bool)) (vels : Option (List (List Rat)))
    (notes : List ONote) (total : Rat) (hfl : 0 ≤ R (1 / d.fps))
    (h : decodeOnsets R Rv d dur onsets vels = .ok (notes, total)) :
    ∀ nt ∈ notes, nt.end_ ≤ total := by
  obtain ⟨cells, hn, _, hmem⟩ := onsets_decode_cells R Rv d dur onsets vels notes total h
  obtain ⟨_, ht, _⟩ := onsets_decode R Rv d dur onsets vels notes total h
  intro nt hnt
  rw [hn] at hnt
  simp only [List.mem_map] at hnt
  obtain ⟨⟨f, p⟩, hfp, rfl⟩ := hnt
  have hf := ((hmem f p).mp hfp).1
  rw [ht]
  simp only [onsetNote]
  apply hmono
  have h1 : (f : Rat) * R (1 / d.fps) ≤ (onsets.length : Rat) * R (1 / d.fps) :=
    Rat.mul_le_mul_of_nonneg_right (by exact_mod_cast Nat.le_of_lt hf) hfl
  exact Rat.add_le_add_right.mpr (hmono _ _ h1)

/-- the blank frame of a re-encoded decoded note is the frame before its run -/
theorem blanks_of_emit (R : Rat → Rat) (eps : Rat) {d : DCfg} {c : Cfg} {w : Nat} (hm : Mirrors c d w)
    (total : Rat) (n N : Nat)
    (hgrid : ∀ k : Nat, k ≤ N → timeToFrames R eps d.fps (R ((k : Rat) * R (1 / d.fps))) = (k : Rat))
    (e : Emit) (hse : e.s < e.e) (heN : e.e ≤ N) (f p : Nat)
    (h : Blanks R eps c total n f p (toPNote (emitNote R (R (1 / d.fps)) d.minMidiPitch e)) = true) :
    p = e.pitch ∧ f + 1 = e.s := by
  obtain ⟨_, _, hp, nf', hnf', hfr⟩ := (Blanks_iff R eps c total n f p _).mp h
  obtain ⟨hcol, nf, hnf, hsf, _⟩ := noteFrames_emit R eps hm total n N hgrid e hse heN
  rw [hnf] at hnf'; cases hnf'
  exact ⟨hp.trans hcol, by omega⟩

/-- **roll_roundtrip (decode then encode), either blank setting, any rounding**: if `time_to_frames` reads every grid
time `R (k · R (1/fps))`, `k ≤ #frames`, back as `k` (hypothesis `hgrid`; discharged for every `Rounding R` in
`roll_roundtrip_float_anyblank`), then encoding the decoded notes reproduces the boolean roll cell by cell; frames past
the roll are silent (`frameCol` reads `false` there). All roll sizes, `add_blank_frame_before_onset` arbitrary — the
decoded notes are the maximal runs, so the frame before each of them is silent in the roll and blanking it changes
nothing -/
theorem roll_roundtrip_of_grid_anyblank (R R32 Rv : Rat → Rat) (eps : Rat) (d : DCfg) (c : Cfg)
    (frames : List (List Bool)) (w : Nat) (ccs : List PCC)
    (hfps : d.fps ≠ 0) (hne : frames ≠ []) (hrect : isRect frames frames.length w = true)
    (hw : w ≤ Gen.VEL_SLOTS)
    (hgrid : ∀ k : Nat, k ≤ frames.length →
      timeToFrames R eps d.fps (R ((k : Rat) * R (1 / d.fps))) = (k : Rat))
    (hkeep : ∀ s e : Nat, s < e → keepR R (R (1 / d.fps)) d.minDurMs s e = true)
    (hc1 : c.fps = d.fps) (hc2 : c.minPitch = d.minMidiPitch)
    (hc3 : c.maxPitch = d.minMidiPitch + (w : Int) - 1) (hc4 : c.mode = 0) (hc5 : c.overlap = true)
    (hc7 : c.occ = 0)
    (notes : List ONote) (total : Rat) (hdec : decode R Rv d frames none none none = .ok (notes, total))
    (pr : Pianoroll) (henc : encode R R32 eps c total (notes.map toPNote) ccs = .ok pr)
    (f p : Nat) (hf : f < (numRows R c.fps total).toNat) (hp : p < w) :
    getCell pr.active f p = some (if frameCol frames p f = true then 1 else 0) := by
  have hm : Mirrors c d w := ⟨hc1, hc2, hc3, hc4, hc5, hc7⟩
  obtain ⟨ems, hd, _, hmem⟩ := runs_decode R Rv d frames w hfps hne hrect hw
  obtain ⟨rfl, -⟩ := Prod.mk.inj (Except.ok.inj (hd.symm.trans hdec))
  rw [enc_active_cell_sep henc f p hf (by rw [hm.cols]; exact hp)]
  · simp only [covers_decoded_iff R eps hm frames hgrid hkeep ems hmem total _ f p hf hp]
  · intro a ha b hb hca
    cases hbb : Blanks R eps c total (numRows R c.fps total).toNat f p b with
    | false => rfl
    | true =>
      exfalso
      simp only [List.mem_map] at ha hb
      obtain ⟨_, ⟨ea, hea, rfl⟩, rfl⟩ := ha
      obtain ⟨_, ⟨eb, heb, rfl⟩, rfl⟩ := hb
      obtain ⟨hpa, _, _, hra⟩ := (hmem ea).mp hea
      obtain ⟨hpb, _, _, hrb⟩ := (hmem eb).mp heb
      obtain ⟨hpe, h1, h2⟩ := (covers_of_emit R eps hm total _ frames.length hgrid ea hpa hra.1 hra.end_le
        f p hf).mp hca
      obtain ⟨hpe', hfs⟩ := blanks_of_emit R eps hm total _ frames.length hgrid eb hrb.1 hrb.end_le f p hbb
      -- the frame before the run of `eb` is a frame of the run of `ea`, in the same column
      have hA : frameCol frames ea.pitch f = true := hra.2.1 f h1 h2
      rcases hrb.2.2.1 with h0 | h0
      · omega
      · rw [show eb.s - 1 = f by omega, ← hpe', hpe, hA] at h0
        cases h0

/-- **roll_roundtrip (encode then decode), either blank setting, any rounding**: notes on the frame grid — note `g`
spans frames `[g.s, g.e)` of pitch index `g.pitch`, its times are the decoder's `R (k · R (1/fps))` — with at least one
silent frame between notes of one pitch, encoded (plain configuration, `add_blank_frame_before_onset` arbitrary) and
decoded again (`min_duration` letting everything through), come back as exactly the same (pitch, start, end) set;
velocities become the decoder's default.  `hgrid` as in `roll_roundtrip_of_grid_anyblank`.  The blanked frame before a
note is one of the silent frames between same-pitch notes -/
theorem roll_roundtrip_notes_of_grid_anyblank (R R32 Rv : Rat → Rat) (eps : Rat) (d : DCfg) (c : Cfg)
    (gl : List Emit) (total : Rat) (ccs : List PCC) (w : Nat)
    (hfps : d.fps ≠ 0) (hw : w ≤ Gen.VEL_SLOTS)
    (hc1 : c.fps = d.fps) (hc2 : c.minPitch = d.minMidiPitch)
    (hc3 : c.maxPitch = d.minMidiPitch + (w : Int) - 1) (hc4 : c.mode = 0) (hc5 : c.overlap = true)
    (hc7 : c.occ = 0)
    (hrows : 1 ≤ numRows R c.fps total)
    (hgrid : ∀ k : Nat, (k : Int) ≤ numRows R c.fps total →
      timeToFrames R eps d.fps (R ((k : Rat) * R (1 / d.fps))) = (k : Rat))
    (hkeep : ∀ s e : Nat, s < e → keepR R (R (1 / d.fps)) d.minDurMs s e = true)
    (hgl : ∀ g ∈ gl, g.pitch < w ∧ g.s < g.e ∧ (g.e : Int) ≤ numRows R c.fps total)
    (hsep : ∀ a ∈ gl, ∀ b ∈ gl, a.pitch = b.pitch → (a.s = b.s ∧ a.e = b.e) ∨ a.e < b.s ∨ b.e < a.s)
    (pr : Pianoroll)
    (henc : encode R R32 eps c total
      (gl.map fun g => toPNote (emitNote R (R (1 / d.fps)) d.minMidiPitch g)) ccs = .ok pr) :
    ∃ ems : List Emit,
      decode R Rv d (toBoolRoll pr.active) none none none =
        .ok (ems.map (emitNote R (R (1 / d.fps)) d.minMidiPitch),
             R ((((toBoolRoll pr.active).length + 1 : Nat) : Rat) * R (1 / d.fps))) ∧
      ems.Pairwise emitLt ∧
      ∀ e : Emit, e ∈ ems ↔
        e.vel = d.velocity ∧ ∃ g ∈ gl, g.pitch = e.pitch ∧ g.s = e.s ∧ g.e = e.e := by
  have hm : Mirrors c d w := ⟨hc1, hc2, hc3, hc4, hc5, hc7⟩
  have hgrid' : ∀ k : Nat, k ≤ (numRows R c.fps total).toNat →
      timeToFrames R eps d.fps (R ((k : Rat) * R (1 / d.fps))) = (k : Rat) := fun k hk => hgrid k (by omega)
  refine decode_grid_roll R R32 Rv eps hm gl total ccs hfps hw hrows hgrid hkeep hgl hsep pr henc
    fun k p hk hp => ⟨_, enc_active_cell_sep henc k p hk hp ?_, ite_one_ne_zero⟩
  -- a blanked frame is the frame before a note of `gl`, hence not a frame of a note of that pitch
  intro a ha b hb hca
  cases hbb : Blanks R eps c total (numRows R c.fps total).toNat k p b with
  | false => rfl
  | true =>
    exfalso
    obtain ⟨ga, hga, rfl⟩ := List.mem_map.mp ha
    obtain ⟨gb, hgb, rfl⟩ := List.mem_map.mp hb
    obtain ⟨hga1, hga2, hga3⟩ := hgl ga hga
    obtain ⟨_, hgb2, hgb3⟩ := hgl gb hgb
    obtain ⟨hpa, ha1, ha2⟩ := (covers_of_emit R eps hm total _ _ hgrid' ga hga1 hga2 (by omega) k p hk).mp hca
    obtain ⟨hpb, hks⟩ := blanks_of_emit R eps hm total _ _ hgrid' gb hgb2 (by omega) k p hbb
    rcases hsep ga hga gb hgb (by rw [← hpa, ← hpb]) with ⟨h1, _⟩ | h | h <;> omega

/-! ## non-vacuity: concrete inputs satisfying the hypotheses (kernel-evaluated) -/
def exCb : Cfg := { exC with blank := true }

-- enc_active_fold / enc_active_cell_blank / enc_weights_cell_last with add_blank_frame_before_onset: the notes
-- 60@[1/40, 9/200) (frames 2..4) and 60@[1/25, 3/50) (frames 4..5) overlap; the later one blanks frame 3, which the
-- earlier one had painted: active(3,0) = 0 and weight(3,0) = 1, although frame 3 is an onset frame of both; frame 1,
-- before the first note, is blank; frame 4 is painted by both and stays 1.  Without blank frames active(3,0) = 1.
example : (match encode id id Gen.SNAP_EPS exCb 1 exNotes [] with
  | .ok pr => getCell pr.active 1 0 == some 0 && getCell pr.active 2 0 == some 1 && getCell pr.active 3 0 == some 0 &&
      getCell pr.active 4 0 == some 1 && getCell pr.active 5 0 == some 1 && getCell pr.active 6 0 == some 0 &&
      getCell pr.weights 3 0 == some 1 && getCell pr.weights 1 0 == some 1 && getCell pr.weights 2 0 == some 5
  | .error _ => false) = true := by
  obtain ⟨pr, h⟩ : ∃ pr, encode id id Gen.SNAP_EPS exCb 1 exNotes [] = .ok pr := isOk_iff.mp (by decide +kernel)
  have A := fun f p => enc_active_fold h f p
  have W := fun f p => enc_weights_cell h f p
  rw [show (numRows id exCb.fps 1).toNat = 101 from exEnc_rows,
    show (exCb.maxPitch - exCb.minPitch + 1).toNat = 2 from exEnc_cols] at A W
  rw [h]
  dsimp only
  simp (disch := omega) only [A, W]
  decide +kernel
example : (match encode id id Gen.SNAP_EPS exC 1 exNotes [] with
  | .ok pr => getCell pr.active 3 0 == some 1
  | .error _ => false) = true := by
  obtain ⟨pr, h⟩ := exEnc
  rw [h]
  dsimp only
  rw [enc_active_cell rfl h 3 0 (by rw [exEnc_rows]; omega) (by rw [exEnc_cols]; omega)]
  decide +kernel
-- Blanks / NoteCovers are both inhabited on that input: the second note of pitch 60 blanks (3, 0), the first covers it
example : Blanks id Gen.SNAP_EPS exCb 1 101 3 0 ⟨60, 127, 1 / 25, 3 / 50⟩ = true ∧
    NoteCovers id Gen.SNAP_EPS exCb 1 101 (selActive exCb) 3 0 ⟨60, 100, 1 / 40, 9 / 200⟩ = true := by decide +kernel

-- enc_onset_velocity_cell / active_velocity_range / onset_velocity_range: note 60 (velocity 100 of 127) has onset
-- frames 1..3 and active frames 2..4: onset velocity 0 in frame 1 (onset without active), 100/127 in frame 2,
-- 0 in frame 0; in frame 4 the later note (velocity 127) has overwritten the velocity: 1
example : (match encode id id Gen.SNAP_EPS exC 1 exNotes [] with
  | .ok pr => getCell pr.onsetVelocities 1 0 == some 0 && getCell pr.onsetVelocities 2 0 == some (100 / 127) &&
      getCell pr.onsetVelocities 0 0 == some 0 && getCell pr.onsetVelocities 4 0 == some 1 &&
      getCell pr.activeVelocities 2 0 == some (100 / 127) && getCell pr.activeVelocities 1 0 == some 0
  | .error _ => false) = true := by
  obtain ⟨pr, h⟩ := exEnc
  have V := fun f p => enc_velocity_fold h f p
  have O := fun f p => enc_onset_cell h f p
  have OV := fun f p hf hp => enc_onset_velocity_cell h f p hf hp
  rw [exEnc_rows, exEnc_cols] at V O OV
  have OV' : ∀ f p, f < 101 → p < 2 → getCell pr.onsetVelocities f p =
      (getCell pr.activeVelocities f p).bind fun v => (getCell pr.onsets f p).map fun o => id (v * o) := by
    intro f p hf hp
    obtain ⟨v, o, hv, ho, -, hx⟩ := OV f p hf hp
    rw [hv, ho, hx]
    rfl
  rw [h]
  dsimp only
  simp (disch := omega) only [OV', V, O]
  decide +kernel
example : id (0 : Rat) = 0 := rfl

-- dec_drops_exactly / dec_drops_exact_id: with min_duration_ms = 20 at 100 fps the one-frame run of pitch 0 at
-- frame 3 (10 ms) is dropped, the two-frame runs (exactly 20 ms) are kept — in exact arithmetic
example : (match decode id id { exD with minDurMs := 20 } exFrames none none none with
  | .ok (notes, _) => notes.map (fun n => (n.pitch, n.start, n.end_)) == [(60, 0, 1 / 50), (61, 1 / 100, 3 / 100)]
  | .error _ => false) = true := by decide +kernel
-- … and the SAME test in binary64 (`rne53`) drops the run [1, 3) of exactly 20 ms: (3·0.01 − 1·0.01)·1000 evaluates
-- to 19.999999999999996.  "Drops only notes shorter than min_duration_ms" holds for floats only up to the relative
-- 2⁻⁵³ margins of keepR_float_kept / keepR_float_dropped.
example : keepR rne53 (rne53 (1 / 100)) 20 1 3 = false ∧ keepR id (id (1 / 100)) 20 1 3 = true := by decide +kernel

-- onsets_decode / onsets_decode_cells / onsets_decode_defined: a 3 × 2 onset matrix with onsets at (0,0), (2,0),
-- (2,1) gives three notes in np.nonzero order, each 1/20 s long from its frame's time, pitch = index + 60; without
-- velocity values the velocity is _unscale_velocity(70) = int(1 · 80 + 10) = 90, not 70
example : decodeOnsets id id exD (1 / 20) [[true, false], [false, false], [true, true]] none =
    .ok ([⟨60, 90, 0, 1 / 20⟩, ⟨60, 90, 1 / 50, 7 / 100⟩, ⟨61, 90, 1 / 50, 7 / 100⟩], 2 / 25) := by decide +kernel
-- with velocity values (0.5 → 50, 2.0 clipped → 90, −1 clipped → 10)
example : decodeOnsets id id exD (1 / 20) [[true, false], [false, false], [true, true]]
      (some [[1 / 2, 0], [0, 0], [2, -1]]) =
    .ok ([⟨60, 50, 0, 1 / 20⟩, ⟨60, 90, 1 / 50, 7 / 100⟩, ⟨61, 10, 1 / 50, 7 / 100⟩], 2 / 25) := by decide +kernel
example : exD.fps ≠ 0 ∧ isRect [[true, false], [false, false], [true, true]] 3
    (rollWidth [[true, false], [false, false], [true, true]]) = true := by decide +kernel
-- onsets_decode_total_ge: exact arithmetic is monotone and 1/fps is not negative
example : (∀ x y : Rat, x ≤ y → id x ≤ id y) ∧ 0 ≤ id (1 / exD.fps) := ⟨fun _ _ h => h, by decide +kernel⟩

-- enc_active_cell_sep / roll_roundtrip_*_anyblank: the separated grid notes of `exGrid`, encoded WITH blank frames
-- and decoded, come back; a decoded roll re-encoded WITH blank frames is the same roll
example : (match encode id id Gen.SNAP_EPS exCb (7 / 100)
      (exGrid.map fun g => toPNote (emitNote id (1 / 100) 60 g)) [] with
  | .ok pr => (match decode id id exD (toBoolRoll pr.active) none none none with
      | .ok (notes, _) => notes.map (fun n => (n.pitch, n.start, n.end_)) ==
          [(61, 0, 1 / 50), (60, 1 / 100, 3 / 100), (60, 1 / 25, 3 / 50)]
      | .error _ => false)
  | .error _ => false) = true := by decide +kernel
example : (match decode id id exD exFrames none none none with
  | .ok (notes, total) =>
      (match encode id id Gen.SNAP_EPS exCb total (notes.map toPNote) [] with
       | .ok pr => (toBoolRoll pr.active).take 4 == exFrames
       | .error _ => false)
  | .error _ => false) = true := by decide +kernel

end NSV.C18

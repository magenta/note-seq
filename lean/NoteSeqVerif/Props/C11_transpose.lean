import NoteSeqVerif.Props.C10
import NoteSeqVerif.Proofs.C11WF
-- THEOREMS: wf_transpose no_invention_transpose
/-! # C11 (b) — transpose_note_sequence (in_place = False) returns a well-formed sequence, invents nothing
Corollary of `NSV.C10.transpose_ns_spec` (model owned by C10); holds for every
chord-figure splitter `split`. -/
namespace NSV.C11
open NSV.C10

theorem pointwise_time {split : String → Except Err Sym} {k : Int} {l r : List TextAnn}
    (hp : Pointwise (TextRel split k) l r) (hl : ∀ e ∈ l, 0 ≤ e.time) : ∀ e ∈ r, 0 ≤ e.time := by
  intro e he
  obtain ⟨i, hi, rfl⟩ := List.getElem_of_mem he
  have hi' : i < l.length := Pointwise.length_eq hp ▸ hi
  have hab := Pointwise.get hp i hi' hi
  have ha := hl l[i] (List.getElem_mem hi')
  unfold TextRel at hab
  split at hab
  · obtain ⟨c, _, h⟩ := hab
    rw [h]; exact ha
  · rw [hab]; exact ha

theorem moveNote_times (k : Int) (n : Note) : (moveNote k n).start = n.start ∧ (moveNote k n).end_ = n.end_ := by
  cases hd : n.isDrum <;> simp [moveNote, hd]

theorem wf_transpose (split : String → Except Err Sym) (s out : NoteSeq) (k mn mx : Int) (tc : Bool) (deleted : Nat)
    (hw : WF s) (h : transposeNS split s k mn mx tc = .ok (out, deleted)) : WF out := by
  obtain ⟨hn, _, _, ⟨hcov, htot, _⟩, hks, htx1, htx2, htp, hts, hcc, hb, hsa, _⟩ := transpose_ns_spec split s out k mn mx tc deleted h
  refine ⟨?_, htot, ⟨by rw [htp]; exact hw.events.tempos, by rw [hts]; exact hw.events.timeSigs, ?_, ?_,
    by rw [hcc]; exact hw.events.ccs, by rw [hb]; exact hw.events.bends, by rw [hsa]; exact hw.events.sectionAnns⟩⟩
  · intro n hn'
    have hc := hcov n hn'
    rw [hn] at hn'
    obtain ⟨m, hm, rfl⟩ := List.mem_map.mp hn'
    obtain ⟨h0, h1, _⟩ := hw.notes m (List.mem_filter.mp hm).1
    rw [(moveNote_times k m).1, (moveNote_times k m).2] at *
    exact ⟨h0, h1, hc⟩
  · intro e he
    rw [hks] at he
    obtain ⟨m, hm, rfl⟩ := List.mem_map.mp he
    exact hw.events.keySigs m hm
  · cases tc with
    | true => exact pointwise_time (htx1 rfl) hw.events.texts
    | false =>
      intro e he
      rw [htx2 rfl] at he
      exact hw.events.texts e (List.mem_filter.mp he).1

/-- every returned note is an input note with its tag, velocity, instrument, … and times; drums keep
their pitch, pitched notes are moved by exactly `k`; no tag occurs more often than in the input -/
theorem no_invention_transpose (split : String → Except Err Sym) (s out : NoteSeq) (k mn mx : Int) (tc : Bool)
    (deleted : Nat) (h : transposeNS split s k mn mx tc = .ok (out, deleted)) :
    NoInvention s.notes out.notes ∧ NoDuplication s.notes out.notes ∧
      ∀ n ∈ out.notes, ∃ m ∈ s.notes, SameNote m n ∧ n.start = m.start ∧ n.end_ = m.end_ ∧
        n.pitch = (if m.isDrum then m.pitch else m.pitch + k) := by
  obtain ⟨hn, _⟩ := transpose_ns_spec split s out k mn mx tc deleted h
  have hsame : ∀ m : Note, SameNote m (moveNote k m) := by
    intro m
    cases hd : m.isDrum <;> simp [moveNote, hd, SameNote]
  rw [hn]
  obtain ⟨h1, h2⟩ := no_invention_map_sublist (moveNote k) hsame List.filter_sublist (List.Perm.refl s.notes)
  refine ⟨h1, h2, ?_⟩
  · intro n hn'
    obtain ⟨m, hm, rfl⟩ := List.mem_map.mp hn'
    refine ⟨m, (List.mem_filter.mp hm).1, hsame m, (moveNote_times k m).1, (moveNote_times k m).2, ?_⟩
    cases hd : m.isDrum <;> simp [moveNote, hd]

end NSV.C11

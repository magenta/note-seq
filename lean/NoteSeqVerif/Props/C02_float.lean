import NoteSeqVerif.Props.C02
import NoteSeqVerif.Proofs.C02Float
/-! C02 — the floating-point side of the property: every statement here is for EVERY rounding
operator `R` with the `Rounding` facts of `Proofs/Rounding.lean` (monotone, `R 0 = 0`, relative error
`2^-53`, …), in particular for the executable float64 model (`rounding_rne53 : Rounding rne53`) that is
compared bit-exactly with the Python.

What is true in floats and what is not (each negative fact is a kernel-checked float64 instance, here or in
`Proofs/C02Float.lean`):
* shifted times `R (t - a)`: nonnegative, weakly monotone, `0` exactly for `t = a`; NOT strictly
  monotone (`shift_collapse_rne53`), so the exact-arithmetic statement "in effect at `τ` in the piece =
  in effect at `a + τ` in the original" becomes "… at corresponding instants" (`Corr`), and corresponding
  instants always exist within `2^-51` relative (`corresponding_instants_float`);
* float hop candidates `R (h + R (i * h))`: weakly increasing (all that `split_note_sequence` needs),
  strictly increasing below index `2^51` (NOT beyond: `hop_not_strict_rne53`), all but the last `< total`
  (the last one can be `= total` or `> total`: `hop_last_eq_total_rne53`, `hop_last_gt_total_rne53`),
  and the vector handed to `_extract_subsequences` is always accepted (`split_hop_ok_float`). -/
namespace NSV.C02

variable {R : ℚ → ℚ} {preserve : List Int} {s : NoteSeq} {st : List ℚ} {ps : List NoteSeq}


theorem shift_order_float (hR : Rounding R) (a t t' : ℚ) :
    (a ≤ t → 0 ≤ R (t - a)) ∧ (t ≤ t' → R (t - a) ≤ R (t' - a)) ∧ (R (t - a) = 0 ↔ t = a) ∧
    (0 < R (t - a) ↔ a < t) ∧ (R (t - a) < R (t' - a) → t < t') :=
  ⟨shift_nonneg hR, shift_mono hR a, shift_eq_zero_iff hR (by norm_num) a t,
    shift_pos_iff hR (by norm_num) a t, shift_lt_reflect hR a⟩

/-- from monotonicity, `R 0 = 0` and the relative error bound alone -/
theorem round_sign_float (hR : Rounding R) (x : ℚ) : (R x = 0 ↔ x = 0) ∧ (0 < R x ↔ 0 < x) :=
  ⟨hR.eq_zero_iff (by norm_num) x, hR.pos_iff (by norm_num) x⟩

/-- times that collapse under the shift are within `2^-51` (relative to the shifted time) -/
theorem shift_close_float (hR : Rounding R) {a t t' : ℚ} (h1 : a ≤ t) (h2 : t ≤ t')
    (he : R (t' - a) = R (t - a)) : t' - t ≤ (t - a) * (1 / 2 ^ 51) := by
  have h := (hR.bounds (show 0 ≤ t' - a by linarith)).1
  rw [he] at h
  have := close_of_bounds (u := 1 / 2 ^ 53) (by norm_num) (by norm_num) (sub_nonneg.mpr h1)
    (h.trans (hR.bounds (sub_nonneg.mpr h1)).2)
  rw [sub_sub_sub_cancel_right, show (4 : ℚ) * (1 / 2 ^ 53) = 1 / 2 ^ 51 by norm_num] at this
  exact this


/-- a note that belongs to the piece `[a, b)` (so `a ≤ start < b`) and is well formed (`start ≤ end`)
is stored with `0 ≤ start' ≤ end' ≤ R (b - a)`; `start' = 0` exactly when it starts on the cut -/
theorem clipR_order_float (hR : Rounding R) (a b : ℚ) (n : Note) (h1 : a ≤ n.start) (h2 : n.start < b)
    (h3 : n.start ≤ n.end_) :
    0 ≤ (clipR R a b n).start ∧ (clipR R a b n).start ≤ (clipR R a b n).end_ ∧
    (clipR R a b n).end_ ≤ R (b - a) ∧ ((clipR R a b n).start = 0 ↔ n.start = a) := by
  refine ⟨shift_nonneg hR h1, ?_, ?_, shift_eq_zero_iff hR (by norm_num) a n.start⟩
  · exact shift_mono hR a (le_min h3 h2.le)
  · exact shift_mono hR a (min_le_right _ _)

/-- clipping keeps the weak order of starts and of ends between any two notes -/
theorem clipR_mono_float (hR : Rounding R) (a b : ℚ) (n n' : Note) :
    (n.start ≤ n'.start → (clipR R a b n).start ≤ (clipR R a b n').start) ∧
    (n.end_ ≤ n'.end_ → (clipR R a b n).end_ ≤ (clipR R a b n').end_) :=
  ⟨fun h => shift_mono hR a h, fun h => shift_mono hR a (min_le_min_right b h)⟩

/-- the notes of float piece `i` are in (weak) start order, every start lies in `[0, R (b - a)]`,
every end is `≤ R (b - a)`, and the piece's `total_time` lies in `[0, R (b - a)]` -/
theorem extract_notes_float (hR : Rounding R) (hv : Valid s st)
    (h : extractSubsequencesR R preserve s st = .ok ps)
    {i : Nat} {a b : ℚ} (ha : st[i]? = some a) (hb : st[i + 1]? = some b) :
    ∃ p, ps[i]? = some p ∧ p.notes.Pairwise (fun x y => x.start ≤ y.start) ∧
      (∀ m ∈ p.notes, 0 ≤ m.start ∧ m.start ≤ R (b - a) ∧ m.end_ ≤ R (b - a)) ∧
      0 ≤ p.totalTime ∧ p.totalTime ≤ R (b - a) := by
  have hab := hv.le ha hb
  obtain ⟨hord, hst⟩ := specNotes_times hR.mono hR.zero s a b hab
  have hend : ∀ m ∈ specNotes R s a b, m.end_ ≤ R (b - a) := fun m hm => by
    obtain ⟨n, _, _, rfl⟩ := mem_specNotes.mp hm
    exact shift_mono hR a (min_le_right _ _)
  obtain ⟨t0, -, t2⟩ := pieceTotal_spec (specNotes R s a b)
  refine ⟨_, extract_piece hv h ha hb, hord, fun m hm => ⟨(hst m hm).1, (hst m hm).2, hend m hm⟩, t0, ?_⟩
  show pieceTotal (specNotes R s a b) ≤ _
  rcases t2 with h0 | ⟨n, hn, he⟩
  · rw [h0]; exact shift_nonneg hR hab
  · rw [← he]; exact hend n hn

/-- the BEAT annotations of float piece `i` are in (weak) time order with `0 ≤ time ≤ R (b - a)` -/
theorem extract_beats_float (hR : Rounding R) (hv : Valid s st)
    (h : extractSubsequencesR R preserve s st = .ok ps)
    {i : Nat} {a b : ℚ} (ha : st[i]? = some a) (hb : st[i + 1]? = some b) :
    ∃ p, ps[i]? = some p ∧ (beats p).Pairwise (fun x y => x.time ≤ y.time) ∧
      ∀ x ∈ beats p, 0 ≤ x.time ∧ x.time ≤ R (b - a) := by
  refine ⟨_, extract_piece hv h ha hb, ?_⟩
  rw [specPiece_beats]
  exact specBeats_times hR.mono hR.zero s a b (hv.le ha hb)


/-- float form of the boundary rule: the tempo / time signature / key signature / chord / pedal events
of piece `i` are in (weak) time order and have `0 ≤ time ≤ R (b - a)`.  (Which events they are does
not depend on `R`: `state_pieces_spec` — the carried state at `0`, then the events strictly inside
`(a, b)`; an event exactly at `b` is the carried state of the next piece.)  The exact-arithmetic bound
`time < b - a` becomes `≤ R (b - a)`: an event just before `b` can be rounded onto `R (b - a)`. -/
theorem extract_state_times_float (hR : Rounding R) (hv : Valid s st)
    (h : extractSubsequencesR R preserve s st = .ok ps)
    {i : Nat} {a b : ℚ} (ha : st[i]? = some a) (hb : st[i + 1]? = some b) :
    ∃ p, ps[i]? = some p ∧
      (p.timeSigs.Pairwise (fun x y => x.time ≤ y.time) ∧ ∀ x ∈ p.timeSigs, 0 ≤ x.time ∧ x.time ≤ R (b - a)) ∧
      (p.keySigs.Pairwise (fun x y => x.time ≤ y.time) ∧ ∀ x ∈ p.keySigs, 0 ≤ x.time ∧ x.time ≤ R (b - a)) ∧
      (p.tempos.Pairwise (fun x y => x.time ≤ y.time) ∧ ∀ x ∈ p.tempos, 0 ≤ x.time ∧ x.time ≤ R (b - a)) ∧
      ((chords p).Pairwise (fun x y => x.time ≤ y.time) ∧ ∀ x ∈ chords p, 0 ≤ x.time ∧ x.time ≤ R (b - a)) ∧
      (p.ccs.Pairwise (fun x y => x.time ≤ y.time) ∧ ∀ x ∈ p.ccs, 0 ≤ x.time ∧ x.time ≤ R (b - a)) := by
  have hab := hv.le ha hb
  have times {α : Type} (time : α → ℚ) (setTime : α → ℚ → α) (htime : ∀ e t, time (setTime e t) = t)
      (evs : List α) := specState_times hR.mono hR.zero time setTime htime evs a b hab
  refine ⟨_, extract_piece hv h ha hb, times (fun e : TimeSig => e.time) _ (fun _ _ => rfl) _,
    times (fun e : KeySig => e.time) _ (fun _ _ => rfl) _,
    times (fun e : Tempo => e.time) _ (fun _ _ => rfl) _, ?_,
    specPedals_times hR.mono hR.zero preserve s a b hab⟩
  rw [specPiece_chords]
  exact times (fun e : TextAnn => e.time) _ (fun _ _ => rfl) _


/-- `τ` (instant of the piece) corresponds to `T` (instant of the original) for the event times
`times`: rounding the shift moves no event strictly inside `(a, b)` across -/
def Corr (R : ℚ → ℚ) (a b τ T : ℚ) (times : List ℚ) : Prop :=
  0 ≤ τ ∧ a ≤ T ∧ T < b ∧ ∀ t ∈ times, a < t → t < b → (R (t - a) ≤ τ ↔ t ≤ T)

/-- which instants correspond, for any finite set of event times and any `Rounding R`:
(1) exact arithmetic: `τ` and `a + τ` (the hypothesis of the `R = id` theorems);
(2) the start of the piece and the cut;
(3) `R (T - a)` and `T`, when no later event inside the piece collapses onto `T`;
(4) always: `R (T - a)` and some `T' ∈ [T, b)` that the shift cannot tell from `T`
    (`R (T' - a) = R (T - a)`, hence `T' - T ≤ (T - a) · 2^-51`). -/
theorem corresponding_instants_float (hR : Rounding R) (a b : ℚ) (times : List ℚ) :
    (∀ τ, 0 ≤ τ → τ < b - a → Corr id a b τ (a + τ) times) ∧
    (a < b → Corr R a b 0 a times) ∧
    (∀ T, a ≤ T → T < b → (∀ t ∈ times, T < t → t < b → R (T - a) < R (t - a)) →
      Corr R a b (R (T - a)) T times) ∧
    (∀ T, a ≤ T → T < b → ∃ T', T ≤ T' ∧ T' < b ∧ R (T' - a) = R (T - a) ∧
      T' - T ≤ (T - a) * (1 / 2 ^ 51) ∧ Corr R a b (R (T - a)) T' times) := by
  refine ⟨?_, ?_, ?_, ?_⟩
  · intro τ h0 h1
    have hc := corr_exact h0 h1
    exact ⟨h0, hc.1, hc.2.1, fun t _ _ _ => hc.2.2 t⟩
  · intro hab
    exact ⟨le_refl _, le_refl _, hab, fun t _ hat _ => corr_start hR (by norm_num) a t hat⟩
  · intro T hT hTb hnc
    exact ⟨shift_nonneg hR hT, hT, hTb, fun t ht _ htb => corr_rounded hR a b T t (hnc t ht) htb⟩
  · intro T hT hTb
    obtain ⟨T', h1, h2, h3, h4⟩ := corr_exists hR times a b T hTb
    exact ⟨T', h1, h2, h3, shift_close_float hR hT h1 h3, shift_nonneg hR hT, by linarith, h2, h4⟩

/-- **generic float in-effect lemma**: at corresponding instants the event in effect in the piece
carries the same value as the one in effect in the original, for every `val` that does not look at
the time (float version of `extract_state_in_effect`, which is the case `R = id`, `T = a + τ`). -/
theorem extract_state_in_effect_float {α β : Type} (hR : Rounding R) (time : α → ℚ)
    (setTime : α → ℚ → α) (val : α → β)
    (htime : ∀ e t, time (setTime e t) = t) (hval : ∀ e t, val (setTime e t) = val e)
    (evs : List α) (a b τ T : ℚ) (hc : Corr R a b τ T (evs.map time)) :
    (inEffect time (specState R time setTime evs a b) τ).map val = (inEffect time evs T).map val :=
  specState_in_effect hR.mono hR.zero time setTime val htime hval evs a b τ T hc.1 hc.2.1 hc.2.2.1
    (fun e he => hc.2.2.2 (time e) (List.mem_map_of_mem he))

section inEffectFloat
variable (hR : Rounding R) (hv : Valid s st) (h : extractSubsequencesR R preserve s st = .ok ps)
  {i : Nat} {a b τ T : ℚ} (ha : st[i]? = some a) (hb : st[i + 1]? = some b)
include hR hv h ha hb

theorem extract_timeSigs_in_effect_float (hc : Corr R a b τ T (s.timeSigs.map (·.time))) :
    ∃ p, ps[i]? = some p ∧
      (inEffect (·.time) p.timeSigs τ).map (TimeSig.setTime · 0) =
        (inEffect (·.time) s.timeSigs T).map (TimeSig.setTime · 0) :=
  ⟨_, extract_piece hv h ha hb, extract_state_in_effect_float hR (fun e : TimeSig => e.time)
    TimeSig.setTime _ (fun _ _ => rfl) (fun _ _ => rfl) s.timeSigs a b τ T hc⟩

theorem extract_keySigs_in_effect_float (hc : Corr R a b τ T (s.keySigs.map (·.time))) :
    ∃ p, ps[i]? = some p ∧
      (inEffect (·.time) p.keySigs τ).map (KeySig.setTime · 0) =
        (inEffect (·.time) s.keySigs T).map (KeySig.setTime · 0) :=
  ⟨_, extract_piece hv h ha hb, extract_state_in_effect_float hR (fun e : KeySig => e.time)
    KeySig.setTime _ (fun _ _ => rfl) (fun _ _ => rfl) s.keySigs a b τ T hc⟩

theorem extract_tempos_in_effect_float (hc : Corr R a b τ T (s.tempos.map (·.time))) :
    ∃ p, ps[i]? = some p ∧
      (inEffect (·.time) p.tempos τ).map (Tempo.setTime · 0) =
        (inEffect (·.time) s.tempos T).map (Tempo.setTime · 0) :=
  ⟨_, extract_piece hv h ha hb, extract_state_in_effect_float hR (fun e : Tempo => e.time)
    Tempo.setTime _ (fun _ _ => rfl) (fun _ _ => rfl) s.tempos a b τ T hc⟩

theorem extract_chords_in_effect_float (hc : Corr R a b τ T ((chords s).map (·.time))) :
    ∃ p, ps[i]? = some p ∧
      (inEffect (·.time) (chords p) τ).map (TextAnn.setTime · 0) =
        (inEffect (·.time) (chords s) T).map (TextAnn.setTime · 0) := by
  obtain ⟨p, hp, _, _, _, hch⟩ := state_pieces_spec hv h ha hb
  exact ⟨p, hp, hch ▸ extract_state_in_effect_float hR (fun e : TextAnn => e.time) TextAnn.setTime _
    (fun _ _ => rfl) (fun _ _ => rfl) (chords s) a b τ T hc⟩

/-- per `(instrument, control number)`: the pedal value in effect (all fields but the time); only the
events of that key need to correspond -/
theorem extract_pedal_in_effect_float (κ : PedalKey)
    (hc : Corr R a b τ T (((pedals preserve s).filter (fun e => decide (CC.key e = κ))).map (·.time))) :
    ∃ p, ps[i]? = some p ∧
      (inEffectKey p.ccs κ τ).map (CC.setTime · 0) =
        (inEffectKey (pedals preserve s) κ T).map (CC.setTime · 0) :=
  ⟨_, extract_piece hv h ha hb, specPedals_in_effect_R hR.mono hR.zero preserve s a b τ T κ hc.1 hc.2.1
    hc.2.2.1 fun e he hk => hc.2.2.2 e.time
      (List.mem_map_of_mem (List.mem_filter.mpr ⟨he, decide_eq_true hk⟩))⟩

end inEffectFloat

/-- unconditional float reading of "the state in effect at the corresponding instant": for EVERY
instant `T ∈ [a, b)` of the original, the state in effect in the piece at the shifted instant
`R (T - a)` is the original's state at an instant `T' ∈ [T, b)` with `R (T' - a) = R (T - a)`
(so `T' - T ≤ (T - a) · 2^-51`); and at the start of the piece it is exactly the state at the cut. -/
theorem extract_state_in_effect_rounded_float {α β : Type} (hR : Rounding R) (time : α → ℚ)
    (setTime : α → ℚ → α) (val : α → β)
    (htime : ∀ e t, time (setTime e t) = t) (hval : ∀ e t, val (setTime e t) = val e)
    (evs : List α) (a b : ℚ) :
    (a < b → (inEffect time (specState R time setTime evs a b) 0).map val = (inEffect time evs a).map val) ∧
    ∀ T, a ≤ T → T < b → ∃ T', T ≤ T' ∧ T' < b ∧ R (T' - a) = R (T - a) ∧
      T' - T ≤ (T - a) * (1 / 2 ^ 51) ∧
      (inEffect time (specState R time setTime evs a b) (R (T - a))).map val =
        (inEffect time evs T').map val := by
  obtain ⟨_, c2, _, c4⟩ := corresponding_instants_float hR a b (evs.map time)
  refine ⟨fun hab => extract_state_in_effect_float hR time setTime val htime hval evs a b 0 a (c2 hab), ?_⟩
  intro T hT hTb
  obtain ⟨T', h1, h2, h3, h4, h5⟩ := c4 T hT hTb
  exact ⟨T', h1, h2, h3, h4, extract_state_in_effect_float hR time setTime val htime hval evs a b _ T' h5⟩

/-- cut, two adjacent float64 times and two tempo events for `in_effect_exact_instant_fails_rne53` -/
def fxA : ℚ := 1 / 2 ^ 53
def fxT : ℚ := 1 + 1 / 2 ^ 51
def fxT' : ℚ := 1 + 1 / 2 ^ 51 + 1 / 2 ^ 52
def fxTempos : List Tempo := [⟨fxT, 100⟩, ⟨fxT', 140⟩]

/-- the exact-instant statement of the `R = id` theorems is FALSE in float64: cut at `a = 2^-53`, two
tempo events at the adjacent float64 times `t = 1 + 2^-51` and `t' = t + 2^-52`; both are stored at
`τ = t` in the piece, so the piece has the second tempo in effect at `τ` while the original still has
the first one at `a + τ` (`< t'`) -/
theorem in_effect_exact_instant_fails_rne53 :
    specState rne53 (·.time) Tempo.setTime fxTempos fxA 2 = [⟨fxT, 100⟩, ⟨fxT, 140⟩] ∧
    (inEffect (·.time) (specState rne53 (·.time) Tempo.setTime fxTempos fxA 2) fxT).map (·.qpm) = some 140 ∧
    (inEffect (·.time) fxTempos (fxA + fxT)).map (·.qpm) = some 100 ∧
    fxA + fxT < fxT' := by
  have hs : sortByRat (·.time) fxTempos = fxTempos := sortByRat_of_pairwise _ _ (by decide +kernel)
  have hspec : specState rne53 (·.time) Tempo.setTime fxTempos fxA 2 = [⟨fxT, 100⟩, ⟨fxT, 140⟩] := by
    rw [specState, hs]; decide +kernel
  have hs2 : sortByRat (·.time) ([⟨fxT, 100⟩, ⟨fxT, 140⟩] : List Tempo) = [⟨fxT, 100⟩, ⟨fxT, 140⟩] :=
    sortByRat_of_pairwise _ _ (by decide +kernel)
  refine ⟨hspec, ?_, ?_, by decide +kernel⟩
  · rw [hspec]; unfold inEffect; rw [hs2]; decide +kernel
  · unfold inEffect; rw [hs]; decide +kernel


/-- **float version of `split_hop_times`**, for every monotone rounding operator: the candidate loop
over the float candidates is a filter (a candidate is dropped iff `skip_splits_inside_notes` and some
note has `start < t < end`) -/
theorem split_hop_times_of_mono (hmono : ∀ x y, x ≤ y → R x ≤ R y) (preserve : List Int) (s : NoteSeq)
    (h : ℚ) (hh : 0 < h) (skip : Bool) :
    splitHopR R preserve s h skip =
      splitWith R preserve s ((hopTimesR R h s.totalTime).filter (keep skip s.notes)) := by
  rw [splitHopR, if_neg hh.ne', hopLoop_sortedNotes skip _ s (hopTimesR_sorted hmono h _ hh.le)]

theorem split_hop_times_float (hR : Rounding R) (preserve : List Int) (s : NoteSeq) (h : ℚ) (hh : 0 < h)
    (skip : Bool) :
    splitHopR R preserve s h skip =
      splitWith R preserve s ((hopTimesR R h s.totalTime).filter (keep skip s.notes)) :=
  split_hop_times_of_mono hR.mono preserve s h hh skip

/-- the compiled model (`rne53`, the one compared bit-exactly with the Python) -/
theorem split_hop_times_rne53 (s : NoteSeq) (h : ℚ) (hh : 0 < h) (skip : Bool) :
    splitHop s h skip =
      splitWith rne53 Gen.PRESERVE s ((hopTimesR rne53 h s.totalTime).filter (keep skip s.notes)) :=
  split_hop_times_float rounding_rne53 Gen.PRESERVE s h hh skip

/-- **float version of `hop_times_exact`**: which numbers the candidates are (index below the float
quotient `R (R (total - h) / h)`, value `R (h + R (i·h))`, positive), in weakly increasing order, and
strictly increasing when there are at most `2^51 + 1` of them -/
theorem hop_times_float (hR : Rounding R) (h total : ℚ) (hh : 0 < h) :
    (∀ t, t ∈ hopTimesR R h total ↔
      ∃ i : ℕ, (i : ℚ) < R (R (total - h) / h) ∧ t = R (h + R ((i : ℚ) * h))) ∧
    (∀ t ∈ hopTimesR R h total, 0 < t) ∧
    SortedLE (hopTimesR R h total) ∧
    ((hopTimesR R h total).length ≤ 2 ^ 51 + 1 → (hopTimesR R h total).Pairwise (fun x y => x < y)) := by
  refine ⟨mem_hopTimesR R h total, ?_, hopTimesR_sorted hR.mono h total hh.le,
    hopTimesR_strict hR h total hh⟩
  intro t ht
  obtain ⟨i, _, rfl⟩ := (mem_hopTimesR R h total t).mp ht
  exact hopCand_pos hR hh i

/-- candidate number `i`: within `2^-51` (relative) of the hop multiple `(i+1)·h`; strictly below
`total` unless it is the last one (index `< 2^51`); the last one is below `total·(1 + 2^-51)` — it can
equal or exceed `total` (`hop_last_eq_total_rne53`, `hop_last_gt_total_rne53`) -/
theorem hop_candidates_float (hR : Rounding R) (h total : ℚ) (hh : 0 < h) (i : ℕ) (t : ℚ)
    (ht : (hopTimesR R h total)[i]? = some t) :
    t = R (h + R ((i : ℚ) * h)) ∧
    |t - ((i : ℚ) + 1) * h| ≤ ((i : ℚ) + 1) * h * (1 / 2 ^ 51) ∧
    (i + 1 < (hopTimesR R h total).length → i + 1 ≤ 2 ^ 51 → t < total) ∧
    (i ≤ 2 ^ 53 → t < total * (1 + 1 / 2 ^ 51)) := by
  obtain ⟨hi, hget⟩ := List.getElem?_eq_some_iff.mp ht
  have ht' : t = R (h + R ((i : ℚ) * h)) := by
    have := hopTimesR_getElem? R h total i hi
    rw [ht] at this
    exact Option.some.inj this
  subst ht'
  refine ⟨rfl, hopCand_near hR hh i, ?_, ?_⟩
  · intro hlt hle
    rw [hopTimesR_length] at hlt
    exact hopCand_lt_total hR hh hle ((lt_hopLen_iff R h total (i + 1)).mp hlt)
  · intro hle
    rw [hopTimesR_length] at hi
    exact (hopCand_lt_total_near hR hh hle ((lt_hopLen_iff R h total i).mp hi)).2

/-- **splitting by a float hop size never raises**: for an unquantized sequence, `h > 0` and at most
`2^51 + 1` candidates, the vector handed to `_extract_subsequences` (`0`, the accepted float
candidates, and `total_time` if it lies beyond the last of them) is sorted with every entry but the
last `< total_time`, so the result is the list of closed-form pieces of consecutive entries. -/
theorem split_hop_ok_float (hR : Rounding R) (preserve : List Int) (s : NoteSeq) (h : ℚ) (hh : 0 < h)
    (skip : Bool) (hq : s.isQuantized = false)
    (hlen : (hopTimesR R h s.totalTime).length ≤ 2 ^ 51 + 1) :
    splitHopR R preserve s h skip =
      .ok ((pairs (splitVector s ((hopTimesR R h s.totalTime).filter (keep skip s.notes)))).map
        (specPiece R preserve s)) := by
  rw [split_hop_times_float hR preserve s h hh skip]
  obtain ⟨h1, h2⟩ := hop_vector_ok hR s h hh (keep skip s.notes) hlen
  exact splitWith_ok R preserve s _ hq h1 h2


-- the hypotheses are satisfiable: `rne53` is a `Rounding`, `exSeq` cut at `[1, 2, 3]` is valid
example : Rounding rne53 := rounding_rne53
example : ∃ ps, extractSubsequencesR rne53 Gen.PRESERVE exSeq [1, 2, 3] = .ok ps ∧ ps.length = 2 :=
  ⟨_, extract_eq_spec rne53 Gen.PRESERVE exSeq [1, 2, 3] ⟨by decide, by decide, by decide, by decide⟩,
    by simp [pairs]⟩
-- corresponding instants that are not the trivial ones: float64 cut `a = 0.1`, tempo at `0.3`,
-- piece instant `τ = rne53 (0.3 - 0.1)` corresponds to `T = 0.3`
example : Corr rne53 (3602879701896397 / 2 ^ 55) 1 (rne53 (5404319552844595 / 2 ^ 54 - 3602879701896397 / 2 ^ 55))
    (5404319552844595 / 2 ^ 54) [5404319552844595 / 2 ^ 54, 1 / 2] := by
  refine ⟨by decide +kernel, by decide +kernel, by decide +kernel, ?_⟩
  intro t ht _ _
  simp only [List.mem_cons, List.not_mem_nil, or_false] at ht
  rcases ht with rfl | rfl <;> decide +kernel
-- a float hop size with a non-trivial candidate vector inside the bound of `split_hop_ok_float`
example : (0 : ℚ) < 3 / 4 ∧ exSeq.isQuantized = false ∧
    hopTimesR rne53 (3 / 4) exSeq.totalTime = [3 / 4, 3 / 2, 9 / 4] ∧
    (hopTimesR rne53 (3 / 4) exSeq.totalTime).length ≤ 2 ^ 51 + 1 := by decide +kernel
example : (hopTimesR rne53 (3 / 4) 3)[1]? = some (3 / 2) ∧ 1 + 1 < (hopTimesR rne53 (3 / 4) 3).length := by
  decide +kernel
-- a note that satisfies the hypotheses of `clipR_order_float`
example : (1 : ℚ) ≤ (exNote 64 (3/2) 3).start ∧ (exNote 64 (3/2) 3).start < 2 ∧
    (exNote 64 (3/2) 3).start ≤ (exNote 64 (3/2) 3).end_ := by decide +kernel


/-- `split_note_sequence_on_silence` decides with `start > R (last + gap)`.  For a double `start` (`R start = start`)
that IS the exact-arithmetic statement "the onset comes after more than `gap` of silence", with one exception:
the onset is the very double the sum `last + gap` rounds UP to (then the code does not split although the real
silence exceeds the gap by less than the rounding of the sum). -/
theorem silence_decision_float (hR : Rounding R) (start last gap : ℚ) (hs : R start = start) :
    (start > R (last + gap) ↔ start > last + gap) ∨ (start = R (last + gap) ∧ last + gap < start) := by
  by_cases h : start = R (last + gap) ∧ last + gap < start
  · exact Or.inr h
  · left
    constructor
    · intro h1
      by_contra h2
      have := hR.mono _ _ (not_lt.mp h2)
      rw [hs] at this
      exact absurd h1 (not_lt.mpr this)
    · intro h1
      have h2 := hR.mono _ _ h1.le
      rw [hs] at h2
      rcases h2.lt_or_eq with h3 | h3
      · exact h3
      · exact absurd ⟨h3.symm, h1⟩ h

/-- every silence decision of the loop, hence every split point of `split_silence_times`, obeys it; in particular an
onset that is NOT the rounded sum is a split point iff it really follows more than `gap` of silence -/
theorem silence_decision_float_of_ne (hR : Rounding R) (start last gap : ℚ) (hs : R start = start)
    (hne : start ≠ R (last + gap)) : start > R (last + gap) ↔ start > last + gap := by
  rcases silence_decision_float hR start last gap hs with h | h
  · exact h
  · exact absurd h.1 hne

def fxLast : ℚ := 3602879701896397 / 18014398509481984     -- 0.2
def fxGap : ℚ := 3152519739159347 / 4503599627370496        -- 0.7
def fxOnset : ℚ := 8106479329266893 / 9007199254740992      -- 0.9
def fxLast' : ℚ := 3602879701896397 / 36028797018963968    -- 0.1
def fxGap' : ℚ := 3602879701896397 / 18014398509481984     -- 0.2
def fxOnset' : ℚ := 1351079888211149 / 4503599627370496    -- 0.30000000000000004

/-- the reordered test `R (start - last) > gap` is NOT the same decision in float64: notes ending at 0.2, gap 0.7,
onset 0.9 — the real silence 0.9 - 0.2 exceeds 0.7 (by 2^-54) and the code splits, the reordered test does not -/
theorem silence_reordered_differs_rne53 :
    rne53 fxOnset = fxOnset ∧ fxOnset > fxLast + fxGap ∧ fxOnset > rne53 (fxLast + fxGap) ∧
    ¬ rne53 (fxOnset - fxLast) > fxGap := by decide +kernel

/-- the exceptional case of `silence_decision_float` occurs in float64: last end 0.1, gap 0.2, onset
0.30000000000000004 = the double 0.1 + 0.2 rounds up to; the real silence exceeds the gap, the code does not split -/
theorem silence_rounded_sum_case_rne53 :
    rne53 fxOnset' = fxOnset' ∧ fxOnset' = rne53 (fxLast' + fxGap') ∧ fxLast' + fxGap' < fxOnset' ∧
    ¬ fxOnset' > rne53 (fxLast' + fxGap') := by decide +kernel

example : (3 : ℚ) > rne53 (1 + 1) ↔ (3 : ℚ) > 1 + 1 :=
  silence_decision_float_of_ne rounding_rne53 3 1 1 (by decide +kernel) (by decide +kernel)

end NSV.C02

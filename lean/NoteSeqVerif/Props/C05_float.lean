import NoteSeqVerif.Proofs.C05Float
import NoteSeqVerif.Props.C05
/-! C05 — the timing clause IN FLOATING POINT.

`Props/C05.lean` proves the timing clause for exact arithmetic (`R = id`).  Here `R` is any rounding operator
with the algebraic facts of `Proofs/Rounding.lean` (`Rounding R`: monotone, odd, idempotent, exact on
`n·2^k` with `|n| ≤ 2^53` for every integer `k` — no overflow or underflow is modelled —, relative error
`≤ 2^-53`); the executable `rne53`, which the compiled driver runs and which is compared bit for bit with CPython
on every run, is one (`rounding_rne53`).  The parser computes

    seconds = R (R (R (d · R (PPQ / divisions)) / PPQ) · R (60 / qpm))        -- 5 roundings
    cursor' = R (cursor ± seconds)                                           -- 1 more per move

Like `mxml_time_partial`, every theorem takes the context `c` the part starts in (`InvF R st c`: the parser state
follows `c`, with `seconds_per_quarter = R (60 / qpm)`): `mxml_float_part_start` gives it for every part — the
context the parts before left behind, tempo included (open finding F-C05-4) — `mxml_float_first_part` for the
first part (`Ctx.init`) and `mxml_float_later_part_partial` for later parts of a score with one tempo. -/
namespace NSV.C05

/-- every part, every `R`: the state it is parsed from follows the context the parts before it left behind
(`scoreCtx`, divisions AND tempo — the tempo half is the open finding F-C05-4); `total_time` is at least its
final cursor -/
theorem mxml_float_part_start {R : ℚ → ℚ} (hR : Rounding R) {sps : List ScorePartEl} {before after : List PartEl}
    {p : PartEl} {r : PState × ℚ × List (List MState)}
    (h : parseParts R sps PState.init 0 (before ++ p :: after) = .ok r) :
    ∃ stb st' msb ms msa, InvF R stb (scoreCtx Ctx.init before) ∧ parsePart R sps stb p = .ok (st', ms) ∧
      r.2.2 = msb ++ ms :: msa ∧ msb.length = before.length ∧ st'.tp ≤ r.2.1 ∧ 0 ≤ r.2.1 :=
  parseParts_float (InvF.init hR) h

/-- the first part is parsed from the initial state: default context (divisions 1, 120 qpm, `spq = 1/2`
exactly), cursor 0, no previous note -/
theorem mxml_float_first_part {R : ℚ → ℚ} (hR : Rounding R) {sps : List ScorePartEl} {p : PartEl}
    {after : List PartEl} {r : PState × ℚ × List (List MState)}
    (h : parseParts R sps PState.init 0 (p :: after) = .ok r) :
    ∃ st' ms msa, parsePart R sps PState.init p = .ok (st', ms) ∧ r.2.2 = ms :: msa ∧
      InvF R PState.init Ctx.init ∧ 0 < Ctx.init.div ∧ 0 < Ctx.init.qpm ∧ Safe R PState.init ∧ st'.tp ≤ r.2.1 := by
  obtain ⟨st1, ms, r', h1, h2, e1, e2⟩ := parseParts_cons h
  refine ⟨st1, ms, r'.2.2, h1, e1, InvF.init hR, (Base.init hR).div, (Base.init hR).qpm, Safe.init hR, ?_⟩
  have := parseParts_total_le _ _ _ _ h2
  rw [e2]
  split at this <;> linarith

/-- LATER PARTS, partial (excluded class = F-C05-4), every `R`: when the score has one tempo — the first part's
tempo marks all stand before its first cursor move (`lead`), no other part before `p` has a tempo mark — part `p`
is parsed from a state that follows a context with that tempo `(ctxAfter Ctx.init lead).qpm`.  (That `lead` makes
no cursor move is what makes this "the tempo at every position"; the statement itself holds for any split
`lead ++ rest` with `rest` free of tempo marks, so unlike `mxml_time_later_part_partial` it has no `hlead`.) -/
theorem mxml_float_later_part_partial {R : ℚ → ℚ} (hR : Rounding R) {sps : List ScorePartEl} {p0 p : PartEl}
    {mid after : List PartEl} {lead rest : List El} {r : PState × ℚ × List (List MState)}
    (h0 : partEls p0 = lead ++ rest) (hrest : ∀ e ∈ rest, tempoFree e = true)
    (hmid : ∀ q ∈ mid, ∀ e ∈ partEls q, tempoFree e = true)
    (h : parseParts R sps PState.init 0 (p0 :: mid ++ p :: after) = .ok r) :
    ∃ stp st' ms div, InvF R stp ⟨div, (ctxAfter Ctx.init lead).qpm⟩ ∧
      parsePart R sps stp p = .ok (st', ms) ∧ ms ∈ r.2.2 ∧ st'.tp ≤ r.2.1 := by
  have h' : parseParts R sps PState.init 0 ((p0 :: mid) ++ p :: after) = .ok r := by simpa using h
  obtain ⟨stb, st', msb, ms, msa, i, hp, e, l, ht, _⟩ := mxml_float_part_start hR h'
  rw [scoreCtx_one_tempo h0 hrest hmid] at i
  exact ⟨stb, st', ms, _, i, hp, by rw [e]; simp, ht⟩

/-- TIMING IN FLOATING POINT, next to `mxml_time_partial`.  Part `p` is parsed in float arithmetic from a state
that follows the context `c` (positive divisions and tempo).  For the `<note>` standing after `before` (whole
measures) and `pre` (elements of its measure), if that run is well-formed (durations `≥ 0`, declared divisions
`> 0`, declared tempos `≥ 0`), has no `<backup>`, and makes `k` cursor moves with `(k+6)(k+7) ≤ 2^53`
(`k ≤ 9.4·10^7`): a note that is not a chord note and declares `<duration> d ≥ 0` has

* onset within RELATIVE error `(k+6)·2^-53` of the declared onset `specCursor c (…)` of `mxml_time_partial`,
* length within relative error `6·2^-53` of the declared `d / divisions · 60 / qpm`,
* and the reader reports `start_time` = that onset and an `end_time` within `(k+7)·2^-53` of the declared end. -/
theorem mxml_time_float {R : ℚ → ℚ} (hR : Rounding R) {sps : List ScorePartEl} {st st' : PState} {p : PartEl}
    {ms : List MState} {c : Ctx} (hinv : InvF R st c) (hdiv : 0 < c.div) (hqpm : 0 < c.qpm)
    (h : parsePart R sps st p = .ok (st', ms))
    {before after : List (List El)} {els pre post : List El} {n : NoteEl}
    (hp : p.measures = before ++ els :: after) (hsplit : repairMeasure els = pre ++ .note n :: post)
    (hrun : ∀ e ∈ flatEls before ++ pre, wfEl e = true ∧ noBackup e = true)
    (hN : (moves (flatEls before ++ pre) + 6) * (moves (flatEls before ++ pre) + 7) ≤ 2 ^ 53) :
    ∃ mi pn, ms[before.length]? = some mi ∧ mi.notes[(pre.filter isNote).length]? = some pn ∧
      ∀ d, n.chord = false → n.duration = some d → 0 ≤ d →
        |pn.time - specCursor c (flatEls before ++ pre)| ≤
          specCursor c (flatEls before ++ pre) * (((moves (flatEls before ++ pre) : ℚ) + 6) / 2 ^ 53) ∧
        |pn.seconds - secs (ctxAfter c (flatEls before ++ pre)) d| ≤
          secs (ctxAfter c (flatEls before ++ pre)) d * (6 / 2 ^ 53) ∧
        0 ≤ pn.time ∧
        ∀ part x, readerNote R part pn = .ok x → x.start = pn.time ∧
          |x.end_ - (specCursor c (flatEls before ++ pre) + secs (ctxAfter c (flatEls before ++ pre)) d)| ≤
            (specCursor c (flatEls before ++ pre) + secs (ctxAfter c (flatEls before ++ pre)) d) *
              (((moves (flatEls before ++ pre) : ℚ) + 7) / 2 ^ 53) := by
  obtain ⟨mi, pn, hi1, hi2, hf⟩ := note_time_fun hinv h hp hsplit
  obtain ⟨hpos, hn⟩ := fcursor_near hR ⟨hdiv, hqpm⟩ hrun
  refine ⟨mi, pn, hi1, hi2, ?_⟩
  intro d hc hd hd0
  obtain ⟨t0, hsec⟩ := hf d hc hd
  rw [← t0] at hn
  have hN1 : (moves (flatEls before ++ pre) + 5) * (moves (flatEls before ++ pre) + 5 + 1) ≤ 2 ^ 53 :=
    Nat.le_trans (Nat.mul_le_mul (by omega) (by omega)) hN
  have e1 := hn.abs_le (by norm_num) hN1
  have e2 := hpos.sec_abs hR hd0
  have hend := rel_step hR hn (hpos.sec_near hR hd0)
  have e3 := hend.abs_le (by norm_num) (by
    have : moves (flatEls before ++ pre) + 1 + 5 = moves (flatEls before ++ pre) + 6 := by omega
    rw [this]; exact hN)
  rw [← hsec] at e2 e3
  have hpos : 0 ≤ pn.time := hn.nonneg
  refine ⟨?_, ?_, hpos, ?_⟩
  · calc _ ≤ _ := e1
      _ = _ := by push_cast; ring
  · calc _ ≤ _ := e2
      _ = _ := by unfold u53 secs; ring
  · intro part x hx
    obtain ⟨hs, he⟩ := readerNote_times hx hpos
    refine ⟨hs, ?_⟩
    rw [he]
    calc _ ≤ _ := e3
      _ = _ := by unfold secs; push_cast; ring

/-- the final cursor of a part without `<backup>`, `k` moves in all: relative error `(k+6)·2^-53` -/
theorem mxml_cursor_float {R : ℚ → ℚ} (hR : Rounding R) {sps : List ScorePartEl} {st st' : PState} {p : PartEl}
    {ms : List MState} {c : Ctx} (hinv : InvF R st c) (hdiv : 0 < c.div) (hqpm : 0 < c.qpm)
    (h : parsePart R sps st p = .ok (st', ms))
    (hrun : ∀ e ∈ partEls p, wfEl e = true ∧ noBackup e = true)
    (hN : (moves (partEls p) + 5) * (moves (partEls p) + 6) ≤ 2 ^ 53) :
    |st'.tp - specCursor c (partEls p)| ≤ specCursor c (partEls p) * (((moves (partEls p) : ℚ) + 6) / 2 ^ 53) ∧
    0 ≤ st'.tp := by
  obtain ⟨_, hn⟩ := fcursor_near hR ⟨hdiv, hqpm⟩ hrun
  rw [← (parsePart_cur hinv h).2] at hn
  refine ⟨?_, hn.nonneg⟩
  calc _ ≤ _ := hn.abs_le (by norm_num) hN
    _ = _ := by push_cast; ring

/-- WITH `<backup>` the bound is absolute, relative to the largest cursor of the run.  If the run before the
`<note>` is well-formed, every EXACT cursor reached in it (`specCursor c a` for every prefix `a`) lies in `[0, M]`,
and it makes `k` moves (forward or back) with `8k + 6 ≤ 2^53`, then the note's float onset is within
`8·k·2^-53·M` of the declared onset, so is the `start_time` the reader reports (which clamps at 0), and its
length is within relative error `6·2^-53` of the declared length. -/
theorem mxml_time_float_backup {R : ℚ → ℚ} (hR : Rounding R) {sps : List ScorePartEl} {st st' : PState}
    {p : PartEl} {ms : List MState} {c : Ctx} (hinv : InvF R st c) (hdiv : 0 < c.div) (hqpm : 0 < c.qpm)
    (h : parsePart R sps st p = .ok (st', ms))
    {before after : List (List El)} {els pre post : List El} {n : NoteEl} {M : ℚ}
    (hp : p.measures = before ++ els :: after) (hsplit : repairMeasure els = pre ++ .note n :: post)
    (hwf : ∀ e ∈ flatEls before ++ pre, wfEl e = true)
    (hM : ∀ a b, flatEls before ++ pre = a ++ b → 0 ≤ specCursor c a ∧ specCursor c a ≤ M)
    (hk : 8 * moves (flatEls before ++ pre) + 6 ≤ 2 ^ 53) :
    ∃ mi pn, ms[before.length]? = some mi ∧ mi.notes[(pre.filter isNote).length]? = some pn ∧
      ∀ d, n.chord = false → n.duration = some d → 0 ≤ d →
        |pn.time - specCursor c (flatEls before ++ pre)| ≤ 8 * (moves (flatEls before ++ pre) : ℚ) / 2 ^ 53 * M ∧
        |pn.seconds - secs (ctxAfter c (flatEls before ++ pre)) d| ≤
          secs (ctxAfter c (flatEls before ++ pre)) d * (6 / 2 ^ 53) ∧
        ∀ part x, readerNote R part pn = .ok x →
          |x.start - specCursor c (flatEls before ++ pre)| ≤ 8 * (moves (flatEls before ++ pre) : ℚ) / 2 ^ 53 * M := by
  obtain ⟨mi, pn, hi1, hi2, hf⟩ := note_time_fun hinv h hp hsplit
  obtain ⟨hpos, hE⟩ := fcursor_abs hR ⟨hdiv, hqpm⟩ hwf hM hk
  have ht := (hM _ [] (List.append_nil _).symm).1
  refine ⟨mi, pn, hi1, hi2, ?_⟩
  intro d hc hd hd0
  obtain ⟨t0, hsec⟩ := hf d hc hd
  have e2 := hpos.sec_abs hR hd0
  rw [← hsec] at e2
  rw [← t0] at hE
  have hE' : |pn.time - specCursor c (flatEls before ++ pre)| ≤
      8 * (moves (flatEls before ++ pre) : ℚ) / 2 ^ 53 * M := by
    calc _ ≤ _ := hE
      _ = _ := by unfold u53; ring
  refine ⟨hE', ?_, ?_⟩
  · calc _ ≤ _ := e2
      _ = _ := by unfold u53 secs; ring
  · intro part x hx
    obtain ⟨_, _, _, _, _, _, hs, _, _⟩ := readerNote_fields hx
    rw [hs]
    split
    · rename_i hneg
      -- a negative onset is clamped to 0, which is nearer to the declared onset `≥ 0`
      refine le_trans ?_ hE'
      rw [zero_sub, abs_neg, abs_of_nonneg ht, abs_sub_comm]
      exact le_trans (by linarith only [hneg]) (le_abs_self _)
    · exact hE'

/-- the final cursor of any well-formed part (with `<backup>`s), `k` moves in all -/
theorem mxml_cursor_float_backup {R : ℚ → ℚ} (hR : Rounding R) {sps : List ScorePartEl} {st st' : PState}
    {p : PartEl} {ms : List MState} {c : Ctx} (hinv : InvF R st c) (hdiv : 0 < c.div) (hqpm : 0 < c.qpm)
    (h : parsePart R sps st p = .ok (st', ms)) {M : ℚ}
    (hwf : ∀ e ∈ partEls p, wfEl e = true)
    (hM : ∀ a b, partEls p = a ++ b → 0 ≤ specCursor c a ∧ specCursor c a ≤ M)
    (hk : 8 * moves (partEls p) + 6 ≤ 2 ^ 53) :
    |st'.tp - specCursor c (partEls p)| ≤ 8 * (moves (partEls p) : ℚ) / 2 ^ 53 * M := by
  have hE := (fcursor_abs hR ⟨hdiv, hqpm⟩ hwf hM hk).2
  rw [← (parsePart_cur hinv h).2] at hE
  calc _ ≤ _ := hE
    _ = _ := by unfold u53; ring

/-- EXACT CASE.  The part starts in a context with divisions a power of two and tempo `60·2^i` qpm (`DyCtx`:
… 30, 60, 120, 240 …, also 7.5 or 960); in the run before the `<note>` declared divisions are powers of two,
declared tempos are `60·2^i` (or 0 = default 120), durations `d ≥ 0` have `d · STANDARD_PPQ ≤ 2^53`, and every
exact cursor reached is representable (`n·2^k`, `|n| ≤ 2^53`).  Then NO float operation rounds: the note's onset
EQUALS the declared onset of `mxml_time_partial`, its length the declared length, and the reader's
`start_time` / `end_time` are the declared ones (when the declared end is representable too). -/
theorem mxml_time_float_exact_dyadic {R : ℚ → ℚ} (hR : Rounding R) {sps : List ScorePartEl} {st st' : PState}
    {p : PartEl} {ms : List MState} {c : Ctx} (hinv : InvF R st c) (hdy : DyCtx c)
    (h : parsePart R sps st p = .ok (st', ms))
    {before after : List (List El)} {els pre post : List El} {n : NoteEl}
    (hp : p.measures = before ++ els :: after) (hsplit : repairMeasure els = pre ++ .note n :: post)
    (hel : ∀ e ∈ flatEls before ++ pre, dyEl e)
    (hrep : ∀ a b, flatEls before ++ pre = a ++ b → Repr53 (specCursor c a)) :
    ∃ mi pn, ms[before.length]? = some mi ∧ mi.notes[(pre.filter isNote).length]? = some pn ∧
      ∀ d, n.chord = false → n.duration = some d →
        pn.time = specCursor c (flatEls before ++ pre) ∧
        (dyDur d → pn.seconds = secs (ctxAfter c (flatEls before ++ pre)) d ∧
          (0 ≤ specCursor c (flatEls before ++ pre) →
           Repr53 (specCursor c (flatEls before ++ pre) + secs (ctxAfter c (flatEls before ++ pre)) d) →
           ∀ part x, readerNote R part pn = .ok x → x.start = specCursor c (flatEls before ++ pre) ∧
             x.end_ = specCursor c (flatEls before ++ pre) + secs (ctxAfter c (flatEls before ++ pre)) d)) := by
  obtain ⟨mi, pn, hi1, hi2, hf⟩ := note_time_fun hinv h hp hsplit
  obtain ⟨hdy', ht⟩ := fcursor_exact hR hdy hel hrep
  refine ⟨mi, pn, hi1, hi2, ?_⟩
  intro d hc hd
  obtain ⟨t0, hsec⟩ := hf d hc hd
  refine ⟨t0.trans ht, fun hdd => ?_⟩
  have hs : pn.seconds = secs (ctxAfter c (flatEls before ++ pre)) d := hsec.trans (hdy'.secF hR hdd)
  refine ⟨hs, fun h0 hr part x hx => ?_⟩
  obtain ⟨hst, he⟩ := readerNote_times hx (by rw [t0, ht]; exact h0)
  rw [he, hst, t0, ht, hs]
  exact ⟨rfl, hr.fix hR⟩

/-- the final cursor of a dyadic part (with or without `<backup>`) is the exact final cursor -/
theorem mxml_cursor_float_exact_dyadic {R : ℚ → ℚ} (hR : Rounding R) {sps : List ScorePartEl} {st st' : PState}
    {p : PartEl} {ms : List MState} {c : Ctx} (hinv : InvF R st c) (hdy : DyCtx c)
    (h : parsePart R sps st p = .ok (st', ms)) (hel : ∀ e ∈ partEls p, dyEl e)
    (hrep : ∀ a b, partEls p = a ++ b → Repr53 (specCursor c a)) :
    st'.tp = specCursor c (partEls p) ∧ DyCtx (ctxAfter c (partEls p)) := by
  obtain ⟨a, b⟩ := fcursor_exact hR hdy hel hrep
  exact ⟨(parsePart_cur hinv h).2.trans b, a⟩

/-- ONE ELEMENT, every `Rounding R`: from a state whose cursor is a non-negative float, a well-formed element whose
`<backup>` (if it is one) fits leaves the cursor a non-negative float; and unless it is a `<backup>` the cursor
does not decrease — `R (cursor + seconds) ≥ R cursor = cursor` because `seconds ≥ 0` as computed -/
theorem mxml_float_step {R : ℚ → ℚ} (hR : Rounding R) {st st' : PState} {m m' : MState} {e : El} {c : Ctx}
    (hinv : InvF R st c) (hdiv : 0 < c.div) (hqpm : 0 < c.qpm) (hs : Safe R st) (hwf : wfEl e = true)
    (hfit : backupFits R st e) (h : parseEl R st m e = .ok (st', m')) :
    Safe R st' ∧ InvF R st' (ctxStep c e) ∧ (noBackup e = true → st.tp ≤ st'.tp) := by
  obtain ⟨a, b, _, _, _, d, _⟩ := safe_step hR (Base.mk hinv hdiv hqpm) hs hwf hfit h
  exact ⟨b, a.inv, d⟩

/-- the cursor when any element of a run is read is a non-negative float, provided the elements before it are
well-formed and every `<backup>` among them fits (`elsFit … backupFits`: the seconds computed for it do not
exceed the cursor it is applied to) -/
theorem mxml_float_cursor {R : ℚ → ℚ} (hR : Rounding R) {pre post : List El} {e : El} {st st' : PState}
    {m m' : MState} {c : Ctx} (hinv : InvF R st c) (hdiv : 0 < c.div) (hqpm : 0 < c.qpm) (hs : Safe R st)
    (hwf : ∀ x ∈ pre, wfEl x = true) (hfit : elsFit R (backupFits R) st m pre)
    (h : parseEls R st m (pre ++ e :: post) = .ok (st', m')) :
    ∃ st1 m1, parseEls R st m pre = .ok (st1, m1) ∧ 0 ≤ st1.tp ∧ R st1.tp = st1.tp ∧
      InvF R st1 (ctxAfter c pre) ∧ ∀ pn ∈ m1.notes, pn ∈ m.notes ∨ (R pn.time = pn.time ∧ 0 ≤ pn.time ∧ 0 ≤ pn.seconds) := by
  obtain ⟨st1, m1, h1, _⟩ := parseEls_append h
  let S := simSafe R hR
  have hP0 : S.P c st := ⟨Base.mk hinv hdiv hqpm, hs⟩
  obtain ⟨hP, new, hnew, hq⟩ := S.els pre hP0 (S.elsOK_of
    (fun _ _ _ a b => ⟨a, b⟩) pre _ _ _ hwf hfit) h1
  refine ⟨st1, m1, h1, hP.2.nonneg, hP.2.fix, hP.1.inv, ?_⟩
  intro pn hpn
  rw [hnew] at hpn
  rcases List.mem_append.mp hpn with hx | hx
  · exact Or.inl hx
  · exact Or.inr (hq pn hx)

/-- A WHOLE PART, every `Rounding R`.  The part is parsed from a state that follows `c` and whose cursor and
previous-note onset are non-negative floats (`Safe`; true of the initial state), its elements are well-formed,
and every `<backup>` fits (`measuresFit … backupFits`).  Then the final state is again such a state, and every
note of the part has an onset that is a non-negative float and a length `duration / divisions · 60 / qpm` that
AS COMPUTED is `≥ 0`; the reader reports `start_time` = that onset and an `end_time ≥ start_time`. -/
theorem mxml_float_structure {R : ℚ → ℚ} (hR : Rounding R) {sps : List ScorePartEl} {st st' : PState} {p : PartEl}
    {ms : List MState} {c : Ctx} (hinv : InvF R st c) (hdiv : 0 < c.div) (hqpm : 0 < c.qpm) (hs : Safe R st)
    (hwf : ∀ e ∈ partEls p, wfEl e = true)
    (hfit : measuresFit R (backupFits R) (partStart sps st p) p.measures)
    (h : parsePart R sps st p = .ok (st', ms)) :
    InvF R st' (ctxAfter c (partEls p)) ∧ 0 < (ctxAfter c (partEls p)).div ∧ 0 < (ctxAfter c (partEls p)).qpm ∧
    Safe R st' ∧
    ∀ mi ∈ ms, ∀ pn ∈ mi.notes, R pn.time = pn.time ∧ 0 ≤ pn.time ∧ 0 ≤ pn.seconds ∧
      ∀ part x, readerNote R part pn = .ok x → x.start = pn.time ∧ x.start ≤ x.end_ := by
  unfold parsePart at h
  let S := simSafe R hR
  have hP0 : S.P c (partStart sps st p) := ⟨(Base.mk hinv hdiv hqpm).partStart sps p, hs.partStart hR sps p⟩
  obtain ⟨hP, hq⟩ := S.measures p.measures hP0 (S.measuresOK_of
    (fun _ _ _ a b => ⟨a, b⟩) _ _ _ hwf hfit) h
  refine ⟨hP.1.inv, hP.1.div, hP.1.qpm, hP.2, ?_⟩
  intro mi hmi pn hpn
  obtain ⟨q1, q2, q3⟩ := hq mi hmi pn hpn
  refine ⟨q1, q2, q3, ?_⟩
  intro part x hx
  obtain ⟨hst, he⟩ := readerNote_times hx q2
  refine ⟨hst, ?_⟩
  rw [he, hst]
  have := hR.mono pn.time (pn.time + pn.seconds) (by linarith)
  rwa [q1] at this

/-- ORDER, every `Rounding R`: in a well-formed part without `<backup>` and without grace notes, for the `<note>`
standing after `before` and `pre`, not a chord note: every note after it — in its measure (`later`) and in all
later measures (`msa`) — has an onset `≥` its onset (the float cursor never moves back), the reader's
`end_time` of the note is `≥` its `start_time`, and the final cursor of the part is `≥` that `end_time`. -/
theorem mxml_float_monotone {R : ℚ → ℚ} (hR : Rounding R) {sps : List ScorePartEl} {st st' : PState} {p : PartEl}
    {ms : List MState} {c : Ctx} (hinv : InvF R st c) (hdiv : 0 < c.div) (hqpm : 0 < c.qpm) (hs : Safe R st)
    (hel : ∀ e ∈ partEls p, wfEl e = true ∧ noBackup e = true ∧ noGrace e = true)
    (h : parsePart R sps st p = .ok (st', ms))
    {before after : List (List El)} {els pre post : List El} {n : NoteEl}
    (hp : p.measures = before ++ els :: after) (hsplit : repairMeasure els = pre ++ .note n :: post) :
    ∃ msb mi msa earlier pn later, ms = msb ++ mi :: msa ∧ msb.length = before.length ∧
      mi.notes = earlier ++ pn :: later ∧ earlier.length = (pre.filter isNote).length ∧
      ∀ d, n.chord = false → n.duration = some d →
        (∀ pn' ∈ later, pn.time ≤ pn'.time) ∧ (∀ mk ∈ msa, ∀ pn' ∈ mk.notes, pn.time ≤ pn'.time) ∧
        pn.time ≤ st'.tp ∧
        ∀ part x, readerNote R part pn = .ok x → x.start = pn.time ∧ x.start ≤ x.end_ ∧ x.end_ ≤ st'.tp := by
  have hpe : partEls p = flatEls before ++ (pre ++ El.note n :: post) ++ flatEls after := by
    rw [partEls, hp, flatEls_append, flatEls_cons, hsplit]; simp [List.append_assoc]
  unfold parsePart at h
  rw [hp] at h
  obtain ⟨s⟩ := note_at h hsplit
  refine ⟨s.msb, s.mi, s.msa, s.ma.notes, s.pn, s.later, s.ms_eq, s.msb_len, s.mi_notes, s.ma_len, ?_⟩
  intro d hc hd
  -- up to the note
  let S0 := simMono R hR 0 0 (le_refl _)
  have hP0 : S0.P c (partStart sps st p) :=
    ⟨(Base.mk hinv hdiv hqpm).partStart sps p, hs.partStart hR sps p, le_refl _, fun pd pt hpr => (hs.prev pd pt hpr).2.2⟩
  have hPa := S0.upto hP0
    (fun e he _ _ => hel e (by rw [hpe]; rcases List.mem_append.mp he with hx | hx <;> simp [hx])) s.before_ok s.pre_ok
  obtain ⟨hba, hsa, _, _⟩ := hPa
  have hne := hel (.note n) (by rw [hpe]; simp)
  obtain ⟨hbb, hsb, _, _, _, hmono, _⟩ :=
    safe_step hR hba hsa hne.1 (backupFits_of_noBackup R s.sa hne.2.1) s.el_ok
  have hmono : s.sa.tp ≤ s.st1.tp := hmono hne.2.1
  obtain ⟨_, _, g3⟩ := parseNote_float s.note_ok
  obtain ⟨e1, t0, _, _⟩ := g3 d hd hc
  have hsbtp : s.st1.tp = R (s.sa.tp + s.pn.seconds) := by rw [e1]
  -- from the note on
  let S1 := simMono R hR s.sa.tp s.st1.tp hmono
  let g1 : Ctx := ctxStep (S0.run c (flatEls before ++ pre)) (.note n)
  have hP1 : S1.P g1 { s.st1 with prev := some (s.pn.duration, s.pn.time) } :=
    ⟨hbb, hsb, le_refl _, fun pd pt hpr => by
      simp only [Option.some.injEq, Prod.mk.injEq] at hpr
      rw [← hpr.2, t0]⟩
  obtain ⟨hPc, new, hnew, hqnew⟩ := S1.elems hP1 (fun e he _ _ => hel e (by rw [hpe]; simp [he])) s.post_ok
  obtain rfl : new = s.later := List.append_cancel_left (hnew.symm.trans s.mc_notes)
  obtain ⟨hPe, hqa⟩ := S1.whole (S1.ts s.ts hPc)
    (fun e he _ _ => hel e (by rw [hpe]; exact List.mem_append_right _ he)) s.after_ok
  have hfin : s.st1.tp ≤ st'.tp := hPe.2.2.1
  refine ⟨fun pn' hpn' => by rw [t0]; exact (hqnew pn' hpn').2,
    fun mk hmk pn' hpn' => by rw [t0]; exact (hqa mk hmk pn' hpn').2, by rw [t0]; linarith, ?_⟩
  intro part x hx
  obtain ⟨hst, he⟩ := readerNote_times hx (by rw [t0]; exact hsa.nonneg)
  rw [he, hst, t0, ← hsbtp]
  exact ⟨rfl, hmono, hfin⟩

/-- `total_time` is at least every note end the reader computes — for the notes (not chord notes) of the FIRST part of
a score when that part is well-formed and has no `<backup>` and no grace notes.  (With `<backup>` this is false in
floating point: the second voice may end one ulp before the first.) -/
theorem mxml_float_total_first_part {R : ℚ → ℚ} (hR : Rounding R) {sc : Score} {d : Doc} {p : PartEl}
    {rest : List PartEl} (hparts : sc.parts = p :: rest)
    (hel : ∀ e ∈ partEls p, wfEl e = true ∧ noBackup e = true ∧ noGrace e = true)
    (h : parseDoc R sc = .ok d)
    {before after : List (List El)} {els pre post : List El} {n : NoteEl}
    (hp : p.measures = before ++ els :: after) (hsplit : repairMeasure els = pre ++ .note n :: post) :
    ∃ ms msr mi pn, d.parts = ms :: msr ∧ ms[before.length]? = some mi ∧
      mi.notes[(pre.filter isNote).length]? = some pn ∧
      ∀ dd, n.chord = false → n.duration = some dd →
        ∀ part x, readerNote R part pn = .ok x → x.start ≤ x.end_ ∧ x.end_ ≤ d.total := by
  unfold parseDoc at h
  split at h
  · contradiction
  · rename_i stf total parts hpp
    simp only [Except.ok.injEq] at h
    subst h
    rw [hparts] at hpp
    obtain ⟨st', ms, msa, h1, h2, hinv, hdiv, hqpm, hs, hle⟩ := mxml_float_first_part hR hpp
    obtain ⟨msb, mi, msa', earlier, pn, later, e1, l1, e2, l2, hall⟩ :=
      mxml_float_monotone hR hinv hdiv hqpm hs hel h1 hp hsplit
    refine ⟨ms, msa, mi, pn, h2, by rw [e1]; exact idx_mid _ _ _ _ l1.symm, by rw [e2]; exact idx_mid _ _ _ _ l2.symm, ?_⟩
    intro dd hc hd part x hx
    obtain ⟨_, _, _, hr⟩ := hall dd hc hd
    obtain ⟨_, a, b⟩ := hr part x hx
    exact ⟨a, b.trans hle⟩

/-! ## non-vacuity, on the executable model `rne53` (the arithmetic that is compared bit for bit with CPython) -/

/-- quarters at 90 qpm, divisions 2: a quarter lasts `2/3` s, which binary64 does not hold -/
def fM1 : List El := [.attributes [.divisions 2], .direction [⟨some 90, none⟩],
  .note ⟨.pitched "C" 0 4, false, some 2, none, some "quarter", 0, none⟩,
  .note ⟨.pitched "D" 0 4, false, some 2, none, some "quarter", 0, none⟩,
  .note ⟨.pitched "E" 0 4, false, some 3, none, some "quarter", 1, none⟩]
def fNote : NoteEl := ⟨.pitched "F" 0 4, false, some 2, none, some "quarter", 0, none⟩
def fPart : PartEl := ⟨"P1", [fM1, [.note fNote]]⟩

/-- the float run really rounds: the part ends at `3 - 2^-51`, not at the declared 3 s, and the last note starts
at a float that is not `7/3` … -/
example : (parsePart rne53 [] PState.init fPart).map (fun r => (r.1.tp, (onsetsOf r.2)[3]? == some (7 / 3))) =
    .ok (3 - 1 / 2 ^ 51, false) := by decide +kernel

/-- … but within the bound of `mxml_time_float`: three moves before it, relative error `≤ 9·2^-53`
(and `mxml_cursor_float`: four moves in all, `≤ 10·2^-53`) -/
example : ∀ st' ms, parsePart rne53 [] PState.init fPart = .ok (st', ms) →
    (∃ mi pn, ms[1]? = some mi ∧ mi.notes[0]? = some pn ∧ |pn.time - 7 / 3| ≤ 7 / 3 * (9 / 2 ^ 53) ∧
      |pn.seconds - 2 / 3| ≤ 2 / 3 * (6 / 2 ^ 53)) ∧ |st'.tp - 3| ≤ 3 * (10 / 2 ^ 53) := by
  intro st' ms h
  have hR := rounding_rne53
  constructor
  · obtain ⟨mi, pn, h1, h2, h3⟩ := mxml_time_float hR (InvF.init hR) (by decide) (by decide +kernel) h
      (before := [fM1]) (els := [.note fNote]) (after := []) (pre := []) (post := []) (n := fNote) rfl
      (by decide +kernel) (by decide +kernel) (by decide +kernel)
    obtain ⟨a, b, _⟩ := h3 2 rfl rfl (by decide)
    have e1 : specCursor Ctx.init (flatEls [fM1] ++ []) = 7 / 3 := by decide +kernel
    have e2 : secs (ctxAfter Ctx.init (flatEls [fM1] ++ [])) 2 = 2 / 3 := by decide +kernel
    have e3 : moves (flatEls [fM1] ++ []) = 3 := by decide +kernel
    rw [e1, e3] at a
    rw [e2] at b
    exact ⟨mi, pn, h1, h2, by norm_num at a ⊢; exact a, b⟩
  · obtain ⟨a, _⟩ := mxml_cursor_float hR (InvF.init hR) (by decide) (by decide +kernel) h (by decide +kernel)
      (by decide +kernel)
    have e1 : specCursor Ctx.init (partEls fPart) = 3 := by decide +kernel
    have e3 : moves (partEls fPart) = 4 := by decide +kernel
    rw [e1, e3] at a
    norm_num at a ⊢; exact a

/-- `exPart` of `Props/C05.lean` (divisions 2, 60 then 120 qpm, a second voice after `<backup>`, a chord, a dotted
note) is a dyadic score: `mxml_cursor_float_exact_dyadic` and `mxml_float_structure` apply, and the float run gives
exactly the declared onsets 0, 0, 1, 0, 2, 11/4 and the declared end 3 -/
example : ∀ st' ms, parsePart rne53 [] PState.init exPart = .ok (st', ms) →
    st'.tp = 3 ∧ Safe rne53 st' ∧ ∀ mi ∈ ms, ∀ pn ∈ mi.notes, 0 ≤ pn.time ∧ 0 ≤ pn.seconds := by
  intro st' ms h
  have hR := rounding_rne53
  have hdy : ∀ e ∈ partEls exPart, dyEl e := fun e he =>
    dyEl_of_B (List.all_eq_true.mp (by decide +kernel : (partEls exPart).all dyElB = true) e he)
  obtain ⟨a, _⟩ := mxml_cursor_float_exact_dyadic hR (InvF.init hR) DyCtx.init h hdy
    (by simpa only [zero_add] using prefixes_of_B (partEls exPart) Ctx.init 0 repr53_zero (by decide +kernel))
  obtain ⟨_, _, _, b, c⟩ := mxml_float_structure hR (InvF.init hR) (by decide) (by decide +kernel) (Safe.init hR)
    (fun e he => dyEl_wf (hdy e he)) (measuresFit_of_B _ _ (by decide +kernel)) h
  have e1 : specCursor Ctx.init (partEls exPart) = 3 := by decide +kernel
  exact ⟨a.trans e1, b, fun mi hmi pn hpn => ⟨(c mi hmi pn hpn).2.1, (c mi hmi pn hpn).2.2.1⟩⟩

example : (parsePart rne53 [] PState.init exPart).map (fun r => (onsetsOf r.2, r.1.tp)) =
    .ok ([0, 0, 1, 0, 2, 11 / 4], 3) := by decide +kernel

/-- with `<backup>`: the absolute bound of `mxml_cursor_float_backup` on `exPart`, six moves, largest cursor 3 -/
example : ∀ st' ms, parsePart rne53 [] PState.init exPart = .ok (st', ms) → |st'.tp - 3| ≤ 48 / 2 ^ 53 * 3 := by
  intro st' ms h
  have hR := rounding_rne53
  have hpre : ∀ a b, partEls exPart = a ++ b → 0 ≤ specCursor Ctx.init a ∧ specCursor Ctx.init a ≤ 3 := by
    intro a b hab
    have hp : a <+: partEls exPart := ⟨b, hab.symm⟩
    have : ∀ a ∈ (partEls exPart).inits, 0 ≤ specCursor Ctx.init a ∧ specCursor Ctx.init a ≤ 3 := by decide +kernel
    exact this a ((List.mem_inits _ _).mpr hp)
  have := mxml_cursor_float_backup hR (InvF.init hR) (by decide) (by decide +kernel) h (M := 3)
    (by decide +kernel) hpre (by decide +kernel)
  have e1 : specCursor Ctx.init (partEls exPart) = 3 := by decide +kernel
  have e3 : moves (partEls exPart) = 6 := by decide +kernel
  rw [e1, e3] at this
  norm_num at this ⊢; exact this

/-- order and `total_time` on `fPart` (no `<backup>`): the reader's end of the last note of measure 1 is at most
the part's final cursor -/
example : ∀ st' ms, parsePart rne53 [] PState.init fPart = .ok (st', ms) →
    ∃ mi pn, ms[0]? = some mi ∧ mi.notes[2]? = some pn ∧ pn.time ≤ st'.tp ∧
      ∀ part x, readerNote rne53 part pn = .ok x → x.start ≤ x.end_ ∧ x.end_ ≤ st'.tp := by
  intro st' ms h
  have hR := rounding_rne53
  obtain ⟨msb, mi, msa, earlier, pn, later, e1, l1, e2, l2, hall⟩ :=
    mxml_float_monotone hR (InvF.init hR) (by decide) (by decide +kernel) (Safe.init hR) (by decide +kernel) h
      (before := []) (els := fM1) (after := [[.note fNote]]) (pre := fM1.take 4) (post := [])
      (n := ⟨.pitched "E" 0 4, false, some 3, none, some "quarter", 1, none⟩) rfl (by decide +kernel)
  obtain ⟨_, _, a, b⟩ := hall 3 rfl rfl
  have hl1 : msb = [] := List.eq_nil_of_length_eq_zero l1
  subst hl1
  refine ⟨mi, pn, by rw [e1]; rfl, by rw [e2]; exact idx_mid _ _ _ _ (by rw [l2]; decide +kernel), a, ?_⟩
  intro part x hx
  exact (b part x hx).2

/-- WHY `mxml_float_monotone` / `mxml_float_total_first_part` exclude `<backup>`: 90 qpm, divisions 2, voice 1 = eighth,
eighth, half (ends at exactly 2.0 s as computed), `<backup>` 6, voice 2 = eighth, dotted half + eighth tied (1 + 5
divisions).  In binary64 the second voice — and with it the part, hence `total_time` — ends at `2 - 2^-52`, one ulp
BEFORE the end `2` the reader reports for the half note of voice 1. -/
def bPart : PartEl := ⟨"P1", [[.attributes [.divisions 2], .direction [⟨some 90, none⟩],
  .note ⟨.pitched "C" 0 5, false, some 1, some 1, some "eighth", 0, none⟩,
  .note ⟨.pitched "D" 0 5, false, some 1, some 1, some "eighth", 0, none⟩,
  .note ⟨.pitched "E" 0 5, false, some 4, some 1, some "half", 0, none⟩,
  .backup 6,
  .note ⟨.pitched "C" 0 4, false, some 1, some 2, some "eighth", 0, none⟩,
  .note ⟨.pitched "G" 0 3, false, some 5, some 2, some "half", 0, none⟩]]⟩

example : (parsePart rne53 [] PState.init bPart).map
    (fun r => (r.1.tp, (r.2.flatMap (·.notes)).map (fun pn => rne53 ((if pn.time < 0 then 0 else pn.time) + pn.seconds)))) =
    .ok (2 - 1 / 2 ^ 52, [rne53 (1 / 3), rne53 (2 / 3), 2, rne53 (1 / 3), 2 - 1 / 2 ^ 52]) := by decide +kernel

/-! ## the float timing clause at full strength, and where the code departs from it today -/

/-- FULL statement in floating point: for every part of a well-formed score without `<backup>` and grace notes, every
onset is within relative error `(k+6)·2^-53` (`k` = moves of the part) of the onset declared with the tempo in force
BY POSITION according to the score's tempo marks (`specOnsetsAt`, as in `mxml_time`).  Not a theorem today, for the
same reason as `mxml_time`: `mxml_time_float_fails_today` (F-C05-4).  Proved parts: `mxml_time_float` with
`mxml_float_first_part` / `mxml_float_later_part_partial`. -/
def mxml_time_float_full (R : ℚ → ℚ) (sc : Score) : Prop :=
  (sc.parts.all (fun p => (partEls p).all (fun e => wfEl e && noBackup e && noGrace e)) = true) →
  ∀ d, parseDoc R sc = .ok d →
    ∀ (k : Nat) (p : PartEl) (ms : List MState), sc.parts[k]? = some p → d.parts[k]? = some ms →
      (onsetsOf ms).length = (partEls p |>.filter isNote).length ∧
      ∀ x ∈ (onsetsOf ms).zip (specOnsetsAt (scoreMarks sc) (scoreCtx Ctx.init (sc.parts.take k)) 0 0 0 (partEls p)),
        x.2 - x.2 * (((moves (partEls p) : ℚ) + 6) / 2 ^ 53) ≤ x.1 ∧
        x.1 ≤ x.2 + x.2 * (((moves (partEls p) : ℚ) + 6) / 2 ^ 53)

/-- the full float statement fails on the replay of F-C05-4 (a dyadic score: the float run is exact there, and the
second part is timed at 120 qpm throughout — half the declared onsets in its first measure) -/
theorem mxml_time_float_fails_today : ¬ mxml_time_float_full rne53 f_c05_4 := by
  intro h
  obtain ⟨d, ms, hd, hms, hk⟩ := modelOnsetsR_some
    (by decide +kernel : modelOnsetsR rne53 f_c05_4 1 = some [0, 1/2, 1, 3/2, 2, 5/2, 3, 7/2])
  have := (h (by decide +kernel) d hd 1 f4p2 ms (by decide +kernel) hms).2
  rw [hk] at this
  obtain ⟨h2, _⟩ := this (1/2, 1) (by decide +kernel)
  have e3 : moves (partEls f4p2) = 8 := by decide +kernel
  rw [e3] at h2
  norm_num at h2

end NSV.C05

import NoteSeqVerif.Proofs.C13
import NoteSeqVerif.Model.C13Full
/-! C13 (DESIGN 6.13).  `R` is the rounding operator applied after every float operation (`rne53` in the driver);
every theorem holds for all `R` unless it says `id` (the exact-arithmetic reading). -/
namespace NSV.C13
open List

/-- every note start/end, every time of the seven event kinds and `total_time` become `R (t + d)`;
`subsequence_info` is cleared; nothing else changes -/
theorem shift_spec (R : Rat → Rat) (d : Rat) (s : NoteSeq) (hd : 0 < d) (hq : s.isQuantized = false) :
    ∃ r, shiftR R d s = .ok r ∧ Moved (fun t => R (t + d)) id s r ∧
      r.hasSub = false ∧ r.subStart = 0 ∧ r.subEnd = 0 :=
  ⟨_, shiftR_ok R d s hd hq, shiftSeq_moved R d s, rfl, rfl, rfl⟩

/-- `d ≤ 0 → ValueError`, else quantized `→ QuantizationStatusError`, and nothing else is rejected -/
theorem shift_error_iff (R : Rat → Rat) (d : Rat) (s : NoteSeq) (e : Err) :
    shiftR R d s = .error e ↔
      (d ≤ 0 ∧ e = .valueError) ∨ (0 < d ∧ s.isQuantized = true ∧ e = .quantizationStatusError) := by
  rw [shiftR_eq]
  by_cases h : d ≤ 0
  · simp [h]; grind
  · by_cases hq : s.isQuantized
    · simp [h, hq]; grind
    · simp [h, hq]

def exNote : Note :=
  { pitch := 60, velocity := 100, start := 1, end_ := 2, qs := 0, qe := 0, instrument := 0
    program := 0, isDrum := false, numerator := 0, denominator := 0, voice := 7, part := 0, pitchName := 0 }
def exSeq : NoteSeq :=
  { notes := [exNote], tempos := [⟨0, 120⟩, ⟨1, 120⟩, ⟨2, 60⟩], timeSigs := [⟨0, 4, 4⟩], keySigs := [⟨1, 7, 0⟩]
    texts := [⟨0, 0, 2, "x"⟩, ⟨1, 0, 2, "x"⟩, ⟨2, 0, 2, "x"⟩], ccs := [⟨1, 0, 64, 127, 0, 0, false⟩]
    bends := [⟨1, 100, 0, 0, false⟩], sectionAnns := [⟨1, 0⟩], totalTime := 2, hasSub := true, subStart := 1 }

example : (0 : Rat) < 1 / 2 ∧ exSeq.isQuantized = false ∧
    (shiftR id (1 / 2) exSeq).toOption.map (fun r => (r.sectionAnns, r.totalTime, r.hasSub)) =
      some ([⟨3 / 2, 0⟩], 5 / 2, false) := by decide +kernel
example : errOf (shiftR id 0 exSeq) = some .valueError ∧
    errOf (shiftR id 1 { exSeq with spq := 4 }) = some .quantizationStatusError := by decide +kernel

/-- every note and event time and `total_time` become `R (t * f)`, every tempo `R (qpm / f)`,
nothing else changes (`subsequence_info` included) -/
theorem stretch_spec (R : Rat → Rat) (f : Rat) (s : NoteSeq) (hq : s.isQuantized = false) (h1 : f ≠ 1)
    (h0 : f ≠ 0 ∨ s.tempos = []) :
    ∃ r, stretchR R f s = .ok r ∧ Moved (fun t => R (t * f)) (fun q => R (q / f)) s r ∧
      r.hasSub = s.hasSub ∧ r.subStart = s.subStart ∧ r.subEnd = s.subEnd :=
  ⟨_, stretchR_ok R f s hq h1 h0, movedSeq_moved _ _ s, rfl, rfl, rfl⟩

theorem stretch_one (R : Rat → Rat) (s : NoteSeq) (hq : s.isQuantized = false) : stretchR R 1 s = .ok s := by
  simp [stretchR_eq, hq]

theorem stretch_error_iff (R : Rat → Rat) (f : Rat) (s : NoteSeq) (e : Err) :
    stretchR R f s = .error e ↔
      (s.isQuantized = true ∧ e = .quantizationStatusError) ∨
      (s.isQuantized = false ∧ f = 0 ∧ s.tempos ≠ [] ∧ e = .other "ZeroDivisionError") := by
  rw [stretchR_eq]
  by_cases hq : s.isQuantized
  · simp [hq]; grind
  · by_cases h1 : f = 1
    · simp [hq, h1]
    · by_cases h0 : f = 0 ∧ s.tempos ≠ []
      · simp [hq, h0]; grind
      · simp only [hq, h1, h0, if_false, reduceCtorEq, false_iff]; grind

example : exSeq.isQuantized = false ∧ (2 : Rat) ≠ 1 ∧
    (stretchR id 2 exSeq).toOption.map (fun r => (r.sectionAnns, r.tempos, r.totalTime)) =
      some ([⟨2, 0⟩], [⟨0, 60⟩, ⟨2, 60⟩, ⟨4, 30⟩], 4) := by decide +kernel
example : errOf (stretchR id 0 exSeq) = some (.other "ZeroDivisionError") := by decide +kernel

/-- the tempo / time signature / key signature in force at every time `t` is unchanged -/
theorem remove_redundant_in_effect (m : MSeq) (t : Rat) :
    inForce (·.time) (·.qpm) (removeRedundant m).ns.tempos t = inForce (·.time) (·.qpm) m.ns.tempos t ∧
    inForce (·.time) (fun e => (e.num, e.den)) (removeRedundant m).ns.timeSigs t =
      inForce (·.time) (fun e : TimeSig => (e.num, e.den)) m.ns.timeSigs t ∧
    inForce (·.time) (fun e => (e.key, e.mode)) (removeRedundant m).ns.keySigs t =
      inForce (·.time) (fun e : KeySig => (e.key, e.mode)) m.ns.keySigs t := by
  refine ⟨?_, ?_, ?_⟩
  · exact inForce_dropRepeats_sort _ _ sameTempo (by simp [sameTempo]) _ t
  · exact inForce_dropRepeats_sort _ _ sameTimeSig (by simp [sameTimeSig]) _ t
  · exact inForce_dropRepeats_sort _ _ sameKeySig (by simp [sameKeySig]) _ t

/-- what is kept: the events in (stable) time order, minus exactly those that equal their
predecessor in that order up to `time` -/
theorem remove_redundant_drops_only_repeats (m : MSeq) :
    (∀ a l, sortByRat (·.time) m.ns.tempos = a :: l → (removeRedundant m).ns.tempos =
        a :: (withPred a l).filterMap (fun pb => if pb.1.qpm = pb.2.qpm then none else some pb.2)) ∧
    (∀ a l, sortByRat (·.time) m.ns.timeSigs = a :: l → (removeRedundant m).ns.timeSigs =
        a :: (withPred a l).filterMap (fun pb => if pb.1.num = pb.2.num ∧ pb.1.den = pb.2.den then none else some pb.2)) ∧
    (∀ a l, sortByRat (·.time) m.ns.keySigs = a :: l → (removeRedundant m).ns.keySigs =
        a :: (withPred a l).filterMap (fun pb => if pb.1.key = pb.2.key ∧ pb.1.mode = pb.2.mode then none else some pb.2)) := by
  refine ⟨fun a l h => ?_, fun a l h => ?_, fun a l h => ?_⟩
  · show dropRepeats sameTempo (sortByRat _ m.ns.tempos) = _
    rw [h]; exact dropRepeats_cons_eq _ _ (by simp [sameTempo]) a l
  · show dropRepeats sameTimeSig (sortByRat _ m.ns.timeSigs) = _
    rw [h]; exact dropRepeats_cons_eq _ _ (by simp [sameTimeSig]) a l
  · show dropRepeats sameKeySig (sortByRat _ m.ns.keySigs) = _
    rw [h]; exact dropRepeats_cons_eq _ _ (by simp [sameKeySig]) a l

/-- nothing is invented or reordered beyond the time sort, and every other field is untouched -/
theorem remove_redundant_frame (m : MSeq) :
    (removeRedundant m).ns.tempos.Sublist (sortByRat (·.time) m.ns.tempos) ∧
    (removeRedundant m).ns.timeSigs.Sublist (sortByRat (·.time) m.ns.timeSigs) ∧
    (removeRedundant m).ns.keySigs.Sublist (sortByRat (·.time) m.ns.keySigs) ∧
    { (removeRedundant m).ns with tempos := m.ns.tempos, timeSigs := m.ns.timeSigs, keySigs := m.ns.keySigs } = m.ns :=
  ⟨dropRepeats_sublist _ _, dropRepeats_sublist _ _, dropRepeats_sublist _ _, rfl⟩

/-- metadata de-duplication keeps first occurrences, in order: reading the list left to right, an
entry is appended iff it has not occurred before -/
theorem dedup_keeps_first (l : List String) (x : String) :
    dedup [] = [] ∧ dedup (l ++ [x]) = (if x ∈ l then dedup l else dedup l ++ [x]) ∧
    (dedup l).Nodup ∧ (dedup l).Sublist l ∧ ∀ y, y ∈ dedup l ↔ y ∈ l := by
  refine ⟨rfl, ?_, dedupGo_nodup l [], dedupGo_sublist l [], fun y => ?_⟩
  · simpa [dedup] using dedupGo_append_singleton l [] x
  · simpa [dedup] using mem_dedupGo l [] y

example : (removeRedundant { ns := exSeq, composers := ["a", "b", "a"] }).ns.tempos = [⟨0, 120⟩, ⟨2, 60⟩] ∧
    (removeRedundant { ns := exSeq, composers := ["a", "b", "a"] }).composers = ["a", "b"] ∧
    inForce (·.time) (·.qpm) exSeq.tempos (3 / 2) = some 120 := by
  have hs : sortByRat (·.time) exSeq.tempos = exSeq.tempos := sortByRat_of_pairwise _ _ (by decide +kernel)
  refine ⟨?_, by decide +kernel, ?_⟩
  · show dropRepeats sameTempo (sortByRat (·.time) exSeq.tempos) = _
    rw [hs]; decide +kernel
  · unfold inForce; rw [hs]; decide +kernel

/-- the call returns iff the lengths match, no explicit duration is shorter than its piece's
`total_time` and no quantized piece has to be shifted; the result is the `MergeFrom` of the pieces,
piece `i` shifted by its offset (unshifted at offset 0), then `subsequence_info` cleared and
redundant data removed -/
theorem concat_ok_iff (R : Rat → Rat) (mm : List String → String) (seqs : List MSeq) (durs : List Rat) (r : MSeq) :
    concatR R mm seqs durs = .ok r ↔
      (durs ≠ [] → seqs.length = durs.length) ∧
      (∀ po ∈ (catPairs seqs durs).zip (catOffs R seqs durs), ¬ pieceProblem (!durs.isEmpty) po.1 po.2) ∧
      r = finishCat mm seqs ((catPieces R seqs durs).foldl mergeFromM emptyM) := by
  rw [concatR_eq]
  simp only [← pieceErr_eq_none, ← findSome?_eq_none_iff]
  split
  · next hl => exact ⟨nofun, fun ⟨h, _⟩ => absurd (h hl.1) hl.2⟩
  · next hl =>
    have hlen : durs ≠ [] → seqs.length = durs.length := fun hd => Classical.byContradiction fun hne => hl ⟨hd, hne⟩
    split
    · next h => exact ⟨nofun, fun ⟨_, hn, _⟩ => by rw [hn] at h; cases h⟩
    · next h => exact ⟨fun e => ⟨hlen, h, (Except.ok.inj e).symm⟩, fun ⟨_, _, e⟩ => congrArg Except.ok e.symm⟩

/-- the sufficient condition callers meet: every explicit duration covers its piece and no piece is quantized -/
theorem concat_ok_of (R : Rat → Rat) (mm : List String → String) (seqs : List MSeq) (durs : List Rat)
    (hl : durs ≠ [] → seqs.length = durs.length) (hd : ∀ p ∈ seqs.zip durs, p.1.ns.totalTime ≤ p.2)
    (hq : ∀ s ∈ seqs, s.ns.isQuantized = false) :
    concatR R mm seqs durs = .ok (finishCat mm seqs ((catPieces R seqs durs).foldl mergeFromM emptyM)) := by
  refine (concat_ok_iff R mm seqs durs _).mpr ⟨hl, fun po hpo => ?_, rfl⟩
  obtain ⟨h1, h2⟩ := mem_catPairs (of_mem_zip hpo).1
  rintro (⟨hu, hlt⟩ | ⟨_, hqz⟩)
  · exact absurd hlt (Rat.not_lt.mpr (hd _ (h2 (by simpa using hu))))
  · rw [hq _ h1] at hqz; cases hqz

/-- what the result contains: every note of every piece, in order, piece `i` at its offset; the
stateless events likewise; tempos, time and key signatures likewise and then de-duplicated by
`remove_redundant_data`; `total_time` and `ticks_per_quarter` by the `MergeFrom` rule (last non-default
wins; the two `resolution` fields are not stated here: `foldl_merge_resolution`) -/
theorem concat_spec (R : Rat → Rat) (mm : List String → String) (seqs : List MSeq) (durs : List Rat) (r : MSeq)
    (h : concatR R mm seqs durs = .ok r) :
    r.ns.notes = (catPieces R seqs durs).flatMap (·.ns.notes) ∧
    r.ns.texts = (catPieces R seqs durs).flatMap (·.ns.texts) ∧
    r.ns.ccs = (catPieces R seqs durs).flatMap (·.ns.ccs) ∧
    r.ns.bends = (catPieces R seqs durs).flatMap (·.ns.bends) ∧
    r.ns.sectionAnns = (catPieces R seqs durs).flatMap (·.ns.sectionAnns) ∧
    r.ns.sgroups = (catPieces R seqs durs).flatMap (·.ns.sgroups) ∧
    r.ns.tempos = redTempos ((catPieces R seqs durs).flatMap (·.ns.tempos)) ∧
    r.ns.timeSigs = redTimeSigs ((catPieces R seqs durs).flatMap (·.ns.timeSigs)) ∧
    r.ns.keySigs = redKeySigs ((catPieces R seqs durs).flatMap (·.ns.keySigs)) ∧
    r.composers = dedup ((catPieces R seqs durs).flatMap (·.composers)) ∧
    r.genres = dedup ((catPieces R seqs durs).flatMap (·.genres)) ∧
    r.ns.totalTime = lastNZ 0 ((catPieces R seqs durs).map (·.ns.totalTime)) ∧
    r.ns.tpq = lastNZ 0 ((catPieces R seqs durs).map (·.ns.tpq)) ∧
    r.ns.hasSub = false ∧ r.ns.subStart = 0 ∧ r.ns.subEnd = 0 ∧
    r.ns.metaTag = mm (seqs.map (·.ns.metaTag)) :=
  finishCat_foldl mm seqs _ r ((concat_ok_iff R mm seqs durs r).mp h).2.2

theorem concat_pieces (R : Rat → Rat) (seqs : List MSeq) (durs : List Rat) (hl : durs ≠ [] → seqs.length = durs.length) :
    (catPieces R seqs durs).length = seqs.length ∧
    ∀ i (hi : i < (catPieces R seqs durs).length) (hs : i < seqs.length) (ho : i < (catOffs R seqs durs).length),
      (catPieces R seqs durs)[i] = placed R (catOffs R seqs durs)[i] seqs[i] := by
  have hfst := catPairs_fst hl
  have hlen : (catPairs seqs durs).length = seqs.length := by rw [← congrArg length hfst, length_map]
  refine ⟨by simp [catPieces, placedList, catOffs, catOffsets_length, hlen], fun i hi hs ho => ?_⟩
  simp only [catPieces, placedList, getElem_map, getElem_zip]
  rw [← getElem_of_eq hfst (by rw [length_map, hlen]; exact hs), getElem_map]

/-- with explicit durations and exact arithmetic, piece `i` sits after the summed durations of the
pieces before it -/
theorem concat_offsets_exact_durations (seqs : List MSeq) (durs : List Rat) (hd : durs ≠ [])
    (hl : seqs.length = durs.length) : catOffs id seqs durs = prefixSums 0 durs := by
  have hne : (!durs.isEmpty) = true := by simpa using hd
  unfold catOffs catPairs
  rw [hne]; simp only [if_true]
  rw [catOffsets_durations_exact]
  congr 1
  rw [map_snd_zip]; omega

/-- without explicit durations (and exact arithmetic, non-negative lengths) the durations are the
pieces' `total_time`s -/
theorem concat_offsets_exact_totals (seqs : List MSeq) (h : ∀ s ∈ seqs, 0 ≤ s.ns.totalTime) :
    catOffs id seqs [] = prefixSums 0 (seqs.map (·.ns.totalTime)) := by
  unfold catOffs catPairs
  simp only [isEmpty_nil, Bool.not_true, Bool.false_eq_true, if_false]
  rw [catOffsets_totals_exact _ 0 Rat.le_refl (by simpa using h)]
  simp [Function.comp_def]

/-- a length mismatch is a `ValueError`; the only other errors are a too-short duration
(`ValueError`) and a quantized piece that would have to be shifted (`QuantizationStatusError`) -/
theorem concat_errors (R : Rat → Rat) (mm : List String → String) (seqs : List MSeq) (durs : List Rat) :
    (durs ≠ [] → seqs.length ≠ durs.length → concatR R mm seqs durs = .error .valueError) ∧
    ∀ e, concatR R mm seqs durs = .error e → e = .valueError ∨ e = .quantizationStatusError := by
  rw [concatR_eq]
  refine ⟨fun hd hl => if_pos ⟨hd, hl⟩, fun e he => ?_⟩
  split at he
  · cases he; exact Or.inl rfl
  split at he
  · next e' h =>
    cases he
    obtain ⟨po, _, hpo⟩ := exists_of_findSome?_eq_some h
    unfold pieceErr at hpo
    split at hpo
    · cases hpo; exact Or.inl rfl
    split at hpo
    · cases hpo; exact Or.inr rfl
    · cases hpo
  · cases he

def exM : MSeq := { ns := exSeq, composers := ["a"] }
example : (concatR id (fun _ => "-") [exM, exM] [3, 3]).toOption.map
      (fun r => (r.ns.notes.map (fun n => (n.start, n.end_)), r.ns.sectionAnns, r.ns.totalTime, r.composers)) =
    some ([(1, 2), (4, 5)], [⟨1, 0⟩, ⟨4, 0⟩], 5, ["a"]) ∧
    catOffs id [exM, exM] [3, 3] = [0, 3] ∧ catOffs id [exM, exM] [] = [0, 2] ∧
    errOf (concatR id (fun _ => "-") [exM, exM] [3, 1]) = some .valueError ∧
    errOf (concatR id (fun _ => "-") [exM, exM] [3]) = some .valueError ∧
    errOf (concatR id (fun _ => "-") [exM, { exM with ns := { exSeq with sps := 100 } }] []) = some .quantizationStatusError := by
  decide +kernel

/-- all notes and events of all sequences, times untouched, in order; tempos and signatures
de-duplicated; `ticks_per_quarter` by the `MergeFrom` rule; `total_time` is the longest `total_time` -/
theorem merge_spec (mm : List String → String) (seqs : List MSeq) :
    (mergeR mm seqs).ns.notes = seqs.flatMap (·.ns.notes) ∧
    (mergeR mm seqs).ns.texts = seqs.flatMap (·.ns.texts) ∧
    (mergeR mm seqs).ns.ccs = seqs.flatMap (·.ns.ccs) ∧
    (mergeR mm seqs).ns.bends = seqs.flatMap (·.ns.bends) ∧
    (mergeR mm seqs).ns.sectionAnns = seqs.flatMap (·.ns.sectionAnns) ∧
    (mergeR mm seqs).ns.tempos = redTempos (seqs.flatMap (·.ns.tempos)) ∧
    (mergeR mm seqs).ns.timeSigs = redTimeSigs (seqs.flatMap (·.ns.timeSigs)) ∧
    (mergeR mm seqs).ns.keySigs = redKeySigs (seqs.flatMap (·.ns.keySigs)) ∧
    (mergeR mm seqs).ns.tpq = lastNZ 0 (seqs.map (·.ns.tpq)) ∧
    (mergeR mm seqs).ns.hasSub = false ∧
    (seqs = [] → (mergeR mm seqs).ns.totalTime = 0) ∧
    (∀ s ∈ seqs, s.ns.totalTime ≤ (mergeR mm seqs).ns.totalTime) ∧
    (seqs ≠ [] → ∃ s ∈ seqs, (mergeR mm seqs).ns.totalTime = s.ns.totalTime) := by
  cases seqs with
  | nil => simp [mergeR, finishCat, removeRedundant, emptyM, lastNZ, redTempos, redTimeSigs, redKeySigs, dropRepeats, sortByRat]
  | cons s r =>
    obtain ⟨m1, m2, m3⟩ := ratMax_is_max (r.map (·.ns.totalTime)) s.ns.totalTime
    have ht : (mergeR mm (s :: r)).ns.totalTime = ratMax s.ns.totalTime (r.map (·.ns.totalTime)) := rfl
    -- `merge_sequences` differs from the plain `MergeFrom` loop in `total_time` only
    obtain ⟨n, tx, cc, bd, sa, _, tp, ts, ks, _, _, _, tq, _⟩ := finishCat_foldl mm (s :: r) (s :: r) _ rfl
    refine ⟨n, tx, cc, bd, sa, tp, ts, ks, tq, rfl, nofun, ?_, ?_⟩
    · intro x hx
      rw [ht]
      rcases mem_cons.mp hx with rfl | hx
      · exact m1
      · exact m2 _ (mem_map.mpr ⟨x, hx, rfl⟩)
    · intro _
      rw [ht]
      rcases m3 with m3 | m3
      · exact ⟨s, by simp, m3⟩
      · obtain ⟨x, hx, hxe⟩ := mem_map.mp m3
        exact ⟨x, by simp [hx], hxe.symm⟩

example : (mergeR (fun _ => "-") [exM, { exM with ns := { exSeq with totalTime := 1 } }]).ns.notes.length = 2 ∧
    (mergeR (fun _ => "-") [exM, { exM with ns := { exSeq with totalTime := 1 } }]).ns.totalTime = 2 := by decide +kernel

theorem adjust_drop_iff (f R : Rat → Rat) (md : Rat) (n : Note) :
    adjNote f R md n = none ↔ (f n.start = f n.end_ ∧ md = 0) := by
  unfold adjNote; split <;> simp_all

/-- the call returns iff no kept note is reversed or starts/ends before zero and no event (control
change, bend, signature, text or section annotation) is mapped before zero; then the kept notes are
`(f start, f end)` in storage order, every event time is `f time`, tempos are deleted,
`total_time` is the largest kept end, `skipped_notes` counts the collapsed notes, and nothing else changes -/
theorem adjust_ok_iff (f R : Rat → Rat) (md : Rat) (s r : NoteSeq) (k : Nat) :
    adjustR f R md s = .ok (r, k) ↔
      (∀ n ∈ s.notes, ¬ adjBad f R md n) ∧ (∀ t ∈ adjustedTimes s, ¬ f t < 0) ∧
      r = adjusted f R md s ∧ k = s.notes.countP (fun n => (adjNote f R md n).isNone) := by
  rw [adjustR_eq]
  split
  · next h =>
    simp only [Except.ok.injEq, Prod.mk.injEq]
    exact ⟨fun e => ⟨h.1, h.2, e.1.symm, e.2.symm⟩, fun e => ⟨e.2.2.1.symm, e.2.2.2.symm⟩⟩
  · next h => exact ⟨nofun, fun e => absurd ⟨e.1, e.2.1⟩ h⟩

/-- `InvalidTimeAdjustmentError` iff some kept note has `f end < f start` or a mapped time `< 0`,
or some event is mapped before zero; no other error exists -/
theorem adjust_error_iff (f R : Rat → Rat) (md : Rat) (s : NoteSeq) (e : Err) :
    adjustR f R md s = .error e ↔
      e = .invalidTimeAdjustmentError ∧ ((∃ n ∈ s.notes, adjBad f R md n) ∨ ∃ t ∈ adjustedTimes s, f t < 0) := by
  rw [adjustR_eq]
  split
  · next h =>
    refine ⟨nofun, fun ⟨_, hor⟩ => ?_⟩
    rcases hor with ⟨n, hn, hb⟩ | ⟨t, ht, hlt⟩
    · exact absurd hb (h.1 n hn)
    · exact absurd hlt (h.2 t ht)
  · next h =>
    simp only [Except.error.injEq]
    refine ⟨fun he => ⟨he.symm, Classical.byContradiction fun hcon => h ⟨fun n hn hb => hcon (Or.inl ⟨n, hn, hb⟩),
      fun t ht hlt => hcon (Or.inr ⟨t, ht, hlt⟩)⟩⟩, fun he => he.1.symm⟩

/-- `total_time` of the result is the largest kept note end; the loop starts it at 0, so it is 0 when no
note is kept (a kept end below 0 would also leave it at 0, but then the call raises) -/
theorem adjust_total_is_max (f R : Rat → Rat) (md : Rat) (s : NoteSeq) :
    (∀ n ∈ (adjusted f R md s).notes, n.end_ ≤ (adjusted f R md s).totalTime) ∧
    ((adjusted f R md s).totalTime = 0 ∨ ∃ n ∈ (adjusted f R md s).notes, (adjusted f R md s).totalTime = n.end_) :=
  ⟨(maxEnd_is_max _ 0).2.1, (maxEnd_is_max _ 0).2.2⟩

example : (adjustR (fun t => 2 * t) id 0 exSeq).toOption.map
      (fun rk => (rk.1.notes.map (fun n => (n.start, n.end_)), rk.1.sectionAnns, rk.1.tempos, rk.1.totalTime, rk.2)) =
    some ([(2, 4)], [⟨2, 0⟩], [], 4, 0) ∧
    (adjustR (fun _ => 1) id 0 exSeq).toOption.map (fun rk => (rk.1.notes, rk.2)) = some ([], 1) ∧
    errOf (adjustR (fun t => 2 - t) id 0 exSeq) = some .invalidTimeAdjustmentError ∧
    errOf (adjustR (fun t => t - 1) id 0 exSeq) = some .invalidTimeAdjustmentError := by decide +kernel

/-- every knot is mapped to its ordinate exactly — no arithmetic, any rounding `R` -/
theorem interp_knots (R : Rat → Rat) (p : Rat × Rat) (rest : List (Rat × Rat)) (left right : Rat)
    (h : XInc p rest) (k : Rat × Rat) (hk : k ∈ p :: rest) : interpR R p rest left right k.1 = k.2 := by
  rw [interpR_inside R p rest left right (xinc_first_le p rest h k hk) (xinc_le_last p rest h k hk)]
  exact interpGo_knot R p rest h k hk

theorem interp_clamps (R : Rat → Rat) (p : Rat × Rat) (rest : List (Rat × Rat)) (left right x : Rat) (h : XInc p rest) :
    (x < p.1 → interpR R p rest left right x = left) ∧ (lastX p rest < x → interpR R p rest left right x = right) := by
  have hpl : p.1 ≤ lastX p rest := xinc_le_last p rest h p (by simp)
  constructor
  · intro hx
    have : ¬ lastX p rest < x := by grind
    simp [interpR, this, hx]
  · intro hx; simp [interpR, hx]

/-- in exact arithmetic, for strictly increasing `xp` and non-decreasing `fp`, the interpolation is
monotone on the whole line whenever the clamps continue it monotonically (`rectify_beats`: `left = 0 = fp₀`) -/
theorem interp_monotone (p : Rat × Rat) (rest : List (Rat × Rat)) (left right x y : Rat) (h : KnotsOK p rest)
    (hl : left ≤ p.2) (hr : lastY p rest ≤ right) (hxy : x ≤ y) :
    interpR id p rest left right x ≤ interpR id p rest left right y := by
  have := interpR_le_mul (segOK_id left) p rest left right x y h (fun _ _ => rfl) Rat.le_refl hl hr hxy
  rwa [Rat.mul_one] at this

theorem interp_range (p : Rat × Rat) (rest : List (Rat × Rat)) (left right x : Rat) (h : KnotsOK p rest)
    (h1 : p.1 ≤ x) (h2 : x ≤ lastX p rest) :
    p.2 ≤ interpR id p rest left right x ∧ interpR id p rest left right x ≤ lastY p rest := by
  rw [interpR_inside id p rest left right h1 h2]
  have := interpGo_le_mul (segOK_id p.2) rest p h (fun _ _ => rfl) Rat.le_refl x _ h1 h2
  rw [interpGo_at_last id rest p (KnotsOK.xinc p rest h), Rat.mul_one] at this
  exact ⟨interpGo_ge_knot (segOK_id p.2) rest p h (fun _ _ => rfl) p mem_cons_self x h1, this⟩

/-- the divisor of the slope is positive wherever the formula divides (`p.1 ≤ x < q.1`) -/
theorem interp_divisor_pos (p q : Rat × Rat) (x : Rat) (hx : p.1 ≤ x) (hq : ¬ q.1 ≤ x) : 0 < q.1 - p.1 := by
  grind

example : KnotsOK (0, 0) [(1, 1 / 2), (3, 1)] ∧ interpR id (0, 0) [(1, 1 / 2), (3, 1)] 0 9 2 = 3 / 4 ∧
    interpR id (0, 0) [(1, 1 / 2), (3, 1)] 0 9 4 = 9 :=
  ⟨⟨by decide +kernel, by decide +kernel, by decide +kernel, by decide +kernel, trivial⟩,
   by decide +kernel, by decide +kernel⟩

/-- `RectifyBeatsError` iff the sequence is unquantized and has no beat annotation at or before `total_time` -/
theorem rectify_no_beats_iff (R : Rat → Rat) (bpm : Rat) (s : NoteSeq) :
    rectifyR R bpm s = .error .rectifyBeatsError ↔ s.isQuantized = false ∧ beatTimes s = [] := by
  unfold rectifyR
  by_cases hq : s.isQuantized
  · simp [hq]
  · simp only [hq, Bool.false_eq_true, if_false, true_and]
    by_cases hb : beatTimes s = []
    · simp [hb]
    · have hb' : (beatTimes s).isEmpty = false := isEmpty_eq_false_iff.mpr hb
      simp only [hb', Bool.false_eq_true, if_false, hb, iff_false]
      by_cases h0 : bpm = 0
      · simp [h0]
      · simp only [h0, if_false]
        split
        · simp
        · rename_i p rest _
          cases ha : adjustR (interpR R p rest 0 s.totalTime) R 0 s with
          | error e =>
            have := ((adjust_error_iff _ R 0 s e).mp ha).1
            simp [this]
          | ok v => simp

theorem rectify_quantized (R : Rat → Rat) (bpm : Rat) (s : NoteSeq) (hq : s.isQuantized = true) :
    rectifyR R bpm s = .error .quantizationStatusError := by simp [rectifyR, hq]

/-- unquantized, some beat, `bpm ≠ 0`: the result is `adjust_notesequence_times` with the interpolation through the beat
knots (clamped to `0` on the left and to the old `total_time` on the right), time signatures
deleted and the single tempo `bpm`; the alignment rows are the knots -/
theorem rectify_spec (R : Rat → Rat) (bpm : Rat) (s : NoteSeq) (hq : s.isQuantized = false)
    (hb : beatTimes s ≠ []) (h0 : bpm ≠ 0) :
    ∃ p rest, beatKnots R bpm s = p :: rest ∧
      rectifyR R bpm s =
        match adjustR (interpR R p rest 0 s.totalTime) R 0 s with
        | .error e => .error e
        | .ok (r, _) => .ok ({ r with timeSigs := [], tempos := [⟨0, bpm⟩] }, p :: rest) := by
  have hb' : (beatTimes s).isEmpty = false := isEmpty_eq_false_iff.mpr hb
  have hk : beatKnots R bpm s ≠ [] := by
    simp [beatKnots, uniqBeats, rectTimes, range_succ_eq_map]
  cases hkn : beatKnots R bpm s with
  | nil => exact absurd hkn hk
  | cons p rest =>
    refine ⟨p, rest, rfl, ?_⟩
    unfold rectifyR
    simp only [hq, Bool.false_eq_true, if_false, hb', h0]
    have : (uniqBeats ([0] ++ sortByRat id (beatTimes s) ++ [s.totalTime])).zip
        (rectTimes R (R (60 / bpm)) (uniqBeats ([0] ++ sortByRat id (beatTimes s) ++ [s.totalTime])).length) = p :: rest := hkn
    simp only [this]
    cases ha : adjustR (interpR R p rest 0 s.totalTime) R 0 s with
    | error e => rfl
    | ok v =>
      obtain ⟨r, k⟩ := v
      have ht : r.tempos = [] := by
        obtain ⟨_, _, hr, _⟩ := (adjust_ok_iff _ R 0 s r k).mp ha
        rw [hr]; rfl
      simp [ht]

/-- a `rectify_beats` that returns: the alignment rows are the beat knots, and the sequence is what
`adjust_notesequence_times` returns for the interpolation through them, with time signatures deleted and the
single tempo `bpm` -/
theorem rectify_ok {R : Rat → Rat} {bpm : Rat} {s r : NoteSeq} {al : List (Rat × Rat)}
    (h : rectifyR R bpm s = .ok (r, al)) :
    ∃ p rest r' k, beatKnots R bpm s = p :: rest ∧ al = p :: rest ∧
      adjustR (interpR R p rest 0 s.totalTime) R 0 s = .ok (r', k) ∧
      r = { r' with timeSigs := [], tempos := [⟨0, bpm⟩] } := by
  have hq : s.isQuantized = false := by
    cases hq : s.isQuantized
    · rfl
    · rw [rectify_quantized R bpm s hq] at h; cases h
  have hb : beatTimes s ≠ [] := fun hb => by
    rw [(rectify_no_beats_iff R bpm s).mpr ⟨hq, hb⟩] at h; cases h
  have h0 : bpm ≠ 0 := fun h0 => by
    simp [rectifyR, hq, isEmpty_eq_false_iff.mpr hb, h0] at h
  obtain ⟨p, rest, hk, hspec⟩ := rectify_spec R bpm s hq hb h0
  rw [hspec] at h
  cases ha : adjustR (interpR R p rest 0 s.totalTime) R 0 s with
  | error e => rw [ha] at h; cases h
  | ok v =>
    rw [ha] at h
    cases h
    exact ⟨p, rest, v.1, v.2, hk, rfl, ha, rfl⟩

/-- the knots: abscissae are exactly 0, the beats at or before `total_time`, and `total_time`,
strictly increasing; the `k`-th ordinate is `R (R (60 / bpm) * k)`; and the time map sends every
knot abscissa (every such beat, in particular) exactly onto its ordinate -/
theorem rectify_beats_land (R : Rat → Rat) (bpm : Rat) (s : NoteSeq) (hpos : ∀ b ∈ beatTimes s, 0 ≤ b)
    (htt : 0 ≤ s.totalTime) (p : Rat × Rat) (rest : List (Rat × Rat)) (hk : beatKnots R bpm s = p :: rest) :
    ((p :: rest).map (·.1)).Pairwise (· < ·) ∧
    (∀ x, x ∈ (p :: rest).map (·.1) ↔ x = 0 ∨ x ∈ beatTimes s ∨ x = s.totalTime) ∧
    (∀ i (hi : i < (p :: rest).length), ((p :: rest)[i]).2 = R (R (60 / bpm) * ((i : Int) : Rat))) ∧
    (∀ k ∈ p :: rest, interpR R p rest 0 s.totalTime k.1 = k.2) := by
  have hle : ∀ b ∈ beatTimes s, b ≤ s.totalTime := by
    intro b hb
    simp only [beatTimes, mem_map, mem_filter, Bool.and_eq_true, decide_eq_true_eq] at hb
    obtain ⟨a, ⟨_, _, h⟩, rfl⟩ := hb; exact h
  have hmemS : ∀ x, x ∈ sortByRat id (beatTimes s) ↔ x ∈ beatTimes s := by
    intro x; unfold sortByRat; exact mem_mergeSort
  -- the padded list is sorted: the sorted beats lie between `0` and `total_time`
  have hsorted : ([0] ++ sortByRat id (beatTimes s) ++ [s.totalTime]).Pairwise (· ≤ ·) := by
    have hs : (sortByRat id (beatTimes s)).Pairwise (· ≤ ·) := sortByRat_pairwise id (beatTimes s)
    simp [pairwise_append, hmemS, hs]
    grind
  obtain ⟨hmem, hstrict⟩ := uniqBeats_facts _ hsorted
  have hfst : (p :: rest).map (·.1) = uniqBeats ([0] ++ sortByRat id (beatTimes s) ++ [s.totalTime]) := by
    rw [← hk, beatKnots]
    apply map_fst_zip
    simp [rectTimes]
  refine ⟨by rw [hfst]; exact hstrict, ?_, ?_, ?_⟩
  · intro x
    rw [hfst, hmem x]
    simp only [mem_append, mem_singleton, hmemS]
    grind
  · intro i hi
    have : (beatKnots R bpm s)[i]'(by rw [hk]; exact hi) = (p :: rest)[i] := by simp [hk]
    rw [← this]
    simp [beatKnots, rectTimes]
  · intro k hkm
    exact interp_knots R p rest 0 s.totalTime (xinc_of_pairwise p rest (by rw [hfst]; exact hstrict)) k hkm

example : exSeq.isQuantized = false ∧ beatTimes exSeq = [0, 1, 2] ∧ (∀ b ∈ beatTimes exSeq, 0 ≤ b) := by
  decide +kernel
example : beatKnots id 30 exSeq = [(0, 0), (1, 2), (2, 4)] := by
  have hs : sortByRat id (beatTimes exSeq) = beatTimes exSeq := sortByRat_of_pairwise _ _ (by decide +kernel)
  unfold beatKnots; rw [hs]; decide +kernel

theorem expand_no_groups (R : Rat → Rat) (extract : NoteSeq → Rat → Rat → Except Err NoteSeq)
    (mm : List String → String) (m : MSeq) (h : m.ns.sgroups = []) : expandR R extract mm m = .ok m := by
  simp [expandR, h, parseGroups, pGroups]

/-- `sections_in_group`: a section id plays once, a group plays the concatenation of its members
`num_times` times (not at all for `num_times ≤ 0`) -/
theorem sections_in_group (i : Int) (ss : List Sec) (s : Sec) (k : Int) :
    (Sec.id i).flat = [i] ∧ (Sec.group ss k).flat = (List.replicate k.toNat (flatList ss)).flatten ∧
    flatList [] = [] ∧ flatList (s :: ss) = s.flat ++ flatList ss ∧
    ((Sec.group ss k).flat).length = k.toNat * (flatList ss).length := by
  refine ⟨by simp [Sec.flat], by simp [Sec.flat, repeatList], by simp [flatList], by simp [flatList], ?_⟩
  simp [Sec.flat, repeatList]

/-- with section groups: the sections named by the annotations are cut out with
`extract_subsequence` (annotation `i` spans up to annotation `i+1`, the last one to `total_time`),
and the result is the concatenation of the sections in the flattened group order, each with its
span length `R (end - start)` as explicit duration -/
theorem expand_spec (R : Rat → Rat) (extract : NoteSeq → Rat → Rat → Except Err NoteSeq)
    (mm : List String → String) (m : MSeq) (g : Sec) (gs : List Sec) (hp : parseGroups m.ns.sgroups = some (g :: gs))
    (tab : List (Int × MSeq × Rat)) (hb : buildSections R extract m (sectionSpans m.ns.totalTime m.ns.sectionAnns) [] = .ok tab)
    (l : List (MSeq × Rat)) (hl : lookupSections tab ((g :: gs).flatMap Sec.flat) = .ok l) :
    expandR R extract mm m = concatR R mm (l.map (·.1)) (l.map (·.2)) := by
  simp only [expandR, hp, hb, hl]

/-- the section table: one entry per annotation, in reverse storage order (so that a lookup sees
the *last* annotation with a given id, as the Python dict does); entry `i` is the extracted span
with section groups removed and the single annotation `(0, id)`, and carries `R (end - start)` -/
theorem expand_sections (R : Rat → Rat) (extract : NoteSeq → Rat → Rat → Except Err NoteSeq) (m : MSeq) :
    ∀ (spans : List (Int × Rat × Rat)) (acc tab : List (Int × MSeq × Rat)),
      buildSections R extract m spans acc = .ok tab →
      ∃ subs : List NoteSeq, subs.length = spans.length ∧
        (∀ p ∈ spans.zip subs, extract m.ns p.1.2.1 p.1.2.2 = .ok p.2) ∧
        tab = ((spans.zip subs).map (fun p =>
          (p.1.1, { m with ns := { p.2 with sgroups := [], sectionAnns := [⟨0, p.1.1⟩] } }, R (p.1.2.2 - p.1.2.1)))).reverse ++ acc
  | [], acc, tab, h => by
    simp only [buildSections, Except.ok.injEq] at h
    exact ⟨[], rfl, by simp, by simp [h]⟩
  | (sid, st, en) :: r, acc, tab, h => by
    unfold buildSections at h
    cases he : extract m.ns st en with
    | error e => rw [he] at h; cases h
    | ok sub =>
      rw [he] at h
      obtain ⟨subs, hlen, hex, htab⟩ := expand_sections R extract m r _ tab h
      refine ⟨sub :: subs, by simp [hlen], ?_, ?_⟩
      · intro p hp
        simp only [zip_cons_cons, mem_cons] at hp
        rcases hp with rfl | hp
        · exact he
        · exact hex p hp
      · rw [htab]; simp

/-- the spans tile the annotated part of the sequence: consecutive annotations share a boundary and
the last span ends at `total_time` -/
theorem expand_spans (tt : Rat) (a b : SectionAnn) (r : List SectionAnn) :
    sectionSpans tt [] = [] ∧ sectionSpans tt [a] = [(a.sectionId, a.time, tt)] ∧
    sectionSpans tt (a :: b :: r) = (a.sectionId, a.time, b.time) :: sectionSpans tt (b :: r) ∧
    (sectionSpans tt (a :: r)).length = (a :: r).length := by
  refine ⟨rfl, rfl, rfl, ?_⟩
  induction r generalizing a with
  | nil => rfl
  | cons c r ih => simp [sectionSpans, ih c]

/-- every looked-up entry is the first table entry with that id; an id without annotation is a `KeyError` -/
theorem expand_lookup (tab : List (Int × MSeq × Rat)) : ∀ (ids : List Int),
    (∀ l, lookupSections tab ids = .ok l →
      l.map some = ids.map (fun i => (tab.find? (fun e => e.1 == i)).map (·.2))) ∧
    ((∃ i ∈ ids, tab.find? (fun e => e.1 == i) = none) → lookupSections tab ids = .error (.other "KeyError"))
  | [] => by simp [lookupSections]
  | i :: r => by
    obtain ⟨ih1, ih2⟩ := expand_lookup tab r
    unfold lookupSections
    cases hf : tab.find? (fun e => e.1 == i) with
    | none => simp
    | some e =>
      -- an id without entry is not `i`, so it is among the rest
      have hrest : (∃ j ∈ i :: r, tab.find? (fun e => e.1 == j) = none) →
          lookupSections tab r = .error (.other "KeyError") := by
        rintro ⟨j, hj, hn⟩
        rcases mem_cons.mp hj with rfl | hj
        · rw [hf] at hn; cases hn
        · exact ih2 ⟨j, hj, hn⟩
      cases hr : lookupSections tab r with
      | error e' =>
        refine ⟨nofun, fun h => ?_⟩
        have := hrest h; rw [hr] at this; exact this
      | ok l' =>
        refine ⟨fun l h => ?_, fun h => ?_⟩
        · cases h; simp [ih1 l' hr, hf]
        · have := hrest h; rw [hr] at this; cases this

example : (parseGroups ["G", "2", "S", "0", "G", "1", "S", "1", "2", "2"]).map (fun gs => gs.flatMap Sec.flat) =
      some [0, 1, 1, 0, 1, 1] ∧
    (Sec.group [Sec.id 0, Sec.group [Sec.id 1] 2] 2).flat = [0, 1, 1, 0, 1, 1] ∧
    sectionSpans 5 [⟨0, 7⟩, ⟨2, 8⟩] = [(7, 0, 2), (8, 2, 5)] := by decide +kernel

/-- `repeat s D = extract (concat (replicate ⌈D/d⌉ s) (replicate ⌈D/d⌉ d)) 0 D` with
`subsequence_info` cleared, where `d` is the explicit `sequence_duration` or `total_time`
(`d = 0 → ZeroDivisionError`); `extract` = property C02's model of `extract_subsequence` -/
theorem repeat_spec (R : Rat → Rat) (mm : List String → String) (m : MSeq) (dur sd : Rat) :
    repeatFullR R mm m dur sd =
      (let d := if sd = 0 then m.ns.totalTime else sd
       if d = 0 then .error (.other "ZeroDivisionError")
       else
         match concatR R mm (List.replicate (R (dur / d)).ceil.toNat m) (List.replicate (R (dur / d)).ceil.toNat d) with
         | .error e => .error e
         | .ok r =>
           match NSV.C02.extractSubsequenceR R NSV.C02.Gen.PRESERVE r.ns 0 dur with
           | .error e => .error e
           | .ok t => .ok { r with ns := { t with hasSub := false, subStart := 0, subEnd := 0 } }) :=
  repeatR_def R (extractC02 R) mm m dur sd

/-- "enough copies": in exact arithmetic, for positive lengths, the number of copies `n = ⌈D/d⌉`
is the least with `D ≤ n·d` -/
theorem repeat_count_exact (dur d : Rat) (hd : 0 < d) (hD : 0 < dur) :
    1 ≤ (dur / d).ceil ∧ dur ≤ ((dur / d).ceil : Rat) * d ∧ (((dur / d).ceil : Rat) - 1) * d < dur ∧
    (((dur / d).ceil.toNat : Int) = (dur / d).ceil) := by
  have hne : d ≠ 0 := by grind
  have hq : 0 < dur / d := by rw [Rat.div_def]; exact Rat.mul_pos hD (Rat.inv_pos.mpr hd)
  have h1 : dur / d ≤ ((dur / d).ceil : Rat) := Rat.le_ceil
  have h2 : ((dur / d).ceil : Rat) < dur / d + 1 := Rat.ceil_lt
  have hc : (0 : Int) < (dur / d).ceil := by
    have : ((0 : Int) : Rat) < dur / d := by simpa using hq
    exact Rat.lt_ceil_iff.mpr this
  have hm : dur / d * d = dur := Rat.div_mul_cancel hne
  have h3 := Rat.mul_le_mul_of_nonneg_right h1 (Rat.le_of_lt hd)
  have h4 : (((dur / d).ceil : Rat) - 1) < dur / d := by grind
  have h5 := (Rat.lt_div_iff hd).mp h4
  refine ⟨by omega, by grind, h5, by omega⟩

/-- the repeated sequence before the cut, exact arithmetic: the offsets of the `n` copies are the prefix sums
`0, d, d+d, …` of the explicit duration (as multiples `k·d`: `repOffs_exact` in Proofs/C13Repeat.lean) -/
theorem repeat_offsets_exact (m : MSeq) (n : Nat) (d : Rat) (hn : 0 < n) :
    catOffs id (List.replicate n m) (List.replicate n d) = prefixSums 0 (List.replicate n d) :=
  concat_offsets_exact_durations _ _ (by cases n <;> simp_all [replicate_succ]) (by simp)

/-- "the notes of the result are the cyclic copies cut at `D`", as a multiset.  FALSE as it stands: the cut
`[0, D)` also removes a note that starts before 0, the right-hand side keeps it.  Props/C13_repeat.lean
refutes it (`repeatCyclicCopies_needs_nonneg_starts`) and proves it with that hypothesis added
(`repeatCyclicCopies_partial`) -/
def RepeatCyclicCopies : Prop :=
  ∀ (mm : List String → String) (m : MSeq) (dur : Rat) (r : MSeq),
    0 < m.ns.totalTime → 0 < dur → m.ns.isQuantized = false →
    repeatFullR id mm m dur 0 = .ok r →
    ∃ n : Nat, ((n : Int) : Rat) * m.ns.totalTime < dur + m.ns.totalTime ∧ dur ≤ ((n : Int) : Rat) * m.ns.totalTime ∧
      r.ns.notes.Perm
        (((List.range n).flatMap (fun (k : Nat) => m.ns.notes.map (fun nt =>
            { nt with start := nt.start + ((k : Int) : Rat) * m.ns.totalTime,
                      end_ := nt.end_ + ((k : Int) : Rat) * m.ns.totalTime }))).filterMap
          (fun nt => if nt.start < dur then some { nt with end_ := if dur < nt.end_ then dur else nt.end_ } else none))

example : (0 : Rat) < 2 ∧ (0 : Rat) < 5 ∧ ((5 : Rat) / 2).ceil = 3 ∧
    (repeatConcatR id (fun _ => "-") exM 5 0).toOption.map
        (fun r => (r.1.ns.notes.map (fun n => (n.start, n.end_)), r.2)) =
      some ([(1, 2), (3, 4), (5, 6)], 0, 5) ∧
    errOf (repeatConcatR id (fun _ => "-") exM 5 1) = some .valueError ∧
    errOf (repeatConcatR id (fun _ => "-") { exM with ns := { exSeq with totalTime := 0 } } 5 0) =
      some (.other "ZeroDivisionError") := by decide +kernel

end NSV.C13

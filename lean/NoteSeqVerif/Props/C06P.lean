import NoteSeqVerif.Proofs.C06PNote
import NoteSeqVerif.Proofs.C06PExtract
import NoteSeqVerif.Proofs.C06PFull
/-! C06 (performance half) — the property theorems that need no arithmetic on times (core Lean only): what extraction
itself produces is canonical (`Performance`: from notes of which no two of one pitch overlap); and, as examples, why the
extractor's output on overlapping notes of one pitch is NOT round-trippable (FIFO re-matching reorders simultaneous
NOTE_OFFs).  The round trips themselves, for every `Rounding` operator, are in `Props/C06P_float.lean`. -/
namespace NSV.C06P
open NSV.C06 NSV.C07

/-- the sequence `to_sequence` builds from its notes -/
abbrev renderedSeq (notes : List Note) : NoteSeq :=
  { notes := notes, totalTime := totalTimeOf notes, tpq := Gen.STANDARD_PPQ }

/-- the three stages of a round trip, each without error -/
theorem rt_ok {α β γ : Type} {render : Except RErr α} {quant : α → Except Err β} {extract : β → Except XErr γ}
    {ns : α} {q : β} {r : γ} (h1 : render = .ok ns) (h2 : quant ns = .ok q) (h3 : extract q = .ok r) :
    ((liftR render).bind fun ns => (liftQ (quant ns)).bind fun q => liftX (extract q)) = .ok r := by
  rw [h1]
  simp only [liftR, Except.bind, h2, liftQ, h3, liftX]

theorem toSequenceCore_ok (R : Rat → Rat) (σ : Rat) (p : PerfObj) (a : SeqArgs) (D : List RNote)
    (hD : decodeEvents p.nb a.velocity p.events = .ok D) (hmd : a.maxDur = none) :
    toSequenceCore R σ p a = .ok (renderedSeq (D.map (mkNote R (renderCfg R σ p a)))) := by
  simp only [toSequenceCore, hD, hmd]

/-- **extract_canonical_NotePerf**: whatever `NotePerformance(quantized_sequence, …)` returns is canonical, for every
quantized sequence in which the notes of one step carry one start time (true of every sequence `to_sequence`
renders, and of any sequence on a grid) — so `CanonicalNotePerf` is "what extraction itself produces" and the
hypothesis of `roundtrip_NotePerformance` is never vacuous. -/
theorem extract_canonical_NotePerf (s : NoteSeq) (nb : Int) (inst : Option Int) (start ms md : Int)
    (hgrid : ∀ a ∈ s.notes, ∀ b ∈ s.notes, a.qs = b.qs → a.start = b.start)
    (r : NotePerfResult) (h : notePerfFromQuantized s nb inst start ms md = .ok r) :
    CanonicalNotePerf ms md r.events := by
  unfold notePerfFromQuantized at h
  simp only at h
  split at h
  · simp at h
  split at h
  · simp at h
  cases hl : notePerfLoop nb ms md start (sortedNotes s start inst) with
  | error x => rw [hl] at h; simp at h
  | ok evs =>
    rw [hl] at h
    simp only [Except.ok.injEq] at h
    subst h
    have hpw : (sortedNotes s start inst).Pairwise (fun a b => a.qs = b.qs → a.pitch ≤ b.pitch) := by
      have h1 := timePitchLe_pre.sorted
        (selectNotes s start inst)
      refine List.Pairwise.imp_of_mem ?_ h1
      intro a b ha hb hab hq
      have ha' := (mem_sortedNotes.mp ha).1
      have hb' := (mem_sortedNotes.mp hb).1
      have hst := hgrid a ha' b hb' hq
      simp only [timePitchLe, Bool.or_eq_true, decide_eq_true_eq, Bool.and_eq_true, beq_iff_eq] at hab
      rcases hab with h' | ⟨_, h'⟩
      · rw [hst] at h'; exact absurd h' Rat.lt_irrefl
      · exact h'
    obtain ⟨rfl, i1⟩ := notePerfLoop_ok _ start evs hl
    unfold CanonicalNotePerf CanonicalNotePerfB
    simp only [Bool.and_eq_true, List.all_eq_true]
    exact ⟨i1, npTuples_ordered nb _ start hpw⟩

/-! non-vacuity: a chord, a later note and a maximal duration, 8 bins, 100 steps/s, start step 7 -/
def exNP : NotePerfObj := ⟨[⟨0, 60, 3, 4⟩, ⟨0, 64, 3, 4⟩, ⟨0, 64, 8, 2⟩, ⟨5, 48, 1, 1000⟩], 7, 8, 100, none, none⟩

example : CanonicalNotePerf 1000 1000 exNP.events := by decide
/-- tuples of one step out of pitch order are not canonical: the extractor sorts the notes of one step by pitch -/
example : ¬ CanonicalNotePerf 1000 1000 [⟨0, 64, 3, 4⟩, ⟨0, 60, 3, 4⟩] := by decide

/-- so the `_partial` theorems speak about a subset of the lists `roundtrip_Performance` covers -/
theorem canonicalFull_of_canonical (nb ms : Int) (evs : List PEvent) (h : CanonicalPerf nb ms evs) :
    CanonicalPerfFull nb ms evs := by
  obtain ⟨h1, h2, h3, h4, h5, h6, h7, h8⟩ := (canonicalPerfB_iff nb ms true evs).mp h
  exact (canonicalPerfB_iff nb ms false evs).mpr ⟨h1, h2, h3, h4, h5, h6, h7.imp fun h => onLe_of_onLt h, h8⟩

/-- **extract_canonical_Perf**: whatever `BasePerformance._from_quantized_sequence` returns (`Performance` and
`MetricPerformance` share it) is canonical, for every quantized sequence in `ExtractDomain`: selected notes with MIDI
pitches (and velocities, when bins are used) and positive length, start times that agree with the start steps, and no
two selected notes of one pitch overlapping.  So `CanonicalPerf` is "what extraction itself produces", and the
hypothesis of the round-trip theorems is satisfied by every extractor output on such a sequence. -/
theorem extract_canonical_Perf (s : NoteSeq) (start nb ms : Int) (inst : Option Int) (evs : List PEvent)
    (hms : 1 ≤ ms) (hnb : 0 ≤ nb) (hd : ExtractDomain s start nb inst)
    (h : perfEvents s start nb ms inst = .ok evs) : CanonicalPerf nb ms evs := by
  obtain ⟨hvalid, hrange, hstrict, hno⟩ := hd.sorted
  rw [perfEvents_emit s start nb ms inst hms hnb ((noteEvents (sortedNotes s start inst)).map (sevOf nb start))
    (by rw [List.map_map]; exact List.map_congr_left fun e _ => sevOfNEv_eq_shift nb start e)] at h
  -- success says that the validator accepted the layout, and what the layout is
  split at h
  case isFalse => cases h
  next hall =>
    rw [← Except.ok.inj h]
    exact canonical_emit_noteEvents nb ms start hms hnb _ (fun n hn => (hvalid n hn).2.2) (List.all_eq_true.mp hall)
      hrange hstrict hno

/-- a canonical list with two overlapping notes of one pitch (60: steps 0–5 and 2–7), a chord, a velocity change,
a shift of more than `max_shift_steps = 3`, several NOTE_OFFs on one step -/
def exEvents : List PEvent :=
  [.velocity 3, .noteOn 60, .noteOn 64, .timeShift 2, .velocity 5, .noteOn 60, .timeShift 3, .noteOff 60, .noteOff 64,
   .noteOn 67, .timeShift 2, .noteOff 60, .noteOff 67]

example : CanonicalPerf 8 3 exEvents := by decide
/-- **why same-pitch overlaps need the FIFO clause of `CanonicalPerf`.**  Three notes: pitch 60 over steps 0–8,
pitch 62 over 1–8, pitch 60 over 2–4.  The extractor emits the two final NOTE_OFFs in the order of its notes
`(0, 60) < (1, 62)`: `OFF 60, OFF 62`.  `_to_sequence` matches NOTE_OFFs to NOTE_ONs first-in-first-out per pitch,
so it renders pitch 60 as 0–4 and 2–8: the note ending at step 8 then starts at step 2, after the pitch-62 note,
and re-extraction emits `OFF 62, OFF 60`.  The extractor's output on this sequence is therefore not canonical (the
NOTE_OFFs of one step are not in the order of their FIFO-matched notes) and does not survive the round trip. -/
def exOverlap : NoteSeq :=
  { notes := [{ (default : Note) with pitch := 60, velocity := 100, qs := 0, qe := 8, start := 0, end_ := 8 },
              { (default : Note) with pitch := 62, velocity := 100, qs := 1, qe := 8, start := 1, end_ := 8 },
              { (default : Note) with pitch := 60, velocity := 100, qs := 2, qe := 4, start := 2, end_ := 4 }],
    sps := 1 }

def exOverlapEvents : List PEvent :=
  [.noteOn 60, .timeShift 1, .noteOn 62, .timeShift 1, .noteOn 60, .timeShift 2, .noteOff 60, .timeShift 4,
   .noteOff 60, .noteOff 62]

def exOverlapFifo : List PEvent :=
  [.noteOn 60, .timeShift 1, .noteOn 62, .timeShift 1, .noteOn 60, .timeShift 2, .noteOff 60, .timeShift 4,
   .noteOff 62, .noteOff 60]

instance : DecidableRel NevLt := fun a b => by unfold NevLt; infer_instance

/-- this is what the extractor returns on the overlapping sequence … -/
example : perfEvents exOverlap 0 0 100 none = .ok exOverlapEvents := by
  have h1 : sortedNotes exOverlap 0 none = exOverlap.notes := by
    unfold sortedNotes
    have : selectNotes exOverlap 0 none = exOverlap.notes := by decide +kernel
    rw [this]
    apply List.mergeSort_of_pairwise
    decide +kernel
  unfold perfEvents
  rw [h1]
  have h2 : noteEvents exOverlap.notes =
      [⟨0, 0, false, exOverlap.notes[0]⟩, ⟨1, 1, false, exOverlap.notes[1]⟩, ⟨2, 2, false, exOverlap.notes[2]⟩,
       ⟨4, 2, true, exOverlap.notes[2]⟩, ⟨8, 0, true, exOverlap.notes[0]⟩, ⟨8, 1, true, exOverlap.notes[1]⟩] :=
    List.Perm.eq_of_pairwise (fun a b _ _ h1 h2 => absurd h2 h1.asymm)
      (noteEvents_facts exOverlap.notes).1 (by decide +kernel)
      ((List.mergeSort_perm _ _).trans (by decide +kernel))
  rw [h2]
  decide +kernel
/-- … it is not canonical … -/
example : ¬ CanonicalPerfFull 0 100 exOverlapEvents := by decide
/-- … `_to_sequence` re-matches it first-in-first-out (the note ending at step 8 starts at step 2) … -/
example : decodeEvents 0 100 exOverlapEvents = .ok [⟨60, 0, 4, 100⟩, ⟨60, 2, 8, 100⟩, ⟨62, 1, 8, 100⟩] := by decide
/-- … while the same music with the overlap resolved the FIFO way is canonical (and round-trips) -/
example : CanonicalPerf 0 100 exOverlapFifo := by decide

/-- two NOTE_ONs of one pitch on one step (with different bins): canonical at full strength only; covered by
`roundtrip_Performance`, not by the normal-form theorem (the stable sort makes the result depend on storage order) -/
example : CanonicalPerfFull 4 100 [.velocity 1, .noteOn 60, .velocity 2, .noteOn 60, .timeShift 2, .noteOff 60,
    .timeShift 1, .noteOff 60] ∧
    ¬ CanonicalPerf 4 100 [.velocity 1, .noteOn 60, .velocity 2, .noteOn 60, .timeShift 2, .noteOff 60,
    .timeShift 1, .noteOff 60] := by decide

end NSV.C06P

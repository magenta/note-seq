import NoteSeqVerif.Props.C13
/-! C13 — explicit durations of `concatenate_sequences` are judged by VALUE, not by truthiness.

`sequence_durations[i] < sequences[i].total_time → ValueError` holds for every duration value, in
particular for the first legal value of the range, `0` (a falsy number in Python): a zero duration is
accepted exactly for pieces whose `total_time` is `0`.  The list itself is what switches the explicit
durations on (`durs ≠ []`), never an element of it. -/
namespace NSV.C13

/-- with explicit durations of the right length, a piece whose duration is smaller than its
`total_time` makes the call raise — there is no result, whatever the value of that duration -/
theorem concat_short_duration_rejected (R : Rat → Rat) (mm : List String → String) (seqs : List MSeq)
    (durs : List Rat) (hd : durs ≠ []) (hl : seqs.length = durs.length)
    (h : ∃ p ∈ seqs.zip durs, p.2 < p.1.ns.totalTime) :
    ∃ e, concatR R mm seqs durs = .error e := by
  have hu : (!durs.isEmpty) = true := by simpa using hd
  obtain ⟨p, hp, hlt⟩ := h
  obtain ⟨o, ho⟩ := exists_mem_zip_catOffs R seqs durs (p := p) (by rw [catPairs, if_pos hu]; exact hp)
  cases hc : concatR R mm seqs durs with
  | error e => exact ⟨e, rfl⟩
  | ok r => exact absurd (Or.inl ⟨hu, hlt⟩) (((concat_ok_iff R mm seqs durs r).mp hc).2.1 (p, o) ho)

/-- the first legal value of the range: a duration `0` for a piece of positive `total_time` is too
short (the check must not be skipped because `0` is falsy) -/
theorem concat_zero_duration_rejected (R : Rat → Rat) (mm : List String → String) (seqs : List MSeq)
    (durs : List Rat) (hd : durs ≠ []) (hl : seqs.length = durs.length)
    (h : ∃ p ∈ seqs.zip durs, p.2 = 0 ∧ 0 < p.1.ns.totalTime) :
    ∃ e, concatR R mm seqs durs = .error e := by
  obtain ⟨p, hp, h0, hpos⟩ := h
  exact concat_short_duration_rejected R mm seqs durs hd hl ⟨p, hp, by rw [h0]; exact hpos⟩

/-- … and a zero duration IS accepted for a piece that really is empty (`total_time = 0`): one such
piece with duration `0` concatenates to a result (quantized or not: the first piece is never shifted) -/
theorem concat_zero_duration_of_empty_piece (R : Rat → Rat) (mm : List String → String) (s : MSeq)
    (h0 : s.ns.totalTime = 0) : ∃ r, concatR R mm [s] [0] = .ok r := by
  simp [concatR, catLoop, h0]

def exLong : MSeq := { ns := { totalTime := 5 } }

example : ([0, 1] : List Rat) ≠ [] ∧ [exLong, exLong].length = ([0, 1] : List Rat).length ∧
    ∃ p ∈ [exLong, exLong].zip ([0, 1] : List Rat), p.2 = 0 ∧ 0 < p.1.ns.totalTime :=
  ⟨by simp, rfl, (exLong, 0), by simp, rfl, by decide +kernel⟩
example : errOf (concatR id (fun _ => "-") [exLong, { ns := { totalTime := 1 } }] [0, 1]) = some .valueError ∧
    (concatR id (fun _ => "-") [exLong, {}, exLong] [5, 0, 5]).toOption.map (·.ns.totalTime) = some 10 := by
  decide +kernel

end NSV.C13

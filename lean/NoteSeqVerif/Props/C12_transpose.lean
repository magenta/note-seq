import NoteSeqVerif.Proofs.C12AOps
/-! C12 — transposition does not depend on the storage order of any repeated field
(corollaries of C10's closed form `noteLoop_eq` and of the text-loop lemmas).

The model's result type is `Except Err (NoteSeq × Nat)` (sequence, number of deleted notes):
`ResPermT` = same error, or the same deleted-note count and sequences equal up to storage order.
Side condition `OneSplitError split s.texts`: all chord symbols of the sequence that the splitter
rejects are rejected with the same error — the text loop raises at the *first* uninterpretable
symbol in storage order, so with two different errors the raised one depends on the order
(`transpose_error_depends_on_order`); the implementation only ever raises `ChordSymbolError` there.
No condition on notes or on ties of any kind. -/
namespace NSV.C12
open NSV.C10 NSV.C10.Gen

def ResPermT (r r' : Except Err (NoteSeq × Nat)) : Prop :=
  match r, r' with
  | .ok a, .ok b => NSPerm a.1 b.1 ∧ a.2 = b.2
  | .error e, .error e' => e = e'
  | _, _ => False

/-- `transpose_note_sequence(ns, amount, min_allowed_pitch, max_allowed_pitch, transpose_chords)` on
two storage orders of one sequence: same error, or the same number of deleted notes and the same
transposed sequence up to storage order -/
theorem transposeNS_perm (split : String → Except Err Sym) {s s' : NoteSeq} (h : NSPerm s s')
    (ho : OneSplitError split s.texts) (k mn mx : Int) (tc : Bool) :
    ResPermT (transposeNS split s k mn mx tc) (transposeNS split s' k mn mx tc) := by
  obtain ⟨n1, n2, n3⟩ := noteLoop_perm k mn mx h.notes
  have build : ∀ (tx tx' : List TextAnn), tx.Perm tx' →
      NSPerm { s with notes := (noteLoop k mn mx s.notes [] 0 0).1,
                      totalTime := (noteLoop k mn mx s.notes [] 0 0).2.2, texts := tx,
                      keySigs := s.keySigs.map (transposeKey k) }
             { s' with notes := (noteLoop k mn mx s'.notes [] 0 0).1,
                       totalTime := (noteLoop k mn mx s'.notes [] 0 0).2.2, texts := tx',
                       keySigs := s'.keySigs.map (transposeKey k) } := by
    intro tx tx' htx
    exact { h with notes := n1, keySigs := h.keySigs.map _, texts := htx, totalTime := n3 }
  unfold transposeNS
  cases tc with
  | false =>
    simp only [Bool.false_eq_true, if_false]
    exact ⟨build _ _ (h.texts.filter _), n2⟩
  | true =>
    simp only [if_true]
    obtain ⟨e, h1, h2⟩ | ⟨r, r', h1, h2, ht⟩ := (textLoop_perm split k h.texts ho).cases <;> rw [h1, h2]
    · rfl
    · exact ⟨build _ _ ht, n2⟩

/-- the interval handed to `random.randint` by `augment_note_sequence` (lowest / highest pitch of the
sequence) does not depend on which note is stored first -/
theorem augmentRange_perm {s s' : NoteSeq} (h : NSPerm s s') (minT maxT mn mx : Int) (del : Bool) :
    augmentRange s minT maxT mn mx del = augmentRange s' minT maxT mn mx del := by
  unfold augmentRange
  rw [← h.isQuantized]
  have hp := h.notes
  cases hl : s.notes with
  | nil => rw [hl] at hp; rw [hp.nil_eq]
  | cons a as =>
    cases hl' : s'.notes with
    | nil => rw [hl, hl'] at hp; exact absurd hp.eq_nil (by simp)
    | cons b bs =>
      rw [hl, hl'] at hp
      simp only []
      rw [minPitch_perm hp, maxPitch_perm hp]

/-- `augment_note_sequence` (transposition half; `pick` stands for `random.randint`) -/
theorem augment_perm (split : String → Except Err Sym) (pick : Int → Int → Int) {s s' : NoteSeq}
    (h : NSPerm s s') (ho : OneSplitError split s.texts) (minT maxT mn mx : Int) (del : Bool) :
    ResPerm (augment split pick s minT maxT mn mx del) (augment split pick s' minT maxT mn mx del) := by
  unfold augment
  rw [← augmentRange_perm h]
  cases augmentRange s minT maxT mn mx del with
  | error e => rfl
  | ok rg =>
    cases rg with
    | none => exact h
    | some ab =>
      obtain ⟨a, b⟩ := ab
      simp only []
      split
      · rfl
      · have ht := transposeNS_perm split h ho (pick a b) mn mx true
        cases h1 : transposeNS split s (pick a b) mn mx true <;>
          cases h2 : transposeNS split s' (pick a b) mn mx true <;> rw [h1, h2] at ht
        · exact ht
        · exact ht
        · exact ht
        · exact ht.1

theorem oneSplitError_perm {split : String → Except Err Sym} {s s' : NoteSeq} (h : NSPerm s s') :
    OneSplitError split s.texts ↔ OneSplitError split s'.texts :=
  ⟨fun ho => ho.perm h.texts, fun ho => ho.perm h.texts.symm⟩

/-- a splitter with a single error class (what `_split_chord_symbol` is) satisfies the condition on
every sequence -/
theorem oneSplitError_of_uniform (split : String → Except Err Sym) (e0 : Err)
    (hu : ∀ f e, split f = .error e → e = e0) (ts : List TextAnn) : OneSplitError split ts :=
  fun _ _ _ _ _ _ e e' hs hs' => (hu _ e hs).trans (hu _ e' hs').symm

def exNoteT (p : Int) (drum : Bool) (e : Rat) : Note :=
  { (default : Note) with pitch := p, isDrum := drum, end_ := e, velocity := 80 }

/-- a toy splitter: `"C"` is C major, `"?"` and `"!"` are rejected with two different errors -/
def exSplit (f : String) : Except Err Sym :=
  if f = "C" then .ok ⟨⟨.C, 0⟩, "", "", [], none⟩
  else if f = "?" then .error chordSymbolError else .error keyError

def exT : NoteSeq :=
  { notes := [exNoteT 60 false 1, exNoteT 125 false 3, exNoteT 36 true 2, exNoteT 60 false 2],
    keySigs := [⟨0, 0, 0⟩, ⟨1, 7, 1⟩],
    texts := [⟨0, 0, CHORD_SYMBOL, "C"⟩, ⟨1, 0, CHORD_SYMBOL, NO_CHORD⟩, ⟨1, 0, 2, "?"⟩],
    totalTime := 3 }

def exT' : NoteSeq :=
  { exT with
    notes := [exNoteT 60 false 2, exNoteT 36 true 2, exNoteT 125 false 3, exNoteT 60 false 1],
    keySigs := [⟨1, 7, 1⟩, ⟨0, 0, 0⟩],
    texts := [⟨1, 0, 2, "?"⟩, ⟨1, 0, CHORD_SYMBOL, NO_CHORD⟩, ⟨0, 0, CHORD_SYMBOL, "C"⟩] }

-- non-vacuity: different storage orders, coinciding same-pitch notes, a deleted note, a drum, a chord
example : NSPerm exT exT' := by
  constructor <;> first | rfl | (simp only [exT, exT']; decide +kernel)
example : OneSplitError exSplit exT.texts := by
  intro t ht t' ht' hc hc' e e' hs hs'
  simp only [exT, List.mem_cons, List.not_mem_nil, or_false] at ht ht'
  rcases ht with rfl | rfl | rfl <;> rcases ht' with rfl | rfl | rfl <;>
    first
    | (simp [exSplit] at hs; done)
    | (simp [exSplit] at hs'; done)
    | (exact absurd hc (by unfold IsChord; decide))
    | (exact absurd hc' (by unfold IsChord; decide))
example : (transposeNS exSplit exT 5 0 127 true).toOption.map (fun r => (r.1.notes.length, r.2)) = some (3, 1) := by
  decide +kernel

def exE : NoteSeq := { texts := [⟨0, 0, CHORD_SYMBOL, "?"⟩, ⟨1, 0, CHORD_SYMBOL, "!"⟩] }
def exE' : NoteSeq := { texts := [⟨1, 0, CHORD_SYMBOL, "!"⟩, ⟨0, 0, CHORD_SYMBOL, "?"⟩] }

/-- **the side condition is necessary in the model**: with a splitter that has two error classes the
raised error is that of whichever bad chord symbol is stored first -/
theorem transpose_error_depends_on_order :
    NSPerm exE exE' ∧ ¬ OneSplitError exSplit exE.texts ∧
    transposeNS exSplit exE 1 0 127 true = .error chordSymbolError ∧
    transposeNS exSplit exE' 1 0 127 true = .error keyError := by
  refine ⟨?_, ?_, by decide +kernel, by decide +kernel⟩
  · constructor <;> first | rfl | (simp only [exE, exE']; decide +kernel)
  · intro ho
    have := ho ⟨0, 0, CHORD_SYMBOL, "?"⟩ (by simp [exE]) ⟨1, 0, CHORD_SYMBOL, "!"⟩ (by simp [exE])
      (by unfold IsChord; decide) (by unfold IsChord; decide) chordSymbolError keyError
      (by decide +kernel) (by decide +kernel)
    exact absurd this (by decide)

end NSV.C12

import NoteSeqVerif.Proofs.C12ASplit
/-! C12 — extraction / splitting does not depend on the storage order of any repeated field
(corollaries of the closed forms proved for C02: `extract_cases`, `extract_subsequence_spec`, `split_with_spec`).

`NSPerm s s'`: `s'` is `s` with every repeated field permuted arbitrarily.  `ResPerm` / `ResPermList`:
same error, or the same sequence / the same number of sequences, position by position, up to storage
order.  `R` is the rounding operator applied after every float operation (`rne53` in the model that is
compared with the Python, `id` = exact arithmetic): every theorem holds for every `R`, so in
particular for the compiled float model (`extract_float_perm` in `Props/C12_extract_float.lean`, which needs
`rne53_mono`).

Side condition `NoTies preserve s` (decidable, invariant under `NSPerm`): no two tempos / time
signatures / key signatures / chord symbols at one time, no two preserved control changes of one
(instrument, controller) at one time — the part of the property's quantifier extraction needs; the
notes are unrestricted.  `no_ties_needed` shows the condition cannot be dropped.
The silence splitter needs `SilenceOK` instead of a condition on ties (`silence_negative_gap_depends_on_order`
shows the model really depends on the storage order of two notes starting together when the gap is negative). -/
namespace NSV.C12
open NSV.C02

/-- `_extract_subsequences(sequence, split_times)`: for every split-time vector (valid or not) the
two storage orders give the same error, or the same number of pieces with piece `i` equal up to
storage order -/
theorem extractSubsequences_perm (R : Rat → Rat) (preserve : List Int) {s s' : NoteSeq}
    (h : NSPerm s s') (hn : NoTies preserve s) (st : List Rat) :
    ResPermList (extractSubsequencesR R preserve s st) (extractSubsequencesR R preserve s' st) :=
  extractSubsequences_perm_of_pieces R preserve h (specPiece_perm R preserve h hn) st

/-- `extract_subsequence(sequence, start_time, end_time)` -/
theorem extractSubsequence_perm (R : Rat → Rat) (preserve : List Int) {s s' : NoteSeq}
    (h : NSPerm s s') (hn : NoTies preserve s) (a b : Rat) :
    ResPerm (extractSubsequenceR R preserve s a b) (extractSubsequenceR R preserve s' a b) :=
  extractSubsequence_perm_of_pieces R preserve h (specPiece_perm R preserve h hn) a b

/-- `trim_note_sequence(sequence, start_time, end_time)` — no side condition at all -/
theorem trim_perm {s s' : NoteSeq} (h : NSPerm s s') (a b : Rat) :
    ResPerm (trim s a b) (trim s' a b) := by
  unfold trim
  rw [← h.isQuantized]
  split
  · rfl
  · exact { h with notes := (h.notes.filter _).map _, totalTime := by rw [h.totalTime] }

/-- `split_note_sequence(sequence, [t₁, t₂, …], skip_splits_inside_notes)` (explicit times, any order,
any values) -/
theorem splitHopList_perm (R : Rat → Rat) (preserve : List Int) {s s' : NoteSeq} (h : NSPerm s s')
    (hn : NoTies preserve s) (hops : List Rat) (skip : Bool) :
    ResPermList (splitHopListR R preserve s hops skip) (splitHopListR R preserve s' hops skip) := by
  unfold splitHopListR
  rw [hopLoop_perm skip _ _ _ [] [] [] (crossInv_start h)]
  exact splitWith_perm R preserve h hn _

/-- `split_note_sequence(sequence, hop_size_seconds, skip_splits_inside_notes)` (float hop size: any
value, including 0, negative and — for `R = rne53` — one whose multiples round irregularly) -/
theorem splitHop_perm (R : Rat → Rat) (preserve : List Int) {s s' : NoteSeq} (h : NSPerm s s')
    (hn : NoTies preserve s) (hop : Rat) (skip : Bool) :
    ResPermList (splitHopR R preserve s hop skip) (splitHopR R preserve s' hop skip) := by
  unfold splitHopR
  split
  · rfl
  · rw [← h.totalTime, hopLoop_perm skip _ _ _ [] [] [] (crossInv_start h)]
    exact splitWith_perm R preserve h hn _

/-- `split_note_sequence_on_time_changes(sequence, skip_splits_inside_notes)` -/
theorem splitTimeChanges_perm (R : Rat → Rat) (preserve : List Int) (defaultQpm : Rat) {s s' : NoteSeq}
    (h : NSPerm s s') (hn : NoTies preserve s) (skip : Bool) :
    ResPermList (splitTimeChangesR R preserve defaultQpm s skip)
      (splitTimeChangesR R preserve defaultQpm s' skip) := by
  unfold splitTimeChangesR
  rw [← timeChanges_eq h hn.2.1 hn.1,
    tcLoop_perm skip _ _ _ _ _ _ [] [] _ _ (crossInv_start h)]
  exact splitWith_perm R preserve h hn _

/-- `split_note_sequence_on_silence(sequence, gap_seconds)`, under `SilenceOK R gap s.notes`: no note
starts after it ends, and `end ≤ x → end ≤ R (x + gap)` for every note end -/
theorem splitSilence_perm (R : Rat → Rat) (preserve : List Int) {s s' : NoteSeq} (h : NSPerm s s')
    (hn : NoTies preserve s) (gap : Rat) (hk : SilenceOK R gap s.notes) :
    ResPermList (splitSilenceR R preserve s gap) (splitSilenceR R preserve s' gap) := by
  rw [(split_silence_times R preserve s gap).1, (split_silence_times R preserve s' gap).1,
    silenceOnsets_perm R gap (sortedNotes_perm h) (sortedNotes_sorted s) (sortedNotes_sorted s')
      (hk.perm (sortByRat_perm _ _).symm)]
  exact splitWith_perm R preserve h hn _

/-- any monotone rounding that leaves the note ends alone (they are floats), non-negative gap -/
theorem silenceOK_of_mono {R : Rat → Rat} (hmono : ∀ a b, a ≤ b → R a ≤ R b) {gap : Rat} (hg : 0 ≤ gap)
    {notes : List Note} (hv : ∀ n ∈ notes, n.start ≤ n.end_) (hf : ∀ n ∈ notes, R n.end_ = n.end_) :
    SilenceOK R gap notes :=
  ⟨hv, fun n hn x hx => by
    have := hmono n.end_ (x + gap) (by grind)
    rw [hf n hn] at this
    exact this⟩

theorem silenceOK_exact {gap : Rat} (hg : 0 ≤ gap) {notes : List Note}
    (hv : ∀ n ∈ notes, n.start ≤ n.end_) : SilenceOK id gap notes :=
  silenceOK_of_mono (fun _ _ h => h) hg hv fun _ _ => rfl

theorem noTies_perm {preserve : List Int} {s s' : NoteSeq} (h : NSPerm s s') :
    NoTies preserve s ↔ NoTies preserve s' :=
  ⟨fun hn => hn.perm h, fun hn => hn.perm h.symm⟩

/-- C02's example sequence with a second pedal event of the same instrument and a second chord -/
def exSeqA : NoteSeq :=
  { notes := [exNote 64 (3/2) 3, exNote 60 0 1, exNote 62 2 (5/2), exNote 67 2 3],
    tempos := [⟨0, 120⟩, ⟨2, 60⟩], timeSigs := [⟨1/2, 3, 4⟩, ⟨0, 4, 4⟩],
    keySigs := [⟨1, 2, 0⟩, ⟨0, 0, 0⟩],
    texts := [⟨0, 0, Gen.CHORD_SYMBOL, "C"⟩, ⟨2, 0, Gen.BEAT, ""⟩, ⟨1, 0, Gen.CHORD_SYMBOL, "G"⟩,
              ⟨2, 0, Gen.BEAT, ""⟩],
    ccs := [⟨1/2, 0, 64, 127, 0, 0, false⟩, ⟨1, 0, 64, 0, 1, 0, false⟩, ⟨3/2, 0, 7, 1, 0, 0, false⟩,
            ⟨1, 0, 64, 0, 0, 0, false⟩, ⟨1/2, 0, 66, 5, 0, 0, false⟩],
    totalTime := 3 }

/-- the same multiset, every repeated field stored in another order -/
def exSeqA' : NoteSeq :=
  { exSeqA with
    notes := [exNote 67 2 3, exNote 62 2 (5/2), exNote 60 0 1, exNote 64 (3/2) 3],
    tempos := [⟨2, 60⟩, ⟨0, 120⟩], timeSigs := [⟨0, 4, 4⟩, ⟨1/2, 3, 4⟩],
    keySigs := [⟨0, 0, 0⟩, ⟨1, 2, 0⟩],
    texts := [⟨2, 0, Gen.BEAT, ""⟩, ⟨1, 0, Gen.CHORD_SYMBOL, "G"⟩, ⟨2, 0, Gen.BEAT, ""⟩,
              ⟨0, 0, Gen.CHORD_SYMBOL, "C"⟩],
    ccs := [⟨1/2, 0, 66, 5, 0, 0, false⟩, ⟨1, 0, 64, 0, 0, 0, false⟩, ⟨3/2, 0, 7, 1, 0, 0, false⟩,
            ⟨1, 0, 64, 0, 1, 0, false⟩, ⟨1/2, 0, 64, 127, 0, 0, false⟩] }

-- the hypotheses are satisfiable by a non-trivial input: two notes and two pedal events at one time,
-- a tempo change on a split time, genuinely different storage orders
example : NoTies Gen.PRESERVE exSeqA := by decide +kernel
example : NSPerm exSeqA exSeqA' := by
  constructor <;> first | rfl | (simp only [exSeqA, exSeqA']; decide +kernel)
example : exSeqA.notes ≠ exSeqA'.notes := by decide +kernel
example : Valid exSeqA [1, 2, 3] := ⟨by decide, by decide, by decide, by decide⟩
example : SilenceOK id (1/2) exSeqA.notes :=
  silenceOK_exact (by decide +kernel) (by decide +kernel)

/-- two tempos stored at the same time, and the other storage order -/
def exTie : NoteSeq := { tempos := [⟨0, 120⟩, ⟨0, 60⟩], totalTime := 2 }
def exTie' : NoteSeq := { tempos := [⟨0, 60⟩, ⟨0, 120⟩], totalTime := 2 }

/-- **the side condition is necessary**: with two tempos at one time the extracted piece carries
whichever was stored last, so the results of the two storage orders are not equal up to storage order -/
theorem no_ties_needed :
    NSPerm exTie exTie' ∧ ¬ NoTies Gen.PRESERVE exTie ∧
    ¬ ResPerm (extractSubsequenceR id Gen.PRESERVE exTie 1 2) (extractSubsequenceR id Gen.PRESERVE exTie' 1 2) := by
  refine ⟨?_, by decide +kernel, ?_⟩
  · constructor <;> first | rfl | (simp only [exTie, exTie']; decide +kernel)
  · rw [extract_subsequence_spec, extract_subsequence_spec]
    have e1 : (specPiece id Gen.PRESERVE exTie (1, 2)).tempos = [⟨0, 60⟩] := by
      show specState id (·.time) Tempo.setTime exTie.tempos 1 2 = _
      unfold specState
      rw [sortByRat_of_pairwise _ _ (by decide +kernel)]
      decide +kernel
    have e2 : (specPiece id Gen.PRESERVE exTie' (1, 2)).tempos = [⟨0, 120⟩] := by
      show specState id (·.time) Tempo.setTime exTie'.tempos 1 2 = _
      unfold specState
      rw [sortByRat_of_pairwise _ _ (by decide +kernel)]
      decide +kernel
    have q1 : exTie.isQuantized = false := by decide
    have q2 : exTie'.isQuantized = false := by decide
    have t1 : ¬ ((1 : Rat) > 2 ∨ exTie.totalTime ≤ 1) := by decide +kernel
    have t2 : ¬ ((1 : Rat) > 2 ∨ exTie'.totalTime ≤ 1) := by decide +kernel
    simp only [q1, q2, Bool.false_eq_true, ↓reduceIte, t1, t2]
    intro hp
    have := hp.tempos
    rw [e1, e2] at this
    have := this.mem_iff (a := (⟨0, 60⟩ : Tempo))
    simp at this

/-- two notes of different pitch starting together, the longer stored second / first -/
def exSil : NoteSeq := { notes := [exNote 60 5 6, exNote 64 5 20], totalTime := 20 }
def exSil' : NoteSeq := { notes := [exNote 64 5 20, exNote 60 5 6], totalTime := 20 }

/-- **the model of `split_note_sequence_on_silence` depends on the storage order when the gap is
negative** (outside `SilenceOK`): with gap −2 the first order yields the onsets `[5, 5]`, the second `[5]` -/
theorem silence_negative_gap_depends_on_order :
    NSPerm exSil exSil' ∧ NoTies Gen.PRESERVE exSil ∧
    silLoop id (-2) (sortedNotes exSil) 0 [] = [5, 5] ∧ silLoop id (-2) (sortedNotes exSil') 0 [] = [5] := by
  have o1 : sortedNotes exSil = exSil.notes := sortByRat_of_pairwise _ _ (by decide +kernel)
  have o2 : sortedNotes exSil' = exSil'.notes := sortByRat_of_pairwise _ _ (by decide +kernel)
  rw [o1, o2]
  refine ⟨?_, by decide +kernel, by decide +kernel, by decide +kernel⟩
  constructor <;> first | rfl | (simp only [exSil, exSil']; decide +kernel)

end NSV.C12

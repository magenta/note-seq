import NoteSeqVerif.Proofs.C12
import NoteSeqVerif.Proofs.Lib
import NoteSeqVerif.Proofs.C12CRoll
/-! C12 — frame pianoroll rendering (`sequence_to_pianoroll` = `C18.encode`) does not depend on the storage
order of notes and control changes.

The code walks `sorted(sequence.notes, key=start_time)` and `sorted(sequence.control_changes, key=time)` (stable),
so elements with EQUAL keys are processed in storage order.  Notes of different pitches (or out of the pitch range)
write different columns of every roll and commute; two in-range notes of one pitch with the same start time do not
(`pianoroll_same_pitch_tie_depends_on_order`).  Control changes that address different columns of the control-change
roll commute; two of one controller number at one time do not (`pianoroll_cc_tie_depends_on_order`).

The result is IDENTICAL (all seven rolls, or the same exception) — not merely equal as a multiset.  The one
order-dependent thing that the tie hypotheses do not exclude is the KIND of exception when `max_velocity = 0`:
a note with `velocity > 0` raises ValueError, a note with `velocity ≤ 0` ZeroDivisionError, and which of two such
notes with one start time comes first is storage order (`pianoroll_error_kind_depends_on_order`); with
`max_velocity ≠ 0` every exception of the note loop is a ValueError.  `pianoroll_perm_any_max_velocity` is the statement
without that hypothesis: identical rolls, or an exception for both orders.

`NSV.C12.pianoroll_perm` is also the name of the theorem about the `PianorollSequence` extractor in
`Props/C12_events.lean`: the two files cannot be imported into one module. -/
namespace NSV.C12
open NSV.C18

/-- no two notes inside `[min_pitch, max_pitch]` of one PITCH share a start time -/
def NoteTieFree (c : Cfg) (notes : List PNote) : Prop :=
  notes.Pairwise (fun a b => a.start = b.start → ¬ outOfRange c a → ¬ outOfRange c b → a.pitch ≠ b.pitch)

instance (c : Cfg) (notes : List PNote) : Decidable (NoteTieFree c notes) := by
  unfold NoteTieFree; infer_instance

/-- no two control changes that address one column of the control-change roll share a time.  (The column is the
controller number, a negative number `-128..-1` wrapping like a numpy index; for MIDI controller numbers `0..127`
this reads "no two control changes of one controller number share a time": `ccTieFree_of_midi`.) -/
def CCTieFree (ccs : List PCC) : Prop :=
  ccs.Pairwise (fun a b => a.time = b.time → a.number % 128 ≠ b.number % 128)

instance (ccs : List PCC) : Decidable (CCTieFree ccs) := by
  unfold CCTieFree; infer_instance

theorem NoteTieFree.perm {c : Cfg} {notes notes' : List PNote} (h : notes.Perm notes') (ht : NoteTieFree c notes) :
    NoteTieFree c notes' :=
  h.pairwise ht (fun hxy e hy hx => (hxy e.symm hx hy).symm)

theorem CCTieFree.perm {ccs ccs' : List PCC} (h : ccs.Perm ccs') (ht : CCTieFree ccs) : CCTieFree ccs' :=
  h.pairwise ht (fun hxy e => (hxy e.symm).symm)

/-- for MIDI controller numbers the control-change hypothesis is: one controller number, one time, at most once -/
theorem ccTieFree_of_midi (ccs : List PCC) (hr : ∀ cc ∈ ccs, 0 ≤ cc.number ∧ cc.number < 128)
    (h : ccs.Pairwise (fun a b => a.time = b.time → a.number ≠ b.number)) : CCTieFree ccs := by
  unfold CCTieFree
  induction ccs with
  | nil => exact List.Pairwise.nil
  | cons a l ih =>
    have hp := List.pairwise_cons.mp h
    refine List.pairwise_cons.mpr ⟨?_, ih (fun x hx => hr x (List.mem_cons_of_mem _ hx)) hp.2⟩
    intro b hb e
    have h1 := hr a (by simp)
    have h2 := hr b (List.mem_cons_of_mem _ hb)
    have h3 := hp.1 b hb e
    omega

/-- the quantifier of C12 ("no two same-pitch notes overlap or coincide") implies the note hypothesis:
two notes of one pitch that share a start time coincide or overlap -/
theorem noteTieFree_of_distinct_starts (c : Cfg) (notes : List PNote)
    (h : notes.Pairwise (fun a b => a.pitch = b.pitch → a.start ≠ b.start)) : NoteTieFree c notes :=
  h.imp (fun hab e _ _ hp => hab hp e)

theorem encNotes_sorted_perm (R R32 : Rat → Rat) (eps : Rat) (c : Cfg) (total : Rat) (n : Nat)
    {notes notes' : List PNote} (hp : notes.Perm notes') (ht : NoteTieFree c notes) (st : Rolls) :
    (sortByStart notes).foldl (stepFn R R32 eps c total n) st =
      (sortByStart notes').foldl (stepFn R R32 eps c total n) st := by
  have hP : (sortByStart notes).Perm (sortByStart notes') := sortBy_perm_of_perm _ hp
  refine foldl_sorted_perm (stepFn R R32 eps c total n) (fun x y => x.start ≤ y.start)
    (fun a b => outOfRange c a ∨ outOfRange c b ∨ a.pitch ≠ b.pitch)
    (fun a b h s => stepFn_comm R R32 eps c total n a b h s) _ _ hP (sortBy_sorted _ _) (sortBy_sorted _ _) ?_ st
  have ht' : NoteTieFree c (sortByStart notes) := NoteTieFree.perm (sortBy_perm _ notes).symm ht
  refine List.Pairwise.imp ?_ ht'
  intro a b hab e e'
  by_cases ha : outOfRange c a
  · exact Or.inl ha
  · by_cases hb : outOfRange c b
    · exact Or.inr (Or.inl hb)
    · exact Or.inr (Or.inr (hab (Rat.le_antisymm e e') ha hb))

/-- the note loop: same exception or identical rolls -/
theorem encNotes_perm (R R32 : Rat → Rat) (eps : Rat) (c : Cfg) (total : Rat) (n : Nat)
    {notes notes' : List PNote} (hp : notes.Perm notes') (hmv : c.maxVelocity ≠ 0) (ht : NoteTieFree c notes)
    (st : Rolls) :
    encNotes R R32 eps c total n st (sortByStart notes) = encNotes R R32 eps c total n st (sortByStart notes') := by
  have hP : (sortByStart notes).Perm (sortByStart notes') := sortBy_perm_of_perm _ hp
  rw [encNotes_eq, encNotes_eq, encNotes_sorted_perm R R32 eps c total n hp ht st,
    findSome?_perm hP fun x _ y _ e e' ex ey => (stepErr_valueError hmv ex).trans (stepErr_valueError hmv ey).symm]

/-- the control-change loop: same exception or identical roll -/
theorem encCCs_perm (R : Rat → Rat) (eps : Rat) (c : Cfg) (n : Nat) {ccs ccs' : List PCC} (hp : ccs.Perm ccs')
    (ht : CCTieFree ccs) (m : List (List Int)) :
    encCCs R eps c n m (sortCCs ccs) = encCCs R eps c n m (sortCCs ccs') := by
  have hP : (sortCCs ccs).Perm (sortCCs ccs') := sortBy_perm_of_perm _ hp
  rw [encCCs_eq, encCCs_eq,
    findSome?_perm hP fun x _ y _ e e' ex ey => (ccErr_indexError ex).trans (ccErr_indexError ey).symm]
  have hf : (sortCCs ccs).foldl (ccFn R eps c n) m = (sortCCs ccs').foldl (ccFn R eps c n) m := by
    refine foldl_sorted_perm (ccFn R eps c n) (fun x y => x.time ≤ y.time) (fun a b => a.number % 128 ≠ b.number % 128)
      (fun a b h s => ccFn_comm R eps c n a b h s) _ _ hP (sortBy_sorted _ _) (sortBy_sorted _ _) ?_ m
    exact (CCTieFree.perm (sortBy_perm _ ccs).symm ht).imp fun h e e' => h (Rat.le_antisymm e e')
  rw [hf]

/-- **Pianoroll rendering does not depend on storage order.**  For every rounding, every configuration with
`max_velocity ≠ 0` (all onset modes, delays, occupancy thresholds, with or without the blank frame and overlapping
onsets), every total time: if the notes are stored in another order and the control changes are stored in another
order, and no two in-range notes of one pitch share a start time and no two control changes of one column share a
time, then `sequence_to_pianoroll` raises the same exception or returns IDENTICAL rolls — all seven (active,
weights, onsets, onset velocities, active velocities, offsets, control changes). -/
theorem pianoroll_perm (R R32 : Rat → Rat) (eps : Rat) (c : Cfg) (total : Rat) {notes notes' : List PNote}
    {ccs ccs' : List PCC} (hn : notes.Perm notes') (hc : ccs.Perm ccs') (hmv : c.maxVelocity ≠ 0)
    (htn : NoteTieFree c notes) (htc : CCTieFree ccs) :
    encode R R32 eps c total notes ccs = encode R R32 eps c total notes' ccs' := by
  unfold encode
  simp only []
  rw [encNotes_perm R R32 eps c total _ hn hmv htn, encCCs_perm R eps c _ hc htc]

def SameUpToErrorKind {α} (r r' : Except C18.Err α) : Prop :=
  match r, r' with
  | .ok a, .ok b => a = b
  | .error _, .error _ => True
  | _, _ => False

/-- The same without `max_velocity ≠ 0`: identical rolls, or an exception for both storage orders (for
`max_velocity = 0` not necessarily of the same kind: `pianoroll_error_kind_depends_on_order`). -/
theorem pianoroll_perm_any_max_velocity (R R32 : Rat → Rat) (eps : Rat) (c : Cfg) (total : Rat)
    {notes notes' : List PNote} {ccs ccs' : List PCC} (hn : notes.Perm notes') (hc : ccs.Perm ccs')
    (htn : NoteTieFree c notes) (htc : CCTieFree ccs) :
    SameUpToErrorKind (encode R R32 eps c total notes ccs) (encode R R32 eps c total notes' ccs') := by
  have hP : (sortByStart notes).Perm (sortByStart notes') := sortBy_perm_of_perm _ hn
  unfold encode
  simp only []
  split
  · trivial
  · rw [encCCs_perm R eps c _ hc htc, encNotes_eq, encNotes_eq, encNotes_sorted_perm R R32 eps c total _ hn htn]
    have hs : ((sortByStart notes).findSome? (stepErr R eps c total (numRows R c.fps total).toNat)).isSome =
        ((sortByStart notes').findSome? (stepErr R eps c total (numRows R c.fps total).toNat)).isSome :=
      Bool.eq_iff_iff.mpr (by simp only [List.findSome?_isSome_iff, hP.mem_iff])
    cases h1 : (sortByStart notes).findSome? (stepErr R eps c total (numRows R c.fps total).toNat) <;>
      cases h2 : (sortByStart notes').findSome? (stepErr R eps c total (numRows R c.fps total).toNat) <;>
      rw [h1, h2] at hs
    · simp only []
      cases encCCs R eps c (numRows R c.fps total).toNat
        (List.replicate (numRows R c.fps total).toNat (List.replicate 128 0)) (sortCCs ccs') with
      | error e => trivial
      | ok m => rfl
    · cases hs
    · cases hs
    · trivial

/-- what `sequence_to_pianoroll` reads of a note / a control change -/
def rollNotes (s : NoteSeq) : List PNote := s.notes.map (fun n => ⟨n.pitch, n.velocity, n.start, n.end_⟩)
def rollCCs (s : NoteSeq) : List PCC := s.ccs.map (fun cc => ⟨cc.time, cc.number, cc.value⟩)

def RollTieFree (c : Cfg) (s : NoteSeq) : Prop := NoteTieFree c (rollNotes s) ∧ CCTieFree (rollCCs s)

instance (c : Cfg) (s : NoteSeq) : Decidable (RollTieFree c s) := by unfold RollTieFree; infer_instance

theorem RollTieFree.perm {c : Cfg} {s s' : NoteSeq} (h : NSPerm s s') (ht : RollTieFree c s) : RollTieFree c s' :=
  ⟨NoteTieFree.perm (h.notes.map _) ht.1, CCTieFree.perm (h.ccs.map _) ht.2⟩

/-- `sequence_to_pianoroll` of two storage orders of one NoteSequence: same exception or identical rolls -/
theorem pianoroll_nsperm (R R32 : Rat → Rat) (eps : Rat) (c : Cfg) {s s' : NoteSeq} (h : NSPerm s s')
    (hmv : c.maxVelocity ≠ 0) (ht : RollTieFree c s) :
    encode R R32 eps c s.totalTime (rollNotes s) (rollCCs s) =
      encode R R32 eps c s'.totalTime (rollNotes s') (rollCCs s') := by
  rw [← h.totalTime]
  exact pianoroll_perm R R32 eps c s.totalTime (h.notes.map _) (h.ccs.map _) hmv ht.1 ht.2

/-! ## the hypotheses cannot be dropped; non-vacuity -/

def exCfg : Cfg :=
  { fps := 4, minPitch := 60, maxPitch := 62, maxVelocity := 127, blank := true, upweight := 5, window := 1,
    onsetLenMs := 0, offsetLenMs := 0, mode := 0, delayMs := 0, occ := 0, overlap := true }

def velsOf (r : Except C18.Err Pianoroll) : List (List Rat) :=
  match r with | .ok pr => pr.activeVelocities | .error _ => []
def ccOf (r : Except C18.Err Pianoroll) : List (List Int) :=
  match r with | .ok pr => pr.controlChanges.map (·.take 2) | .error _ => []
def errOf (r : Except C18.Err Pianoroll) : String :=
  match r with | .ok _ => "ok" | .error e => e.name

/-- Two notes of ONE pitch with one start time and different velocities: the velocity roll keeps the velocity of
the note stored last, so the result depends on the storage order — the note hypothesis cannot be dropped. -/
theorem pianoroll_same_pitch_tie_depends_on_order :
    velsOf (encode id id 0 exCfg (1 / 2) [⟨60, 100, 0, 1 / 4⟩, ⟨60, 50, 0, 1 / 2⟩] []) ≠
      velsOf (encode id id 0 exCfg (1 / 2) [⟨60, 50, 0, 1 / 2⟩, ⟨60, 100, 0, 1 / 4⟩] []) ∧
    ¬ NoteTieFree exCfg [⟨60, 100, 0, 1 / 4⟩, ⟨60, 50, 0, 1 / 2⟩] := by
  refine ⟨by decide +kernel, by decide +kernel⟩

/-- Two control changes of one controller number at one time: the roll keeps the value stored last — the
control-change hypothesis cannot be dropped. -/
theorem pianoroll_cc_tie_depends_on_order :
    ccOf (encode id id 0 exCfg (1 / 4) [] [⟨0, 1, 10⟩, ⟨0, 1, 20⟩]) ≠
      ccOf (encode id id 0 exCfg (1 / 4) [] [⟨0, 1, 20⟩, ⟨0, 1, 10⟩]) ∧
    ¬ CCTieFree [⟨0, 1, 10⟩, ⟨0, 1, 20⟩] := by
  refine ⟨by decide +kernel, by decide +kernel⟩

/-- `max_velocity = 0`: two notes of DIFFERENT pitches with one start time, one with velocity 1 (ValueError), one
with velocity 0 (ZeroDivisionError) — the kind of exception is that of the note stored first, although the
sequence satisfies both tie hypotheses (and the quantifier of C12). -/
theorem pianoroll_error_kind_depends_on_order :
    errOf (encode id id 0 { exCfg with maxVelocity := 0 } (1 / 2) [⟨60, 1, 0, 1 / 4⟩, ⟨61, 0, 0, 1 / 4⟩] []) = "ValueError" ∧
    errOf (encode id id 0 { exCfg with maxVelocity := 0 } (1 / 2) [⟨61, 0, 0, 1 / 4⟩, ⟨60, 1, 0, 1 / 4⟩] []) = "ZeroDivisionError" ∧
    NoteTieFree { exCfg with maxVelocity := 0 } [⟨60, 1, 0, 1 / 4⟩, ⟨61, 0, 0, 1 / 4⟩] := by
  refine ⟨by decide +kernel, by decide +kernel, by decide +kernel⟩

/-- non-vacuity of `pianoroll_perm`: three in-range notes of which two DIFFERENT pitches share the start time 0 (so
the two storage orders are walked in different orders), one out-of-range note with that start time too, two
control changes at one time on different controllers; the hypotheses hold and the result is a roll -/
example :
    let notes : List PNote := [⟨60, 100, 0, 1 / 4⟩, ⟨62, 50, 0, 1 / 2⟩, ⟨90, 1, 0, 1⟩, ⟨60, 30, 1 / 4, 1 / 2⟩]
    let notes' : List PNote := [⟨60, 30, 1 / 4, 1 / 2⟩, ⟨90, 1, 0, 1⟩, ⟨62, 50, 0, 1 / 2⟩, ⟨60, 100, 0, 1 / 4⟩]
    let ccs : List PCC := [⟨0, 64, 127⟩, ⟨0, 1, 20⟩]
    notes.Perm notes' ∧ ccs.Perm ccs.reverse ∧ NoteTieFree exCfg notes ∧ CCTieFree ccs ∧
      sortByStart notes ≠ sortByStart notes' ∧
      errOf (encode id id 0 exCfg (1 / 2) notes ccs) = "ok" ∧
      velsOf (encode id id 0 exCfg (1 / 2) notes ccs) = velsOf (encode id id 0 exCfg (1 / 2) notes' ccs.reverse) := by
  refine ⟨by decide +kernel, by decide +kernel, by decide +kernel, by decide +kernel, by decide +kernel, by decide +kernel,
    by decide +kernel⟩

end NSV.C12

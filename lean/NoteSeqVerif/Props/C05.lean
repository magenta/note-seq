import NoteSeqVerif.Proofs.C05Sim
import Batteries.Lean.Except
import Batteries.Data.List.Basic
/-! C05 — property theorems: MusicXML scores parse to the notes, key, meter and tempo they declare.

The model (`Model/C05.lean`) is a transcription of `musicxml_parser.py` / `musicxml_reader.py` on an
abstract score; `R` is the rounding operator applied after every float operation (`R = id`: the
exact-arithmetic reading of the property; the compiled driver runs `R = rne53` and is compared
bit-exactly with CPython on every run).  `xml.etree` / `zipfile` are outside the model.

The timing clause is proved in the form the code has: every cursor move lasts
`duration / divisions · 60 / qpm` at the divisions and tempo in force *when it is read*
(`specCursor`).  For the first part that tempo is the one its own marks establish; a later part
inherits the tempo the previous part ended with (open finding F-C05-4), so for later parts the
theorem needs the hypothesis that the score has one tempo (`mxml_time_later_part_partial`).  The
statement at full strength — tempo by position for every part — is `mxml_time` (a `def`), and
`mxml_time_fails_today` shows the model violating it on the replay of F-C05-4. -/
namespace NSV.C05

/-- `midi = 12·(octave+1) + pc(step) + alter + transpose`, for every step letter, every integer
alteration (also those crossing the octave: C♭, B♯), every octave and every transposition -/
theorem mxml_pitch (R : Rat → Rat) (st st' : PState) (n : NoteEl) (pn : PNote) (step : String)
    (pc alter octave : Int) (hpc : specPc step = some pc)
    (hk : n.kind = .pitched step (alter : Rat) octave) (h : parseNote R st n = .ok (st', pn)) :
    pn.pitch = specMidi pc alter octave st.transpose ∧ pn.isRest = false := by
  obtain ⟨_, _, _, _, hr, _, hp, _⟩ := parseNote_attrs h
  obtain ⟨p, hp1, hp2⟩ := hp step alter octave hk
  rw [pitchToMidi_spec step pc hpc] at hp1
  simp only [Except.ok.injEq] at hp1
  refine ⟨?_, by rw [hr, hk]; rfl⟩
  rw [hp2, ← hp1]; simp only [specMidi]; omega

/-- the steps the code accepts are exactly the seven letters, with the standard pitch classes -/
theorem mxml_pitch_steps : Gen.stepTable.length = 7 ∧ ∀ x ∈ Gen.stepTable, specPc x.1 = some x.2 := by
  decide

/-- C♭4 in a part transposed down a tone: 59 − 2 -/
example : (parseNote id { PState.init with transpose := -2 }
    { kind := .pitched "C" (-1) 4, chord := false, duration := some 1, voice := none, type := none,
      dots := 0, tuplet := none }).map (fun r => r.2.pitch) = .ok 57 := by decide +kernel

/-- the generated `music_proto_keys` table is `7·fifths mod 12` on −7..7 -/
theorem mxml_key_table (f : Int) (h1 : -7 ≤ f) (h2 : f ≤ 7) :
    pyIndex Gen.musicProtoKeys (f + 7) = .ok ((7 * f) % 12) := by
  have : f = -7 ∨ f = -6 ∨ f = -5 ∨ f = -4 ∨ f = -3 ∨ f = -2 ∨ f = -1 ∨ f = 0 ∨ f = 1 ∨ f = 2 ∨
      f = 3 ∨ f = 4 ∨ f = 5 ∨ f = 6 ∨ f = 7 := by omega
  rcases this with h | h | h | h | h | h | h | h | h | h | h | h | h | h | h <;> subst h <;> decide

theorem readerKey_spec (f : Int) (h1 : -7 ≤ f) (h2 : f ≤ 7) (minor : Bool) :
    readerKey f minor = .ok (specTonic f minor, if minor then 1 else 0) := by
  unfold readerKey
  rw [mxml_key_table f h1 h2]
  cases minor
  · simp [specTonic]
  · simp only [specTonic, if_true]
    rw [Int.fmod_eq_emod_of_nonneg _ (by omega)]
    congr 2
    omega

/-- the key arithmetic of `<transpose>` -/
def transposeKey (f t : Int) : Int :=
  let k := f + Int.fmod (t * (-5)) 12
  if k > 6 then k - 12 else k

theorem transposed_key (f t : Int) (h1 : -7 ≤ f) (h2 : f ≤ 7) :
    (-7 ≤ transposeKey f t) ∧ transposeKey f t ≤ 6 ∧ (7 * transposeKey f t) % 12 = (7 * f + t) % 12 := by
  unfold transposeKey
  rw [Int.fmod_eq_emod_of_nonneg _ (by omega)]
  simp only []
  split <;> omega

/-- the recorded key carries the declared fifths at the cursor, is minor iff `<mode>` is `minor`, and
the reader reports the tonic `7·fifths mod 12` (relative minor: a minor third below) with MINOR = 1 -/
theorem mxml_key (st : PState) (m : MState) (f : Int) (mode : Option String) (h1 : -7 ≤ f) (h2 : f ≤ 7) :
    ∃ k, parseAttr st m (.key (some f) mode) = .ok (st, { m with ks := some k }) ∧
      k.key = f ∧ k.time = st.tp ∧ (k.minor = true ↔ mode = some "minor") ∧
      readerKey k.key k.minor = .ok (specTonic f k.minor, if k.minor then 1 else 0) := by
  refine ⟨⟨f, mode == some "minor", st.tp⟩, rfl, rfl, rfl, by simp, readerKey_spec f h1 h2 _⟩

example : readerKey 0 true = .ok (9, 1) := by decide   -- A minor
example : readerKey (-3) true = .ok (0, 1) := by decide   -- C minor
example : readerKey 6 false = .ok (6, 0) ∧ readerKey (-6) false = .ok (6, 0) := by decide   -- F♯ = G♭

/-- a transposing part: the reported tonic is the written tonic plus the chromatic transposition
(mod 12), for every fifths −7..7 and EVERY transposition -/
theorem mxml_key_transpose (st : PState) (m : MState) (f t : Int) (mode : Option String)
    (h1 : -7 ≤ f) (h2 : f ≤ 7) :
    ∃ st' k, parseAttrs st m [.key (some f) mode, .transpose t] = .ok (st', { m with ks := some k }) ∧
      st'.transpose = t ∧ k.time = st.tp ∧ (k.minor = true ↔ mode = some "minor") ∧
      readerKey k.key k.minor = .ok ((specTonic f k.minor + t) % 12, if k.minor then 1 else 0) := by
  obtain ⟨a, b, c⟩ := transposed_key f t h1 h2
  refine ⟨{ st with transpose := t }, ⟨transposeKey f t, mode == some "minor", st.tp⟩, rfl, rfl, rfl,
    by simp, ?_⟩
  rw [readerKey_spec _ a (by omega)]
  simp only [specTonic]
  congr 2
  cases (mode == some "minor") <;> simp <;> omega

/-- E major written for an instrument in B♭ (chromatic −2) sounds D major: fifths 4 → tonic 2;
the failing input of finding F-C05-3: fifths 5, chromatic −2 is A major -/
example : (parseAttrs PState.init {} [.key (some 4) (some "major"), .transpose (-2)]).map
    (fun r => r.2.ks.map (fun k => readerKey k.key k.minor)) = .ok (some (.ok (2, 0))) := by decide +kernel
example : (parseAttrs PState.init {} [.key (some 5) (some "major"), .transpose (-2)]).map
    (fun r => r.2.ks.map (fun k => readerKey k.key k.minor)) = .ok (some (.ok (9, 0))) := by decide +kernel

/-- the cursor: when an element of a measure is read, `time_position` is the cursor at the start of
the run plus the sum of the preceding moves, each `duration/divisions · 60/qpm` at the divisions and
tempo in force where it stands; `<backup>` counts negative, chord and grace notes count nothing -/
theorem mxml_cursor {pre post : List El} {e : El} {st st' : PState} {m m' : MState} {c : Ctx}
    (hinv : Inv st c) (h : parseEls id st m (pre ++ e :: post) = .ok (st', m')) :
    ∃ st1 m1 st2 m2, parseEls id st m pre = .ok (st1, m1) ∧
      st1.tp = st.tp + specCursor c pre ∧ Inv st1 (ctxAfter c pre) ∧
      parseEl id st1 m1 e = .ok (st2, m2) ∧ parseEls id st2 m2 post = .ok (st', m') := by
  obtain ⟨st1, m1, st2, m2, h1, he, h2⟩ := parseEls_mid h
  have hP := ((simCur id).elems (g := (c, st.tp)) ⟨inv_iff.1 hinv, rfl⟩ (fun _ _ _ _ => trivial) h1).1
  rw [simCur_run, fcursor_id] at hP
  exact ⟨st1, m1, st2, m2, h1, hP.2, inv_iff.2 hP.1, he, h2⟩

/-- TIMING of the notes of a part, given the context `c` in force when the part starts.
For the `<note>` element standing after `before` (whole measures) and `pre` (elements of its own
measure): the parser's note for it is the `|notes in pre|`-th note of that measure; if it is not a
chord note its onset is the sum of the preceding cursor moves of the part (each part restarts at
zero) and its length is `duration/divisions · 60/qpm`; if it is a chord note it has the onset and the
duration of the `<note>` before it. -/
theorem mxml_time_partial {sps : List ScorePartEl} {st st' : PState} {p : PartEl} {ms : List MState}
    {c : Ctx} (hinv : Inv st c) (h : parsePart id sps st p = .ok (st', ms))
    {before after : List (List El)} {els pre post : List El} {n : NoteEl}
    (hp : p.measures = before ++ els :: after) (hsplit : repairMeasure els = pre ++ .note n :: post) :
    ∃ mi pn, ms[before.length]? = some mi ∧ mi.notes[(pre.filter isNote).length]? = some pn ∧
      (∀ d, n.chord = false → n.duration = some d →
          pn.time = specCursor c (flatEls before ++ pre) ∧
          pn.seconds = secs (ctxAfter c (flatEls before ++ pre)) d) ∧
      (∀ d, n.chord = true → n.duration = some d → ∀ pre' n0 mid, pre = pre' ++ .note n0 :: mid →
          (∀ e ∈ mid, isNote e = false) →
          ∃ pn0, mi.notes[(pre'.filter isNote).length]? = some pn0 ∧
            pn.time = pn0.time ∧ pn.duration = pn0.duration ∧
            pn.seconds = secs (ctxAfter c (flatEls before ++ pre)) pn0.duration) := by
  obtain ⟨s, hia, ht⟩ := note_cur (inv_iff.1 hinv) h hp hsplit
  rw [fcursor_id, Rat.zero_add] at ht
  have hi := inv_iff.2 hia
  obtain ⟨_, g2, g3⟩ := parseNote_float s.note_ok
  refine ⟨s.mi, s.pn, s.mi_at, s.pn_at, ?_, ?_⟩
  · intro d hc hd
    obtain ⟨_, t0, _, hsec, _⟩ := g3 d hd hc
    exact ⟨t0.trans ht, secondsOf_id hi hsec⟩
  · intro d hc hd pre' n0 mid hpre hmid
    obtain ⟨pd, pt, hprev, _, t0, d0, hsec, _⟩ := g2 d hd hc
    subst hpre
    -- `previous_note` still holds the note built for `n0`
    obtain ⟨sa', ma', sb', mb', h2a, hb, h2b⟩ := parseEls_mid s.pre_ok
    obtain ⟨⟨nsa, ea, la⟩, _⟩ := parseEls_out h2a
    obtain ⟨_, _, _, _, pn0, _, rfl, eb⟩ := parseEl_float hb
    obtain ⟨⟨nsm, em, _⟩, hkeep⟩ := parseEls_out h2b
    rw [hkeep hmid] at hprev
    simp only [Option.some.injEq, Prod.mk.injEq] at hprev
    obtain ⟨rfl, rfl⟩ := hprev
    refine ⟨pn0, ?_, t0, d0, secondsOf_id hi hsec⟩
    have : s.mi.notes = nsa ++ pn0 :: (nsm ++ s.pn :: s.later) := by rw [s.mi_notes, em, eb, ea]; simp
    rw [this]
    exact idx_mid _ _ _ _ la.symm

/-- the first part of every score is timed from the default context (divisions 1, 120 qpm) by its own
tempo marks: `mxml_time_partial` applies with `c = Ctx.init`, whatever tempo changes it contains -/
theorem mxml_time_first_part {sps : List ScorePartEl} {p : PartEl} {after : List PartEl}
    {r : PState × Rat × List (List MState)}
    (h : parseParts id sps PState.init 0 (p :: after) = .ok r) :
    ∃ st' ms msa, parsePart id sps PState.init p = .ok (st', ms) ∧ r.2.2 = ms :: msa ∧
      Inv PState.init Ctx.init ∧ st'.tp = specCursor Ctx.init (partEls p) := by
  obtain ⟨st1, ms, r', h1, _, e1, _⟩ := parseParts_cons h
  exact ⟨st1, ms, r'.2.2, h1, e1, PState.init_inv, (parsePart_id PState.init_inv h1).1⟩

/-- every part: the context in force at its start is what the parts before it left behind
(`scoreCtx`): divisions AND tempo are inherited — the tempo half is the open finding F-C05-4 -/
theorem mxml_part_start {sps : List ScorePartEl} {before after : List PartEl} {p : PartEl}
    {r : PState × Rat × List (List MState)}
    (h : parseParts id sps PState.init 0 (before ++ p :: after) = .ok r) :
    ∃ stb st' msb ms msa, Inv stb (scoreCtx Ctx.init before) ∧
      parsePart id sps stb p = .ok (st', ms) ∧ r.2.2 = msb ++ ms :: msa ∧ msb.length = before.length ∧
      st'.tp = specCursor (scoreCtx Ctx.init before) (partEls p) := by
  obtain ⟨stb, st', msb, ms, msa, i, hp, e, l, _⟩ := parseParts_float (inv_iff.1 PState.init_inv) h
  exact ⟨stb, st', msb, ms, msa, inv_iff.2 i, hp, e, l, (parsePart_id (inv_iff.2 i) hp).1⟩

/-- LATER PARTS, partial (excluded class = F-C05-4): when the score has one tempo — the first part's
tempo marks all stand before its first cursor move (`lead`), and no other part before `p` has a
tempo mark — part `p` starts in a context whose tempo is that tempo `(ctxAfter Ctx.init lead).qpm`
(120 without marks), i.e. the tempo in force at every position of the score; `mxml_time_partial`
then times its notes. -/
theorem mxml_time_later_part_partial {sps : List ScorePartEl} {p0 p : PartEl} {mid after : List PartEl}
    {lead rest : List El} {r : PState × Rat × List (List MState)}
    (h0 : partEls p0 = lead ++ rest) (hlead : ∀ e ∈ lead, still e = true)
    (hrest : ∀ e ∈ rest, tempoFree e = true)
    (hmid : ∀ q ∈ mid, ∀ e ∈ partEls q, tempoFree e = true)
    (h : parseParts id sps PState.init 0 (p0 :: mid ++ p :: after) = .ok r) :
    ∃ stp st' ms div, Inv stp ⟨div, (ctxAfter Ctx.init lead).qpm⟩ ∧
      parsePart id sps stp p = .ok (st', ms) ∧ ms ∈ r.2.2 ∧
      st'.tp = specCursor ⟨div, (ctxAfter Ctx.init lead).qpm⟩ (partEls p) ∧
      specCursor Ctx.init lead = 0 := by
  have h' : parseParts id sps PState.init 0 ((p0 :: mid) ++ p :: after) = .ok r := by simpa using h
  obtain ⟨stb, st', msb, ms, msa, i, hp, e, l, ht⟩ := mxml_part_start h'
  rw [scoreCtx_one_tempo h0 hrest hmid] at i ht
  exact ⟨stb, st', ms, _, i, hp, by rw [e]; simp, ht, specCursor_of_still hlead⟩

/-- CHORDS SHARE THEIR FIRST NOTE'S ONSET — EXACTLY, FOR EVERY ROUNDING OPERATOR `R` (in particular for the
binary64 arithmetic the real parser runs in, not only in exact arithmetic).  Let a `<note>` `n0` be followed in
its measure by `mid`, a run in which every `<note>` is a `<chord/>` note with a `<duration>` (other elements may
stand in between).  Then the parser's notes for the run carry LITERALLY the onset (and the duration in
divisions) of the note built for `n0` — the onset is copied from `previous_note`, never recomputed from the
cursor — so the reader reports the same `start_time`, bit for bit.  If moreover `n0` is itself not a chord note,
has a `<duration>`, and the run changes neither divisions nor tempo, the run's notes also have literally the
same length in seconds and the reader reports the same `end_time`. -/
theorem mxml_chord_onset_exact (R : Rat → Rat) {pre mid post : List El} {n0 : NoteEl} {st st' : PState}
    {m m' : MState} (hmid : ∀ e ∈ mid, chordRun e = true)
    (h : parseEls R st m (pre ++ .note n0 :: (mid ++ post)) = .ok (st', m')) :
    ∃ a pn0 ch b, m'.notes = ((m.notes ++ a) ++ pn0 :: ch) ++ b ∧
      a.length = (pre.filter isNote).length ∧ ch.length = (mid.filter isNote).length ∧
      (∀ pn ∈ ch, pn.time = pn0.time ∧ pn.duration = pn0.duration ∧
        ∀ part x0 x, readerNote R part pn0 = .ok x0 → readerNote R part pn = .ok x → x.start = x0.start) ∧
      (∀ d0, n0.chord = false → n0.duration = some d0 → (∀ e ∈ mid, noRetime e = true) →
        ∀ pn ∈ ch, pn.seconds = pn0.seconds ∧
          ∀ part x0 x, readerNote R part pn0 = .ok x0 → readerNote R part pn = .ok x → x.end_ = x0.end_) := by
  obtain ⟨st1, m1, st2, m2, h1, he, h2⟩ := parseEls_mid h
  obtain ⟨st3, m3, h3, h4⟩ := parseEls_append h2
  obtain ⟨⟨a, ea, la⟩, _⟩ := parseEls_out h1
  obtain ⟨_, _, _, st1', pn0, hn0, rfl, e0⟩ := parseEl_float he
  obtain ⟨_, ch, ec, hq⟩ := (simChord R { st1' with prev := some (pn0.duration, pn0.time) } pn0.duration pn0.time
      (∀ e ∈ mid, noRetime e = true)).elems (g := ()) ⟨rfl, fun _ => ⟨rfl, rfl⟩⟩
    (fun e he _ _ => ⟨hmid e he, fun hb => hb e he⟩) h3
  obtain ⟨⟨ch', ec', lc⟩, _⟩ := parseEls_out h3
  obtain rfl := List.append_cancel_left (ec.symm.trans ec')
  obtain ⟨⟨b, eb, _⟩, _⟩ := parseEls_out h4
  have hstart : ∀ (p q : PNote), p.time = q.time → ∀ part x0 x, readerNote R part q = .ok x0 →
      readerNote R part p = .ok x → x.start = x0.start := by
    intro p q hpq part x0 x hx0 hx
    obtain ⟨_, _, _, _, _, _, a0, _⟩ := readerNote_fields hx0
    obtain ⟨_, _, _, _, _, _, a, _⟩ := readerNote_fields hx
    rw [a, a0, hpq]
  have hend : ∀ (p q : PNote), p.time = q.time → p.seconds = q.seconds → ∀ part x0 x,
      readerNote R part q = .ok x0 → readerNote R part p = .ok x → x.end_ = x0.end_ := by
    intro p q hpq hs part x0 x hx0 hx
    obtain ⟨_, _, _, _, _, _, _, b0, _⟩ := readerNote_fields hx0
    obtain ⟨_, _, _, _, _, _, _, b, _⟩ := readerNote_fields hx
    rw [b, b0, hstart p q hpq part x0 x hx0 hx, hs]
  refine ⟨a, pn0, ch, b, by rw [eb, ec, e0, ea]; simp, la, lc, ?_, ?_⟩
  · intro pn hpn
    obtain ⟨t1, t2, _⟩ := hq pn hpn
    exact ⟨t1, t2, hstart pn pn0 t1⟩
  · intro d0 hc0 hd0 hnr pn hpn
    obtain ⟨t1, _, s3⟩ := hq pn hpn
    have hs := s3 hnr
    -- the first note's own length: `secondsOf` of its duration in the state before it, which differs from the
    -- state after it in cursor and `previous_note` only
    obtain ⟨rfl, _, q2, q3, _⟩ := (parseNote_float hn0).2.2 d0 hd0 hc0
    have : secondsOf R st1 d0 = .ok pn.seconds := by
      rw [← q2]
      exact hs
    rw [q3] at this
    simp only [Except.ok.injEq] at this
    exact ⟨this.symm, hend pn pn0 t1 this.symm⟩

/-- non-vacuity, in BINARY64 arithmetic: triads of quarters at 90 qpm (a quarter lasts 2/3 s, inexact), divisions 2;
the second chord starts at `rne53 (2/3)`, and all three of its notes carry that very number -/
example : (parseEls rne53 PState.init {}
    [.attributes [.divisions 2], .direction [⟨some 90, none⟩],
     .note ⟨.pitched "C" 0 4, false, some 2, none, some "quarter", 0, none⟩,
     .note ⟨.pitched "E" 0 4, true, some 2, none, some "quarter", 0, none⟩,
     .note ⟨.pitched "D" 0 4, false, some 2, none, some "quarter", 0, none⟩,
     .note ⟨.pitched "F" 0 4, true, some 2, none, some "quarter", 0, none⟩,
     .note ⟨.pitched "A" 0 4, true, some 2, none, some "quarter", 0, none⟩]).map
    (fun r => r.2.notes.map (·.time)) = .ok [0, 0, rne53 (2/3), rne53 (2/3), rne53 (2/3)] := by decide +kernel

/-- reader: a note starts at its onset (clamped at zero) and ends `seconds` later -/
theorem mxml_note_times {part : Nat} {n : PNote} {x : Note} (h : readerNote id part n = .ok x) :
    x.start = (if n.time < 0 then 0 else n.time) ∧ x.end_ = x.start + n.seconds := by
  obtain ⟨_, _, _, _, _, _, a, b, _⟩ := readerNote_fields h
  exact ⟨a, b⟩

/-- `total_time` is the latest final cursor of the parts (0 for an empty score) -/
theorem mxml_total_time {sc : Score} {d : Doc} (h : parseDoc id sc = .ok d) :
    d.total = specTotal Ctx.init 0 sc.parts ∧ d.parts.length = sc.parts.length := by
  unfold parseDoc at h
  split at h
  · contradiction
  · rename_i st total parts hp
    simp only [Except.ok.injEq] at h
    subst h
    exact parseParts_total PState.init_inv hp

/-- tempo marks: a `<direction>` appends one mark per `<sound tempo=…>`, stamped with the cursor and
carrying the declared tempo (`tempo="0"` = default); that they take effect from there on is the `InvF`
clause of `parseSounds_ok` -/
theorem mxml_tempo_marks (R : Rat → Rat) (st : PState) (m : MState) (ss : List Sound) :
    (parseSounds R st m ss).2.tempos = m.tempos ++
      ss.filterMap (fun s => s.tempo.map (fun q => ⟨st.tp, if q = 0 then Gen.DEFAULT_QPM else q⟩)) :=
  congrArg MState.tempos (parseSounds_ok R ss st m).2.1

/-- chord symbols are stamped with the cursor plus their `<offset>` -/
theorem mxml_harmony_time {st : PState} {c : Ctx} (hinv : Inv st c) {cs : List HChild} {ch : ChordSym}
    (h : parseHarmony id st cs = .ok ch) : ch.time = st.tp + secs c (offsetSum cs) := by
  unfold parseHarmony at h
  split at h
  · contradiction
  · rename_i hs hh
    have := parseHChildren_time hinv hh
    split at h
    · simp only [Except.ok.injEq] at h; subst h; exact this
    · split at h
      · contradiction
      · simp only [Except.ok.injEq] at h; subst h; exact this

/-- a tempo change in the middle of a part with a second voice, a chord and a dotted note:
divisions 2, 60 qpm for one 2/4 measure, then 120 qpm; onsets 0, 0 (chord), 1, 0 (voice 2 after
`<backup>`), 2, 2.75 -/
def exPart : PartEl := ⟨"P1", [
  [.attributes [.divisions 2, .key (some 0) (some "minor"), .time [.int 2] [.int 4]],
   .direction [⟨some 60, none⟩],
   .note ⟨.pitched "C" 0 4, false, some 2, none, some "quarter", 0, none⟩,
   .note ⟨.pitched "E" 0 4, true, some 2, none, some "quarter", 0, none⟩,
   .note ⟨.pitched "G" 0 4, false, some 2, none, some "quarter", 0, none⟩,
   .backup 4,
   .note ⟨.pitched "C" 0 3, false, some 4, some 2, some "half", 0, none⟩],
  [.direction [⟨some 120, none⟩],
   .note ⟨.pitched "D" 0 4, false, some 3, none, some "quarter", 1, none⟩,
   .note ⟨.rest, false, some 1, none, some "eighth", 0, none⟩]]⟩

example : (parsePart id [] PState.init exPart).map (fun r => (onsetsOf r.2, r.1.tp)) =
    .ok ([0, 0, 1, 0, 2, 11/4], 3) := by decide +kernel
example : specCursor Ctx.init (partEls exPart) = 3 := by decide +kernel

/-! ### the timing clause at full strength, and where the code departs from it today -/

/-- FULL statement: every part restarts at zero and each cursor move is timed at the tempo in force
at its position according to the tempo marks of the score (hypothesis: every note has a duration).
Not a theorem today: see `mxml_time_fails_today` (F-C05-4); proved parts: `mxml_time_partial` with
`mxml_time_first_part` / `mxml_time_later_part_partial`. -/
def mxml_time (sc : Score) : Prop :=
  (sc.parts.all (fun p => (partEls p).all (fun e => match e with
      | .note n => n.duration.isSome
      | _ => true)) = true) →
  ∀ d, parseDoc id sc = .ok d →
    ∀ (k : Nat) (p : PartEl) (ms : List MState), sc.parts[k]? = some p → d.parts[k]? = some ms →
      onsetsOf ms = specOnsetsAt (scoreMarks sc) (scoreCtx Ctx.init (sc.parts.take k)) 0 0 0 (partEls p)

def quarterC : El := .note ⟨.pitched "C" 0 4, false, some 1, none, some "quarter", 0, none⟩

def f4p1 : PartEl :=
  ⟨"P1", [[.attributes [.divisions 1, .time [.int 4] [.int 4]], .direction [⟨some 60, none⟩],
           quarterC, quarterC, quarterC, quarterC],
          [.direction [⟨some 120, none⟩], quarterC, quarterC, quarterC, quarterC]]⟩

def f4p2 : PartEl :=
  ⟨"P2", [[.attributes [.divisions 1, .time [.int 4] [.int 4]], quarterC, quarterC, quarterC, quarterC],
          [quarterC, quarterC, quarterC, quarterC]]⟩

/-- the replay of F-C05-4: two parts in notated unison, 60 qpm in measure 1 and 120 qpm in measure 2,
tempo marks in the first part only -/
def f_c05_4 : Score := ⟨[⟨"P1", none, none⟩, ⟨"P2", none, none⟩], [f4p1, f4p2]⟩

/-- onsets the model gives to the notes of part `k` when it runs with the rounding operator `R` -/
def modelOnsetsR (R : ℚ → ℚ) (sc : Score) (k : Nat) : Option (List ℚ) :=
  match parseDoc R sc with
  | .ok d => (d.parts[k]?).map onsetsOf
  | .error _ => none

def modelOnsets (sc : Score) (k : Nat) : Option (List Rat) := modelOnsetsR id sc k

theorem modelOnsetsR_some {R : ℚ → ℚ} {sc : Score} {k : Nat} {l : List ℚ} (h : modelOnsetsR R sc k = some l) :
    ∃ d ms, parseDoc R sc = .ok d ∧ d.parts[k]? = some ms ∧ onsetsOf ms = l := by
  unfold modelOnsetsR at h
  split at h
  · rename_i d hd
    cases hms : d.parts[k]? with
    | none => simp [hms] at h
    | some ms => exact ⟨d, ms, hd, hms, by simpa [hms] using h⟩
  · contradiction

/-- the first part follows its tempo marks; the second, in the same notation, is timed entirely at
120 qpm, the tempo the first part ended with -/
example : modelOnsets f_c05_4 0 = some [0, 1, 2, 3, 4, 9/2, 5, 11/2] ∧
    modelOnsets f_c05_4 1 = some [0, 1/2, 1, 3/2, 2, 5/2, 3, 7/2] := by decide +kernel

/-- the full statement fails on that score (for its second part) -/
theorem mxml_time_fails_today : ¬ mxml_time f_c05_4 := by
  intro h
  obtain ⟨d, ms, hd, hms, hk⟩ := modelOnsetsR_some
    (by decide +kernel : modelOnsets f_c05_4 1 = some [0, 1/2, 1, 3/2, 2, 5/2, 3, 7/2])
  have := h (by decide +kernel) d hd 1 f4p2 ms (by decide +kernel) hms
  rw [hk] at this
  revert this
  decide +kernel

/-- what the parser records on a note: declared voice (default 1), the channel / program / velocity
in force, rest flag; the reader copies them, sets the part index, and writes
`numerator/denominator` = the notated value `type / tuplet · (2 − 2^-dots)` as a reduced fraction -/
theorem mxml_attrs (R : Rat → Rat) (st st' : PState) (n : NoteEl) (pn : PNote) (part : Nat) (x : Note)
    (h : parseNote R st n = .ok (st', pn)) (hx : readerNote R part pn = .ok x)
    (hd : n.duration.isSome) :
    x.voice = n.voice.getD 1 ∧ x.part = part ∧ x.instrument = st.channel ∧ x.program = st.program ∧
    x.velocity = st.velocity ∧ pn.isRest = (n.kind == .rest) ∧
    ∃ tr, lookupType (n.type.getD "quarter") = some tr ∧
      (x.numerator : Rat) / (x.denominator : Rat) = specRatio tr pn.tuplet n.dots ∧
      x.numerator.natAbs.Coprime x.denominator.natAbs ∧ 0 < x.denominator := by
  obtain ⟨a1, a2, a3, a4, a5, a6, _, a8, _⟩ := parseNote_attrs h
  obtain ⟨_, b2, b3, b4, b5, b6, _, _, r, hr, b9, b10⟩ := readerNote_fields hx
  refine ⟨by rw [b5, a1], b6, by rw [b3, a2], by rw [b4, a3], by rw [b2, a4], a5, ?_⟩
  -- the type was validated by the parser, the tuplet ratio is not zero or the reader fails
  have hty : ∃ tr, lookupType (n.type.getD "quarter") = some tr ∧ lookupType pn.type = some tr := by
    cases hnt : n.type with
    | none =>
      simp only [hnt] at a8
      rw [a8]
      exact ⟨1 / 4, by decide +kernel, by decide +kernel⟩
    | some t =>
      simp only [hnt] at a8
      obtain ⟨a8a, a8b⟩ := a8
      rw [a8a]
      obtain ⟨tr, htr⟩ := Option.isSome_iff_exists.mp a8b
      exact ⟨tr, htr, htr⟩
  obtain ⟨tr, ht1, ht2⟩ := hty
  have hgrace : pn.grace = false := by
    obtain ⟨d, hd'⟩ := Option.isSome_iff_exists.mp hd
    obtain ⟨_, g2, g3⟩ := parseNote_float h
    cases hc : n.chord with
    | true => obtain ⟨_, _, _, _, _, _, _, hg⟩ := g2 d hd' hc; exact hg
    | false => exact (g3 d hd' hc).2.2.2.2
  have htup : pn.tuplet ≠ 0 := by
    intro h0
    unfold durationRatio at hr
    simp only [ht2, h0, if_true] at hr
    contradiction
  rw [durationRatio_spec pn tr ht2 htup hgrace, a6] at hr
  simp only [Except.ok.injEq] at hr
  refine ⟨tr, ht1, ?_, ?_, ?_⟩
  · rw [b9, b10, hr]; exact (Rat.divInt_eq_div _ _).symm.trans (Rat.num_divInt_den r)
  · rw [b9, b10]; simpa using r.reduced
  · rw [b10]; exact_mod_cast r.den_pos

/-- rests produce no note; the pitched notes come out in document order, one each -/
theorem mxml_rests_dropped {R : Rat → Rat} {part : Nat} {ns : List PNote} {out : List Note}
    (h : readerNotes R part ns = .ok out) :
    List.Forall₂ (fun pn x => readerNote R part pn = .ok x) (ns.filter (fun n => !n.isRest)) out := by
  revert out
  induction ns with
  | nil =>
    intro out h
    simp only [readerNotes, Except.ok.injEq] at h
    subst h; simp
  | cons n ns ih =>
    intro out h
    simp only [readerNotes] at h
    split at h
    · rename_i hr
      simp only [List.filter, hr, Bool.not_true]
      exact ih h
    · rename_i hr
      split at h
      · contradiction
      · rename_i x hx
        split at h
        · contradiction
        · rename_i r hrest
          simp only [Except.ok.injEq] at h
          subst h
          have hr' : n.isRest = false := by simpa using hr
          simp only [List.filter, hr', Bool.not_false]
          exact List.Forall₂.cons hx (ih hrest)

/-- every note of a part carries the MIDI channel and program `lookupScorePart` finds for the part's id: those
of the last `<score-part>` with that id when it declares both (`mxml_score_part_declared`), the defaults of
`scorePartMidi` / `lookupScorePart` otherwise -/
theorem mxml_channel_program {R : Rat → Rat} {sps : List ScorePartEl} {st st' : PState} {p : PartEl}
    {ms : List MState} (h : parsePart R sps st p = .ok (st', ms)) :
    ∀ m ∈ ms, ∀ pn ∈ m.notes, pn.channel = (lookupScorePart sps p.id).1 ∧
      pn.program = (lookupScorePart sps p.id).2 :=
  ((simChan R _ _).whole (g := ()) (st := partStart sps st p) ⟨rfl, rfl⟩ (fun _ _ _ _ => trivial) h).2

theorem mxml_score_part_declared (pid : String) (c pr : Int) (sps : List ScorePartEl)
    (h : ∀ sp ∈ sps, sp.id ≠ pid) :
    lookupScorePart (sps ++ [ScorePartEl.mk pid (some c) (some pr)]) pid = (c, pr) := by
  unfold lookupScorePart
  have : (sps ++ [ScorePartEl.mk pid (some c) (some pr)]).filter (fun sp => sp.id = pid) =
      [ScorePartEl.mk pid (some c) (some pr)] := by
    rw [List.filter_append]
    have : sps.filter (fun sp => decide (sp.id = pid)) = [] := by
      rw [List.filter_eq_nil_iff]; intro a ha; simpa using h a ha
    rw [this]; simp
  rw [this]; rfl

/-- dotted quarter = 3/8, triplet eighth = 1/12, double-dotted half in a 5:4 tuplet = 7/10 -/
example : durationRatio ⟨1, false, 60, 0, 0, 64, 3, 0, 0, "quarter", 1, 1, false⟩ = .ok (3/8) := by
  decide +kernel
example : specRatio (1/8) (3/2) 0 = 1/12 ∧ specRatio (1/2) (5/4) 2 = 7/10 := by decide +kernel

/-- a declared time signature is recorded with its numbers at the cursor -/
theorem mxml_time_signature_declared (st : PState) (m : MState) (beats beatType : Int) (hm : m.ts = none) :
    parseAttr st m (.time [.int beats] [.int beatType]) =
      .ok ({ st with ts := some ⟨beats, beatType, st.tp⟩ }, { m with ts := some ⟨beats, beatType, st.tp⟩ }) := by
  simp [parseAttr, hm, parseTime]

/-- complete measures are left alone by the partial-measure correction: if a beat is a whole number
`b` of divisions (`4·divisions = b·beat-type`) and voice 1 holds exactly `beats` beats, neither the
measure's nor the parser's time signature changes -/
theorem mxml_time_signature_complete (st : PState) (m : MState) (start : Rat) (g : TSig) (b : Int)
    (hts : st.ts = some g) (hnum : 0 ≤ g.num) (hden : 0 < g.den) (hb : 0 < b)
    (hbeat : st.divisions * 4 = b * g.den) (hfull : m.duration = g.num * b) :
    fixTimeSignature st m start = .ok (st, m) := by
  have hdiv : 0 < st.divisions * 4 := by rw [hbeat]; exact Int.mul_pos hb hden
  have heq : pyFraction m.duration (st.divisions * 4) = pyFraction g.num g.den := by
    apply pyFraction_eq hdiv hden
    rw [hfull, hbeat, Int.mul_assoc]
  have hpick : ¬ (m.duration < g.num) := by
    rw [hfull]
    have : g.num * 1 ≤ g.num * b := Int.mul_le_mul_of_nonneg_left (by omega) hnum
    omega
  unfold fixTimeSignature
  simp only [hts]
  rw [if_neg (by omega), if_neg (by omega)]
  simp only [heq, hpick, decide_false, ne_eq, not_true_eq_false, and_false, or_false,
    Bool.false_eq_true, if_false]

/-- the reported time signatures are exactly those the measures carry, each once (the order — that of first
occurrence in `dedup` — is not part of the statement); likewise the key signatures in the two theorems below,
which default to C major at 0 when no measure carries one (hence `hne` there) -/
theorem mxml_time_signatures_reported (d : Doc) (x : TSig) :
    (x ∈ getTimeSignatures d ↔ ∃ m ∈ d.measures, m.ts = some x) ∧ (getTimeSignatures d).Nodup := by
  unfold getTimeSignatures
  refine ⟨?_, nodup_dedup _ _ List.nodup_nil⟩
  rw [mem_dedup]
  simp [List.mem_filterMap]

theorem mxml_key_signatures_reported (d : Doc) (x : KSig) (hne : ∃ m ∈ d.measures, m.ks.isSome) :
    x ∈ getKeySignatures d ↔ ∃ m ∈ d.measures, m.ks = some x := by
  unfold getKeySignatures
  have hmem : ∀ y, y ∈ dedup [] (d.measures.filterMap (·.ks)) ↔ ∃ m ∈ d.measures, m.ks = some y := by
    intro y; rw [mem_dedup]; simp [List.mem_filterMap]
  split
  · rename_i hnil
    obtain ⟨m, hm, hk⟩ := hne
    obtain ⟨k, hk'⟩ := Option.isSome_iff_exists.mp hk
    have := (hmem k).mpr ⟨m, hm, hk'⟩
    rw [hnil] at this
    simp at this
  · exact hmem x

/-- each key signature ONCE: no key signature (key, mode, time) is reported twice, however many parts and measures declare it
— also when other signatures were recorded in between (C major @0, E minor @t declared by every part of a
score is two signatures) -/
theorem mxml_key_signatures_once (d : Doc) : (getKeySignatures d).Nodup := by
  unfold getKeySignatures
  have h := nodup_dedup (d.measures.filterMap (·.ks)) [] List.nodup_nil
  split
  · simp
  · exact h

/-- two parts that both declare C major @0 and E minor @4 (in separate measures): two signatures -/
example : getKeySignatures ⟨[[{ ks := some ⟨0, false, 0⟩ }, {}, { ks := some ⟨4, true, 4⟩ }, {}],
                             [{ ks := some ⟨0, false, 0⟩ }, {}, { ks := some ⟨4, true, 4⟩ }, {}]], 8, PState.init⟩ =
    [⟨0, false, 0⟩, ⟨4, true, 4⟩] := by decide +kernel

/-- 6/8 with divisions 2: a beat (eighth) is one division, six of them fill the measure -/
example : fixTimeSignature { PState.init with divisions := 2, ts := some ⟨6, 8, 0⟩ } { duration := 6 } 0 =
    .ok ({ PState.init with divisions := 2, ts := some ⟨6, 8, 0⟩ }, { duration := 6 }) :=
  mxml_time_signature_complete _ _ 0 ⟨6, 8, 0⟩ 1 rfl (by decide) (by decide) (by decide) (by decide) (by decide)

/-- the alter spelling of the code is `bb b (none) # ##` and nothing else -/
theorem mxml_harmony_alter_table (i : Int) : Gen.alterStrings.lookup i = specAcc i := by
  unfold specAcc
  split
  · decide
  · decide
  · decide
  · decide
  · decide
  · rename_i h1 h2 h3 h4 h5
    simp only [Gen.alterStrings, List.lookup]
    have e1 : (i == -2) = false := by simpa using h1
    have e2 : (i == -1) = false := by simpa using h2
    have e3 : (i == 0) = false := by simpa using h3
    have e4 : (i == 1) = false := by simpa using h4
    have e5 : (i == 2) = false := by simpa using h5
    simp [e1, e2, e3, e4, e5]

theorem accOf_none {acc : String} (h : accOf none = some acc) : acc = "" := by
  simp only [accOf, Option.getD, specAcc, Option.some.injEq] at h
  exact h.symm

theorem parseHPitch_spec (st : PState) (ht : st.transpose = 0) (s : String) (a : Option Int) (acc : String)
    (h : accOf a = some acc) : parseHPitch st (some s) (a.map .int) = .ok (s ++ acc) := by
  unfold parseHPitch
  cases a with
  | none => rw [accOf_none h]; simp [ht]
  | some i =>
    simp only [accOf, Option.getD_some] at h
    simp [alterToString, mxml_harmony_alter_table, h, ht]

theorem parseDegree_spec (v : Int) (a : Option Int) (ty : DegType) (acc : String) (h : accOf a = some acc)
    (halt : ty = .alter → acc ≠ "") :
    parseDegree (some v) (a.map .int) (some ty.text) = .ok (specDegree ty acc v) := by
  unfold parseDegree
  have h1 : ("alter" = "add") = False := by decide
  have h2 : ("alter" = "subtract") = False := by decide
  have h3 : ("subtract" = "add") = False := by decide
  cases a with
  | none =>
    rw [accOf_none h] at halt ⊢
    cases ty with
    | add => simp [DegType.text, specDegree]
    | subtract => simp [DegType.text, specDegree, h3]
    | alter => exact absurd rfl (halt rfl)
  | some i =>
    simp only [accOf, Option.getD_some] at h
    cases ty with
    | add => simp [DegType.text, specDegree, alterToString, mxml_harmony_alter_table, h]
    | subtract => simp [DegType.text, specDegree, alterToString, mxml_harmony_alter_table, h, h3]
    | alter => simp [DegType.text, specDegree, alterToString, mxml_harmony_alter_table, h, h1, h2, halt rfl]

theorem parseDegree_text {d : DegSpec} {t : String} (hd : d.text = some t) :
    parseDegree (some d.value) (d.alter.map .int) (some d.type.text) = .ok t := by
  unfold DegSpec.text at hd
  split at hd
  · contradiction
  · rename_i acc hacc
    split at hd
    · contradiction
    · rename_i hne
      rw [← Option.some.inj hd]
      exact parseDegree_spec d.value d.alter d.type acc hacc (fun h1 h2 => hne ⟨h1, h2⟩)

theorem parseHChildren_degrees (R : Rat → Rat) (st : PState) : ∀ (ds : List DegSpec) (texts : List String) (h : HState),
    ds.mapM DegSpec.text = some texts →
    parseHChildren R st h (ds.map DegSpec.child) = .ok { h with degrees := h.degrees ++ texts } := by
  intro ds
  induction ds with
  | nil =>
    intro texts h hm
    simp only [List.mapM_nil, Option.pure_def, Option.some.injEq] at hm
    subst hm
    simp [parseHChildren]
  | cons d ds ih =>
    intro texts h hm
    simp only [List.mapM_cons, Option.pure_def, Option.bind_eq_bind] at hm
    cases hd : d.text with
    | none => simp [hd] at hm
    | some t =>
      cases hr : ds.mapM DegSpec.text with
      | none => simp [hd, hr] at hm
      | some ts =>
        simp only [hd, hr, Option.bind_some, Option.some.injEq] at hm
        subst hm
        simp only [List.map_cons, parseHChildren, DegSpec.child, parseHChild, parseDegree_text hd]
        rw [ih ts { h with degrees := h.degrees ++ [t] } hr]
        simp

/-- the figure of a `<harmony>` in schema order is `root ++ kind ++ "(deg)"* ++ "/bass"` with the
abbreviation of the generated kind table, the degree rules (`add` → `add9` / `#11`, `subtract` →
`no3`, `alter` → `b5`) and the `bb b # ##` alter spelling; it is stamped with the cursor.
`ht`: in a transposing part `ChordSymbol` raises ("Transposition of chord symbols currently unsupported") and
`parseHPitch` fails; `hb`'s `s ++ bacc ≠ ""`: an empty bass string is not written as `/` -/
theorem mxml_harmony (R : Rat → Rat) (st : PState) (ht : st.transpose = 0) (h : HarmonySpec)
    (racc abbr : String) (texts : List String) (bassText : Option String)
    (hr : accOf h.rootAlter = some racc)
    (hk : Gen.chordKindAbbreviations.lookup h.kind = some abbr) (hnc : abbr ≠ "N.C.")
    (hd : h.degrees.mapM DegSpec.text = some texts)
    (hb : match h.bass with
          | none => bassText = none
          | some (s, a) => ∃ bacc, accOf a = some bacc ∧ bassText = some (s ++ bacc) ∧ s ++ bacc ≠ "") :
    parseHarmony R st h.children = .ok ⟨st.tp, specFigure (h.rootStep ++ racc) abbr texts bassText⟩ := by
  unfold parseHarmony HarmonySpec.children
  simp only [parseHChildren, parseHChild, parseHPitch_spec st ht h.rootStep h.rootAlter racc hr, hk]
  cases hbass : h.bass with
  | none =>
    simp only [hbass] at hb
    subst hb
    simp only [List.nil_append]
    rw [parseHChildren_degrees R st h.degrees texts _ hd]
    simp [hnc, figureOf, specFigure]
  | some sa =>
    obtain ⟨s, a⟩ := sa
    simp only [hbass] at hb
    obtain ⟨bacc, hb1, hb2, hb3⟩ := hb
    subst hb2
    simp only [List.cons_append, List.nil_append, parseHChildren, parseHChild,
      parseHPitch_spec st ht s a bacc hb1]
    rw [parseHChildren_degrees R st h.degrees texts _ hd]
    simp [hnc, figureOf, specFigure, hb3]

/-- `none` is the only kind rendered `N.C.`; the table has no duplicate key -/
theorem mxml_harmony_kind_table :
    (∀ x ∈ Gen.chordKindAbbreviations, (x.2 = "N.C." ↔ x.1 = "none")) ∧
    (Gen.chordKindAbbreviations.map (·.1)).Nodup := by decide +kernel

/-- C♯m7(♭9)/E♭: an `add` degree with an alteration is written without `add` -/
example : parseHarmony id PState.init
    (HarmonySpec.children ⟨"C", some 1, "minor-seventh", some ("E", some (-1)), [⟨9, some (-1), .add⟩]⟩) =
    .ok ⟨0, "C#m7(b9)/Eb"⟩ := by decide +kernel

end NSV.C05

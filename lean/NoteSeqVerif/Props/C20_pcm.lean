import NoteSeqVerif.Proofs.C20
import NoteSeqVerif.Proofs.C20_pcm
/-! C20 — int16 ↔ float32 and the WAV round trip (crop / repeat / stereo are in `Props/C20.lean`, which
does not depend on this file).
`Gen.toFloatDiv` / `Gen.toIntMul` are regenerated from `note_seq/audio_io.py` on every run; the proof
uses that both are `2^15 - 1` (`scale_constants`), so a changed scale constant breaks it. -/
namespace NSV.C20

/-- the same fact as one formula: `trunc (rne24 (rne24 (k / d) · m)) = k` with `d`, `m` the scale
constants read from the source (both 32767 today) -/
theorem pcm_roundtrip_formula (k : Int) (h1 : -32768 ≤ k) (h2 : k ≤ 32767) :
    truncR (rne24 (rne24 ((k : Rat) / (Gen.toFloatDiv : Rat)) * (Gen.toIntMul : Rat))) = k := by
  unfold rne24
  rw [scale_constants.1, scale_constants.2,
    rne_div_mul_cancel 24 15 (by norm_num) (by decide +kernel) k (by rw [abs_le]; constructor <;> omega),
    truncR_intCast]

/-- `float_samples_to_int16 (int16_samples_to_float32 [k]) = [k]` for every
int16 value `k` — float32 division and multiplication by `rne24`, `astype(int16)` by truncation. -/
theorem pcm_roundtrip (k : Int) (h1 : -32768 ≤ k) (h2 : k ≤ 32767) :
    floatToInt16 24 (int16ToFloat k) = some k := by
  have exact : rne 24 (Gen.toIntMul : Rat) = Gen.toIntMul := rne_exact_int 24 _ (by decide)
  have hv := pcm_roundtrip_formula k h1 h2
  unfold rne24 at hv
  unfold floatToInt16
  simp only [exact, int16ToFloat, rne24, hv]
  simp [h1, h2]

theorem int16ToFloat_injective (j k : Int) (hj : -32768 ≤ j ∧ j ≤ 32767) (hk : -32768 ≤ k ∧ k ≤ 32767)
    (h : int16ToFloat j = int16ToFloat k) : j = k := by
  have a := pcm_roundtrip j hj.1 hj.2
  have b := pcm_roundtrip k hk.1 hk.2
  rw [h, b] at a
  exact (Option.some.inj a).symm

/-- array level, with the dtype checks of both helpers: any int16 array, any length -/
theorem pcm_roundtrip_list (ks : List Int) (h : ∀ k ∈ ks, -32768 ≤ k ∧ k ≤ 32767) :
    ∃ fs, int16SamplesToFloat32 .int16 ks = .ok fs ∧
      floatSamplesToInt16 .float32 fs = .ok (ks.map some) := by
  refine ⟨ks.map int16ToFloat, by simp [int16SamplesToFloat32], ?_⟩
  simp only [floatSamplesToInt16, Dtype.prec, List.map_map]
  congr 1
  apply List.map_congr_left
  intro k hk
  exact pcm_roundtrip k (h k hk).1 (h k hk).2

example : floatToInt16 24 (int16ToFloat (-12345)) = some (-12345) := pcm_roundtrip _ (by omega) (by omega)
example : int16ToFloat 1 ≠ 1 / 32767 := by decide +kernel   -- the float32 quotient is genuinely rounded

theorem int16_to_float_rejects (dt : Dtype) (ys : List Int) (h : dt ≠ .int16) :
    int16SamplesToFloat32 dt ys = .error "ValueError" := by
  simp [int16SamplesToFloat32, h]

theorem float_to_int16_rejects (dt : Dtype) (ys : List Rat) (h : dt.prec = none) :
    floatSamplesToInt16 dt ys = .error "ValueError" := by
  simp [floatSamplesToInt16, h]

example : Dtype.int16.prec = none ∧ Dtype.float32 ≠ Dtype.int16 := by decide

/-! ## WAV encode → decode at the same rate (codec = identity on int16 arrays: monitored, not proved) -/

/-- `samples_to_wav_data` hands the codec exactly the int16 array `ks`, and `wav_data_to_samples`
turns that array back into exactly the float32 samples it came from -/
theorem wav_roundtrip (ks : List Int) (h : ∀ k ∈ ks, -32768 ≤ k ∧ k ≤ 32767) :
    floatSamplesToInt16 .float32 (ks.map int16ToFloat) = .ok (ks.map some) ∧
    wavDataToSamples (.ints .int16 ks) = .ok (ks.map int16ToFloat) ∧
    wavRoundTrip .float32 (ks.map int16ToFloat) = .ok ((ks.map int16ToFloat).map some) := by
  obtain ⟨fs, h1, h2⟩ := pcm_roundtrip_list ks h
  have e : fs = ks.map int16ToFloat := by
    simp [int16SamplesToFloat32] at h1; exact h1.symm
  subst e
  refine ⟨h2, by simp [wavDataToSamples, int16SamplesToFloat32], ?_⟩
  simp [wavRoundTrip, h2, List.map_map, Function.comp_def]

example : wavRoundTrip .float32 ([0, -32768, 32767, 1].map int16ToFloat) =
    .ok (([0, -32768, 32767, 1].map int16ToFloat).map some) :=
  (wav_roundtrip _ (by decide)).2.2

end NSV.C20

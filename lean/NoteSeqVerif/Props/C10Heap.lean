import NoteSeqVerif.Model.C10Heap
import NoteSeqVerif.Props.C10Events
/-! C10 — histories over event-sequence objects: what a `deepcopy` followed by transposing one (or both) of the two
objects leaves in EACH of them.  In the model an operation on object `i` is a pure function of the contents of
object `i` and writes cell `i` only, so the model predicts "the object the copy was taken from is unchanged, the
transposed one moved by exactly `k`, both transposed = both moved by `k` once".  The correspondence check runs the
same histories through the real classes (`copy.deepcopy`, `LeadSheet/Melody/ChordProgression.transpose`, `squash`)
and diffs every object after every operation with `hTrace`. -/
namespace NSV.C10
open Gen

variable (split : String → Except Err Sym)

/-- FRAME: `transpose` of object `i` leaves every other object exactly as it was -/
theorem heap_transpose_frame (h : Heap) (i j : Nat) (k mn mx : Int) (hne : j ≠ i) :
    (hStep split h (.transpose i k mn mx)).1[j]? = h[j]? := by
  cases hi : h[i]? with
  | none => simp [hStep, hi]
  | some o => simp [hStep, hi, List.getElem?_set_ne (Ne.symm hne)]

/-- FRAME: `squash` of object `i` leaves every other object exactly as it was -/
theorem heap_squash_frame (h : Heap) (i j : Nat) (mn mx key : Int) (hne : j ≠ i) :
    (hStep split h (.squash i mn mx key)).1[j]? = h[j]? := by
  cases hi : h[i]? with
  | none => simp [hStep, hi]
  | some o => simp [hStep, hi, List.getElem?_set_ne (Ne.symm hne)]

/-- the transposed object holds `LeadSheet.transpose` of ITS OWN former contents (a function of nothing else) -/
theorem heap_transpose_self (h : Heap) (i : Nat) (o : Obj) (k mn mx : Int) (hi : h[i]? = some o) :
    (hStep split h (.transpose i k mn mx)).1[i]? = some (objTranspose split k mn mx o).1 ∧
    (hStep split h (.transpose i k mn mx)).1.length = h.length := by
  obtain ⟨hlt, ho⟩ := List.getElem?_eq_some_iff.mp hi
  simp [hStep, hlt, ho]

/-- the squashed object holds `LeadSheet.squash` of its own former contents -/
theorem heap_squash_self (h : Heap) (i : Nat) (o : Obj) (mn mx key : Int) (hi : h[i]? = some o) :
    (hStep split h (.squash i mn mx key)).1[i]? = some (objSquash split mn mx key o).1 ∧
    (hStep split h (.squash i mn mx key)).1.length = h.length := by
  obtain ⟨hlt, ho⟩ := List.getElem?_eq_some_iff.mp hi
  simp [hStep, hlt, ho]

/-- `deepcopy` appends an object with the contents of object `i` and changes no existing object -/
theorem heap_deepcopy (h : Heap) (i : Nat) (o : Obj) (hi : h[i]? = some o) :
    (hStep split h (.deepcopy i)).1 = h ++ [o] ∧
    (hStep split h (.deepcopy i)).1[h.length]? = some o ∧
    ∀ j, j < h.length → (hStep split h (.deepcopy i)).1[j]? = h[j]? := by
  unfold hStep
  simp only [hi]
  refine ⟨trivial, by simp, fun j hj => ?_⟩
  simp [List.getElem?_append_left hj]

/-- an operation on an object that does not exist changes nothing -/
theorem heap_no_object (h : Heap) (op : HOp) (hno : match op with
    | .deepcopy i => h[i]? = none | .transpose i _ _ _ => h[i]? = none | .squash i _ _ _ => h[i]? = none) :
    (hStep split h op).1 = h := by
  cases op <;> simp only [] at hno <;> simp [hStep, hno]

/-- `b = copy.deepcopy(a); b.transpose(k, mn, mx)`: `a` (and every other object) is unchanged, `b` holds the
transposition of `a`'s contents -/
theorem deepcopy_then_transpose_copy (h : Heap) (i : Nat) (o : Obj) (k mn mx : Int) (hi : h[i]? = some o) :
    let h2 := hRun split h [.deepcopy i, .transpose h.length k mn mx]
    h2[i]? = some o ∧ h2[h.length]? = some (objTranspose split k mn mx o).1 ∧
    ∀ j, j < h.length → h2[j]? = h[j]? := by
  obtain ⟨hlt, _⟩ := List.getElem?_eq_some_iff.mp hi
  obtain ⟨_, hc2, hc3⟩ := heap_deepcopy split h i o hi
  simp only [hRun, List.foldl]
  refine ⟨?_, ?_, fun j hj => ?_⟩
  · rw [heap_transpose_frame split _ _ _ _ _ _ (Nat.ne_of_lt hlt), hc3 i hlt, hi]
  · exact (heap_transpose_self split _ _ o k mn mx hc2).1
  · rw [heap_transpose_frame split _ _ _ _ _ _ (Nat.ne_of_lt hj), hc3 j hj]

/-- `b = copy.deepcopy(a); a.transpose(k, mn, mx)`: the copy keeps `a`'s former contents -/
theorem deepcopy_then_transpose_original (h : Heap) (i : Nat) (o : Obj) (k mn mx : Int) (hi : h[i]? = some o) :
    let h2 := hRun split h [.deepcopy i, .transpose i k mn mx]
    h2[i]? = some (objTranspose split k mn mx o).1 ∧ h2[h.length]? = some o := by
  obtain ⟨hlt, _⟩ := List.getElem?_eq_some_iff.mp hi
  obtain ⟨_, hc2, hc3⟩ := heap_deepcopy split h i o hi
  simp only [hRun, List.foldl]
  refine ⟨?_, ?_⟩
  · exact (heap_transpose_self split _ _ o k mn mx (by rw [hc3 i hlt, hi])).1
  · rw [heap_transpose_frame split _ _ _ _ _ _ (Nat.ne_of_gt hlt), hc2]

/-- transposing BOTH the copy and the original by `k`: each holds the transposition of the original contents —
moved by `k` once, never twice -/
theorem deepcopy_then_transpose_both (h : Heap) (i : Nat) (o : Obj) (k mn mx : Int) (hi : h[i]? = some o) :
    let h3 := hRun split h [.deepcopy i, .transpose h.length k mn mx, .transpose i k mn mx]
    h3[i]? = some (objTranspose split k mn mx o).1 ∧ h3[h.length]? = some (objTranspose split k mn mx o).1 := by
  obtain ⟨hlt, _⟩ := List.getElem?_eq_some_iff.mp hi
  obtain ⟨h1, h2, _⟩ := deepcopy_then_transpose_copy split h i o k mn mx hi
  simp only [hRun, List.foldl] at h1 h2 ⊢
  refine ⟨?_, ?_⟩
  · exact (heap_transpose_self split _ _ o k mn mx h1).1
  · rw [heap_transpose_frame split _ _ _ _ _ _ (Nat.ne_of_gt hlt), h2]

/-- `b = copy.deepcopy(a); b.squash(mn, mx, key)`: `a` is unchanged, `b` holds the squash of `a`'s contents -/
theorem deepcopy_then_squash_copy (h : Heap) (i : Nat) (o : Obj) (mn mx key : Int) (hi : h[i]? = some o) :
    let h2 := hRun split h [.deepcopy i, .squash h.length mn mx key]
    h2[i]? = some o ∧ h2[h.length]? = some (objSquash split mn mx key o).1 := by
  obtain ⟨hlt, _⟩ := List.getElem?_eq_some_iff.mp hi
  obtain ⟨_, hc2, hc3⟩ := heap_deepcopy split h i o hi
  simp only [hRun, List.foldl]
  refine ⟨?_, ?_⟩
  · rw [heap_squash_frame split _ _ _ _ _ _ (Nat.ne_of_lt hlt), hc3 i hlt, hi]
  · exact (heap_squash_self split _ _ o mn mx key hc2).1

/-- the trace the driver prints ends in the heap `hRun` computes -/
theorem hTrace_last (h : Heap) (ops : List HOp) :
    ((hTrace split h ops).getLast?.map (·.1)).getD h = hRun split h ops := by
  induction ops generalizing h with
  | nil => rfl
  | cons op ops ih =>
    -- the last entry of `r :: l` is the last of `l`, or `r` when `l` is empty; `ih` reads the same of `l` from `r.1`
    rw [hTrace, List.getLast?_cons, hRun, List.foldl_cons, ← hRun, ← ih]
    cases (hTrace split (hStep split h op).1 ops).getLast? <;> rfl

/-- what "moved by exactly k" means for the object a history transposed, for splittable figures: the copy's melody is
`melEvent` of every event of the original, its chords `cpFigure` of every chord.  The equation holds for every range;
`hr` is what `lead_sheet_transpose_together` needs to add that every `melEvent` value lies in `[mn, mx)` congruent to
`e + k` (next to root, bass and pitch classes by `k` modulo 12) -/
theorem deepcopy_then_transpose_moved (c : String → Sym) (h : Heap) (i : Nat) (o : Obj) (k mn mx : Int)
    (hi : h[i]? = some o) (hr : NOTES_PER_OCTAVE ≤ mx - mn)
    (hs : ∀ f ∈ o.figs, f ≠ NO_CHORD → split f = .ok (c f)) :
    let h2 := hRun split h [.deepcopy i, .transpose h.length k mn mx]
    h2[i]? = some o ∧
    h2[h.length]? = some { es := o.es.map (melEvent k mn mx), figs := o.figs.map (cpFigure c k) } := by
  obtain ⟨h1, h2, _⟩ := deepcopy_then_transpose_copy split h i o k mn mx hi
  refine ⟨h1, ?_⟩
  rw [h2]
  have := (lead_sheet_transpose_together split c k mn mx o.es o.figs hr hs).1
  simp [objTranspose, this]

/-! ## non-vacuity: a lead sheet, its copy transposed by a tone; the original keeps C / 60 -/
section Examples

def exSplit (f : String) : Except Err Sym :=
  if f = "C" then .ok { root := ⟨.C, 0⟩, kind := "", mods := "", modList := [], bass := none }
  else if f = "D" then .ok { root := ⟨.D, 0⟩, kind := "", mods := "", modList := [], bass := none }
  else .error chordSymbolError

example :
    hRun exSplit [{ es := [60, -2, 64], figs := ["C", "N.C.", "C"] }] [.deepcopy 0, .transpose 1 2 0 128] =
      [{ es := [60, -2, 64], figs := ["C", "N.C.", "C"] }, { es := [62, -2, 66], figs := ["D", "N.C.", "D"] }] := by
  decide +kernel

example :
    hRun exSplit [{ es := [60, -2, 64], figs := ["C", "N.C.", "C"] }] [.deepcopy 0, .transpose 1 2 0 128, .transpose 0 2 0 128] =
      [{ es := [62, -2, 66], figs := ["D", "N.C.", "D"] }, { es := [62, -2, 66], figs := ["D", "N.C.", "D"] }] := by
  decide +kernel

end Examples

end NSV.C10

import NoteSeqVerif.Proofs.C13Repeat
/-! C13 — `repeat_sequence_to_duration`: the result is the cyclic copies cut at `D`
(`RepeatCyclicCopies` of `Props/C13.lean` is refuted here and proved with its missing hypothesis).

`repeatFullR R mm m D sd` is the model of `repeat_sequence_to_duration(m, D, sequence_duration=sd)`
(`sd = 0` ⇔ falsy) with `extract_subsequence` = property C02's model.  Vocabulary
(`Proofs/C13.lean`): `repDur m sd` = `d` (`sd or total_time`), `repCount R m D sd` = `⌈R (D/d)⌉`; (`Proofs/C13Repeat.lean`):
`repOffs R d 0 n` = the offsets `0, R (0+d), R (R (0+d)+d), …`, `repCopies R m d n` = copy `k` placed
at offset `k`, `cyclicCopies l d n` = exact copies `k·d`, `cutNote D` = keep iff `0 ≤ start < D`, end
cut at `D`. -/
namespace NSV.C13
open List

/-- **notes of repeat, for every rounding operator `R`.**  Whenever the call returns, its notes are
the notes of the copies (copy `k` shifted by the float offset `k`, copy 0 unshifted), in stable
start order (`extract_subsequence` sorts), those starting in `[0, D)`, with start `R (start - 0)`
and end `R (min end D - 0)`; nothing else. -/
theorem repeat_notes (R : Rat → Rat) (mm : List String → String) (m : MSeq) (dur sd : Rat) (r : MSeq)
    (h : repeatFullR R mm m dur sd = .ok r) :
    r.ns.notes =
      ((sortByRat (·.start) ((repCopies R m (repDur m sd) (repCount R m dur sd)).flatMap (·.ns.notes))).filter
        (fun x => decide (0 ≤ x.start) && decide (x.start < dur))).map (NSV.C02.clipR R 0 dur) := by
  obtain ⟨_, _, _, _, _, hr⟩ := repeat_unfold R mm m dur sd r h
  rw [hr]
  show NSV.C02.specNotes R (repeatCat R mm m dur sd).ns 0 dur = _
  unfold NSV.C02.specNotes
  rw [(finishCat_foldl mm _ _ (repeatCat R mm m dur sd) rfl).1]

/-- **every other container of repeat, for every `R`** (as far as C02's closed forms go): with `cat` the
concatenation of the copies (`repeatCat`, containers listed by `finishCat_foldl`), tempos / time signatures / key
signatures / chord symbols are C02's `specState` of `cat`'s (de-duplicated) events on `[0, D)`, beats follow the note
rule, sustain-type control changes C02's pedal rule; pitch bends are dropped and section annotations are **not** cut
(all copies survive); `total_time` is the largest cut note end. -/
theorem repeat_events (R : Rat → Rat) (mm : List String → String) (m : MSeq) (dur sd : Rat) (r : MSeq)
    (h : repeatFullR R mm m dur sd = .ok r) :
    r.ns.tempos = NSV.C02.specState R (·.time) NSV.C02.Tempo.setTime
      (redTempos ((repCopies R m (repDur m sd) (repCount R m dur sd)).flatMap (·.ns.tempos))) 0 dur ∧
    r.ns.timeSigs = NSV.C02.specState R (·.time) NSV.C02.TimeSig.setTime
      (redTimeSigs ((repCopies R m (repDur m sd) (repCount R m dur sd)).flatMap (·.ns.timeSigs))) 0 dur ∧
    r.ns.keySigs = NSV.C02.specState R (·.time) NSV.C02.KeySig.setTime
      (redKeySigs ((repCopies R m (repDur m sd) (repCount R m dur sd)).flatMap (·.ns.keySigs))) 0 dur ∧
    r.ns.texts = NSV.C02.specState R (·.time) NSV.C02.TextAnn.setTime
        (NSV.C02.chords (repeatCat R mm m dur sd).ns) 0 dur ++ NSV.C02.specBeats R (repeatCat R mm m dur sd).ns 0 dur ∧
    r.ns.ccs = NSV.C02.specPedals R NSV.C02.Gen.PRESERVE (repeatCat R mm m dur sd).ns 0 dur ∧
    r.ns.bends = [] ∧
    r.ns.sectionAnns = (repCopies R m (repDur m sd) (repCount R m dur sd)).flatMap (·.ns.sectionAnns) ∧
    r.ns.totalTime = NSV.C02.pieceTotal r.ns.notes ∧
    r.ns.hasSub = false ∧ r.ns.subStart = 0 ∧ r.ns.subEnd = 0 ∧
    r.composers = (repeatCat R mm m dur sd).composers ∧ r.genres = (repeatCat R mm m dur sd).genres ∧
    r.ns.metaTag = mm ((replicate (repCount R m dur sd) m).map (·.ns.metaTag)) := by
  obtain ⟨_, _, _, _, _, hr⟩ := repeat_unfold R mm m dur sd r h
  obtain ⟨_, _, _, _, f4, _, f5, f6, f7, _⟩ :=
    finishCat_foldl mm _ _ (repeatCat R mm m dur sd) rfl
  rw [hr]
  exact ⟨congrArg (NSV.C02.specState R _ _ · 0 dur) f5, congrArg (NSV.C02.specState R _ _ · 0 dur) f6,
    congrArg (NSV.C02.specState R _ _ · 0 dur) f7, rfl, rfl, rfl, f4, rfl, rfl, rfl, rfl, rfl, rfl, rfl⟩

/-- the copies, for every `R`: there are `⌈R (D/d)⌉` of them, copy `k` is the input placed
(`shift_sequence_times`, or untouched at offset 0) at offset `k`, and the offsets follow the loop's
recurrence `o₀ = 0`, `o_{k+1} = R (o_k + d)` -/
theorem repeat_copies (R : Rat → Rat) (m : MSeq) (d : Rat) (n : Nat) :
    repCopies R m d n = (repOffs R d 0 n).map (fun o => placed R o m) ∧
    (repOffs R d 0 n).length = n ∧
    (∀ c, repOffs R d c 0 = []) ∧ (∀ c k, repOffs R d c (k + 1) = c :: repOffs R d (R (c + d)) k) :=
  ⟨rfl, repOffs_length R d n 0, fun _ => rfl, fun _ _ => rfl⟩

/-- in exact arithmetic copy `k` is the input with every note and event time moved by `k·d` -/
theorem repeat_copies_exact (m : MSeq) (d : Rat) (n : Nat) (hd : 0 ≤ d) :
    repOffs id d 0 n = (List.range n).map (fun (k : Nat) => ((k : Int) : Rat) * d) ∧
    (repCopies id m d n).flatMap (·.ns.notes) = cyclicCopies m.ns.notes d n ∧
    ∀ k (hk : k < (repCopies id m d n).length),
      ((repCopies id m d n)[k]).ns.tempos = m.ns.tempos.map (fun e => { e with time := e.time + ((k : Int) : Rat) * d }) ∧
      ((repCopies id m d n)[k]).ns.timeSigs = m.ns.timeSigs.map (fun e => { e with time := e.time + ((k : Int) : Rat) * d }) ∧
      ((repCopies id m d n)[k]).ns.keySigs = m.ns.keySigs.map (fun e => { e with time := e.time + ((k : Int) : Rat) * d }) ∧
      ((repCopies id m d n)[k]).ns.texts = m.ns.texts.map (fun e => { e with time := e.time + ((k : Int) : Rat) * d }) ∧
      ((repCopies id m d n)[k]).ns.ccs = m.ns.ccs.map (fun e => { e with time := e.time + ((k : Int) : Rat) * d }) ∧
      ((repCopies id m d n)[k]).ns.sectionAnns =
        m.ns.sectionAnns.map (fun e => { e with time := e.time + ((k : Int) : Rat) * d }) := by
  have ho : repOffs id d 0 n = (List.range n).map (fun (k : Nat) => ((k : Int) : Rat) * d) := by
    rw [repOffs_exact]; simp [Rat.zero_add]
  refine ⟨ho, repCopies_id_notes m d n hd, ?_⟩
  intro k hk
  have hk' : k < n := by simpa [repCopies, repOffs_length] using hk
  have : (repCopies id m d n)[k] = placed id (((k : Int) : Rat) * d) m := by
    simp [repCopies, ho]
  rw [this]
  have h := placed_moved _ m (mul_nonneg_nat k d hd)
  exact ⟨h.tempos, h.timeSigs, h.keySigs, h.texts, h.ccs, h.sectionAnns⟩

/-- **notes of repeat, exact arithmetic.**  The notes are exactly: the cyclic copies (copy `k` = every
input note moved by `k·d`, `k = 0 … ⌈D/d⌉-1`), in stable start order, those with
`0 ≤ start < D`, end cut at `D`; nothing else and nothing changed otherwise. -/
theorem repeat_notes_exact (mm : List String → String) (m : MSeq) (dur sd : Rat) (r : MSeq)
    (hd : 0 ≤ repDur m sd) (h : repeatFullR id mm m dur sd = .ok r) :
    r.ns.notes =
      (sortByRat (·.start) (cyclicCopies m.ns.notes (repDur m sd) (repCount id m dur sd))).filterMap (cutNote dur) := by
  rw [repeat_notes id mm m dur sd r h, filter_map_clip_eq, repCopies_id_notes m _ _ hd]

/-- "enough copies": for positive `d` and `D` the number of copies `n = ⌈D/d⌉` is the one with
`(n-1)·d < D ≤ n·d` -/
theorem repeat_count_bounds (m : MSeq) (dur sd : Rat) (hd : 0 < repDur m sd) (hD : 0 < dur) :
    1 ≤ repCount id m dur sd ∧
    dur ≤ ((repCount id m dur sd : Int) : Rat) * repDur m sd ∧
    ((repCount id m dur sd : Int) : Rat) * repDur m sd < dur + repDur m sd := by
  obtain ⟨h1, h2, h3, h4⟩ := repeat_count_exact dur (repDur m sd) hd hD
  have e : ((repCount id m dur sd : Nat) : Int) = (dur / repDur m sd).ceil := h4
  refine ⟨by unfold repCount; simp only [id]; omega, ?_, ?_⟩
  · rw [e]; exact h2
  · rw [e]; grind

/-- **in that order**: when the input notes are stored in start order and start inside `[0, d]`
(every well-formed sequence sorted by start), the result lists copy 0, copy 1, … in the input's
own order — exactly the notes of copy `k` (moved by `k·d`) with `k·d + start < D`, ends cut at `D` -/
theorem repeat_cyclic_copies_ordered (mm : List String → String) (m : MSeq) (dur sd : Rat) (r : MSeq)
    (hd : 0 ≤ repDur m sd) (hs : m.ns.notes.Pairwise (fun a b => a.start ≤ b.start))
    (hin : ∀ nt ∈ m.ns.notes, 0 ≤ nt.start ∧ nt.start ≤ repDur m sd)
    (h : repeatFullR id mm m dur sd = .ok r) :
    r.ns.notes = (cyclicCopies m.ns.notes (repDur m sd) (repCount id m dur sd)).filterMap
      (fun nt => if nt.start < dur then some { nt with end_ := if dur < nt.end_ then dur else nt.end_ } else none) := by
  rw [repeat_notes_exact mm m dur sd r hd h,
    NSV.sortByRat_of_pairwise _ _ (cyclicCopies_sorted _ _ hs hin hd _)]
  exact filterMap_cutNote_cyclicCopies _ _ _ _ hd (fun nt hnt => (hin nt hnt).1)

/-- `RepeatCyclicCopies` (`Props/C13.lean`) under the one hypothesis it lacks: no note starts
before time 0.  (`extract_subsequence(…, 0, D)` drops a note with `start < 0`, the right-hand side
of `RepeatCyclicCopies` keeps it: see `repeatCyclicCopies_needs_nonneg_starts`.) -/
theorem repeatCyclicCopies_partial :
    ∀ (mm : List String → String) (m : MSeq) (dur : Rat) (r : MSeq),
      0 < m.ns.totalTime → 0 < dur → m.ns.isQuantized = false →
      (∀ nt ∈ m.ns.notes, 0 ≤ nt.start) →
      repeatFullR id mm m dur 0 = .ok r →
      ∃ n : Nat, ((n : Int) : Rat) * m.ns.totalTime < dur + m.ns.totalTime ∧ dur ≤ ((n : Int) : Rat) * m.ns.totalTime ∧
        r.ns.notes.Perm
          (((List.range n).flatMap (fun (k : Nat) => m.ns.notes.map (fun nt =>
              { nt with start := nt.start + ((k : Int) : Rat) * m.ns.totalTime,
                        end_ := nt.end_ + ((k : Int) : Rat) * m.ns.totalTime }))).filterMap
            (fun nt => if nt.start < dur then some { nt with end_ := if dur < nt.end_ then dur else nt.end_ } else none)) := by
  intro mm m dur r htt hD _ hpos h
  have hd : repDur m 0 = m.ns.totalTime := by simp [repDur]
  have hd0 : 0 ≤ repDur m 0 := by rw [hd]; grind
  obtain ⟨_, c2, c3⟩ := repeat_count_bounds m dur 0 (by rw [hd]; exact htt) hD
  rw [hd] at c2 c3
  refine ⟨repCount id m dur 0, c3, c2, ?_⟩
  rw [repeat_notes_exact mm m dur 0 r hd0 h, hd]
  have hperm := (NSV.sortByRat_perm (·.start)
    (cyclicCopies m.ns.notes m.ns.totalTime (repCount id m dur 0))).filterMap (cutNote dur)
  exact hperm.trans (Perm.of_eq (filterMap_cutNote_cyclicCopies _ _ _ _ (Rat.le_of_lt htt) hpos))

/-- the call returns for every unquantized sequence with `0 < total_time ≤ d` and every `D > 0`
(exact arithmetic) — the hypothesis `… = .ok r` of the theorems above is satisfiable throughout -/
theorem repeat_ok_exact (mm : List String → String) (m : MSeq) (dur sd : Rat)
    (htt : 0 < m.ns.totalTime) (hle : m.ns.totalTime ≤ repDur m sd) (hD : 0 < dur)
    (hq : m.ns.isQuantized = false) : ∃ r, repeatFullR id mm m dur sd = .ok r := by
  have hd : 0 < repDur m sd := by grind
  obtain ⟨c1, _, _⟩ := repeat_count_bounds m dur sd hd hD
  obtain ⟨q1, q2⟩ := (isQuantized_false_iff m.ns).mp hq
  have hc : concatR id mm (replicate (repCount id m dur sd) m) (replicate (repCount id m dur sd) (repDur m sd)) =
      .ok (repeatCat id mm m dur sd) := by
    rw [concat_ok_of id mm _ _ (fun _ => by simp) (fun p hp => ?_) (fun s hs => ?_), catPieces_replicate]; rfl
    · rw [zip_replicate'] at hp; rw [eq_of_mem_replicate hp]; exact hle
    · rw [eq_of_mem_replicate hs]; exact hq
  have hcq : (repeatCat id mm m dur sd).ns.isQuantized = false := by
    rw [isQuantized_false_iff]
    have := foldl_merge_resolution (· ≤ 0) (Int.le_refl 0) (repCopies id m (repDur m sd) (repCount id m dur sd)) emptyM
      (Int.le_refl 0) (Int.le_refl 0) (by
        intro x hx
        obtain ⟨o, _, rfl⟩ := mem_map.mp hx
        rw [(placed_quant id o m).1, (placed_quant id o m).2]; exact ⟨q1, q2⟩)
    simpa [repeatCat, finishCat, removeRedundant] using this
  have hct : 0 < (repeatCat id mm m dur sd).ns.totalTime := by
    rw [(finishCat_foldl mm _ _ (repeatCat id mm m dur sd) rfl).2.2.2.2.2.2.2.2.2.2.2.1]
    apply lastNZ_pos
    · exact Or.inr (ne_nil_of_length_pos (by simp [repCopies, repOffs_length]; omega))
    · intro x hx
      obtain ⟨c, hcm, rfl⟩ := mem_map.mp hx
      obtain ⟨o, ho, rfl⟩ := mem_map.mp hcm
      rw [repOffs_exact] at ho
      obtain ⟨k, _, rfl⟩ := mem_map.mp ho
      have hk := mul_nonneg_nat k (repDur m sd) (by grind)
      unfold placed
      split
      · simp only [shiftSeq, id]; grind
      · exact htt
  rw [repeatFullR, repeatR_def, if_neg (by grind), hc]
  simp only [extractC02]
  rw [NSV.C02.extract_subsequence_spec, if_neg (by simp [hcq]), if_neg (by grind)]
  exact ⟨_, rfl⟩

/-! ## `RepeatCyclicCopies` as written is false: a note starting before 0 -/

def negSeq : MSeq := { ns := { notes := [{ exNote with start := -1, end_ := 1 / 2 }], totalTime := 1 } }

theorem repeat_negSeq (mm : List String → String) :
    ∃ r, repeatFullR id mm negSeq 1 0 = .ok r ∧ r.ns.notes = [] := by
  obtain ⟨r, hr⟩ := repeat_ok_exact mm negSeq 1 0 (by decide +kernel) (by decide +kernel) (by decide +kernel)
    (by decide +kernel)
  refine ⟨r, hr, ?_⟩
  rw [repeat_notes_exact mm negSeq 1 0 r (by decide +kernel) hr]
  have hn : repCount id negSeq 1 0 = 1 := by decide +kernel
  rw [hn]
  have : cyclicCopies negSeq.ns.notes (repDur negSeq 0) 1 =
      [shiftNote (((0 : Nat) : Int) * repDur negSeq 0) { exNote with start := -1, end_ := 1 / 2 }] := by
    simp [cyclicCopies, negSeq]
  rw [this]
  simp only [sortByRat, mergeSort_singleton, filterMap_cons, filterMap_nil]
  have : cutNote 1 (shiftNote (((0 : Nat) : Int) * repDur negSeq 0) { exNote with start := -1, end_ := 1 / 2 }) = none := by
    decide +kernel
  rw [this]

/-- the `def RepeatCyclicCopies` of `Props/C13.lean` does not hold as stated: it forgets that the cut
`[0, D)` also removes notes that start before 0 (what `extract_subsequence` — and the Python — do);
`repeatCyclicCopies_partial` is the statement with that hypothesis added -/
theorem repeatCyclicCopies_needs_nonneg_starts : ¬ RepeatCyclicCopies := by
  intro H
  obtain ⟨r, hr, hnotes⟩ := repeat_negSeq (fun _ => "-")
  obtain ⟨n, _, hn, hperm⟩ := H (fun _ => "-") negSeq 1 r (by decide +kernel) (by decide +kernel) (by decide +kernel) hr
  rw [hnotes] at hperm
  have hlen := hperm.length_eq
  cases n with
  | zero =>
    have : ((((0 : Nat) : Int) : Rat)) * negSeq.ns.totalTime = 0 := by simp [Rat.zero_mul]
    rw [this] at hn
    exact absurd hn (by decide +kernel)
  | succ k =>
    rw [range_succ_eq_map] at hlen
    simp only [flatMap_cons, negSeq, map_cons, map_nil, cons_append, nil_append, filterMap_cons] at hlen
    have hlt : (-1 : Rat) + (((0 : Nat) : Int) : Rat) * 1 < 1 := by decide +kernel
    simp only [hlt, if_true] at hlen
    simp at hlen

example : (0 : Rat) < exM.ns.totalTime ∧ exM.ns.totalTime ≤ repDur exM 0 ∧ exM.ns.isQuantized = false ∧
    repDur exM 0 = 2 ∧ repCount id exM 5 0 = 3 ∧
    (∀ nt ∈ exM.ns.notes, 0 ≤ nt.start ∧ nt.start ≤ repDur exM 0) ∧
    (cyclicCopies exM.ns.notes 2 3).filterMap (cutNote 5) =
      [exNote, { exNote with start := 3, end_ := 4 }] := by decide +kernel

example : repOffs id 2 0 3 = [0, 2, 4] ∧ (repCopies id exM 2 3).length = 3 := by decide +kernel

end NSV.C13

import NoteSeqVerif.Props.C08
import NoteSeqVerif.Proofs.C08Wrap
/-! C08 — the methods an encoder/decoder class exposes beyond `events_to_label` / `class_index_to_event` /
`events_to_input`: `labels_to_num_steps` of every class, the base-class helpers `get_inputs_batch` and
`extend_event_sequences` (= the generation loop), and the `ConditionalEventSequenceEncoderDecoder` wrapper.  The wrapper
asks the TARGET encoder for everything that concerns labels (control ++ target for inputs), so the property clauses
proved for the target hold verbatim for the wrapper whatever the control encoder is. -/
namespace NSV.C08
open Gen

section Helpers
variable {ε ι κ ν : Type}

/-- `extend_event_sequences` (drawn classes given): sequence `i` gets the decoding of class `i` against
itself appended -/
theorem extend_spec (E : SeqEnc ε ι κ ν) (seqs : List (List ε)) (chosen : List κ) (out : List (List ε))
    (h : E.extend seqs chosen = .ok out) :
    out.length = min seqs.length chosen.length ∧
    ∀ i (h1 : i < seqs.length) (h2 : i < chosen.length) (h3 : i < out.length),
      ∃ e, E.cite chosen[i] seqs[i] = .ok e ∧ out[i] = seqs[i] ++ [e] := by
  unfold SeqEnc.extend at h
  obtain ⟨hl, hg⟩ := mapE_ok _ _ _ h
  refine ⟨by rw [hl, List.length_zip], fun i h1 h2 h3 => ?_⟩
  have := hg i (by rw [List.length_zip]; omega) h3
  simp only [List.getElem_zip, SeqEnc.extendOne] at this
  obtain ⟨e, he, hb⟩ := map_ok this
  exact ⟨e, he, hb.symm⟩

/-- the generation loop as the library runs it (one `extend_event_sequences` call per label) is the loop
`events.append(class_index_to_event(label, events))` all the generation theorems are about -/
theorem extend_loop_is_generation_loop (E : SeqEnc ε ι κ ν) (labels : List κ) (evs : List ε) :
    E.extendLoop labels evs = genLoop E.cite labels evs := by
  induction labels generalizing evs with
  | nil => rfl
  | cons l ls ih =>
    rw [SeqEnc.extendLoop, genLoop, extend_single]
    cases E.cite l evs with
    | error e => rfl
    | ok ev => exact ih _

/-- `get_inputs_batch`: one entry per sequence; `full_length`: the inputs of all positions in order … -/
theorem inputs_batch_full (E : SeqEnc ε ι κ ν) (seqs : List (List ε)) (out : List (List (List ι)))
    (h : E.inputsBatch seqs true = .ok out) :
    out.length = seqs.length ∧ ∀ s (hs : s < seqs.length) (ho : s < out.length),
      out[s].length = seqs[s].length ∧
      ∀ i (_ : i < seqs[s].length) (hi : i < out[s].length), E.toInput seqs[s] (i : Int) = .ok out[s][i] := by
  unfold SeqEnc.inputsBatch at h
  obtain ⟨h1, h2⟩ := mapE_ok _ _ _ h
  exact ⟨h1, fun s hs ho => inputsOf_full _ _ _ (h2 s hs ho)⟩

/-- … otherwise exactly the input of the last position of each sequence -/
theorem inputs_batch_last (E : SeqEnc ε ι κ ν) (seqs : List (List ε)) (out : List (List (List ι)))
    (h : E.inputsBatch seqs false = .ok out) :
    out.length = seqs.length ∧ ∀ s (hs : s < seqs.length) (ho : s < out.length),
      ∃ v, E.toInput seqs[s] ((seqs[s].length : Int) - 1) = .ok v ∧ out[s] = [v] := by
  unfold SeqEnc.inputsBatch at h
  obtain ⟨h1, h2⟩ := mapE_ok _ _ _ h
  exact ⟨h1, fun s hs ho => inputsOf_last _ _ _ (h2 s hs ho)⟩

end Helpers

section Delegation
variable {γ ε ι κc νc κ ν : Type}

/-- `labels_to_num_steps` of the wrapper is the TARGET encoder's (never the control's) -/
theorem conditional_labels_to_num_steps (W : Cond γ ε ι κc νc κ ν) (ls : List κ) :
    W.labelsToNumSteps ls = W.target.labelsToNumSteps ls := rfl

theorem conditional_events_to_label (W : Cond γ ε ι κc νc κ ν) (tgt : List ε) (pos : Int) :
    W.toLabel tgt pos = W.target.toLabel tgt pos := rfl

theorem conditional_class_index_to_event (W : Cond γ ε ι κc νc κ ν) (ci : κ) (tgt : List ε) :
    W.cite ci tgt = W.target.cite ci tgt := rfl

theorem conditional_num_classes (W : Cond γ ε ι κc νc κ ν) : W.numClasses = W.target.numClasses := rfl

theorem conditional_default_label (W : Cond γ ε ι κc νc κ ν) : W.defaultLabel = W.target.defaultLabel := rfl

theorem conditional_input_size (W : Cond γ ε ι κc νc κ ν) :
    W.inputSize = W.control.inputSize + W.target.inputSize := rfl

theorem conditional_events_to_input (W : Cond γ ε ι κc νc κ ν) (ctrl : List γ) (tgt : List ε) (pos : Int)
    (v : List ι) (h : W.toInput ctrl tgt pos = .ok v) :
    ∃ a b, W.control.toInput ctrl (pos + 1) = .ok a ∧ W.target.toInput tgt pos = .ok b ∧ v = a ++ b :=
  condEventsToInput_ok h

/-- exactly `control.input_size + target.input_size` entries when the two components produce vectors of their own
`input_size` -/
theorem conditional_input_size_exact (W : Cond γ ε ι κc νc κ ν) (ctrl : List γ) (tgt : List ε) (pos : Int)
    (v : List ι)
    (hc : ∀ p a, W.control.toInput ctrl p = .ok a → (a.length : Int) = W.control.inputSize)
    (ht : ∀ p b, W.target.toInput tgt p = .ok b → (b.length : Int) = W.target.inputSize)
    (h : W.toInput ctrl tgt pos = .ok v) : (v.length : Int) = W.inputSize := by
  obtain ⟨a, b, ha, hb, rfl⟩ := condEventsToInput_ok h
  have h1 := hc _ _ ha
  have h2 := ht _ _ hb
  unfold Cond.inputSize
  rw [List.length_append]
  omega

theorem conditional_encode_aligned (W : Cond γ ε ι κc νc κ ν) (ctrl : List γ) (tgt : List ε)
    (ins : List (List ι)) (labs : List κ) (h : W.encode ctrl tgt = .ok (ins, labs)) :
    ctrl.length = tgt.length ∧ ins.length = tgt.length - 1 ∧ labs.length = tgt.length - 1 ∧
    ∀ i (hi : i < ins.length) (hl : i < labs.length),
      W.toInput ctrl tgt i = .ok ins[i] ∧ W.target.toLabel tgt ((i : Int) + 1) = .ok labs[i] :=
  condEncode_ok _ _ _ ctrl tgt ins labs h

theorem conditional_encode_length_mismatch (W : Cond γ ε ι κc νc κ ν) (ctrl : List γ) (tgt : List ε)
    (h : ctrl.length ≠ tgt.length) : W.encode ctrl tgt = .error "ValueError" := by
  unfold Cond.encode condEncode; rw [if_pos h]

theorem conditional_extend (W : Cond γ ε ι κc νc κ ν) (seqs : List (List ε)) (chosen : List κ) :
    W.extend seqs chosen = W.target.extend seqs chosen := rfl

/-- `extend_loop_is_generation_loop` for the wrapper's own `extend_event_sequences` -/
theorem conditional_extend_loop (W : Cond γ ε ι κc νc κ ν) (labels : List κ) (evs : List ε) :
    W.extendLoop labels evs = genLoop W.cite labels evs := by
  induction labels generalizing evs with
  | nil => rfl
  | cons l ls ih =>
    rw [Cond.extendLoop, genLoop, Cond.extend, Cond.cite, extend_single]
    cases W.target.cite l evs with
    | error e => rfl
    | ok ev => exact ih _

/-- `get_inputs_batch` of the wrapper when it returns.  The failures — `TypeError` on different counts, `ValueError` on a
control sequence that is not longer — are what `Cond.inputsBatch` computes; see the examples below. -/
theorem conditional_inputs_batch (W : Cond γ ε ι κc νc κ ν) (ctrls : List (List γ)) (tgts : List (List ε))
    (full : Bool) (out : List (List (List ι))) (h : W.inputsBatch ctrls tgts full = .ok out) :
    ctrls.length = tgts.length ∧ out.length = tgts.length ∧
    ∀ i (hc : i < ctrls.length) (ht : i < tgts.length) (ho : i < out.length),
      tgts[i].length < ctrls[i].length ∧
      SeqEnc.inputsOf (W.toInput ctrls[i] tgts[i]) tgts[i].length full = .ok out[i] := by
  unfold Cond.inputsBatch at h
  split at h
  · cases h
  · rename_i hlen
    have hlen : ctrls.length = tgts.length := by simpa using hlen
    obtain ⟨h1, h2⟩ := mapE_ok _ _ _ h
    refine ⟨hlen, by rw [h1, List.length_zip]; omega, fun i hc ht ho => ?_⟩
    have := h2 i (by rw [List.length_zip]; omega) ho
    simp only [List.getElem_zip] at this
    split at this
    · cases this
    · exact ⟨by omega, this⟩

end Delegation

section NumSteps
variable {ε : Type}

/-- base class (`KeyMelodyEncoderDecoder`, `PianorollEncoderDecoder` inherit it): the number of labels -/
theorem base_labels_to_num_steps (c : KeyCfg) (n : Nat) (ls : List Int) :
    (keyEnc c).labelsToNumSteps ls = .ok (ls.length : Int) ∧ (prEnc n).labelsToNumSteps ls = .ok (ls.length : Int) :=
  ⟨rfl, rfl⟩

/-- one-hot / one-hot-index: whenever it returns, the labels decoded one by one and it is the sum of
`event_to_num_steps` over the decoded events -/
theorem onehot_labels_to_num_steps (oh : OneHot ε) (ls : List Int) (n : Int)
    (h : (ohEnc oh).labelsToNumSteps ls = .ok n) :
    (ohiEnc oh).labelsToNumSteps ls = .ok n ∧
    ∃ out, genLoop (ohEnc oh).cite ls [] = .ok out ∧ n = (out.map oh.numSteps).sum := by
  refine ⟨h, ?_⟩
  obtain ⟨out, ho, hn⟩ := map_ok (show (genLoop (ohClassIndexToEvent oh) ls []).map (stepsOf oh) = .ok n from h)
  exact ⟨out, ho, hn.symm⟩

/-- lookback: the same through the lookback decoder (labels may cite earlier generated events) -/
theorem lookback_labels_to_num_steps [DecidableEq ε] (oh : OneHot ε) (c : LookbackCfg) (ls : List Int) (n : Int)
    (h : (lbEnc oh c).labelsToNumSteps ls = .ok n) :
    ∃ out, genLoop (lbEnc oh c).cite ls [] = .ok out ∧ n = (out.map oh.numSteps).sum := by
  obtain ⟨out, ho, hn⟩ := map_ok (show (genLoop (lbClassIndexToEvent oh c) ls []).map (stepsOf oh) = .ok n from h)
  exact ⟨out, ho, hn.symm⟩

theorem perf_event_num_steps (bins ms lo hi : Int) (e : Nat × Int) :
    (perfOneHot bins ms lo hi).numSteps e = if e.1 = TIME_SHIFT then e.2 else 0 := rfl

/-- performance events under the one-hot and lookback encoders: `labels_to_num_steps` is the sum of the
TIME_SHIFT values of the generated sequence -/
theorem perf_labels_to_num_steps (bins ms lo hi : Int) (c : LookbackCfg) (ls : List Int) (n : Int) :
    ((ohEnc (perfOneHot bins ms lo hi)).labelsToNumSteps ls = .ok n →
      ∃ out, genLoop (ohEnc (perfOneHot bins ms lo hi)).cite ls [] = .ok out ∧ n = perfSteps out) ∧
    ((lbEnc (perfOneHot bins ms lo hi) c).labelsToNumSteps ls = .ok n →
      ∃ out, genLoop (lbEnc (perfOneHot bins ms lo hi) c).cite ls [] = .ok out ∧ n = perfSteps out) := by
  constructor
  · intro h
    obtain ⟨_, out, ho, hn⟩ := onehot_labels_to_num_steps _ ls n h
    exact ⟨out, ho, by rw [hn]; exact stepsOf_perf bins ms lo hi out⟩
  · intro h
    obtain ⟨out, ho, hn⟩ := lookback_labels_to_num_steps _ c ls n h
    exact ⟨out, ho, by rw [hn]; exact stepsOf_perf bins ms lo hi out⟩

/-- modulo-performance: the same (its labels go through the performance one-hot encoding); with a legal
configuration and in-range labels it always returns -/
theorem modulo_labels_to_num_steps (c : ModCfg) (ls : List Int) :
    (∀ n, (modEnc c).labelsToNumSteps ls = .ok n →
      ∃ out, genLoop (modEnc c).cite ls [] = .ok out ∧ n = perfSteps out) ∧
    (ModCfgOk c → (∀ l ∈ ls, 0 ≤ l ∧ l < (modEnc c).numClasses) →
      ∃ out, genLoop (modEnc c).cite ls [] = .ok out ∧ out.length = ls.length ∧
        (modEnc c).labelsToNumSteps ls = .ok (perfSteps out)) := by
  constructor
  · intro n h
    obtain ⟨_, out, ho, hn⟩ := onehot_labels_to_num_steps (modOneHot c) ls n h
    exact ⟨out, ho, by rw [hn]; exact stepsOf_perf _ _ _ _ out⟩
  · intro hc hl
    obtain ⟨out, h1, h2, _, _, h5⟩ := onehot_generation_loop_total (modOneHot c)
      (modulo_decode_total c hc) ls hl [] (by simp)
    refine ⟨out, h1, by simpa using h2, ?_⟩
    have := h5 rfl
    rw [show (out.map (modOneHot c).numSteps).sum = perfSteps out from stepsOf_perf _ _ _ _ out] at this
    exact this

theorem noteperf_labels_to_num_steps (E : NPEnc) (ls : List (List Int)) (out : List NPEvent)
    (h : mapE (npClassIndexToEvent E) ls = .ok out) :
    (npEnc E).labelsToNumSteps ls = .ok ((out.map NPEvent.shift).sum +
      (match out.getLast? with | some e => e.dur | none => 0)) :=
  noteperf_num_steps E ls out h

end NumSteps

section Transfer
variable {γ ε κc νc : Type}

theorem conditional_lookback_decode_label [DecidableEq ε] (C : SeqEnc γ Int κc νc) (oh : OneHot ε) (c : LookbackCfg)
    (evs : List ε) (p : Nat) (hp : p < evs.length) (hd : LegalDists c.dists) (hv : ValidEv oh evs[p]) :
    ∃ l, (Cond.mk C (lbEnc oh c)).toLabel evs p = .ok l ∧ 0 ≤ l ∧ l < (Cond.mk C (lbEnc oh c)).numClasses ∧
      (Cond.mk C (lbEnc oh c)).cite l (evs.take p) = .ok evs[p] :=
  lookback_label_spec oh c evs p hp hd hv

/-- the consequence clause for the wrapper over a lookback target: any in-range labels drive the wrapper's
generation loop without error, and the wrapper's `labels_to_num_steps` is the step count of the sequence so
generated — the control encoder plays no part -/
theorem conditional_lookback_num_steps [DecidableEq ε] (C : SeqEnc γ Int κc νc) (oh : OneHot ε) (c : LookbackCfg)
    (hd : LegalDists c.dists) (hdt : DecodeTotal oh) (hdef : ValidEv oh oh.default)
    (labels : List Int) (hl : ∀ l ∈ labels, 0 ≤ l ∧ l < (Cond.mk C (lbEnc oh c)).numClasses) :
    ∃ out, (Cond.mk C (lbEnc oh c)).extendLoop labels [] = .ok out ∧ out.length = labels.length ∧
      (Cond.mk C (lbEnc oh c)).labelsToNumSteps labels = .ok ((out.map oh.numSteps).sum) := by
  obtain ⟨out, h1, h2, h3⟩ := labels_to_num_steps_eq oh c hd hdt hdef labels hl
  exact ⟨out, by rw [conditional_extend_loop]; exact h1, h2, h3⟩

theorem conditional_onehot_num_steps (C : SeqEnc γ Int κc νc) (oh : OneHot ε) (hdt : DecodeTotal oh)
    (labels : List Int) (hl : ∀ l ∈ labels, 0 ≤ l ∧ l < (Cond.mk C (ohEnc oh)).numClasses) :
    ∃ out, (Cond.mk C (ohEnc oh)).extendLoop labels [] = .ok out ∧ out.length = labels.length ∧
      (Cond.mk C (ohEnc oh)).labelsToNumSteps labels = .ok ((out.map oh.numSteps).sum) := by
  obtain ⟨out, h1, h2, _, _, h5⟩ := onehot_generation_loop_total oh hdt labels hl [] (by simp)
  exact ⟨out, by rw [conditional_extend_loop]; exact h1, by simpa using h2, h5 rfl⟩

/-- over a key-melody target (base `labels_to_num_steps`): the number of labels = the number of generated events -/
theorem conditional_keymelody_num_steps (C : SeqEnc γ Int κc νc) (c : KeyCfg) (hc : KeyCfgOk c)
    (labels : List Int) (hl : ∀ l ∈ labels, 0 ≤ l ∧ l < (Cond.mk C (keyEnc c)).numClasses) :
    ∃ out, (Cond.mk C (keyEnc c)).extendLoop labels [] = .ok out ∧
      (Cond.mk C (keyEnc c)).labelsToNumSteps labels = .ok (out.length : Int) := by
  obtain ⟨out, h1, h2, _⟩ := keymelody_generation_loop_total c hc labels hl [] (by simp)
  refine ⟨out, by rw [conditional_extend_loop]; exact h1, ?_⟩
  show Except.ok (baseLabelsToNumSteps labels) = _
  unfold baseLabelsToNumSteps
  rw [h2]; simp

end Transfer

/-! ## non-vacuity: control and target that answer differently -/
section Examples

/-- control: a melody one-hot over 2 pitches (4 classes); target: performance events, lookback [2] (357 classes) -/
def exW : Cond Int (Nat × Int) Int Int Int Int Int :=
  ⟨ohEnc (melOneHot 60 62), lbEnc (perfOneHot 0 100 0 127) ⟨[2], 0⟩⟩

/-- control inherits the base implementation (key-melody), target is the modulo-performance encoder -/
def exW2 : Cond Int (Nat × Int) MCell Int Int Int Int :=
  ⟨(keyEnc ⟨48, 84, [16, 32], 7⟩).mapCells (fun i => if i = 0 then MCell.zero else MCell.one), modEnc ⟨0, 100⟩⟩

-- `exW`, labels: NOTE_ON 60, TIME_SHIFT 10, "repeat 2 ago" (= NOTE_ON 60), TIME_SHIFT 100: 110 steps;
-- the control encoder, asked the same question, counts one step per label (4)
example : exW.labelsToNumSteps [60, 265, 356, 355] = .ok 110 ∧
    exW.control.labelsToNumSteps [60, 265, 356, 355] = .ok 4 ∧
    exW.extendLoop [60, 265, 356, 355] [] = .ok [(NOTE_ON, 60), (TIME_SHIFT, 10), (NOTE_ON, 60), (TIME_SHIFT, 100)] ∧
    exW.numClasses = 357 ∧ exW.control.numClasses = 4 ∧ exW.inputSize = 4 + (356 + 356 + 0 + 1) := by
  decide +kernel

example : exW2.labelsToNumSteps [355, 60, 256] = .ok 101 ∧ exW2.control.labelsToNumSteps [355, 60, 256] = .ok 3 := by
  decide +kernel

example : ModCfgOk ⟨0, 100⟩ ∧ (∀ l ∈ [355, 60, 256], 0 ≤ l ∧ l < (modEnc ⟨0, 100⟩).numClasses) := by
  refine ⟨by unfold ModCfgOk MAX_NUM_VELOCITY_BINS; decide, ?_⟩
  decide +kernel

-- get_inputs_batch: control strictly longer; last-only vs full length; a different number of sequences
example : (Cond.mk (ohEnc (melOneHot 60 62)) (ohiEnc (melOneHot 60 62))).inputsBatch [[60, 61, -2]] [[61, 60]] false
      = .ok [[[1, 0, 0, 0, 2]]] ∧
    (Cond.mk (ohEnc (melOneHot 60 62)) (ohiEnc (melOneHot 60 62))).inputsBatch [[60, 61, -2]] [[61, 60]] true
      = .ok [[[0, 0, 0, 1, 3], [1, 0, 0, 0, 2]]] ∧
    (Cond.mk (ohEnc (melOneHot 60 62)) (ohiEnc (melOneHot 60 62))).inputsBatch [[60, 61]] [[61, 60]] true
      = .error "ValueError" ∧
    (Cond.mk (ohEnc (melOneHot 60 62)) (ohiEnc (melOneHot 60 62))).inputsBatch [] [[61, 60]] true
      = .error "TypeError" := by
  decide +kernel

end Examples
end NSV.C08

import NoteSeqVerif.Proofs.C19
/-! C19 — chord and melody inference return a maximum-likelihood path of their model.

Property theorems only (helper lemmas: `Proofs/C19.lean`; executable model: `Model/C19.lean`).
Scores live in an arbitrary linear order `S`; the score combination `add` is only assumed
monotone in its accumulated (left) argument — it need not be associative, commutative or exact.
Exact addition on integers extended by −∞ (`Ext`, used for the integer-table correspondence
stream) is proved to be such an `add` below; floating-point addition `rne53 (a + b)` with −∞
absorbing (`ExtQ`) in `Props/C19_float.lean`. -/
set_option linter.unnecessarySeqFocus false
namespace NSV.C19

/-! ## `numpy.argmax`: the first maximum -/

theorem argmax_first_max {S : Type} [LinearOrder S] (f : Nat → S) (n : Nat) (hn : 0 < n) :
    argmaxIdx f n < n ∧ (∀ i, i < n → f i ≤ f (argmaxIdx f n)) ∧
      (∀ i, i < argmaxIdx f n → f i < f (argmaxIdx f n)) :=
  argmaxIdx_spec f n hn

example : argmaxIdx (fun i => [3, 7, 7, 1].getD i (0 : Int)) 4 = 1 := by decide

section Viterbi
variable {S : Type} [LinearOrder S] (add : S → S → S)

/-- the array-based computation (rows of `loglik_matrix` / `path_matrix` stored, as in the Python)
returns exactly the path defined by the recursion equations -/
theorem viterbi_run_eq (T : Tables S) (frames : Nat) :
    viterbiRun add T frames = ((viterbiRev add T frames).reverse, optimum add T frames) := by
  simp only [viterbiRun, fwdExec_eq, look_tab, backExec_eq, viterbiRev, optimum]

theorem viterbi_exec_eq (T : Tables S) (frames : Nat) :
    viterbiExec add T frames = (viterbiRev add T frames).reverse := by
  simp only [viterbiExec, viterbi_run_eq]

/-- **optimality**: for any number of states and frames and any tables, the returned path is a
state path of the requested length whose score — computed in the code's association order —
equals the DP's final maximum and is at least the score of every other state path of that length -/
theorem viterbi_optimal (hm : Mono add) (T : Tables S) (frames : Nat) (hf : 0 < frames) (hn : 0 < T.n) :
    ∃ path, viterbi add T frames = .ok path ∧ path.length = frames ∧ (∀ s ∈ path, s < T.n) ∧
      score add T path = some (optimum add T frames) ∧
      ∀ p : List Nat, p.length = frames → (∀ s ∈ p, s < T.n) →
        ∀ v, score add T p = some v → v ≤ optimum add T frames := by
  refine ⟨(viterbiRev add T frames).reverse, ?_, ?_, viterbiRev_states add T hn frames,
    score_viterbi add T frames, fun p hp hs v hv => score_le_optimum add hm T frames p hp hs v hv⟩
  · simp only [viterbi, viterbiFull, viterbi_run_eq]
    rw [if_neg (by omega), if_neg (by omega)]
  · simp only [viterbiRev, List.length_reverse, backRev_length]; omega

/-- the helper fails exactly on zero frames / zero states -/
theorem viterbi_error_iff (T : Tables S) (frames : Nat) :
    (∃ e, viterbi add T frames = .error e) ↔ frames = 0 ∨ T.n = 0 := by
  unfold viterbi viterbiFull
  by_cases h1 : frames = 0
  · simp [h1]
  · by_cases h2 : T.n = 0
    · simp [h1, h2]
    · simp [h1, h2]

/-- `_key_chord_viterbi` (any number `C ≥ 1` of chords; 12 keys): the returned key-chord path
maximises `((((−log 12 + kc[key₀, chord₀]) + fl[0, chord₀]) + tr[s₀, s₁]) + fl[1, chord₁]) + …` -/
theorem keychord_viterbi_optimal (hm : Mono add) (C : Nat) (hC : 0 < C) (negLog12 : S)
    (kc fl tr : Nat → Nat → S) (frames : Nat) (hf : 0 < frames) :
    let T := kcTables add C negLog12 kc fl tr
    ∃ path, viterbi add T frames = .ok path ∧ path.length = frames ∧ (∀ s ∈ path, s < 12 * C) ∧
      score add T path = some (optimum add T frames) ∧
      ∀ p : List Nat, p.length = frames → (∀ s ∈ p, s < 12 * C) →
        ∀ v, score add T p = some v → v ≤ optimum add T frames :=
  viterbi_optimal add hm (kcTables add C negLog12 kc fl tr) frames hf (show 0 < 12 * C by omega)

/-- `_melody_viterbi` (any number `P` of distinct pitches; `2P+1` states; first frame follows a
rest): the returned event path maximises `(((tr[0, s₀] + fl[0, s₀]) + tr[s₀, s₁]) + fl[1, s₁]) + …` -/
theorem melody_viterbi_optimal (hm : Mono add) (P : Nat) (fl tr : Nat → Nat → S) (frames : Nat)
    (hf : 0 < frames) :
    let T := melTables add P fl tr
    ∃ path, viterbi add T frames = .ok path ∧ path.length = frames ∧ (∀ s ∈ path, s < 2 * P + 1) ∧
      score add T path = some (optimum add T frames) ∧
      ∀ p : List Nat, p.length = frames → (∀ s ∈ p, s < 2 * P + 1) →
        ∀ v, score add T p = some v → v ≤ optimum add T frames :=
  viterbi_optimal add hm (melTables add P fl tr) frames hf (show 0 < 2 * P + 1 by omega)

omit [LinearOrder S] in
/-- what the two layouts score (unfolding of the definitions, for the reader) -/
theorem keychord_score_unfold (C : Nat) (negLog12 : S) (kc fl tr : Nat → Nat → S) (s₀ s₁ s₂ : Nat) :
    score add (kcTables add C negLog12 kc fl tr) [s₀, s₁, s₂] =
      some (add (add (add (add (add (add negLog12 (kc (s₀ / C) (s₀ % C))) (fl 0 (s₀ % C)))
        (tr s₀ s₁)) (fl 1 (s₁ % C))) (tr s₁ s₂)) (fl 2 (s₂ % C))) := rfl

omit [LinearOrder S] in
theorem melody_score_unfold (P : Nat) (fl tr : Nat → Nat → S) (s₀ s₁ s₂ : Nat) :
    score add (melTables add P fl tr) [s₀, s₁, s₂] =
      some (add (add (add (add (add (tr 0 s₀) (fl 0 s₀)) (tr s₀ s₁)) (fl 1 s₁)) (tr s₁ s₂)) (fl 2 s₂)) := rfl

omit [LinearOrder S] in
/-- **finiteness**: if `bot` (−∞) is absorbing for `add`, a path whose score is not `bot` has no
`bot` term on it — in particular the Viterbi path when the optimum is not −∞ -/
theorem viterbi_finite (T : Tables S) (bot : S) (hL : ∀ b, add bot b = bot) (hR : ∀ a, add a bot = bot)
    (p : List Nat) (v : S) (hv : score add T p = some v) (hne : v ≠ bot) : pathFinite T bot p := by
  cases p with
  | nil => trivial
  | cons j rest =>
    simp only [score, Option.some.injEq] at hv
    subst hv
    exact scoreFrom_ne_bot add T bot hL hR rest _ j 1 hne

theorem viterbi_path_finite (T : Tables S) (bot : S) (hL : ∀ b, add bot b = bot)
    (hR : ∀ a, add a bot = bot) (frames : Nat) (hne : optimum add T frames ≠ bot) :
    pathFinite T bot (viterbiExec add T frames) := by
  rw [viterbi_exec_eq]
  exact viterbi_finite add T bot hL hR _ _ (score_viterbi add T frames) hne

omit [LinearOrder S] in
/-- melody: when the likelihood of an onset state is −∞ in every frame without an observed onset
of that pitch (`log 0` in `_melody_frame_log_likelihood`), every onset state on a path of finite
score sits in a frame where that pitch has an observed onset -/
theorem melody_onset_observed (P : Nat) (fl tr : Nat → Nat → S) (bot : S)
    (hR : ∀ a, add a bot = bot) (hasOnset : Nat → Nat → Prop)
    (hemit : ∀ t j, 1 ≤ j → j ≤ P → ¬ hasOnset t (j - 1) → fl t j = bot)
    (path : List Nat) (hfin : pathFinite (melTables add P fl tr) bot path)
    (t j : Nat) (hj : path[t]? = some j) (h1 : 1 ≤ j) (h2 : j ≤ P) : hasOnset t (j - 1) := by
  apply Classical.byContradiction
  intro hno
  have hb := hemit t j h1 h2 hno
  cases path with
  | nil => simp at hj
  | cons s rest =>
    obtain ⟨hi, hs⟩ := hfin
    cases t with
    | zero =>
      simp only [List.getElem?_cons_zero, Option.some.injEq] at hj
      subst hj
      exact hi (by simp only [melTables]; rw [hb, hR])
    | succ t =>
      simp only [List.getElem?_cons_succ] at hj
      have := stepsFinite_emit (melTables add P fl tr) bot rest s 1 t j hs hj
      exact this (by simp only [melTables]; rw [Nat.add_comm 1 t, hb])

/-- **relabelling**: a bijection of the states that preserves the initial row and the transitions
and carries emissions to emissions preserves the optimum -/
theorem viterbi_equivariant (hm : Mono add) (T T' : Tables S) (σ τ : Nat → Nat) (hn : 0 < T.n)
    (hn' : T'.n = T.n) (hσ : ∀ i, i < T.n → σ i < T.n) (hτ : ∀ i, i < T.n → τ i < T.n)
    (hστ : ∀ i, i < T.n → σ (τ i) = i)
    (hi : ∀ i, i < T.n → T'.init (σ i) = T.init i)
    (ht : ∀ i j, i < T.n → j < T.n → T'.trans (σ i) (σ j) = T.trans i j)
    (he : ∀ t j, j < T.n → T'.emit t (σ j) = T.emit t j) (frames : Nat) (hf : 0 < frames) :
    optimum add T' frames = optimum add T frames := by
  rw [optimum, hn']
  exact argmax_val_map _ _ hn hσ hτ hστ (fwd_map add T T' σ τ hn hn' hσ hτ hστ hi ht he _)

/-- **transposition, chord inference**: if the key-chord prior, the emissions and the transitions
of a second instance are those of the first with every key and every chord root moved up `k`
semitones (`rot` = the chord relabelling, a bijection of `0..C-1`), both instances attain the same
maximum.  That the tables `infer_chords_for_sequence` builds for a sequence transposed by `k` satisfy
`hkc`, `hfl`, `htr` is not proved: `chord_tables_rotation` is the combinatorial part, and the
arithmetic on top of it commutes with the relabelling only in exact arithmetic -/
theorem keychord_transpose_invariant (hm : Mono add) (C k k' : Nat) (rot rotInv : Nat → Nat) (hC : 0 < C)
    (hk : (k + k') % 12 = 0)
    (hr : ∀ c, c < C → rot c < C) (hr' : ∀ c, c < C → rotInv c < C)
    (hinv' : ∀ c, c < C → rot (rotInv c) = c)
    (negLog12 : S) (kc fl tr kc' fl' tr' : Nat → Nat → S)
    (hkc : ∀ a c, a < 12 → c < C → kc' ((a + k) % 12) (rot c) = kc a c)
    (hfl : ∀ t c, c < C → fl' t (rot c) = fl t c)
    (htr : ∀ i j, i < 12 * C → j < 12 * C → tr' (rotState C k rot i) (rotState C k rot j) = tr i j)
    (frames : Nat) (hf : 0 < frames) :
    optimum add (kcTables add C negLog12 kc' fl' tr') frames =
      optimum add (kcTables add C negLog12 kc fl tr) frames := by
  have hmod : ∀ i, i % C < C := fun i => Nat.mod_lt i hC
  -- the relabelling `rotState C k rot` has the inverse `rotState C k' rotInv`
  refine viterbi_equivariant add hm (kcTables add C negLog12 kc fl tr) (kcTables add C negLog12 kc' fl' tr')
    (rotState C k rot) (rotState C k' rotInv) (show 0 < 12 * C by omega) rfl
    (fun i _ => rotState_lt C k rot i (hr _ (hmod i))) (fun i _ => rotState_lt C k' rotInv i (hr' _ (hmod i)))
    (rotState_inv C k' k rotInv rot hC (by omega) hr' hinv') ?_ htr ?_ frames hf
  · intro i hi
    obtain ⟨h1, h2⟩ := rotState_parts C k rot hC i (hr _ (hmod i))
    have ha : i / C < 12 := (Nat.div_lt_iff_lt_mul hC).mpr hi
    simp only [kcTables, h1, h2, hkc _ _ ha (hmod i), hfl _ _ (hmod i)]
  · intro t j _
    simp only [kcTables, (rotState_parts C k rot hC j (hr _ (hmod j))).2, hfl _ _ (hmod j)]

end Viterbi

/-! ## Exact scores with −∞ are an instance -/

namespace Ext
@[simp] theorem fin_le_fin (a b : Int) : (fin a ≤ fin b) ↔ a ≤ b := Iff.rfl
@[simp] theorem ninf_le (b : Ext) : ninf ≤ b := by cases b <;> trivial
@[simp] theorem fin_le_ninf (a : Int) : ¬ (fin a ≤ ninf) := fun h => h
@[simp] theorem fin_lt_fin (a b : Int) : (fin a < fin b) ↔ a < b := Iff.rfl
@[simp] theorem ninf_lt_fin (b : Int) : ninf < fin b := trivial
@[simp] theorem not_lt_ninf (a : Ext) : ¬ (a < ninf) := by cases a <;> exact fun h => h
end Ext

-- `<`, `≤` and their decision procedures are the instances of `Model/C19.lean`, so the theorems above,
-- applied to `Ext`, are about the very `argmaxIdx` the driver runs
instance : LinearOrder Ext where
  le := (· ≤ ·)
  lt := (· < ·)
  le_refl := fun a => by cases a <;> simp
  le_trans := fun a b c => by
    cases a <;> cases b <;> cases c <;> simp <;> omega
  le_antisymm := fun a b => by
    cases a <;> cases b <;> simp <;> omega
  le_total := fun a b => by
    cases a <;> cases b <;> simp <;> omega
  lt_iff_le_not_ge := fun a b => by
    cases a <;> cases b <;> simp <;> omega
  toDecidableLE := inferInstance
  toDecidableLT := inferInstance
  toDecidableEq := inferInstance

theorem mono_ext : Mono Ext.add := fun a a' b h => by
  cases a <;> cases a' <;> cases b <;> simp [Ext.add] at * <;> omega

theorem ext_absorbing : (∀ b, Ext.add .ninf b = .ninf) ∧ (∀ a, Ext.add a .ninf = .ninf) :=
  ⟨fun b => by cases b <;> rfl, fun a => by cases a <;> rfl⟩

/-- non-vacuity: a 2-frame melody instance with P = 1 (states rest / onset / sustain), a forbidden
transition and a tie (`[0, 0]` and `[1, 2]` both score −4: the first maximum is returned) -/
def exT : Tables Ext := melTables Ext.add 1
  (fun t j => [[.fin (-1), .fin (-2), .ninf], [.fin (-3), .ninf, .fin (-1)]].getD t [] |>.getD j .ninf)
  (fun i j => [[.fin 0, .fin (-1), .ninf], [.fin (-2), .fin (-1), .fin 0], [.fin (-2), .fin (-1), .fin 0]].getD i []
    |>.getD j .ninf)

example : viterbi Ext.add exT 2 = .ok [0, 0] ∧ score Ext.add exT [0, 0] = some (.fin (-4)) ∧
    optimum Ext.add exT 2 = .fin (-4) ∧ score Ext.add exT [1, 2] = some (.fin (-4)) ∧
    score Ext.add exT [0, 1] = some .ninf ∧ pathFinite exT .ninf [0, 0] := by
  refine ⟨by decide, by decide, by decide, by decide, by decide, ?_⟩
  simp only [pathFinite, stepsFinite]; decide

/-- non-vacuity of `keychord_transpose_invariant`: two chords (C = 2, `rot = id`), keys moved up
5 semitones; the second instance is the first one relabelled, all hypotheses hold and both optima
are the same number -/
def exKc : Nat → Nat → Ext := fun a c => .fin (-(((a * 7 + c * 3) % 5 : Nat) : Int))
def exFl : Nat → Nat → Ext := fun t c => .fin (-(((t * 2 + c) % 3 : Nat) : Int))
def exTr : Nat → Nat → Ext := fun i j => if (i + 2 * j) % 7 = 0 then .ninf else .fin (-(((i * 5 + j * 11) % 6 : Nat) : Int))
def exKc' : Nat → Nat → Ext := fun a c => exKc ((a + 7) % 12) c
def exTr' : Nat → Nat → Ext := fun i j => exTr (rotState 2 7 id i) (rotState 2 7 id j)

example : (∀ a, a < 12 → ∀ c, c < 2 → exKc' ((a + 5) % 12) (id c) = exKc a c) ∧
    (∀ i, i < 12 * 2 → ∀ j, j < 12 * 2 → exTr' (rotState 2 5 id i) (rotState 2 5 id j) = exTr i j) ∧
    viterbiRun Ext.add (kcTables Ext.add 2 (.fin (-2)) exKc exFl exTr) 3 = ([0, 5, 0], .fin (-5)) ∧
    viterbiRun Ext.add (kcTables Ext.add 2 (.fin (-2)) exKc' exFl exTr') 3 = ([6, 1, 0], .fin (-5)) := by
  -- moving up 5 and then 7 semitones is the identity
  have h := rotState_inv 2 5 7 id id (by decide) (by decide) (fun _ h => h) (fun _ _ => rfl)
  refine ⟨fun a ha c _ => ?_, fun i hi j hj => ?_, by decide +kernel, by decide +kernel⟩
  · simp only [exKc', id]; congr 1; omega
  · simp only [exTr', h i hi, h j hj]

/-- everything `_key_chord_distribution` and `_chord_pitch_vectors` look at, over the tables
regenerated from the source: the chord relabelling `rotChord k` is a bijection of `_CHORDS`, the
numbers of chord pitches inside / outside the key are the same for `(key + k, rotChord k c)` as for
`(key, c)`, and the chord's pitch-class vector is the rotated one -/
theorem chord_tables_rotation (k c : Nat) (hk : k < 12) (hc : c < Gen.chords.length) :
    rotChord k c < Gen.chords.length ∧ rotChord ((12 - k) % 12) (rotChord k c) = c ∧
    (∀ key, key < 12 → numIn ((key + k) % 12) (rotChord k c) = numIn key c ∧
      numOut ((key + k) % 12) (rotChord k c) = numOut key c) ∧
    (∀ pc, pc < 12 → chordVec (rotChord k c) ((pc + k) % 12) = chordVec c pc) := by
  -- the counts and the vector are read off the pitch classes of the chord and of the key, and
  -- `rotPc k`, which both are moved by, is injective on pitch classes
  have hpcs := chordPcs_rot k c hc
  have hin : ∀ key, ∀ p ∈ chordPcs c, (keyPcs ((key + k) % 12)).contains (rotPc k p) = (keyPcs key).contains p :=
    fun key p hp => by
      rw [keyPcs_rot]; exact contains_map_of_injOn (rotPc_inj k) (keyPcs_lt key) (chordPcs_lt c p hp)
  refine ⟨?_, ?_, fun key _ => ⟨?_, ?_⟩, fun pc hpc => ?_⟩
  · cases c with
    | zero => exact hc
    | succ i =>
      rw [rotChord_succ, chords_length, Nat.add_comm 1]
      exact Nat.succ_lt_succ (rotState_lt Gen.kindPitches.length k id i (Nat.mod_lt i (by decide)))
  · cases c with
    | zero => rfl
    | succ i =>
      rw [rotChord_succ, rotChord_succ, rotState_inv Gen.kindPitches.length k _ id id (by decide) (by omega)
        (fun _ h => h) (fun _ _ => rfl) i (by rw [chords_length] at hc; omega)]
  · unfold numIn; rw [hpcs]
    exact length_filter_eraseDups_map (rotPc_inj k) (chordPcs_lt c) (hin key)
  · unfold numOut; rw [hpcs]
    exact length_filter_eraseDups_map (rotPc_inj k) (chordPcs_lt c) fun p hp => congrArg not (hin key p hp)
  · unfold chordVec; rw [hpcs]
    exact contains_map_of_injOn (rotPc_inj k) (chordPcs_lt c) hpc

/-- the state layout and the figure table match the source: 12 keys × `len(_CHORDS)` states,
one figure per chord, all figures distinct (so "figure differs" = "chord differs"), 12 distinct key
names -/
theorem chord_tables_shape : Gen.numKeyChords = 12 * Gen.chords.length ∧
    Gen.figures.length = Gen.chords.length ∧ Gen.figures.Nodup ∧
    Gen.pitchClassNames.length = 12 ∧ Gen.pitchClassNames.Nodup ∧
    Gen.chords.length = 1 + 12 * Gen.kindPitches.length := by
  decide +kernel

/-- `infer_chords_for_sequence`: the chord symbols added for a decoded path -/
theorem chord_annotations_wf (R : Rat → Rat) (tm : Timing) (addKeys : Bool)
    (states : List (Nat × String × String)) (anns : List ChordAnn) (keys : List KeySig)
    (h : chordWriter R tm addKeys states = .ok (anns, keys)) :
    -- at most one annotation per frame, in increasing frame order, inside the path
    anns.Pairwise (fun a b => a.frame < b.frame) ∧
    (∀ a ∈ anns, a.frame < states.length ∧ frameTime R tm a.frame = .ok a.time ∧
      frameStep tm a.frame = .ok a.step ∧ ∃ s, states[a.frame]? = some s ∧ a.text = s.2.2) ∧
    -- an annotation is written only when the figure changes …
    Adjacent (fun a b => a.text ≠ b.text) anns ∧
    -- … and whenever it changes: every frame carries the figure of the last annotation before it
    (∀ t s, states[t]? = some s → ∃ a ∈ anns, a.frame ≤ t ∧ a.text = s.2.2 ∧
      ∀ b ∈ anns, b.frame ≤ t → b.frame ≤ a.frame) ∧
    -- key signatures: the same loop on key names (only when requested)
    keys.Pairwise (fun a b => a.frame < b.frame) ∧
    (∀ a ∈ keys, addKeys = true ∧ a.frame < states.length ∧ frameTime R tm a.frame = .ok a.time ∧
      ∃ s, states[a.frame]? = some s ∧ a.key = s.1) ∧
    (addKeys = false → keys = []) := by
  unfold chordWriter at h
  generalize hA : mapOk (annOf R tm) _ = A at h
  generalize hK : (if addKeys = true then _ else _ : Except String (List KeySig)) = K at h
  cases A with
  | error e => cases K <;> simp at h
  | ok a =>
    cases K with
    | error e => simp at h
    | ok k =>
      simp only [Except.ok.injEq, Prod.mk.injEq] at h
      obtain ⟨rfl, rfl⟩ := h
      have memA := fun b => map_ok_mem ((mapOk_eq_ok _).mp hA) (b := b)
      refine ⟨?_, ?_, ?_, ?_, ?_⟩
      · refine mapOk_pairwise _ hA ?_ (changesFrom_pairwise _ states none 0)
        intro x x' b b' hb hb' hlt
        rw [(annOf_ok hb).2.2.1, (annOf_ok hb').2.2.1]; exact hlt
      · intro b hb
        obtain ⟨x, hx, hfx⟩ := memA b hb
        obtain ⟨_, h2, h3⟩ := changesFrom_mem _ states none 0 x.1 x.2 hx
        obtain ⟨e1, e2, e3, e4⟩ := annOf_ok hfx
        rw [e3]
        exact ⟨by simpa using h2, e1, e2, x.2, by simpa using h3, e4⟩
      · refine mapOk_adjacent _ ?_ ((mapOk_eq_ok _).mp hA) (changesFrom_adjacent _ states none 0).1
        intro x x' b b' hb hb' hne
        rw [(annOf_ok hb).2.2.2, (annOf_ok hb').2.2.2]; exact hne
      · intro t s hs
        rcases changesFrom_reconstruct (fun s : Nat × String × String => s.2.2) states none 0 t s hs with
          ⟨h1, _⟩ | ⟨x, hx, h1, h2, h3⟩
        · simp at h1
        · obtain ⟨b, hb, hfb⟩ := map_ok_mem' ((mapOk_eq_ok _).mp hA) hx
          obtain ⟨_, _, e3, e4⟩ := annOf_ok hfb
          refine ⟨b, hb, by omega, by rw [e4]; exact h2, ?_⟩
          intro b' hb' hle
          obtain ⟨x', hx', hfx'⟩ := memA b' hb'
          have e3' := (annOf_ok hfx').2.2.1
          have := h3 x' hx' (by omega)
          omega
      cases addKeys with
      | false => simp at hK; subst hK; simp
      | true =>
        simp only [if_true] at hK
        refine ⟨mapOk_pairwise _ hK ?_ (changesFrom_pairwise _ states none 0), fun b hb => ?_,
          fun hf => nomatch hf⟩
        · intro x x' b b' hb hb' hlt
          rw [(keyOf_ok hb).2.1, (keyOf_ok hb').2.1]; exact hlt
        · obtain ⟨x, hx, hfx⟩ := map_ok_mem ((mapOk_eq_ok _).mp hK) hb
          obtain ⟨_, h2, h3⟩ := changesFrom_mem _ states none 0 x.1 x.2 hx
          obtain ⟨e1, e2, e3⟩ := keyOf_ok hfx
          rw [e2]
          exact ⟨rfl, by simpa using h2, e1, x.2, by simpa using h3, e3⟩

/-- annotation times are non-decreasing whenever frame times are: `perChord_times_monotone` for the
product `frame * seconds_per_chord` under any monotone rounding; for beat annotations `hmono` is the
sortedness of the beat times, which the model takes as given -/
theorem chord_times_nondecreasing (R : Rat → Rat) (tm : Timing) (addKeys : Bool)
    (states : List (Nat × String × String)) (anns : List ChordAnn) (keys : List KeySig)
    (h : chordWriter R tm addKeys states = .ok (anns, keys))
    (hmono : ∀ f g t u, f < g → g < states.length → frameTime R tm f = .ok t → frameTime R tm g = .ok u → t ≤ u) :
    anns.Pairwise (fun a b => a.time ≤ b.time) := by
  obtain ⟨h1, h2, _⟩ := chord_annotations_wf R tm addKeys states anns keys h
  refine List.Pairwise.imp_of_mem ?_ h1
  intro a b ha hb hlt
  exact hmono a.frame b.frame a.time b.time hlt (h2 b hb).1 (h2 a ha).2.1 (h2 b hb).2.1

/-- per-chord timing with exact arithmetic or any monotone rounding, non-negative chord length -/
theorem perChord_times_monotone (R : Rat → Rat) (hR : ∀ x y : Rat, x ≤ y → R x ≤ R y) (spc : Rat)
    (hspc : 0 ≤ spc) (steps : Int) (f g : Nat) (t u : Rat) (hfg : f < g)
    (ht : frameTime R (.perChord spc steps) f = .ok t) (hu : frameTime R (.perChord spc steps) g = .ok u) :
    t ≤ u := by
  simp only [frameTime, Except.ok.injEq] at ht hu
  subst ht; subst hu
  apply hR
  apply Rat.mul_le_mul_of_nonneg_right _ hspc
  exact_mod_cast Nat.le_of_lt hfg

/-- non-vacuity: C, C, G, G, C, the key moving from C to G at frame 3, two chords per bar at 120 qpm -/
example : chordWriter id (.perChord 1 8) true
    [(0, "C", "C"), (0, "C", "C"), (0, "C", "G"), (7, "G", "G"), (7, "G", "C")] =
    .ok ([⟨0, 0, some 0, "C"⟩, ⟨2, 2, some 16, "G"⟩, ⟨4, 4, some 32, "C"⟩], [⟨0, 0, 0⟩, ⟨3, 3, 7⟩]) := by
  decide +kernel

/-- `infer_melody_for_sequence`: the notes added for an event path with strictly increasing frame
times inside `[lo, total)`: every note is non-empty and inside the sequence, starts at the time of
an onset state of its own pitch, ends at `total` or at the time of a later rest / onset state, and
the notes do not overlap -/
theorem melody_notes_wf {τ : Type} [LinearOrder τ] (total lo : τ) (evs : List (MelEvent × τ))
    (notes : List (MelNote τ)) (hsorted : evs.Pairwise (fun a b => a.2 < b.2))
    (hrange : ∀ e ∈ evs, lo ≤ e.2 ∧ e.2 < total) (h : melWriter total none evs = .ok notes) :
    (∀ n ∈ notes, lo ≤ n.start ∧ n.start < n.stop ∧ n.stop ≤ total ∧
      (MelEvent.note n.pitch true, n.start) ∈ evs ∧
      (n.stop = total ∨ ∃ e ∈ evs, e.2 = n.stop ∧ (e.1 = .rest ∨ ∃ q, e.1 = .note q true))) ∧
    notes.Pairwise (fun a b => a.stop ≤ b.start) := by
  obtain ⟨h1, h2⟩ := melWriter_wf total evs none lo notes hsorted hrange (by simp) h
  refine ⟨fun n hn => ?_, h2⟩
  obtain ⟨a, b, c, d, e⟩ := h1 n hn
  exact ⟨a, b, c, by simpa using d, e⟩

/-- the writer's `assert pitch == note_pitch` cannot fail on a path of finite score: sustaining
a pitch is only possible (transition ≠ −∞) from the onset or sustain state of the same pitch -/
theorem melody_writer_ok {S τ : Type} (add : S → S → S) (bot : S) (hL : ∀ b, add bot b = bot)
    (pitches : List Nat) (fl tr : Nat → Nat → S)
    (hstruct : ∀ i j, pitches.length < j → i ≠ j → i + pitches.length ≠ j → tr i j = bot)
    (path : List Nat) (hs : ∀ s ∈ path, s < 2 * pitches.length + 1)
    (hfin : pathFinite (melTables add pitches.length fl tr) bot path) (total : τ) (times : List τ) :
    ∃ evs notes, melEvents pitches path = .ok evs ∧ evs.length = path.length ∧
      melWriter total none (evs.zip times) = .ok notes := by
  have hev := legal_evLegal pitches path 0 hs
    (pathFinite_legal add pitches.length fl tr bot hL hstruct path hfin)
  obtain ⟨notes, hn⟩ := melWriter_ok total (path.map (evOf pitches)) times none hev
  exact ⟨_, notes, melEvents_eq pitches path hs, List.length_map _, hn⟩

/-- non-vacuity: rest, onset 60, sustain 60, onset 64, rest -/
example : melWriter (5 : Rat) none [(.rest, 0), (.note 60 true, 1), (.note 60 false, 2),
    (.note 64 true, 3), (.rest, 4)] = .ok [⟨1, 3, 60⟩, ⟨3, 4, 64⟩] := by decide +kernel

example : melWriter (5 : Rat) none [(.note 60 true, 0), (.note 64 false, 1)] = .error "AssertionError" := by
  decide +kernel

/-- non-vacuity of `melody_writer_ok` / `melody_onset_observed`: the tables `exT` (P = 1) forbid
entering the sustain state 2 except from states 1 and 2, the path onset → sustain has finite score,
and its onset sits in frame 0 where the onset emission is finite -/
example : (∀ i j, 1 < j → i ≠ j → i + 1 ≠ j → exT.trans i j = .ninf) ∧
    pathFinite exT .ninf [1, 2] ∧ (∀ s ∈ [1, 2], s < 2 * 1 + 1) ∧
    melEvents [60] [1, 2] = .ok [.note 60 true, .note 60 false] ∧
    melWriter (2 : Rat) none ([MelEvent.note 60 true, .note 60 false].zip [0, 1]) = .ok [⟨0, 2, 60⟩] := by
  refine ⟨?_, ?_, by decide, by decide, by decide +kernel⟩
  · intro i j h1 h2 h3
    simp only [exT, melTables]
    match i, j with
    | 0, 2 => rfl
    | 0, j + 3 => rfl
    | 1, j + 3 => rfl
    | 2, j + 3 => rfl
    | i + 3, j => rfl
    | 1, 2 => omega
    | 2, 2 => omega
    | 0, 0 => omega
    | 0, 1 => omega
    | 1, 0 => omega
    | 1, 1 => omega
    | 2, 0 => omega
    | 2, 1 => omega
  · simp only [pathFinite, stepsFinite]; decide

/-- the melody goes to an instrument number above every instrument in use, never to the drum channel -/
theorem melody_instrument_fresh (l : List Int) :
    melodyInstrument l ≠ 9 ∧ ∀ i ∈ l, i < melodyInstrument l := by
  cases l with
  | nil => simp [melodyInstrument]
  | cons a rest =>
    have h1 := (foldl_max_ge rest a).1
    have h2 := (foldl_max_ge rest a).2
    simp only [melodyInstrument]
    split
    · rename_i h
      refine ⟨by omega, ?_⟩
      intro i hi
      rcases List.mem_cons.mp hi with hi | hi
      · subst hi; omega
      · have := h2 i hi; omega
    · rename_i h
      refine ⟨h, ?_⟩
      intro i hi
      rcases List.mem_cons.mp hi with hi | hi
      · subst hi; omega
      · have := h2 i hi; omega

example : melodyInstrument [0, 8, 3] = 10 ∧ melodyInstrument [] = 0 ∧ melodyInstrument [0, 1] = 2 := by decide

/-- `sequence_note_frames`: an onset flag comes from a real pitched note of that pitch whose start
time is the start time of the flagged frame — unless the note starts exactly at `total_time`
(which the function removes from the event times) -/
theorem noteFrames_onset (all : List FNote) (total : Rat)
    (hpos : ∀ n ∈ all, 0 ≤ n.start ∧ 0 ≤ n.stop) (f pi : Nat)
    (h : (f, pi) ∈ (noteFrames all total).onsets) :
    ∃ n ∈ all, n.isDrum = false ∧ Gen.unpitchedPrograms.contains n.program = false ∧
      (noteFrames all total).pitches[pi]? = some n.pitch ∧
      f = bisectRight (noteFrames all total).eventTimes n.start ∧
      ((0 :: (noteFrames all total).eventTimes)[f]? = some n.start ∨ n.start = total) := by
  obtain ⟨n, hn, hf, hpi⟩ := mem_noteFrames_onsets.mp h
  obtain ⟨hnall, hd, hp⟩ := mem_pitched.mp hn
  refine ⟨n, hnall, hd, hp, ?_, hf.symm, ?_⟩
  · rw [← hpi]
    exact index_of_sorted .ofLT n.pitch _ (sorted_sortedSet .ofLT _)
      (mem_noteFrames_pitches.mpr ⟨n, hn, rfl⟩)
  · rw [← hf]
    by_cases hmem : n.start ∈ (noteFrames all total).eventTimes
    · left
      obtain ⟨k, hk, hk'⟩ := bisectRight_mem n.start (noteFrames all total).eventTimes
        (sorted_sortedSet .ofLT _) hmem
      rw [hk]; simpa using hk'
    · -- not an event time although it is a start time: one of the two times taken out
      have hcase : n.start = 0 ∨ n.start = total := Classical.byContradiction fun hno =>
        hmem (mem_noteFrames_eventTimes.mpr
          ⟨List.mem_append_left _ (List.mem_map_of_mem (f := (·.start)) hn), not_or.mp hno⟩)
      rcases hcase with h0 | ht
      · left
        have hall : ∀ t ∈ (noteFrames all total).eventTimes, n.start < t := by
          intro t ht
          obtain ⟨hm, hne, _⟩ := mem_noteFrames_eventTimes.mp ht
          rw [h0, Rat.lt_iff_le_and_ne]
          refine ⟨?_, fun e => hne e.symm⟩
          rcases List.mem_append.mp hm with hm | hm <;> obtain ⟨m, hm', rfl⟩ := List.mem_map.mp hm
          · exact (hpos m (mem_pitched.mp hm').1).1
          · exact (hpos m (mem_pitched.mp hm').1).2
        rw [bisectRight_below n.start _ hall]
        simp [h0]
      · exact Or.inr ht

/-- non-vacuity: C4 held over two bars, E4 entering half-way, a drum hit that is ignored -/
example : noteFrames [⟨60, 0, 2, false, 0⟩, ⟨64, 1, 2, false, 0⟩, ⟨36, 1/2, 1, true, 0⟩] 2 =
    ⟨[60, 64], [1], [(0, 0), (1, 1)], [(0, 0), (1, 0), (1, 1)]⟩ := by decide +kernel

end NSV.C19

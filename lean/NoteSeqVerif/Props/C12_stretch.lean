import NoteSeqVerif.Proofs.C12AConcat
import NoteSeqVerif.Props.C12_extract
import NoteSeqVerif.Props.C13
/-! C12 — stretching and shifting do not depend on the storage order of any repeated field
(model of C13: both operations are per-event maps; the lists of containers they touch are the
generated `Gen.stretchEventFields` / `Gen.shiftEventFields`, whatever they are): `stretch_perm`, `shift_perm`
in `Proofs/C12AOps.lean`; here their instance for the compiled float model.

No side condition: every sequence, every factor / offset, every rounding operator `R`
(`rne53` in the compiled model, `id` = exact arithmetic).

`concatenate_sequences` and `repeat_sequence_to_duration`: their last step
(`remove_redundant_data`: drop a time signature / key signature / tempo equal to its predecessor in
stable time order) does look at the stored order of events that share a time, so the corollaries carry
the decidable side condition `ConcatNoTies` (no two such events share a time in the shifted-and-merged
sequence); `repeat` additionally needs C02's `NoTies` of the concatenated copies for the final cut.
Most of the file is about these two (`concat_perm_partial`, `repeat_perm_partial`, and `repeat_perm_of_concat`, which
reduces repetition to concatenation whatever the side condition); `Props/C12_concat.lean` builds on it and proves the
same conclusions under the property's own quantifier (the statement `ConcatPermFull` below). -/
namespace NSV.C12
open NSV.C13

/-- the compiled float model (what `drv_c13` runs) -/
theorem stretch_shift_float_perm {s s' : NoteSeq} (h : NSPerm s s') :
    (∀ f, ResPerm (stretchR rne53 f s) (stretchR rne53 f s')) ∧
    (∀ d, ResPerm (shiftR rne53 d s) (shiftR rne53 d s')) :=
  ⟨fun f => stretch_perm rne53 f h, fun d => shift_perm rne53 d h⟩

/-- `concatenate_sequences(sequences, sequence_durations)` on two lists of sequences that differ
position by position only in storage order (`durs = []` = no durations given): same error, or the
same concatenation up to storage order -/
theorem concat_perm_partial (R : Rat → Rat) (mm : List String → String) {seqs seqs' : List MSeq}
    (h : MPermList seqs seqs') (durs : List Rat) (hn : ConcatNoTies R seqs durs) :
    ResPermM (concatR R mm seqs durs) (concatR R mm seqs' durs) :=
  concat_perm_of_finish R mm h durs fun cat cat' h1 _ hc =>
    finishCat_perm mm h hc (by unfold ConcatNoTies at hn; rw [h1] at hn; exact hn)

/-- the full statement (proved in `Props/C12_concat.lean`: `concatPermFull_holds`): in exact arithmetic it is enough that no two time
signatures / key signatures / tempos *of one input sequence* share a time — events of different inputs
that meet at a seam keep their relative order (earlier input first) under the stable sort whatever the
storage order inside each input, so `ConcatNoTies` (no coincidence at all in the merged sequence) is
sufficient but stronger than necessary -/
def ConcatPermFull : Prop :=
  ∀ (mm : List String → String) (seqs seqs' : List MSeq) (durs : List Rat), MPermList seqs seqs' →
    (∀ m ∈ seqs, StateNoTies m.ns) → ResPermM (concatR id mm seqs durs) (concatR id mm seqs' durs)

theorem concatNoTies_iff (R : Rat → Rat) {seqs seqs' : List MSeq} (h : MPermList seqs seqs')
    (durs : List Rat) : ConcatNoTies R seqs durs ↔ ConcatNoTies R seqs' durs :=
  ⟨concatNoTies_perm R h durs, concatNoTies_perm R h.symm durs⟩

/-- the side condition of `repeat_perm_partial`: the `n` shifted copies have no two time signatures / key
signatures / tempos at one time, and their concatenation (what is cut) satisfies extraction's `NoTies` -/
def RepeatNoTies (R : Rat → Rat) (mm : List String → String) (m : MSeq) (dur sd : Rat) : Prop :=
  let d := if sd = 0 then m.ns.totalTime else sd
  let n := (R (dur / d)).ceil.toNat
  ConcatNoTies R (List.replicate n m) (List.replicate n d) ∧
  match concatR R mm (List.replicate n m) (List.replicate n d) with
  | .ok r => NoTies NSV.C02.Gen.PRESERVE r.ns
  | .error _ => True

/-- `repeat_sequence_to_duration` is the concatenation of `n` copies (each of duration `d`) cut to
`[0, duration)` by C02's `extract_subsequence`: two storage orders agree as soon as the concatenations do and,
when both succeed, their cuts do.  (The copy length `d` and the number of copies `n` enter `H` through equations so
that a caller substitutes them into its own side condition.) -/
theorem repeat_perm_of_concat (R : Rat → Rat) (mm : List String → String) {m m' : MSeq} (h : MPerm m m')
    (dur sd : Rat)
    (H : ∀ d n, d = (if sd = 0 then m.ns.totalTime else sd) → n = (R (dur / d)).ceil.toNat →
      ResPermM (concatR R mm (List.replicate n m) (List.replicate n d))
        (concatR R mm (List.replicate n m') (List.replicate n d)) ∧
      ∀ r r', concatR R mm (List.replicate n m) (List.replicate n d) = .ok r →
        concatR R mm (List.replicate n m') (List.replicate n d) = .ok r' →
        ResPerm (NSV.C02.extractSubsequenceR R NSV.C02.Gen.PRESERVE r.ns 0 dur)
          (NSV.C02.extractSubsequenceR R NSV.C02.Gen.PRESERVE r'.ns 0 dur)) :
    ResPermM (repeatFullR R mm m dur sd) (repeatFullR R mm m' dur sd) := by
  rw [repeat_spec, repeat_spec, ← h.1.totalTime]
  obtain ⟨hc, he⟩ := H _ _ rfl rfl
  simp only []
  generalize (if sd = 0 then m.ns.totalTime else sd) = d at hc he ⊢
  generalize (R (dur / d)).ceil.toNat = n at hc he ⊢
  by_cases hd0 : d = 0
  · rw [if_pos hd0, if_pos hd0]; rfl
  · rw [if_neg hd0, if_neg hd0]
    obtain ⟨e, h1, h2⟩ | ⟨r, r', h1, h2, hc⟩ := hc.cases <;> rw [h1, h2]
    · rfl
    · obtain ⟨e, h3, h4⟩ | ⟨t, t', h3, h4, ht⟩ := (he r r' h1 h2).cases <;> simp only [h3, h4]
      · rfl
      · exact ⟨{ ht with hasSub := rfl, subStart := rfl, subEnd := rfl }, hc.2.1, hc.2.2⟩

/-- `repeat_sequence_to_duration(sequence, duration, sequence_duration)` (with C02's model of
`extract_subsequence` for the final cut) -/
theorem repeat_perm_partial (R : Rat → Rat) (mm : List String → String) {m m' : MSeq} (h : MPerm m m')
    (dur sd : Rat) (hn : RepeatNoTies R mm m dur sd) :
    ResPermM (repeatFullR R mm m dur sd) (repeatFullR R mm m' dur sd) := by
  refine repeat_perm_of_concat R mm h dur sd fun d n hd hn' => ?_
  subst hd hn'
  obtain ⟨hn1, hn2⟩ := hn
  have hc := concat_perm_partial R mm (MPermList.replicate _ h) _ hn1
  refine ⟨hc, fun r r' h1 h2 => ?_⟩
  rw [h1, h2] at hc
  simp only [h1] at hn2
  exact extractSubsequence_perm R NSV.C02.Gen.PRESERVE hc.1 hn2 0 dur

def exS : NoteSeq :=
  { notes := [{ (default : Note) with pitch := 60, start := 0, end_ := 1 },
              { (default : Note) with pitch := 60, start := 0, end_ := 1 },
              { (default : Note) with pitch := 64, start := 1/2, end_ := 2 }],
    tempos := [⟨0, 120⟩, ⟨0, 60⟩, ⟨1, 90⟩], timeSigs := [⟨1, 3, 4⟩, ⟨0, 4, 4⟩],
    ccs := [⟨1, 0, 64, 127, 0, 0, false⟩, ⟨1, 0, 64, 0, 0, 0, false⟩],
    totalTime := 2 }

def exS' : NoteSeq :=
  { exS with
    notes := [{ (default : Note) with pitch := 64, start := 1/2, end_ := 2 },
              { (default : Note) with pitch := 60, start := 0, end_ := 1 },
              { (default : Note) with pitch := 60, start := 0, end_ := 1 }],
    tempos := [⟨1, 90⟩, ⟨0, 60⟩, ⟨0, 120⟩], timeSigs := [⟨0, 4, 4⟩, ⟨1, 3, 4⟩],
    ccs := [⟨1, 0, 64, 0, 0, 0, false⟩, ⟨1, 0, 64, 127, 0, 0, false⟩] }

-- coinciding notes, two tempos and two pedal events at one time: no condition on ties is needed
example : NSPerm exS exS' := by
  constructor <;> first | rfl | (simp only [exS, exS']; decide +kernel)
example : exS.tempos ≠ exS'.tempos := by decide +kernel
example : (stretchR id (3/2) exS).toOption.map (·.totalTime) = some 3 ∧
    (shiftR id (1/2) exS).toOption.map (·.totalTime) = some (5/2) := by decide +kernel

/-- a two-note phrase with a tempo and a time signature at 0, and another storage order of it -/
def exM1 : MSeq :=
  { ns := { notes := [{ (default : Note) with pitch := 60, start := 0, end_ := 1 },
                      { (default : Note) with pitch := 64, start := 1, end_ := 2 }],
            tempos := [⟨0, 120⟩, ⟨1, 90⟩], timeSigs := [⟨0, 4, 4⟩], totalTime := 2 },
    composers := ["a"] }
def exM1' : MSeq :=
  { exM1 with ns := { exM1.ns with
      notes := [{ (default : Note) with pitch := 64, start := 1, end_ := 2 },
                { (default : Note) with pitch := 60, start := 0, end_ := 1 }],
      tempos := [⟨1, 90⟩, ⟨0, 120⟩] } }

example : MPermList [exM1, exM1] [exM1', exM1] := by
  refine ⟨⟨?_, rfl, rfl⟩, MPerm.refl _, trivial⟩
  constructor <;> first | rfl | (simp only [exM1, exM1']; decide +kernel)
-- the second copy is shifted by 2: tempos at 0, 1, 2, 3 — no ties; the concatenation succeeds
example : ConcatNoTies id [exM1, exM1] [] := by decide +kernel
example : (concatR id (fun _ => "-") [exM1, exM1] []).toOption.map (·.ns.totalTime) = some 4 := by
  decide +kernel
-- a tempo at the very end of the first copy would tie with the tempo at the start of the second
example : ¬ ConcatNoTies id [{ exM1 with ns := { exM1.ns with tempos := [⟨0, 120⟩, ⟨2, 90⟩] } }, exM1] [] := by
  decide +kernel

end NSV.C12

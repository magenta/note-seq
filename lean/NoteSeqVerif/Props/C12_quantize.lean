import NoteSeqVerif.Proofs.C12A
import NoteSeqVerif.Props.C01
/-! C12 — quantization does not depend on the storage order of any repeated field
(corollaries of the functional specifications proved for C01). -/
namespace NSV.C12
open NSV.C01

theorem anyNeg_perm (q : Rat → Int) {s s' : NoteSeq} (h : NSPerm s s') : anyNeg q s ↔ anyNeg q s' := by
  unfold anyNeg
  simp only [h.notes.mem_iff, h.ccs.mem_iff, h.texts.mem_iff]

theorem quantized_perm (q : Rat → Int) {s s' : NoteSeq} (h : NSPerm s s') :
    NSPerm (quantized q s) (quantized q s') :=
  { h with
    notes := h.notes.map _
    texts := h.texts.map _
    ccs := h.ccs.map _
    totalQSteps := by
      show List.foldl max s.totalQSteps _ = List.foldl max s'.totalQSteps _
      rw [h.totalQSteps]; exact foldl_max_perm (h.notes.map _) _ }

theorem quantizeNotes_perm (q : Rat → Int) {s s' : NoteSeq} (h : NSPerm s s') :
    ResPerm (quantizeNotes q s) (quantizeNotes q s') := by
  simp only [quantizeNotes_spec, anyNeg_perm q h]
  split
  · rfl
  · exact quantized_perm q h

theorem quantizeAbs_perm (R : Rat → Rat) (c : Rat) (sps : Int) {s s' : NoteSeq} (h : NSPerm s s') :
    ResPerm (quantizeAbsR R c s sps) (quantizeAbsR R c s' sps) := by
  unfold quantizeAbsR
  exact quantizeNotes_perm _ { h with spq := rfl, sps := rfl, totalQSteps := by rw [h.totalTime] }

/-- tempo-relative quantization does not depend on the storage order of any repeated field:
same rejection, or the same quantized sequence up to storage order -/
theorem quantizeRel_perm (R : Rat → Rat) (c dq : Rat) (spq : Int) {s s' : NoteSeq} (h : NSPerm s s') :
    ResPerm (quantizeRelR R c dq s spq) (quantizeRelR R c dq s' spq) := by
  unfold quantizeRelR
  rw [← checkTimeSigs_eq_of_perm h.timeSigs, ← checkTempos_eq_of_perm dq h.tempos]
  cases checkTimeSigs s.timeSigs with
  | error e => rfl
  | ok ts =>
    simp only []
    split
    · rfl
    · split
      · rfl
      · cases checkTempos dq s.tempos with
        | error e => rfl
        | ok tp =>
          exact quantizeNotes_perm _ { h with
            tempos := .refl _, timeSigs := .refl _, totalQSteps := by rw [h.totalTime], spq := rfl, sps := rfl }

/-! ## "the first stored tempo" is immaterial — and why the validation must compare exactly

`quantize_note_sequence` keeps `qns.tempos[0]` (the first STORED tempo) with its time reset to 0 and deletes the rest.
That is storage-order independent only because the validation before it accepts nothing but exactly equal qpm values:
when it accepts, EVERY stored tempo (time reset) is the kept tempo.  A validation with a tolerance (near-equal tempos are
"no tempo change") in front of the same `tempos[0]` is storage-order dependent: `tempo_tolerance_depends_on_order`. -/

/-- when the tempo validation accepts, every stored tempo with its time reset to 0 is the tempo kept -/
theorem checkTempos_kept_is_every_stored (dq : Rat) (ts : List Tempo) (tp : Tempo)
    (h : checkTempos dq ts = .ok tp) : ∀ t ∈ ts, ({ t with time := 0 } : Tempo) = tp := by
  -- store `t` first: the verdict is the same, and an accepting verdict keeps the first stored tempo
  intro t ht
  rw [checkTempos_eq_of_perm dq (List.perm_cons_erase ht)] at h
  rw [checkTempos_spec] at h
  split at h
  · cases h
  · exact Except.ok.inj h

/-- the same for time signatures -/
theorem checkTimeSigs_kept_is_every_stored (tss : List TimeSig) (ts : TimeSig)
    (h : checkTimeSigs tss = .ok ts) : ∀ t ∈ tss, ({ t with time := 0 } : TimeSig) = ts := by
  intro t ht
  rw [checkTimeSigs_eq_of_perm (List.perm_cons_erase ht)] at h
  rw [checkTimeSigs_spec] at h
  split at h
  · cases h
  · exact Except.ok.inj h

def ratAbs (x : Rat) : Rat := if x < 0 then -x else x

/-- `checkTempos` with a relative tolerance in the comparison (Python `math.isclose(a, b, rel_tol=tol)`:
`|a-b| <= tol * max(|a|, |b|)`) and the same "keep the first stored tempo" afterwards -/
def checkTemposTol (tol defaultQpm : Rat) (ts : List Tempo) : Except Err Tempo :=
  match ts with
  | [] => .ok ⟨0, defaultQpm⟩
  | first :: _ =>
    match sortByRat (·.time) ts with
    | [] => .ok ⟨0, defaultQpm⟩
    | e :: later =>
      if e.time ≠ 0 ∧ e.qpm ≠ defaultQpm then .error .multipleTempoError
      else if later.any (fun t => decide (¬ ratAbs (t.qpm - e.qpm) ≤ tol * max (ratAbs t.qpm) (ratAbs e.qpm)))
        then .error .multipleTempoError
      else .ok { first with time := 0 }

def exNearTempos : List Tempo := [⟨0, 120⟩, ⟨6, 12000001 / 100000⟩]
def exNearTempos' : List Tempo := [⟨6, 12000001 / 100000⟩, ⟨0, 120⟩]

theorem exNearTempos_sorted : sortByRat (·.time) exNearTempos = exNearTempos := by
  unfold sortByRat
  apply List.mergeSort_of_pairwise
  decide +kernel

-- `List.mergeSort` does not reduce in the kernel, so the sort of the UNSORTED list is not computed: the two marks have
-- different times, so both storage orders have the same sort
theorem exNearTempos'_sorted : sortByRat (·.time) exNearTempos' = exNearTempos := by
  rw [← exNearTempos_sorted]
  exact (sortByRat_eq_of_perm _ (List.Perm.swap _ _ _) (by decide +kernel)).symm

/-- two tempo marks 8.3e-8 relative apart, tolerance 1e-6: accepted in both storage orders, but the tempo kept (and with
it the steps-per-second of the whole quantization) is the first STORED one — the result depends on storage order -/
theorem tempo_tolerance_depends_on_order :
    exNearTempos.Perm exNearTempos' ∧
    checkTemposTol (1 / 1000000) 120 exNearTempos = .ok ⟨0, 120⟩ ∧
    checkTemposTol (1 / 1000000) 120 exNearTempos' = .ok ⟨0, 12000001 / 100000⟩ ∧
    (⟨0, 120⟩ : Tempo) ≠ ⟨0, 12000001 / 100000⟩ := by
  refine ⟨List.Perm.swap _ _ _, ?_, ?_, by decide +kernel⟩
  · show (match sortByRat (·.time) exNearTempos with | [] => _ | e :: later => _) = _
    rw [exNearTempos_sorted]
    decide +kernel
  · show (match sortByRat (·.time) exNearTempos' with | [] => _ | e :: later => _) = _
    rw [exNearTempos'_sorted]
    decide +kernel

/-- the exact validation (the model of the code) rejects the same input in both storage orders -/
theorem tempo_exact_rejects_both_orders :
    checkTempos 120 exNearTempos = .error .multipleTempoError ∧
    checkTempos 120 exNearTempos' = .error .multipleTempoError := by
  unfold exNearTempos exNearTempos'
  rw [checkTempos_spec, checkTempos_spec, if_pos (by decide +kernel), if_pos (by decide +kernel)]
  exact ⟨rfl, rfl⟩

/-- non-vacuity of `checkTempos_kept_is_every_stored`: the hypothesis holds on a list with several entries stored out
of time order (neither rejection condition of C01's `checkTempos_spec` holds on it) -/
example : ∃ tp, checkTempos 120 ([⟨2, 90⟩, ⟨0, 90⟩, ⟨1, 90⟩] : List Tempo) = .ok tp := by
  rw [checkTempos_spec, if_neg (by decide +kernel)]
  exact ⟨_, rfl⟩

end NSV.C12

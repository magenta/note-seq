import NoteSeqVerif.Proofs.C02State
import NoteSeqVerif.Proofs.C02Split
/-! C02 — property theorems (DESIGN 6.2).

Conventions: `st` is the split-time vector, piece `i` is cut at `a = st[i]`, `b = st[i+1]`;
`Valid s st` = the inputs `_extract_subsequences` accepts (unquantized, ≥ 2 split times, sorted,
every split time but the last `< total_time`).  `R` is the rounding operator applied after each float
operation (`rne53` in the compiled model that is compared bit-exactly with the Python; `id` = exact
arithmetic).  Theorems that speak about instants (`…_in_effect`) are for `R = id`. -/
namespace NSV.C02

variable {R : Rat → Rat} {preserve : List Int} {s : NoteSeq} {st : List Rat} {ps : List NoteSeq}


theorem extract_pieces (hv : Valid s st) (h : extractSubsequencesR R preserve s st = .ok ps) :
    ps = (pairs st).map (specPiece R preserve s) := by
  rw [extract_eq_spec R preserve s st hv] at h
  exact (Except.ok.inj h).symm

theorem extract_length (hv : Valid s st) (h : extractSubsequencesR R preserve s st = .ok ps) :
    ps.length + 1 = st.length := by
  rw [extract_pieces hv h, List.length_map]
  obtain ⟨_, h2, _, _⟩ := hv
  match st, h2 with
  | a :: b :: r, _ => simp [pairs_length]

theorem extract_piece (hv : Valid s st) (h : extractSubsequencesR R preserve s st = .ok ps)
    {i : Nat} {a b : Rat} (ha : st[i]? = some a) (hb : st[i + 1]? = some b) :
    ps[i]? = some (specPiece R preserve s (a, b)) := by
  rw [extract_pieces hv h, List.getElem?_map, (pairs_getElem? st i a b).mpr ⟨ha, hb⟩]
  rfl

theorem mem_extract (hv : Valid s st) (h : extractSubsequencesR R preserve s st = .ok ps)
    {p : NoteSeq} (hp : p ∈ ps) : ∃ ab, p = specPiece R preserve s ab := by
  rw [extract_pieces hv h] at hp
  obtain ⟨ab, _, rfl⟩ := List.mem_map.mp hp
  exact ⟨ab, rfl⟩

theorem extract_trichotomy (R : Rat → Rat) (preserve : List Int) (s : NoteSeq) (st : List Rat) :
    (s.isQuantized = true ∧ extractSubsequencesR R preserve s st = .error .quantizationStatusError) ∨
    (s.isQuantized = false ∧ ¬ Valid s st ∧ extractSubsequencesR R preserve s st = .error .valueError) ∨
    (Valid s st ∧ extractSubsequencesR R preserve s st = .ok ((pairs st).map (specPiece R preserve s))) := by
  rw [extract_cases]
  by_cases hq : s.isQuantized = true
  · exact Or.inl ⟨hq, if_pos hq⟩
  · have hq' : s.isQuantized = false := by simpa using hq
    rw [if_neg hq]
    by_cases hv : 2 ≤ st.length ∧ SortedLE st ∧ ∀ t ∈ st.dropLast, t < s.totalTime
    · exact Or.inr (Or.inr ⟨valid_iff.mpr ⟨hq', hv⟩, if_pos hv⟩)
    · exact Or.inr (Or.inl ⟨hq', fun h => hv (valid_iff.mp h).2, if_neg hv⟩)

/-- `QuantizationStatusError` iff the sequence is quantized; `ValueError` iff it is not and there are
fewer than two split times, or they are unsorted, or one other than the last is `≥ total_time`;
a result otherwise; no other error. -/
theorem extract_errors (R : Rat → Rat) (preserve : List Int) (s : NoteSeq) (st : List Rat) :
    (extractSubsequencesR R preserve s st = .error .quantizationStatusError ↔ s.isQuantized = true) ∧
    (extractSubsequencesR R preserve s st = .error .valueError ↔
      s.isQuantized = false ∧
        (st.length < 2 ∨ ¬ SortedLE st ∨ ∃ t ∈ st.dropLast, s.totalTime ≤ t)) ∧
    ((∃ ps, extractSubsequencesR R preserve s st = .ok ps) ↔ Valid s st) ∧
    (∀ e, extractSubsequencesR R preserve s st = .error e →
      e = .quantizationStatusError ∨ e = .valueError) := by
  have hnv : ¬ Valid s st ↔ (s.isQuantized = true ∨ st.length < 2 ∨ ¬ SortedLE st ∨
      ∃ t ∈ st.dropLast, s.totalTime ≤ t) := by
    simp only [valid_iff, Classical.not_and_iff_not_or_not, Bool.not_eq_false, Nat.not_le,
      Classical.not_forall, Rat.not_lt, exists_prop]
  rcases extract_trichotomy R preserve s st with ⟨hq, he⟩ | ⟨hq, hv, he⟩ | ⟨hv, he⟩
  · simp [he, hq, valid_iff]
  · simpa [he, hq, hv] using hnv.mp hv
  · simpa [he, hv, hv.unquantized] using mt hnv.mpr (not_not_intro hv)

/-- `extract_subsequence`: `ValueError` iff `start > end` or `start ≥ total_time` -/
theorem extract_subsequence_spec (R : Rat → Rat) (preserve : List Int) (s : NoteSeq) (a b : Rat) :
    extractSubsequenceR R preserve s a b =
      if s.isQuantized then .error .quantizationStatusError
      else if a > b ∨ s.totalTime ≤ a then .error .valueError
      else .ok (specPiece R preserve s (a, b)) := by
  rw [extractSubsequenceR, extract_cases]
  by_cases hq : s.isQuantized = true
  · simp only [hq, ↓reduceIte]
  · have : (2 ≤ [a, b].length ∧ SortedLE [a, b] ∧ ∀ t ∈ [a, b].dropLast, t < s.totalTime) ↔
        ¬ (a > b ∨ s.totalTime ≤ a) := by
      simp [SortedLE, Rat.not_lt, Rat.not_le]
    simp only [hq, Bool.false_eq_true, ↓reduceIte]
    by_cases h : a > b ∨ s.totalTime ≤ a
    · rw [if_neg fun hv => this.mp hv h, if_pos h]
    · rw [if_pos (this.mpr h), if_neg h]; rfl

/-- piece `i` holds exactly the notes starting in `[a, b)`, in stable start order, shifted by `-a`
with the end clipped to `b`; every other attribute is untouched (`clipR` changes `start`/`end_` only) -/
theorem extract_notes_spec (hv : Valid s st) (h : extractSubsequencesR R preserve s st = .ok ps)
    {i : Nat} {a b : Rat} (ha : st[i]? = some a) (hb : st[i + 1]? = some b) :
    ∃ p, ps[i]? = some p ∧
      p.notes = ((sortByRat (·.start) s.notes).filter
        (fun n => decide (a ≤ n.start) && decide (n.start < b))).map (clipR R a b) :=
  ⟨_, extract_piece hv h ha hb, rfl⟩

theorem clipR_fields (R : Rat → Rat) (a b : Rat) (n : Note) :
    (clipR R a b n).start = R (n.start - a) ∧ (clipR R a b n).end_ = R (min n.end_ b - a) ∧
    { clipR R a b n with start := n.start, end_ := n.end_ } = n := ⟨rfl, rfl, rfl⟩

/-- **nothing lost, nothing invented**: there are selections `sel[i]` of the original notes with
piece `i` = `sel[i]` clipped, every selected note starts inside its piece, and all selections together
are a permutation (multiset equality) of the notes starting in `[first split, last split)`. -/
theorem extract_partition (hv : Valid s st) (h : extractSubsequencesR R preserve s st = .ok ps)
    {t0 tl : Rat} (h0 : st.head? = some t0) (hl : st.getLast? = some tl) :
    ∃ sel : List (List Note), sel.length = ps.length ∧
      (∀ i a b, st[i]? = some a → st[i + 1]? = some b →
        ∃ p l, ps[i]? = some p ∧ sel[i]? = some l ∧ p.notes = l.map (clipR R a b) ∧
          ∀ n ∈ l, a ≤ n.start ∧ n.start < b) ∧
      sel.flatten.Perm (s.notes.filter (fun n => decide (t0 ≤ n.start) && decide (n.start < tl))) := by
  have hps := extract_pieces hv h
  refine ⟨(pairs st).map (fun ab => (sortByRat (·.start) s.notes).filter (inIv ab.1 ab.2)), ?_, ?_, ?_⟩
  · rw [hps]; simp
  · intro i a b ha hb
    refine ⟨_, _, extract_piece hv h ha hb, ?_, rfl, ?_⟩
    · rw [List.getElem?_map, (pairs_getElem? st i a b).mpr ⟨ha, hb⟩]; rfl
    · intro n hn
      have := (List.mem_filter.mp hn).2
      simpa [inIv] using this
  · obtain ⟨_, h2, hs, _⟩ := hv
    match st, h2 with
    | x :: y :: r, _ =>
      simp only [List.head?_cons, Option.some.injEq] at h0
      subst h0
      have hl' : (x :: y :: r).getLast (List.cons_ne_nil _ _) = tl := by
        rw [List.getLast?_eq_some_getLast (List.cons_ne_nil _ _)] at hl
        exact Option.some.inj hl
      have := filter_pairs_perm (sortByRat (·.start) s.notes) x (y :: r) hs
      rw [hl'] at this
      exact this.trans ((sortByRat_perm _ _).filter _)

/-- every note of every piece is a clipped original note -/
theorem extract_notes_nothing_invented (hv : Valid s st)
    (h : extractSubsequencesR R preserve s st = .ok ps) :
    ∀ p ∈ ps, ∀ m ∈ p.notes, ∃ n ∈ s.notes, ∃ a b, m = clipR R a b n := by
  intro p hp m hm
  obtain ⟨ab, rfl⟩ := mem_extract hv h hp
  obtain ⟨n, hn, _, rfl⟩ := mem_specNotes.mp hm
  exact ⟨n, hn, _, _, rfl⟩

/-- closed form of the four state containers of piece `i`: the last event at or before `a` in stable
time order re-emitted at time 0, then the events strictly inside `(a, b)` shifted by `-a`.  An event
exactly at `b` is not in the piece; it is the carried state of the next one. -/
theorem state_pieces_spec (hv : Valid s st) (h : extractSubsequencesR R preserve s st = .ok ps)
    {i : Nat} {a b : Rat} (ha : st[i]? = some a) (hb : st[i + 1]? = some b) :
    ∃ p, ps[i]? = some p ∧
      p.timeSigs = specState R (·.time) TimeSig.setTime s.timeSigs a b ∧
      p.keySigs = specState R (·.time) KeySig.setTime s.keySigs a b ∧
      p.tempos = specState R (·.time) Tempo.setTime s.tempos a b ∧
      chords p = specState R (·.time) TextAnn.setTime (chords s) a b :=
  ⟨_, extract_piece hv h ha hb, rfl, rfl, rfl, specPiece_chords R preserve s a b⟩

/-- **generic in-effect lemma** (exact arithmetic): at every instant `0 ≤ τ < b - a` of a piece the
event in effect carries the same value as the one in effect at `a + τ` in the original, for every
`val` that does not look at the time. -/
theorem extract_state_in_effect {α β : Type} (time : α → Rat) (setTime : α → Rat → α) (val : α → β)
    (htime : ∀ e t, time (setTime e t) = t) (hval : ∀ e t, val (setTime e t) = val e)
    (evs : List α) (a b τ : Rat) (h0 : 0 ≤ τ) (h1 : τ < b - a) :
    (inEffect time (specState id time setTime evs a b) τ).map val = (inEffect time evs (a + τ)).map val :=
  have hc := corr_exact h0 h1
  specState_in_effect (fun _ _ h => h) rfl time setTime val htime hval evs a b τ (a + τ) h0 hc.1 hc.2.1
    (fun e _ _ _ => hc.2.2 (time e))

section inEffect
variable (hv : Valid s st) (h : extractSubsequencesR id preserve s st = .ok ps)
  {i : Nat} {a b τ : Rat} (ha : st[i]? = some a) (hb : st[i + 1]? = some b) (h0 : 0 ≤ τ) (h1 : τ < b - a)
include hv h ha hb h0 h1

theorem extract_timeSigs_in_effect :
    ∃ p, ps[i]? = some p ∧
      (inEffect (·.time) p.timeSigs τ).map (TimeSig.setTime · 0) =
        (inEffect (·.time) s.timeSigs (a + τ)).map (TimeSig.setTime · 0) :=
  ⟨_, extract_piece hv h ha hb, extract_state_in_effect (fun e : TimeSig => e.time) TimeSig.setTime _
    (fun _ _ => rfl) (fun _ _ => rfl) s.timeSigs a b τ h0 h1⟩

theorem extract_keySigs_in_effect :
    ∃ p, ps[i]? = some p ∧
      (inEffect (·.time) p.keySigs τ).map (KeySig.setTime · 0) =
        (inEffect (·.time) s.keySigs (a + τ)).map (KeySig.setTime · 0) :=
  ⟨_, extract_piece hv h ha hb, extract_state_in_effect (fun e : KeySig => e.time) KeySig.setTime _
    (fun _ _ => rfl) (fun _ _ => rfl) s.keySigs a b τ h0 h1⟩

theorem extract_tempos_in_effect :
    ∃ p, ps[i]? = some p ∧
      (inEffect (·.time) p.tempos τ).map (Tempo.setTime · 0) =
        (inEffect (·.time) s.tempos (a + τ)).map (Tempo.setTime · 0) :=
  ⟨_, extract_piece hv h ha hb, extract_state_in_effect (fun e : Tempo => e.time) Tempo.setTime _
    (fun _ _ => rfl) (fun _ _ => rfl) s.tempos a b τ h0 h1⟩

theorem extract_chords_in_effect :
    ∃ p, ps[i]? = some p ∧
      (inEffect (·.time) (chords p) τ).map (TextAnn.setTime · 0) =
        (inEffect (·.time) (chords s) (a + τ)).map (TextAnn.setTime · 0) := by
  obtain ⟨p, hp, _, _, _, hc⟩ := state_pieces_spec hv h ha hb
  exact ⟨p, hp, hc ▸ extract_state_in_effect (fun e : TextAnn => e.time) TextAnn.setTime _
    (fun _ _ => rfl) (fun _ _ => rfl) (chords s) a b τ h0 h1⟩

/-- per `(instrument, control number)`: the pedal value in effect (all fields but the time) -/
theorem extract_pedal_in_effect (κ : PedalKey) :
    ∃ p, ps[i]? = some p ∧
      (inEffectKey p.ccs κ τ).map (CC.setTime · 0) =
        (inEffectKey (pedals preserve s) κ (a + τ)).map (CC.setTime · 0) :=
  have hc := corr_exact h0 h1
  ⟨_, extract_piece hv h ha hb, specPedals_in_effect_R (fun _ _ h => h) rfl preserve s a b τ (a + τ) κ h0
    hc.1 hc.2.1 (fun e _ _ _ _ => hc.2.2 e.time)⟩

end inEffect

/-- boundary rule: every state event of a (non-empty) piece has `0 ≤ time < b - a`; hence an event
exactly at the end `b` of piece `i` is not in piece `i` — by `extract_…_in_effect` at `τ = 0` it is the
state in effect at the start of piece `i+1`. -/
theorem extract_boundary_event_goes_to_later_piece (hv : Valid s st)
    (h : extractSubsequencesR id preserve s st = .ok ps)
    {i : Nat} {a b : Rat} (ha : st[i]? = some a) (hb : st[i + 1]? = some b) (hab : a < b) :
    ∃ p, ps[i]? = some p ∧
      (∀ x ∈ p.timeSigs, 0 ≤ x.time ∧ x.time < b - a) ∧ (∀ x ∈ p.keySigs, 0 ≤ x.time ∧ x.time < b - a) ∧
      (∀ x ∈ p.tempos, 0 ≤ x.time ∧ x.time < b - a) ∧ (∀ x ∈ chords p, 0 ≤ x.time ∧ x.time < b - a) := by
  have times {α : Type} (time : α → Rat) (setTime : α → Rat → α) (htime : ∀ e t, time (setTime e t) = t)
      (evs : List α) := specState_times_exact time setTime htime evs a b hab
  refine ⟨_, extract_piece hv h ha hb, times (fun e : TimeSig => e.time) _ (fun _ _ => rfl) _,
    times (fun e : KeySig => e.time) _ (fun _ _ => rfl) _,
    times (fun e : Tempo => e.time) _ (fun _ _ => rfl) _, ?_⟩
  rw [specPiece_chords]
  exact times (fun e : TextAnn => e.time) _ (fun _ _ => rfl) _


/-- pitch bends are dropped and only control changes whose number is in the preserve list survive -/
theorem extract_other_controls_and_bends_dropped (hv : Valid s st)
    (h : extractSubsequencesR R preserve s st = .ok ps) :
    ∀ p ∈ ps, p.bends = [] ∧ ∀ c ∈ p.ccs, preserve.contains c.number = true := by
  intro p hp
  obtain ⟨ab, rfl⟩ := mem_extract hv h hp
  refine ⟨rfl, fun c hc => ?_⟩
  obtain ⟨e, he, ⟨_, rfl⟩ | ⟨_, _, rfl⟩⟩ :=
    mem_specPedals (show c ∈ specPedals R preserve s ab.1 ab.2 from hc) <;>
  exact (List.mem_filter.mp he).2


/-- BEAT annotations follow the note rule: those with `a ≤ time < b`, stable time order, shifted -/
theorem extract_beats (hv : Valid s st) (h : extractSubsequencesR R preserve s st = .ok ps)
    {i : Nat} {a b : Rat} (ha : st[i]? = some a) (hb : st[i + 1]? = some b) :
    ∃ p, ps[i]? = some p ∧
      beats p = ((sortByRat (·.time) (beats s)).filter
        (fun e => decide (a ≤ e.time) && decide (e.time < b))).map
          (fun e => TextAnn.setTime e (R (e.time - a))) :=
  ⟨_, extract_piece hv h ha hb, specPiece_beats R preserve s a b⟩

/-- the text container of a piece: chord symbols (with carried state) first, then beats; nothing else -/
theorem extract_texts (hv : Valid s st) (h : extractSubsequencesR R preserve s st = .ok ps)
    {i : Nat} {a b : Rat} (ha : st[i]? = some a) (hb : st[i + 1]? = some b) :
    ∃ p, ps[i]? = some p ∧
      p.texts = specState R (·.time) TextAnn.setTime (chords s) a b ++ specBeats R s a b :=
  ⟨_, extract_piece hv h ha hb, rfl⟩

/-- `total_time` of a piece is its largest (clipped) note end, `0` if it has no note (or no clipped
end is positive: the Python starts the running maximum at `0.0`) -/
theorem extract_total_time (hv : Valid s st) (h : extractSubsequencesR R preserve s st = .ok ps) :
    ∀ p ∈ ps, 0 ≤ p.totalTime ∧ (∀ n ∈ p.notes, n.end_ ≤ p.totalTime) ∧
      (p.totalTime = 0 ∨ ∃ n ∈ p.notes, n.end_ = p.totalTime) := by
  intro p hp
  obtain ⟨ab, rfl⟩ := mem_extract hv h hp
  exact pieceTotal_spec _

/-- `subsequence_info`: start offset = the split time, end offset = `(total - a) - piece total` -/
theorem extract_subsequence_info (hv : Valid s st) (h : extractSubsequencesR R preserve s st = .ok ps)
    {i : Nat} {a b : Rat} (ha : st[i]? = some a) (hb : st[i + 1]? = some b) :
    ∃ p, ps[i]? = some p ∧ p.hasSub = true ∧ p.subStart = a ∧
      p.subEnd = R (R (s.totalTime - a) - p.totalTime) :=
  ⟨_, extract_piece hv h ha hb, rfl, rfl, rfl⟩

/-- everything the extractor does not slice is copied unchanged -/
theorem extract_frame (hv : Valid s st) (h : extractSubsequencesR R preserve s st = .ok ps) :
    ∀ p ∈ ps, p.sectionAnns = s.sectionAnns ∧ p.sgroups = s.sgroups ∧ p.totalQSteps = s.totalQSteps ∧
      p.spq = s.spq ∧ p.sps = s.sps ∧ p.tpq = s.tpq ∧ p.metaTag = s.metaTag := by
  intro p hp
  obtain ⟨ab, rfl⟩ := mem_extract hv h hp
  exact ⟨rfl, rfl, rfl, rfl, rfl, rfl, rfl⟩


/-- the vector handed to the extractor: `0`, the accepted candidates, and `total_time` if it lies
beyond the last of them (the trailing piece ends at `total_time`); no piece, and no call of the
extractor, when that vector has one element, i.e. nothing was accepted and `total_time ≤ 0`; otherwise
the extractor runs on ≥ 2 split times (so ≥ 1 piece by `extract_length`, or its error). -/
theorem split_with_spec (R : Rat → Rat) (preserve : List Int) (s : NoteSeq) (vs : List Rat) :
    splitWith R preserve s vs =
      (if s.totalTime > (0 :: vs).getLast (List.cons_ne_nil _ _)
        then extractSubsequencesR R preserve s ((0 :: vs) ++ [s.totalTime])
        else if vs = [] then .ok [] else extractSubsequencesR R preserve s (0 :: vs)) := by
  unfold splitWith
  by_cases h : s.totalTime > (0 :: vs).getLast (List.cons_ne_nil _ _)
  · simp [h]
  · simp only [h, ↓reduceIte]
    cases vs with
    | nil => simp
    | cons v r => simp

/-- list form of `split_note_sequence`: the candidates are the sorted given times; a candidate `t` is
dropped iff `skip_splits_inside_notes` and some note has `start < t < end` -/
theorem split_hop_list_times (R : Rat → Rat) (preserve : List Int) (s : NoteSeq) (hops : List Rat)
    (skip : Bool) :
    splitHopListR R preserve s hops skip =
      splitWith R preserve s ((sortByRat id hops).filter (keep skip s.notes)) := by
  rw [splitHopListR, hopLoop_sortedNotes skip _ s (sortByRat_pairwise id hops)]

/-- float hop size, exact arithmetic, `h > 0`: the candidates are the hop multiples (see `hop_times_exact`) -/
theorem split_hop_times (preserve : List Int) (s : NoteSeq) (h : Rat) (hh : 0 < h) (skip : Bool) :
    splitHopR id preserve s h skip =
      splitWith id preserve s ((hopTimesR id h s.totalTime).filter (keep skip s.notes)) := by
  rw [splitHopR, if_neg (by grind), hopLoop_sortedNotes skip _ s
    (hopTimesR_sorted (R := id) (fun _ _ h => h) h _ (Rat.le_of_lt hh))]

/-- the candidates of a hop size `h > 0` are exactly the multiples `k·h`, `k ≥ 1`, below `total_time`,
in (weakly) increasing order -/
theorem hop_times_exact (h total : Rat) (hh : 0 < h) :
    (∀ t, t ∈ hopTimesR id h total ↔ ∃ k : Nat, 1 ≤ k ∧ t = (k : Rat) * h ∧ t < total) ∧
    SortedLE (hopTimesR id h total) :=
  ⟨mem_hopTimes h total hh, hopTimesR_sorted (R := id) (fun _ _ h => h) h total (Rat.le_of_lt hh)⟩

/-- `split_note_sequence_on_silence`: a note onset is a split point iff it is more than `gap` after
`max(0, ends of all earlier notes in stable start order)` -/
theorem split_silence_times (R : Rat → Rat) (preserve : List Int) (s : NoteSeq) (gap : Rat) :
    splitSilenceR R preserve s gap =
      splitWith R preserve s (silenceOnsets R gap [] (sortedNotes s)) ∧
    ∀ t, t ∈ silenceOnsets R gap [] (sortedNotes s) ↔
      ∃ l₁ n l₂, sortedNotes s = l₁ ++ n :: l₂ ∧ n.start = t ∧ n.start > R (lastActive l₁ + gap) := by
  refine ⟨?_, ?_⟩
  · unfold splitSilenceR; rw [silLoop_eq]
  · intro t
    have := mem_silenceOnsets R gap [] (sortedNotes s) t
    simpa using this

/-- `split_note_sequence_on_time_changes`: with `G` the genuine changes (events before `total_time`, in
stable time order with time signatures before tempos at equal times, whose numerator/denominator resp.
qpm differs from the value in force — `genuineP` spells "in force" out as the value of the last earlier
event of that kind, default 4/4 and `dq`), the accepted split times are strictly increasing and are
exactly the positive times of genuine changes at which no note sounds (when `skip` is set). -/
theorem split_time_change_times (R : Rat → Rat) (preserve : List Int) (dq : Rat) (s : NoteSeq) (skip : Bool) :
    splitTimeChangesR R preserve dq s skip =
      splitWith R preserve s
        (incr 0 (((genuine (timeChanges s) 4 4 dq).map TC.time).filter (keep skip s.notes))) ∧
    (incr 0 (((genuine (timeChanges s) 4 4 dq).map TC.time).filter (keep skip s.notes))).Pairwise
      (fun a b => a < b) ∧
    (∀ t, t ∈ incr 0 (((genuine (timeChanges s) 4 4 dq).map TC.time).filter (keep skip s.notes)) ↔
      0 < t ∧ keep skip s.notes t = true ∧ ∃ e ∈ genuine (timeChanges s) 4 4 dq, e.time = t) ∧
    genuine (timeChanges s) 4 4 dq = genuineP (4, 4) dq [] (timeChanges s) := by
  have hsorted := genuine_times_sorted s 4 4 dq
  have hf : SortedLE (((genuine (timeChanges s) 4 4 dq).map TC.time).filter (keep skip s.notes)) :=
    hsorted.filter _
  obtain ⟨i1, i2⟩ := incr_spec _ 0 hf
  refine ⟨?_, i1, ?_, ?_⟩
  · rw [splitTimeChangesR, tcLoop_eq, hopLoop_sortedNotes skip _ s hsorted, List.nil_append]
  · intro t
    rw [i2, List.mem_filter, List.mem_map]
    constructor
    · rintro ⟨⟨⟨e, he, rfl⟩, hk⟩, h0⟩; exact ⟨h0, hk, e, he, rfl⟩
    · rintro ⟨h0, hk, e, he, rfl⟩; exact ⟨⟨⟨e, he, rfl⟩, hk⟩, h0⟩
  · have := genuine_eq_genuineP (4, 4) dq (timeChanges s) []
    simpa [tsForce, tpForce] using this


theorem trim_spec (s : NoteSeq) (a b : Rat) (hq : s.isQuantized = false) :
    ∃ p, trim s a b = .ok p ∧
      p.notes = (s.notes.filter (fun n => decide (a ≤ n.start) && decide (n.start < b))).map
        (fun n => { n with end_ := min n.end_ b }) ∧
      p.totalTime = min s.totalTime b ∧
      { p with notes := s.notes, totalTime := s.totalTime } = s := by
  unfold trim
  simp only [hq, Bool.false_eq_true, ↓reduceIte]
  refine ⟨_, rfl, ?_, rfl, rfl⟩
  simp only
  congr 1
  apply List.filter_congr
  intro n _
  by_cases h1 : n.start < a <;> by_cases h2 : n.start < b <;> simp [h1, h2] <;> grind

theorem trim_errors (s : NoteSeq) (a b : Rat) :
    trim s a b = .error .quantizationStatusError ↔ s.isQuantized = true := by
  unfold trim
  by_cases hq : s.isQuantized = true <;> simp [hq]

/-! ## non-vacuity: the hypotheses are satisfiable by a non-trivial input -/

def exNote (p : Int) (a b : Rat) : Note :=
  { pitch := p, velocity := 80, start := a, end_ := b, qs := 0, qe := 0, instrument := 0, program := 0,
    isDrum := false, numerator := 0, denominator := 0, voice := 0, part := 0, pitchName := 0 }

/-- three notes (one cut by the split at 2, one starting exactly on it), a tempo change exactly on a
split time, a time signature before the first cut, pedal events on two instruments -/
def exSeq : NoteSeq :=
  { notes := [exNote 64 (3/2) 3, exNote 60 0 1, exNote 62 2 (5/2)],
    tempos := [⟨0, 120⟩, ⟨2, 60⟩], timeSigs := [⟨1/2, 3, 4⟩],
    texts := [⟨0, 0, Gen.CHORD_SYMBOL, "C"⟩, ⟨2, 0, Gen.BEAT, ""⟩],
    ccs := [⟨1/2, 0, 64, 127, 0, 0, false⟩, ⟨1, 0, 64, 0, 1, 0, false⟩, ⟨3/2, 0, 7, 1, 0, 0, false⟩],
    totalTime := 3 }

example : Valid exSeq [1, 2, 3] := ⟨by decide, by decide, by decide, by decide⟩
example : ∃ ps, extractSubsequencesR id Gen.PRESERVE exSeq [1, 2, 3] = .ok ps ∧ ps.length = 2 :=
  ⟨_, extract_eq_spec id Gen.PRESERVE exSeq [1, 2, 3] ⟨by decide, by decide, by decide, by decide⟩, by simp [pairs]⟩
-- piece boundaries and an instant strictly inside the piece, as the `…_in_effect` theorems need
example : ([1, 2, 3] : List Rat)[0]? = some 1 ∧ ([1, 2, 3] : List Rat)[0 + 1]? = some 2 ∧
    (0 : Rat) ≤ 1/2 ∧ (1/2 : Rat) < 2 - 1 := by decide +kernel
example : ([1, 2, 3] : List Rat).head? = some 1 ∧ ([1, 2, 3] : List Rat).getLast? = some 3 := by decide
-- rejected inputs exist for each clause of `extract_errors`
example : ¬ SortedLE [2, 1] := by decide
example : ∃ t ∈ ([1, 3, 4] : List Rat).dropLast, exSeq.totalTime ≤ t := ⟨3, by decide, by decide⟩
example : ({ exSeq with spq := 4 } : NoteSeq).isQuantized = true := by decide
-- a positive hop size below the total time; the trim hypothesis
example : (0 : Rat) < 3/4 ∧ ∃ k : Nat, 1 ≤ k ∧ (k : Rat) * (3/4) < exSeq.totalTime := ⟨by decide +kernel, 3, by decide, by decide +kernel⟩
example : exSeq.isQuantized = false := by decide
-- genuine changes exist: the second tempo differs from the one in force, the first does not
example : genuine [.tp ⟨0, 120⟩, .ts ⟨1/2, 3, 4⟩, .tp ⟨2, 60⟩] 4 4 120 = [.ts ⟨1/2, 3, 4⟩, .tp ⟨2, 60⟩] := by
  decide +kernel

end NSV.C02

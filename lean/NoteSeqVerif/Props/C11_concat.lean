import NoteSeqVerif.Props.C13
import NoteSeqVerif.Props.C11_shift_stretch
-- THEOREMS: wf_remove_redundant wf_mergeFrom catLoop_wf wf_concat wf_merge
-- THEOREMS: no_invention_concat no_invention_merge no_invention_remove_redundant
/-! # C11 (b) — remove_redundant_data / concatenate_sequences / merge_sequences return well-formed sequences
and invent nothing.  Models owned by C13.

`R`: a monotone, idempotent rounding operator with `R 0 = 0` (IEEE round-to-nearest and exact arithmetic
both are), and the `total_time` of every input is representable (`R t = t`; true of every Python float).
Idempotence is what makes `total_time` of the running concatenation a valid offset: the next piece is
shifted by `cur` and ends at `R (t + cur) ≥ R cur = cur`. -/
namespace NSV.C11
open NSV.C13

/-- what a successful `concatenate_sequences` did: the loop ran to the end over the (sequence, duration)
pairs, then `finishCat` -/
theorem concatR_shape (R : Rat → Rat) (mm : List String → String) (seqs : List MSeq) (durs : List Rat) (r : MSeq)
    (h : concatR R mm seqs durs = .ok r) :
    ∃ cat, catLoop R (!durs.isEmpty) 0 emptyM (catPairs seqs durs) = .ok cat ∧ r = finishCat mm seqs cat := by
  rw [concatR_def] at h
  split at h; · cases h
  cases hc : catLoop R (!durs.isEmpty) 0 emptyM (catPairs seqs durs) with
  | error e => rw [hc] at h; cases h
  | ok cat =>
    rw [hc] at h
    exact ⟨cat, rfl, (Except.ok.inj h).symm⟩

theorem wf_remove_redundant (m : MSeq) (hw : WF m.ns) : WF (removeRedundant m).ns := by
  obtain ⟨h1, h2, h3, _⟩ := remove_redundant_frame m
  refine ⟨hw.notes, hw.total, ⟨?_, ?_, ?_, hw.events.texts, hw.events.ccs, hw.events.bends, hw.events.sectionAnns⟩⟩
  · intro e he
    exact hw.events.tempos e ((sortByRat_perm _ _).mem_iff.mp (h1.subset he))
  · intro e he
    exact hw.events.timeSigs e ((sortByRat_perm _ _).mem_iff.mp (h2.subset he))
  · intro e he
    exact hw.events.keySigs e ((sortByRat_perm _ _).mem_iff.mp (h3.subset he))

theorem no_invention_remove_redundant (m : MSeq) : (removeRedundant m).ns.notes = m.ns.notes := rfl

/-- appending `b` to `a` keeps well-formedness when `b`'s `total_time`, if it overwrites, covers `a`'s -/
theorem wf_mergeFrom (a b : NoteSeq) (ha : WF a) (hb : WF b) (hcov : b.totalTime ≠ 0 → a.totalTime ≤ b.totalTime) :
    WF (mergeFrom a b) := by
  have ea := ha.events
  have eb := hb.events
  refine ⟨?_, ?_, ⟨List.forall_mem_append.mpr ⟨ea.tempos, eb.tempos⟩,
    List.forall_mem_append.mpr ⟨ea.timeSigs, eb.timeSigs⟩, List.forall_mem_append.mpr ⟨ea.keySigs, eb.keySigs⟩,
    List.forall_mem_append.mpr ⟨ea.texts, eb.texts⟩, List.forall_mem_append.mpr ⟨ea.ccs, eb.ccs⟩,
    List.forall_mem_append.mpr ⟨ea.bends, eb.bends⟩, List.forall_mem_append.mpr ⟨ea.sectionAnns, eb.sectionAnns⟩⟩⟩
  · intro n hn
    have hn' : n ∈ a.notes ++ b.notes := hn
    show 0 ≤ n.start ∧ n.start ≤ n.end_ ∧ n.end_ ≤ (if b.totalTime ≠ 0 then b.totalTime else a.totalTime)
    rcases List.mem_append.mp hn' with h | h
    · obtain ⟨h0, h1, h2⟩ := ha.notes n h
      refine ⟨h0, h1, ?_⟩
      split
      · rename_i hne; exact le_trans h2 (hcov hne)
      · exact h2
    · obtain ⟨h0, h1, h2⟩ := hb.notes n h
      refine ⟨h0, h1, ?_⟩
      split
      · exact h2
      · rename_i hne
        have : b.totalTime = 0 := by simpa using hne
        rw [this] at h2
        exact le_trans h2 ha.total
  · show 0 ≤ (if b.totalTime ≠ 0 then b.totalTime else a.totalTime)
    split
    · exact hb.total
    · exact ha.total

/-- a piece placed at a representable offset `cur ≥ 0`: well-formed, its `total_time` representable and not
below `cur` -/
theorem wf_placed (R : Rat → Rat) (hR : ∀ a b, a ≤ b → R a ≤ R b) (hRR : ∀ x, R (R x) = R x)
    {cur : Rat} (hc0 : 0 ≤ cur) (hcur : R cur = cur) {s : MSeq} (hws : WF s.ns)
    (hst : R s.ns.totalTime = s.ns.totalTime) :
    WF (placed R cur s).ns ∧ R (placed R cur s).ns.totalTime = (placed R cur s).ns.totalTime ∧
      cur ≤ (placed R cur s).ns.totalTime ∧ (placed R cur s).ns.totalTime = R (s.ns.totalTime + cur) := by
  unfold placed
  by_cases hpos : 0 < cur
  · rw [if_pos hpos]
    have hm := shiftSeq_moved R cur s.ns
    refine ⟨wf_of_moved _ _ (fun a b hab => hR _ _ (add_le_add_left hab cur)) ?_ hws hm,
      by rw [hm.totalTime]; exact hRR _, ?_, hm.totalTime⟩
    · show 0 ≤ R (0 + cur)
      rw [zero_add, hcur]; exact hc0
    · rw [hm.totalTime]
      calc cur = R cur := hcur.symm
        _ ≤ R (s.ns.totalTime + cur) := hR _ _ (le_add_of_nonneg_left hws.total)
  · rw [if_neg hpos]
    have hc : cur = 0 := le_antisymm (le_of_not_gt hpos) hc0
    subst hc
    exact ⟨hws, hst, hws.total, by rw [add_zero, hst]⟩

/-- the loop invariant: the running concatenation is well-formed, its `total_time` is below the current
offset, and both are fixed by `R` -/
theorem catLoop_wf (R : Rat → Rat) (hR : ∀ a b, a ≤ b → R a ≤ R b) (hRR : ∀ x, R (R x) = R x)
    (useD : Bool) : ∀ (rest : List (MSeq × Rat)) (cur : Rat) (cat r : MSeq),
    WF cat.ns → cat.ns.totalTime ≤ cur → R cur = cur → R cat.ns.totalTime = cat.ns.totalTime →
    (∀ p ∈ rest, WF p.1.ns ∧ R p.1.ns.totalTime = p.1.ns.totalTime) →
    catLoop R useD cur cat rest = .ok r → WF r.ns
  | [], cur, cat, r, hw, _, _, _, _, h => by
    simp only [catLoop] at h
    cases h; exact hw
  | (s, d) :: rest, cur, cat, r, hw, hle, hcur, hcat, hrest, h => by
    obtain ⟨hws, hst⟩ := hrest (s, d) (by simp)
    simp only at hws hst
    rw [catLoop_cons] at h
    by_cases hd : useD = true ∧ d < s.ns.totalTime
    · rw [if_pos hd] at h; cases h
    by_cases hq : 0 < cur ∧ s.ns.isQuantized = true
    · rw [if_neg hd, if_pos hq] at h; cases h
    rw [if_neg hd, if_neg hq] at h
    obtain ⟨hwsn, hsnR, hcov, htot⟩ := wf_placed R hR hRR (le_trans hw.total hle) hcur hws hst
    have htot' : (mergeFromM cat (placed R cur s)).ns.totalTime =
        if (placed R cur s).ns.totalTime ≠ 0 then (placed R cur s).ns.totalTime else cat.ns.totalTime := rfl
    have hcatR' : R (mergeFromM cat (placed R cur s)).ns.totalTime =
        (mergeFromM cat (placed R cur s)).ns.totalTime := by
      rw [htot']; split <;> assumption
    refine catLoop_wf R hR hRR useD rest _ _ r
      (wf_mergeFrom cat.ns _ hw hwsn fun _ => le_trans hle hcov) ?_ ?_
      hcatR' (fun p hp => hrest p (List.mem_cons_of_mem _ hp)) h
    · cases hu : useD with
      | false => simp
      | true =>
        have hds : s.ns.totalTime ≤ d := not_lt.mp fun hlt => hd ⟨hu, hlt⟩
        simp only [if_true]
        rw [htot']
        split
        · rw [htot, add_comm]; exact hR _ _ (add_le_add_right hds cur)
        · calc cat.ns.totalTime ≤ cur := hle
            _ = R cur := hcur.symm
            _ ≤ R (cur + d) := hR _ _ (le_add_of_nonneg_right (le_trans hws.total hds))
    · cases hu : useD with
      | false => simpa using hcatR'
      | true => simp only [if_true]; exact hRR _

theorem wf_emptyM : WF emptyM.ns := by
  refine ⟨?_, le_refl _, ⟨?_, ?_, ?_, ?_, ?_, ?_, ?_⟩⟩ <;> intro e he <;> simp [emptyM] at he

theorem wf_finishCat (mm : List String → String) (seqs : List MSeq) (cat : MSeq) (hw : WF cat.ns) :
    WF (finishCat mm seqs cat).ns := by
  unfold finishCat
  apply wf_remove_redundant
  exact ⟨hw.notes, hw.total, ⟨hw.events.tempos, hw.events.timeSigs, hw.events.keySigs, hw.events.texts,
    hw.events.ccs, hw.events.bends, hw.events.sectionAnns⟩⟩

theorem wf_concat (R : Rat → Rat) (hR : ∀ a b, a ≤ b → R a ≤ R b) (hR0 : R 0 = 0) (hRR : ∀ x, R (R x) = R x)
    (mm : List String → String) (seqs : List MSeq) (durs : List Rat) (r : MSeq)
    (hw : ∀ s ∈ seqs, WF s.ns ∧ R s.ns.totalTime = s.ns.totalTime) (h : concatR R mm seqs durs = .ok r) :
    WF r.ns := by
  obtain ⟨cat, hc, rfl⟩ := concatR_shape R mm seqs durs r h
  apply wf_finishCat
  exact catLoop_wf R hR hRR _ _ 0 emptyM cat wf_emptyM (le_refl _) hR0 hR0
    (fun p hp => hw p.1 (mem_catPairs hp).1) hc

theorem wf_merge (mm : List String → String) (seqs : List MSeq) (hw : ∀ s ∈ seqs, WF s.ns) :
    WF (mergeR mm seqs).ns := by
  obtain ⟨h1, h2, h3, h4, h5, h6, h7, h8, _, _, h11, h12, _⟩ := merge_spec mm seqs
  have red : ∀ {α : Type} (key : α → Rat) (same : α → α → Bool) (l : List α) (e : α),
      e ∈ dropRepeats same (sortByRat key l) → e ∈ l := by
    intro α key same l e he
    exact (sortByRat_perm _ _).mem_iff.mp ((dropRepeats_sublist _ _).subset he)
  refine ⟨?_, ?_, ⟨?_, ?_, ?_, ?_, ?_, ?_, ?_⟩⟩
  · intro n hn
    rw [h1] at hn
    obtain ⟨s, hs, hns⟩ := List.mem_flatMap.mp hn
    obtain ⟨a, b, c⟩ := (hw s hs).notes n hns
    exact ⟨a, b, le_trans c (h12 s hs)⟩
  · cases seqs with
    | nil => rw [h11 rfl]
    | cons s r => exact le_trans (hw s (by simp)).total (h12 s (by simp))
  · rw [h6]
    exact fun e he => List.forall_mem_flatMap.mpr (fun s hs => (hw s hs).events.tempos) e (red _ _ _ e he)
  · rw [h7]
    exact fun e he => List.forall_mem_flatMap.mpr (fun s hs => (hw s hs).events.timeSigs) e (red _ _ _ e he)
  · rw [h8]
    exact fun e he => List.forall_mem_flatMap.mpr (fun s hs => (hw s hs).events.keySigs) e (red _ _ _ e he)
  · rw [h2]; exact List.forall_mem_flatMap.mpr fun s hs => (hw s hs).events.texts
  · rw [h3]; exact List.forall_mem_flatMap.mpr fun s hs => (hw s hs).events.ccs
  · rw [h4]; exact List.forall_mem_flatMap.mpr fun s hs => (hw s hs).events.bends
  · rw [h5]; exact List.forall_mem_flatMap.mpr fun s hs => (hw s hs).events.sectionAnns

/-- merging keeps exactly the notes of the inputs, in order, untouched -/
theorem no_invention_merge (mm : List String → String) (seqs : List MSeq) :
    (mergeR mm seqs).ns.notes = seqs.flatMap (·.ns.notes) := (merge_spec mm seqs).1

/-- what identifies a note: its tag and every attribute a time operation does not touch -/
def ident (n : Note) : Int × Int × Int × Int × Int × Bool × Int × Int × Int :=
  (n.voice, n.pitch, n.velocity, n.instrument, n.program, n.isDrum, n.part, n.numerator, n.denominator)

theorem ident_placed (R : Rat → Rat) (cur : Rat) (s : MSeq) :
    (placed R cur s).ns.notes.map ident = s.ns.notes.map ident := by
  unfold placed
  split
  · rw [(shiftSeq_moved R cur s.ns).notes, List.map_map]; rfl
  · rfl

/-- the notes of a concatenation are the notes of the pieces, piece after piece, each input note exactly
once, with its tag, pitch, velocity, instrument, … (only the times move) -/
theorem no_invention_concat (R : Rat → Rat) (mm : List String → String) (seqs : List MSeq) (durs : List Rat)
    (r : MSeq) (h : concatR R mm seqs durs = .ok r) :
    r.ns.notes.map ident = (seqs.flatMap (·.ns.notes)).map ident := by
  obtain ⟨hlen, hp⟩ := concat_pieces R seqs durs ((concat_ok_iff R mm seqs durs r).mp h).1
  -- piece `i` is sequence `i` placed at its offset (`concat_pieces`), and placing keeps `ident`
  have hpieces : (catPieces R seqs durs).map (fun p => p.ns.notes.map ident) =
      seqs.map (fun s => s.ns.notes.map ident) := by
    refine List.ext_getElem (by simp [hlen]) fun i h1 h2 => ?_
    simp only [List.length_map] at h1 h2
    have ho : i < (catOffs R seqs durs).length := by
      have := h1; simp only [catPieces, placedList, List.length_map, List.length_zip] at this; omega
    rw [List.getElem_map, List.getElem_map, hp i h1 h2 ho, ident_placed]
  rw [(concat_spec R mm seqs durs r h).1, List.flatMap_def, List.flatMap_def, List.map_flatten, List.map_flatten,
    List.map_map, List.map_map]
  exact congrArg List.flatten hpieces

/-! non-vacuity: C13's example concatenates; its pieces satisfy the hypotheses for `R = id`
(`WF exSeq` is the example in `C11_shift_stretch`, `exM.ns = exSeq`) -/
example : (concatR id (fun _ => "-") [exM, exM] [3, 3]).toOption.isSome = true := by decide +kernel

end NSV.C11

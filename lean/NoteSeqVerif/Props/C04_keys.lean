import NoteSeqVerif.Proofs.C04
/-! C04 — the key table (finite: `decide +kernel` over the tables regenerated from
`ABCTune.SIG_TO_KEYS / KEY_TO_SIG / KEY_TO_PROTO_KEY / SHARPS_ORDER / FLATS_ORDER` and the mode
chain of `parse_key`).  The right-hand sides are music theory (circle of fifths), not the tables. -/
namespace NSV.C04
open Gen

deriving instance DecidableEq for Except

inductive Mode | maj | min | mix | dor | phr | lyd | loc
deriving DecidableEq, Repr

def Mode.all : List Mode := [.maj, .min, .mix, .dor, .phr, .lyd, .loc]

/-- how many fifths above the major (ionian) tonic of the same signature the mode's tonic lies -/
def Mode.offset : Mode → Int
  | .maj => 0 | .mix => 1 | .dor => 2 | .min => 3 | .phr => 4 | .loc => 5 | .lyd => -1

/-- `NoteSequence.KeySignature.Mode` (music.proto) -/
def Mode.proto : Mode → Nat
  | .maj => 0 | .min => 1 | .mix => 3 | .dor => 4 | .phr => 5 | .lyd => 6 | .loc => 7

/-- lower-case spellings: nothing / `m`, three-letter abbreviations, full words -/
def Mode.words : Mode → List (List Char)
  | .maj => ["".toList, "maj".toList, "major".toList, "ion".toList, "ionian".toList]
  | .min => ["m".toList, "min".toList, "minor".toList, "aeo".toList, "aeolian".toList]
  | .mix => ["mix".toList, "mixolydian".toList]
  | .dor => ["dor".toList, "dorian".toList]
  | .phr => ["phr".toList, "phrygian".toList]
  | .lyd => ["lyd".toList, "lydian".toList]
  | .loc => ["loc".toList, "locrian".toList]

def capitalize : List Char → List Char
  | [] => []
  | c :: r => upperC c :: r

def caseVariants (w : List Char) : List (List Char) := [w, w.map upperC, capitalize w]

/-- position of a natural letter on the circle of fifths (C = 0) -/
def fifthsOf : Char → Int
  | 'F' => -1 | 'C' => 0 | 'G' => 1 | 'D' => 2 | 'A' => 3 | 'E' => 4 | 'B' => 5 | _ => 0

def pitchClassOf : Char → Int
  | 'C' => 0 | 'D' => 2 | 'E' => 4 | 'F' => 5 | 'G' => 7 | 'A' => 9 | 'B' => 11 | _ => 0

def accShift (a : List Char) : Int := if a = ['#'] then 1 else if a = ['b'] then -1 else 0

/-- number of sharps (negative: flats) of the key with this tonic and mode -/
def specSig (letter : Char) (acc : List Char) (m : Mode) : Int := fifthsOf letter + 7 * accShift acc - m.offset

/-- `NoteSequence.KeySignature.Key` = pitch class of the tonic -/
def specProtoKey (letter : Char) (acc : List Char) : Nat := ((pitchClassOf letter + accShift acc) % 12).toNat

/-- the key signature as accidentals: the first `|sig|` letters of the order of sharps / flats -/
def specAccs (sig : Int) : Accs :=
  zeroAccs.map (fun p =>
    (p.1, if 0 < sig ∧ p.1 ∈ "FCGDAEB".toList.take sig.toNat then 1
          else if sig < 0 ∧ p.1 ∈ "BEADGCF".toList.take (-sig).toNat then -1 else 0))

def letters : List Char := "CDEFGAB".toList
def tonicAccs : List (List Char) := [[], ['#'], ['b']]

/-- the model's accidentals for a signature are the spec's, for all 15 signatures -/
theorem sigToAccs_spec : ∀ s ∈ ([-7, -6, -5, -4, -3, -2, -1, 0, 1, 2, 3, 4, 5, 6, 7] : List Int),
    sigToAccs s = .ok (specAccs s) := by
  decide +kernel

/-! `parse_key` reads the mode word only through `normMode` and the tonic only in lower case
(`parseKey_eq_ok`), so the table is the sum of four small ones: mode words, `MODE_TO_PROTO`,
`KEY_TO_PROTO_KEY`, `KEY_TO_SIG`; the accidentals of a signature are `sigToAccs_spec`. -/

/-- the value of `parse_key`'s variable `mode` (the key of `MODE_TO_PROTO`, the suffix in `KEY_TO_SIG`) -/
def Mode.key : Mode → List Char
  | .maj => [] | .min => ['m'] | .mix => "mix".toList | .dor => "dor".toList
  | .phr => "phr".toList | .lyd => "lyd".toList | .loc => "loc".toList

/-- `parse_key` reads the mode word only through its first three characters, lower-cased -/
theorem normMode_congr {v w : List Char} (h : (v.take 3).map lowerC = (w.take 3).map lowerC) :
    normMode v = normMode w := by
  unfold normMode; rw [h]

theorem normMode_words : ∀ m ∈ Mode.all, ∀ w ∈ m.words, normMode w = m.key := by
  decide +kernel

theorem caseVariants_prefix : ∀ m ∈ Mode.all, ∀ w ∈ m.words, ∀ v ∈ caseVariants w,
    (v.take 3).map lowerC = (w.take 3).map lowerC := by
  decide +kernel

theorem modeToProto_key : ∀ m ∈ Mode.all, lookup m.key MODE_TO_PROTO = some m.proto := by
  decide +kernel

theorem lowerC_tonic : ∀ l ∈ letters, ∀ t ∈ [l, lowerC l], lowerC t = lowerC l := by
  decide +kernel

theorem keyToProto_spec : ∀ l ∈ letters, ∀ a ∈ tonicAccs,
    lookup (([l] ++ a).map lowerC) KEY_TO_PROTO_KEY = some (specProtoKey l a) := by
  decide +kernel

theorem keyToSig_spec : ∀ l ∈ letters, ∀ a ∈ tonicAccs, ∀ m ∈ Mode.all,
    -7 ≤ specSig l a m ∧ specSig l a m ≤ 7 →
    lookup (([l] ++ a ++ m.key).map lowerC) KEY_TO_SIG = some (specSig l a m) := by
  decide +kernel

/-- The key table for EVERY spelling `parse_key` cannot tell from a listed one: any tonic character that
lower-cases to the letter, any mode string whose first three characters, lower-cased, are those of a
mode word (`Dorian`, `DORIAN`, `dOr`, `dorXYZ`, …). -/
theorem key_table_any_spelling :
    ∀ letter ∈ letters, ∀ acc ∈ tonicAccs, ∀ m ∈ Mode.all,
      -7 ≤ specSig letter acc m ∧ specSig letter acc m ≤ 7 →
      ∀ w ∈ m.words, ∀ v t, (v.take 3).map lowerC = (w.take 3).map lowerC → lowerC t = lowerC letter →
        parseKey { tonic := t, acc := acc, mode := v, exp := false, accs := [] } =
          .ok (specAccs (specSig letter acc m), specProtoKey letter acc, m.proto) := by
  intro l hl a ha m hm hb w hw v t hv ht
  have hs : sigToAccs (specSig l a m) = .ok (specAccs (specSig l a m)) :=
    sigToAccs_spec _ (by simp only [List.mem_cons, List.not_mem_nil, or_false]; omega)
  have ht : ∀ r : List Char, ([t] ++ r).map lowerC = ([l] ++ r).map lowerC := fun r => by
    simp only [List.singleton_append, List.map_cons, ht]
  refine parseKey_eq_ok.mpr ⟨_, _, ?_, hs, rfl, ?_, ?_⟩ <;>
    simp only [normMode_congr hv, normMode_words m hm w hw, List.append_assoc, ht]
  · exact keyToSig_spec l hl a ha m hm hb
  · exact keyToProto_spec l hl a ha
  · exact modeToProto_key m hm

/-- All 15 signatures × 7 modes (the 105 tonic/mode pairs whose signature has at most 7 sharps or
flats), every mode word / abbreviation in lower, upper and capitalised case, upper- and lower-case
tonic: `parse_key` succeeds with the signature's accidentals, the tonic's pitch class and the mode. -/
theorem abc_key_table_total :
    ∀ letter ∈ letters, ∀ acc ∈ tonicAccs, ∀ m ∈ Mode.all,
      -7 ≤ specSig letter acc m ∧ specSig letter acc m ≤ 7 →
      ∀ w ∈ m.words, ∀ v ∈ caseVariants w, ∀ t ∈ [letter, lowerC letter],
        parseKey { tonic := t, acc := acc, mode := v, exp := false, accs := [] } =
          .ok (specAccs (specSig letter acc m), specProtoKey letter acc, m.proto) :=
  fun l hl a ha m hm hb w hw v hv t ht =>
    key_table_any_spelling l hl a ha m hm hb w hw v t (caseVariants_prefix m hm w hw v hv) (lowerC_tonic l hl t ht)

/-- the hypothesis of `abc_key_table_total` selects exactly 15 × 7 tonic/mode pairs -/
example : ((letters.flatMap fun l => tonicAccs.flatMap fun a => Mode.all.filterMap fun m =>
    if -7 ≤ specSig l a m ∧ specSig l a m ≤ 7 then some (specSig l a m) else none).length = 105) := by
  decide +kernel

/-- a spelling of `SIG_TO_KEYS` as KEY_PATTERN groups it: letter, optional `#`/`b`, the rest -/
def splitSpelling : List Char → Option (Char × List Char × List Char)
  | [] => none
  | t :: '#' :: r => some (t, ['#'], r)
  | t :: 'b' :: r => some (t, ['b'], r)
  | t :: r => some (t, [], r)

def modeOfWord (w : List Char) : Option Mode := Mode.all.find? (fun m => w.map lowerC ∈ m.words)

/-- the spelling `k` in the row of signature `sig` parses, to that signature, and its signature, tonic and
mode are the music-theoretical ones (`abc_key_table_rows`: every spelling of the module's own table) -/
def rowSpellingOk (sig : Int) (k : List Char) : Bool :=
  match splitSpelling k with
  | none => false
  | some (t, a, w) =>
    match modeOfWord w with
    | none => false
    | some m =>
      specSig t a m = sig ∧
      parseKey { tonic := t, acc := a, mode := w, exp := false, accs := [] } =
        .ok (specAccs sig, specProtoKey t a, m.proto)

/-- `k` spells a tonic/mode pair that `abc_key_table_total` covers, on the signature `sig` -/
def rowCovered (sig : Int) (k : List Char) : Bool :=
  match splitSpelling k with
  | none => false
  | some (t, a, w) =>
    match modeOfWord w with
    | none => false
    | some m =>
      t ∈ letters ∧ a ∈ tonicAccs ∧ m ∈ Mode.all ∧ specSig t a m = sig ∧ -7 ≤ sig ∧ sig ≤ 7 ∧
        ∃ w' ∈ m.words, w ∈ caseVariants w'

theorem rows_covered : ∀ row ∈ SIG_TO_KEYS, ∀ k ∈ row.2, rowCovered row.1 k = true := by
  decide +kernel

theorem abc_key_table_rows : ∀ row ∈ SIG_TO_KEYS, ∀ k ∈ row.2, rowSpellingOk row.1 k = true := by
  intro row hrow k hk
  obtain ⟨sig, ks⟩ := row
  have h := rows_covered _ hrow k hk
  unfold rowCovered at h
  unfold rowSpellingOk
  cases hs : splitSpelling k with
  | none => simp [hs] at h
  | some p =>
    obtain ⟨t, a, w⟩ := p
    cases hm : modeOfWord w with
    | none => simp [hs, hm] at h
    | some m =>
      simp only [hs, hm, decide_eq_true_eq] at h ⊢
      obtain ⟨ht, ha, hmem, rfl, hlo, hhi, w', hw', hv⟩ := h
      exact ⟨rfl, abc_key_table_total t ht a ha m hmem ⟨hlo, hhi⟩ w' hw' w hv t (by simp)⟩

/-- `k` spells the key with this tonic and mode -/
def spells (k : List Char) (letter : Char) (acc : List Char) (m : Mode) : Bool :=
  match splitSpelling k with
  | some (t, a, r) => t = letter ∧ a = acc ∧ r.map lowerC ∈ m.words
  | none => false

/-- the table is complete: each of the 105 tonic/mode pairs is spelled in the row of its signature -/
theorem abc_key_table_complete :
    ∀ letter ∈ letters, ∀ acc ∈ tonicAccs, ∀ m ∈ Mode.all,
      -7 ≤ specSig letter acc m ∧ specSig letter acc m ≤ 7 →
      ∃ row ∈ SIG_TO_KEYS, row.1 = specSig letter acc m ∧ ∃ k ∈ row.2, spells k letter acc m = true := by
  decide +kernel

end NSV.C04

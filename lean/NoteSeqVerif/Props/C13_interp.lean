import NoteSeqVerif.Proofs.C13Interp
import NoteSeqVerif.Props.C13
/-! C13 — the float `np.interp` transcription (`interpR`, numpy `arr_interp`:
`slope = (fp[j+1]-fp[j]) / (xp[j+1]-xp[j]);  slope*(x - xp[j]) + fp[j]`, one rounding per operation)
for every `Rounding R` (`rne53` is one) and knots as in `Proofs/C13Interp.lean`: `KnotsOK`, float ordinates `RepY R`.

* TRUE for every such `R`: monotone inside each segment `[xₖ, xₖ₊₁)`; never below the ordinate of any
  knot at or left of `x`; for non-negative ordinates never above the last ordinate times `(1+2^-53)^4`
  and globally monotone up to the factor `(1+2^-53)^4`.
* FALSE for `rne53` (IEEE double): exact monotonicity across a knot — `interp_not_monotone_rne53`
  (a point just left of a knot is mapped one ulp *above* the knot's ordinate; reproduced bit for bit
  by `numpy.interp`), and as a consequence `rectify_beats` raises `InvalidTimeAdjustmentError` on a
  valid sequence whose exact time map is strictly increasing (`rectify_raises_on_increasing_beats`). -/
namespace NSV.C13
open List

variable {R : ℚ → ℚ}

/-- **monotone inside every segment** (any `Rounding R`): for consecutive knots `a`, `b` and
`a.1 ≤ x ≤ y < b.1`, `interp x ≤ interp y` -/
theorem interp_monotone_within_segment (hR : Rounding R) (p : ℚ × ℚ) (rest : List (ℚ × ℚ)) (left right : ℚ)
    (h : KnotsOK p rest) (hy : RepY R (p :: rest)) (pre : List (ℚ × ℚ)) (a b : ℚ × ℚ) (post : List (ℚ × ℚ))
    (he : p :: rest = pre ++ a :: b :: post) (x y : ℚ) (hx : a.1 ≤ x) (hxy : x ≤ y) (hyb : y < b.1) :
    interpR R p rest left right x ≤ interpR R p rest left right y := by
  have hxi := KnotsOK.xinc p rest h
  have hpa : p.1 ≤ a.1 := xinc_first_le p rest hxi a (by rw [he]; simp)
  have hbl : b.1 ≤ lastX p rest := xinc_le_last p rest hxi b (by rw [he]; simp)
  rw [interpR_inside R p rest left right (le_trans hpa hx) (by linarith),
    interpR_inside R p rest left right (by linarith) (by linarith)]
  exact interpGo_seg_mono hR p rest h hy pre a b post he x y hx hxy hyb

/-- **half of the monotonicity across knots that does hold** (any `Rounding R`): at or right of a knot
the result is at least that knot's ordinate (which is the value *at* the knot, `interp_knots`) -/
theorem interp_ge_knot (hR : Rounding R) (p : ℚ × ℚ) (rest : List (ℚ × ℚ)) (left right : ℚ)
    (h : KnotsOK p rest) (hy : RepY R (p :: rest)) (k : ℚ × ℚ) (hk : k ∈ p :: rest) (x : ℚ) (hkx : k.1 ≤ x)
    (hxl : x ≤ lastX p rest) : interpR R p rest left right k.1 ≤ interpR R p rest left right x := by
  have hxi := KnotsOK.xinc p rest h
  rw [interp_knots R p rest left right hxi k hk,
    interpR_inside R p rest left right (le_trans (xinc_first_le p rest hxi k hk) hkx) hxl]
  exact interpGo_ge_knot (segOK_rounding hR) rest p h hy k hk x hkx

/-- **range** (any `Rounding R`): inside the knots the result is at least the first ordinate and at
most the last ordinate times `(1 + 2^-53)^4` -/
theorem interp_range_float (hR : Rounding R) (p : ℚ × ℚ) (rest : List (ℚ × ℚ)) (left right x : ℚ)
    (h : KnotsOK p rest) (hy : RepY R (p :: rest)) (h0 : 0 ≤ p.2) (h1 : p.1 ≤ x) (h2 : x ≤ lastX p rest) :
    p.2 ≤ interpR R p rest left right x ∧ interpR R p rest left right x ≤ lastY p rest * (1 + u53) ^ 4 := by
  rw [interpR_inside R p rest left right h1 h2]
  refine ⟨interpGo_ge_knot (segOK_rounding hR) rest p h hy p mem_cons_self x h1, ?_⟩
  have := interpGo_le_mul (segOK_rounding hR) rest p h hy h0 x (lastX p rest) h1 h2
  rwa [interpGo_at_last R rest p (KnotsOK.xinc p rest h)] at this

/-- **monotone up to four roundings** (any `Rounding R`), on the whole line, when the clamps continue
the knots monotonically (`rectify_beats`: `left = 0 = fp₀`, `right = total_time`) -/
theorem interp_monotone_approx (hR : Rounding R) (p : ℚ × ℚ) (rest : List (ℚ × ℚ)) (left right x y : ℚ)
    (h : KnotsOK p rest) (hy : RepY R (p :: rest)) (hl0 : 0 ≤ left) (hl : left ≤ p.2)
    (hr : lastY p rest ≤ right) (hxy : x ≤ y) :
    interpR R p rest left right x ≤ interpR R p rest left right y * (1 + u53) ^ 4 :=
  interpR_le_mul (segOK_rounding hR) p rest left right x y h hy hl0 hl hr hxy

/-! ## exact monotonicity across a knot is false in IEEE double arithmetic -/

/-- the left knot `(x₀, y₀) = (2^-53, 0)` -/
def cxP : ℚ × ℚ := (1 / 9007199254740992, 0)
/-- the right knot `(x₁, y₁) = (0x1.97c07b84ae97bp+0, 0x1.d8a282c677008p-1)` -/
def cxQ : ℚ × ℚ := (7173247016298875 / 4503599627370496, 1039334934113793 / 1125899906842624)
/-- the double just left of `x₁` -/
def cxX : ℚ := 3586623508149437 / 2251799813685248

/-- **counterexample** (all numbers are doubles): `x < x₁` but `interp x = 0x1.d8a282c677009p-1` is
one ulp above `interp x₁ = y₁ = 0x1.d8a282c677008p-1`.  `x - x₀` and `x₁ - x₀` are both ties and
round to the same double, then `fl(fl(dy/dx)·dx) > dy`.  `numpy.interp` returns the same bits. -/
theorem interp_not_monotone_rne53 :
    KnotsOK cxP [cxQ] ∧ RepY rne53 [cxP, cxQ] ∧ rne53 cxP.1 = cxP.1 ∧ rne53 cxQ.1 = cxQ.1 ∧ rne53 cxX = cxX ∧
    cxP.1 ≤ cxX ∧ cxX < cxQ.1 ∧
    interpR rne53 cxP [cxQ] 0 cxQ.2 cxX = 8314679472910345 / 9007199254740992 ∧
    interpR rne53 cxP [cxQ] 0 cxQ.2 cxQ.1 = cxQ.2 ∧
    interpR rne53 cxP [cxQ] 0 cxQ.2 cxQ.1 < interpR rne53 cxP [cxQ] 0 cxQ.2 cxX := by
  refine ⟨⟨by decide +kernel, by decide +kernel, trivial⟩, ?_, by decide +kernel, by decide +kernel,
    by decide +kernel, by decide +kernel, by decide +kernel, by decide +kernel, by decide +kernel, by decide +kernel⟩
  intro k hk
  simp only [mem_cons, mem_nil_iff, or_false] at hk
  rcases hk with rfl | rfl <;> decide +kernel

/-- hence no theorem `x ≤ y → interp x ≤ interp y` can hold for all `Rounding R` -/
theorem interp_monotone_fails_for_some_rounding :
    ¬ ∀ (R : ℚ → ℚ), Rounding R → ∀ (p : ℚ × ℚ) (rest : List (ℚ × ℚ)) (x y : ℚ), KnotsOK p rest →
        RepY R (p :: rest) → x ≤ y → interpR R p rest 0 (lastY p rest) x ≤ interpR R p rest 0 (lastY p rest) y := by
  intro H
  obtain ⟨hk, hy, _, _, _, _, hlt, _, _, hbad⟩ := interp_not_monotone_rne53
  have := H rne53 rounding_rne53 cxP [cxQ] cxX cxQ.1 hk hy (le_of_lt hlt)
  exact absurd this (not_le.mpr hbad)

/-! ### the same inside `rectify_beats` -/

/-- the second beat, `x₁ = 0x1.78e525ad8f2ffp+0` s -/
def cxBeatX : ℚ := 6630408826974975 / 4503599627370496
/-- a valid sequence: beats at `2^-53` s and at `x₁` (`= total_time`), one note from the double just below
`x₁` to `x₁` -/
def cxSeq : NoteSeq :=
  { notes := [{ exNote with start := 3315204413487487 / 2251799813685248, end_ := cxBeatX }]
    texts := [⟨1 / 9007199254740992, 0, Gen.BEAT, ""⟩, ⟨cxBeatX, 0, Gen.BEAT, ""⟩]
    totalTime := cxBeatX }

/-- at 148 bpm the knots are `(0,0), (2^-53, fl(60/148)), (x₁, fl(2·fl(60/148)))`: strictly increasing in
both coordinates, so the exact time map is strictly increasing — and `rectify_beats` raises
`InvalidTimeAdjustmentError` ("Tried to adjust end time to before start time") because the float
interpolation maps the note start one ulp above the note end.  The real `rectify_beats` raises the
same exception on this input. -/
theorem rectify_raises_on_increasing_beats :
    beatKnots rne53 148 cxSeq =
      [(0, 0), (1 / 9007199254740992, 7303134530871075 / 18014398509481984),
       (cxBeatX, 7303134530871075 / 9007199254740992)] ∧
    KnotsOK (0, 0) [(1 / 9007199254740992, 7303134530871075 / 18014398509481984),
       (cxBeatX, 7303134530871075 / 9007199254740992)] ∧
    rectifyR rne53 148 cxSeq = .error .invalidTimeAdjustmentError := by
  have hb : beatTimes cxSeq = [1 / 9007199254740992, cxBeatX] := by decide +kernel
  have hk : beatKnots rne53 148 cxSeq =
      [(0, 0), (1 / 9007199254740992, 7303134530871075 / 18014398509481984),
       (cxBeatX, 7303134530871075 / 9007199254740992)] := by
    have hs : sortByRat id (beatTimes cxSeq) = beatTimes cxSeq :=
      sortByRat_of_pairwise _ _ (by rw [hb]; decide +kernel)
    unfold beatKnots; rw [hs, hb]; decide +kernel
  refine ⟨hk, ⟨by decide +kernel, by decide +kernel, by decide +kernel, by decide +kernel, trivial⟩, ?_⟩
  obtain ⟨p, rest, hpk, hr⟩ := rectify_spec rne53 148 cxSeq (by decide +kernel) (by rw [hb]; simp)
    (by decide +kernel)
  rw [hk] at hpk
  simp only [cons.injEq] at hpk
  obtain ⟨rfl, rfl⟩ := hpk
  rw [hr]
  decide +kernel

/-! ## non-vacuity: knots with float ordinates, points inside one segment -/

example : KnotsOK (0, 0) [(1, 1 / 2), (3, 1)] ∧ RepY rne53 [(0, 0), (1, 1 / 2), (3, 1)] ∧
    ((0, 0) :: [(1, 1 / 2), (3, 1)] : List (ℚ × ℚ)) = [(0, 0)] ++ (1, 1 / 2) :: (3, 1) :: [] ∧
    interpR rne53 (0, 0) [(1, 1 / 2), (3, 1)] 0 9 (4 / 3) ≤ interpR rne53 (0, 0) [(1, 1 / 2), (3, 1)] 0 9 (5 / 3) := by
  refine ⟨⟨by decide +kernel, by decide +kernel, by decide +kernel, by decide +kernel, trivial⟩, ?_, rfl, by decide +kernel⟩
  intro k hk
  simp only [mem_cons, mem_nil_iff, or_false] at hk
  rcases hk with rfl | rfl | rfl <;> decide +kernel

end NSV.C13

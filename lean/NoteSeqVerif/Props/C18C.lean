import Mathlib.Tactic.Linarith
import Mathlib.Data.Rat.Floor
import NoteSeqVerif.Proofs.C18Float
import NoteSeqVerif.Props.C18B
/-! C18 — property theorems, third file.  What assumes `Rounding R` (`Proofs/C18Float`): the (0, 1] range of the velocity
rolls, the `2⁻⁵³`-relative margins of the `min_duration_ms` test, and the round trips with the grid hypothesis discharged
by `timeToFrames_grid` (their exact-arithmetic form is the instance `R = id`).  Then the `min_duration_ms` decision read
off the reported note (`keepR_reported`), and which first / last frame a note gets under `min_frame_occupancy_for_label` in exact arithmetic.  The first frame and an
adjacent last frame follow the documented meaning (labelled iff the covered share reaches the threshold); for longer
notes the last frame is NEVER removed (`occ_last_frame_far`), which differs from it. -/
namespace NSV.C18

theorem velocity_scaled_range {R R32 : Rat → Rat} (hR : Rounding R) (h32 : Rounding32 R32) (v m : Int)
    (hv : 0 < v) (hvm : v ≤ m) : 0 < R32 (R ((v : Rat) / (m : Rat))) ∧ R32 (R ((v : Rat) / (m : Rat))) ≤ 1 := by
  have hm : (0 : Rat) < m := by exact_mod_cast (by omega : (0 : Int) < m)
  have hq : 0 < (v : Rat) / (m : Rat) := by positivity
  have hq1 : (v : Rat) / (m : Rat) ≤ 1 := by
    rw [div_le_one hm]; exact_mod_cast hvm
  have h1 : 0 < R ((v : Rat) / (m : Rat)) := hR.relErr.pos (by norm_num) hq
  have h2 : R ((v : Rat) / (m : Rat)) ≤ 1 := by
    have := hR.mono _ _ hq1
    have h1' : R (1 : Rat) = 1 := by simpa using hR.exact_int 1 (by norm_num) (by norm_num)
    linarith
  exact ⟨h32.pos _ h1, by have := h32.mono _ _ h2; rw [h32.one] at this; exact this⟩

/-- **active velocity in (0, 1]**: with IEEE-like roundings and in-range velocities in `1..max_velocity`
(`velocity ≤ max_velocity` is forced by `encode_ok_valid`), a cell of `active_velocities` is 0 if no
note paints it and lies in (0, 1] if one does -/
theorem active_velocity_range {R R32 : Rat → Rat} (hR : Rounding R) (h32 : Rounding32 R32) {eps : Rat} {c : Cfg}
    {total : Rat} {notes : List PNote} {ccs : List PCC} {pr : Pianoroll}
    (h : encode R R32 eps c total notes ccs = .ok pr)
    (hvel : ∀ nt ∈ notes, InRange c nt → 0 < nt.velocity) (f p : Nat)
    (hf : f < (numRows R c.fps total).toNat) (hp : p < (c.maxPitch - c.minPitch + 1).toNat) :
    ∃ v, getCell pr.activeVelocities f p = some v ∧
      (if ∃ nt ∈ notes, NoteCovers R eps c total (numRows R c.fps total).toNat (selActive c) f p nt = true
        then 0 < v ∧ v ≤ 1 else v = 0) := by
  rcases enc_velocity_cell h f p hf hp with ⟨hno, h0⟩ | ⟨l1, nt, l2, hl, hc, _, hv⟩
  · refine ⟨0, h0, ?_⟩
    rw [if_neg]
    rintro ⟨nt, hnt, hc⟩
    rw [hno nt hnt] at hc; cases hc
  · have hnt : nt ∈ notes := by
      rw [← mem_sortByStart, hl]; simp
    refine ⟨_, hv, ?_⟩
    rw [if_pos ⟨nt, hnt, hc⟩]
    have hr : InRange c nt := ((NoteCovers_active_iff _ _ _ _ _ _ _ _).mp hc).1
    exact velocity_scaled_range hR h32 nt.velocity c.maxVelocity (hvel nt hnt hr) (encode_ok_valid h nt hnt hr).1

/-- **onset velocity in (0, 1]** (the seventh roll): under the same hypotheses and a float32 store that
keeps 0, a cell of `onset_velocities` is 0 unless the `onsets` cell is 1 and a note paints the active
cell; then it lies in (0, 1] -/
theorem onset_velocity_range {R R32 : Rat → Rat} (hR : Rounding R) (h32 : Rounding32 R32) (h320 : R32 0 = 0)
    {eps : Rat} {c : Cfg} {total : Rat} {notes : List PNote} {ccs : List PCC} {pr : Pianoroll}
    (h : encode R R32 eps c total notes ccs = .ok pr)
    (hvel : ∀ nt ∈ notes, InRange c nt → 0 < nt.velocity) (f p : Nat)
    (hf : f < (numRows R c.fps total).toNat) (hp : p < (c.maxPitch - c.minPitch + 1).toNat) :
    ∃ x, getCell pr.onsetVelocities f p = some x ∧
      (if (∃ nt ∈ notes, NoteCovers R eps c total (numRows R c.fps total).toNat (selOnset c) f p nt = true) ∧
          (∃ nt ∈ notes, NoteCovers R eps c total (numRows R c.fps total).toNat (selActive c) f p nt = true)
        then 0 < x ∧ x ≤ 1 else x = 0) := by
  obtain ⟨v, o, hv, ho, _, hx⟩ := enc_onset_velocity_cell h f p hf hp
  obtain ⟨v', hv', hrange⟩ := active_velocity_range hR h32 h hvel f p hf hp
  rw [hv] at hv'; cases hv'
  have ho' := enc_onset_cell h f p hf hp
  rw [ho] at ho'
  refine ⟨_, hx, ?_⟩
  by_cases hon : ∃ nt ∈ notes, NoteCovers R eps c total (numRows R c.fps total).toNat (selOnset c) f p nt = true
  · rw [if_pos hon] at ho'
    cases ho'
    by_cases hac : ∃ nt ∈ notes, NoteCovers R eps c total (numRows R c.fps total).toNat (selActive c) f p nt = true
    · rw [if_pos hac] at hrange
      rw [if_pos ⟨hon, hac⟩, mul_one]
      refine ⟨h32.pos _ hrange.1, ?_⟩
      have := h32.mono _ _ hrange.2
      rwa [h32.one] at this
    · rw [if_neg hac] at hrange
      rw [if_neg (fun hh => hac hh.2), hrange, zero_mul, h320]
  · rw [if_neg hon] at ho'
    cases ho'
    rw [if_neg (fun hh => hon hh.1), mul_zero, h320]

/-- the duration in ms that the decoder tests, bracketed: each of its five roundings is off by a factor within
`[1 − u, 1 + u]`, `u = 2⁻⁵³` -/
theorem durMs_bounds {R : Rat → Rat} (hR : Rounding R) (fps : Rat) (hf : 0 < fps) (s e : Nat) (hse : s < e) :
    (1 - u53) ^ 3 * (((e : Rat) - s) - ((e : Rat) + s) * u53) * (1000 / fps) ≤
      R (R (R ((e : Rat) * R (1 / fps)) - R ((s : Rat) * R (1 / fps))) * 1000) ∧
    R (R (R ((e : Rat) * R (1 / fps)) - R ((s : Rat) * R (1 / fps))) * 1000) ≤
      (1 + u53) ^ 3 * (((e : Rat) - s) + ((e : Rat) + s) * u53) * (1000 / fps) := by
  have hq : 0 ≤ 1 - u53 := sub_nonneg.mpr u53_lt_one.le
  have hq' : 0 ≤ 1 + u53 := add_nonneg zero_le_one u53_pos.le
  have h0 : (0 : Rat) ≤ 1 / fps := by positivity
  have hs0 : (0 : Rat) ≤ (s : Rat) := Nat.cast_nonneg s
  have he0 : (0 : Rat) ≤ (e : Rat) := Nat.cast_nonneg e
  have hse' : (s : Rat) ≤ (e : Rat) := by exact_mod_cast Nat.le_of_lt hse
  -- the five rounded quantities, one after the other, with the bounds `Rounding` gives for each
  have hfl0 := hR.nonneg h0
  have hfl_lo := hR.lo h0
  have hfl_hi := hR.hi h0
  generalize R (1 / fps) = fl at *
  have ha_lo := hR.lo (mul_nonneg he0 hfl0)
  have ha_hi := hR.hi (mul_nonneg he0 hfl0)
  have hb_lo := hR.lo (mul_nonneg hs0 hfl0)
  have hb_hi := hR.hi (mul_nonneg hs0 hfl0)
  have hab := sub_nonneg.mpr (hR.mono _ _ (mul_le_mul_of_nonneg_right hse' hfl0))
  generalize R ((e : Rat) * fl) = a at *
  generalize R ((s : Rat) * fl) = b at *
  have hd0 := hR.nonneg hab
  have hd_lo := hR.lo hab
  have hd_hi := hR.hi hab
  generalize R (a - b) = D at *
  have hC_lo := hR.lo (mul_nonneg hd0 (by norm_num : (0 : Rat) ≤ 1000))
  have hC_hi := hR.hi (mul_nonneg hd0 (by norm_num : (0 : Rat) ≤ 1000))
  have hC0 := hR.nonneg (mul_nonneg hd0 (by norm_num : (0 : Rat) ≤ 1000))
  generalize R (D * 1000) = C at *
  constructor
  · -- a negative bracket makes the bound negative; otherwise it can be multiplied through
    rcases lt_or_ge (((e : Rat) - s) - ((e : Rat) + s) * u53) 0 with hK | hK
    · exact le_trans (mul_nonpos_iff.mpr (Or.inr ⟨mul_nonpos_iff.mpr (Or.inl ⟨pow_nonneg hq 3, hK.le⟩),
        by positivity⟩)) hC0
    have h1 : fl * (((e : Rat) - s) - ((e : Rat) + s) * u53) ≤ a - b := by
      calc _ = (e : Rat) * fl * (1 - u53) - (s : Rat) * fl * (1 + u53) := by ring
        _ ≤ a - b := sub_le_sub ha_lo hb_hi
    have h2 := (mul_le_mul_of_nonneg_right hfl_lo hK).trans h1
    have h3 := (mul_le_mul_of_nonneg_right h2 hq).trans hd_lo
    have h4 := (mul_le_mul_of_nonneg_right (mul_le_mul_of_nonneg_right h3 (by norm_num : (0 : Rat) ≤ 1000)) hq).trans
      hC_lo
    calc _ = 1 / fps * (1 - u53) * (((e : Rat) - s) - ((e : Rat) + s) * u53) * (1 - u53) * 1000 * (1 - u53) := by
          ring
      _ ≤ C := h4
  · have hK : 0 ≤ ((e : Rat) - s) + ((e : Rat) + s) * u53 := by
      have := mul_nonneg (add_nonneg he0 hs0) (le_of_lt u53_pos); linarith only [this, hse']
    have h1 : a - b ≤ fl * (((e : Rat) - s) + ((e : Rat) + s) * u53) := by
      calc a - b ≤ (e : Rat) * fl * (1 + u53) - (s : Rat) * fl * (1 - u53) := sub_le_sub ha_hi hb_lo
        _ = _ := by ring
    have h2 := h1.trans (mul_le_mul_of_nonneg_right hfl_hi hK)
    have h3 := hd_hi.trans (mul_le_mul_of_nonneg_right h2 hq')
    have h4 := hC_hi.trans
      (mul_le_mul_of_nonneg_right (mul_le_mul_of_nonneg_right h3 (by norm_num : (0 : Rat) ≤ 1000)) hq')
    calc C ≤ _ := h4
      _ = _ := by ring

/-- **kept under floating point**: for every `Rounding R` a run `[s, e)` is kept whenever
`min_duration_ms ≤ (1 − u)³ · ((e − s) − (e + s)·u) · 1000 / fps`, `u = 2⁻⁵³`.  (`hK` is not used: a negative
bracket makes the bound negative.) -/
theorem keepR_float_kept {R : Rat → Rat} (hR : Rounding R) (fps minDur : Rat) (hf : 0 < fps) (s e : Nat)
    (hse : s < e) (hK : 0 ≤ ((e : Rat) - s) - ((e : Rat) + s) * u53)
    (h : minDur ≤ (1 - u53) ^ 3 * (((e : Rat) - s) - ((e : Rat) + s) * u53) * (1000 / fps)) :
    keepR R (R (1 / fps)) minDur s e = true := by
  unfold keepR
  simp only [decide_eq_true_eq]
  exact h.trans (durMs_bounds hR fps hf s e hse).1

/-- **dropped under floating point**: for every `Rounding R` a run `[s, e)` is dropped whenever
`(1 + u)³ · ((e − s) + (e + s)·u) · 1000 / fps < min_duration_ms` -/
theorem keepR_float_dropped {R : Rat → Rat} (hR : Rounding R) (fps minDur : Rat) (hf : 0 < fps) (s e : Nat)
    (hse : s < e)
    (h : (1 + u53) ^ 3 * (((e : Rat) - s) + ((e : Rat) + s) * u53) * (1000 / fps) < minDur) :
    keepR R (R (1 / fps)) minDur s e = false := by
  unfold keepR
  simp only [decide_eq_false_iff_not, not_le]
  exact lt_of_le_of_lt (durMs_bounds hR fps hf s e hse).2 h

/-- the tolerance found in the source (`Gen.SNAP_EPS`, regenerated on every run) is large enough -/
theorem snap_eps_ok : (1 : Rat) / 2 ^ 30 ≤ Gen.SNAP_EPS := by
  unfold Gen.SNAP_EPS; norm_num

/-- the roll re-encoded from a decoded roll has one or two frames more than the original: `total_time` is the time
of frame `#frames + 1` -/
theorem numRows_of_decoded {R : Rat → Rat} (hR : Rounding R) (Rv : Rat → Rat) (d : DCfg) (c : Cfg)
    (frames : List (List Bool)) (w : Nat)
    (hfps : 0 < d.fps) (hne : frames ≠ []) (hrect : isRect frames frames.length w = true)
    (hw : w ≤ Gen.VEL_SLOTS) (hlen : frames.length + 1 < 2 ^ 31) (hc1 : c.fps = d.fps)
    (notes : List ONote) (total : Rat) (hdec : decode R Rv d frames none none none = .ok (notes, total)) :
    (frames.length : Int) + 1 ≤ numRows R c.fps total ∧ numRows R c.fps total ≤ (frames.length : Int) + 2 := by
  obtain ⟨ems, hd, _, _⟩ := runs_decode R Rv d frames w (ne_of_gt hfps) hne hrect hw
  obtain ⟨-, rfl⟩ := Prod.mk.inj (Except.ok.inj (hd.symm.trans hdec))
  rw [hc1]
  have := numRows_grid hR d.fps hfps (frames.length + 1) hlen
  push_cast at this ⊢
  omega

/-- **roll_roundtrip_float, either blank setting**: `roll_roundtrip_float` (next) without the hypothesis
`add_blank_frame_before_onset = False` -/
theorem roll_roundtrip_float_anyblank {R : Rat → Rat} (hR : Rounding R) (R32 Rv : Rat → Rat) (d : DCfg) (c : Cfg)
    (frames : List (List Bool)) (w : Nat) (ccs : List PCC)
    (hfps : 0 < d.fps) (hne : frames ≠ []) (hrect : isRect frames frames.length w = true)
    (hw : w ≤ Gen.VEL_SLOTS) (hlen : frames.length + 1 < 2 ^ 31) (hmin : d.minDurMs ≤ 0)
    (hc1 : c.fps = d.fps) (hc2 : c.minPitch = d.minMidiPitch)
    (hc3 : c.maxPitch = d.minMidiPitch + (w : Int) - 1) (hc4 : c.mode = 0) (hc5 : c.overlap = true)
    (hc7 : c.occ = 0)
    (notes : List ONote) (total : Rat) (hdec : decode R Rv d frames none none none = .ok (notes, total))
    (pr : Pianoroll) (henc : encode R R32 Gen.SNAP_EPS c total (notes.map toPNote) ccs = .ok pr) :
    ((frames.length : Int) + 1 ≤ numRows R c.fps total ∧ numRows R c.fps total ≤ (frames.length : Int) + 2) ∧
    ∀ f p : Nat, f < (numRows R c.fps total).toNat → p < w →
      getCell pr.active f p = some (if frameCol frames p f = true then 1 else 0) := by
  exact ⟨numRows_of_decoded hR Rv d c frames w hfps hne hrect hw hlen hc1 notes total hdec, fun f p hf hp =>
    roll_roundtrip_of_grid_anyblank R R32 Rv Gen.SNAP_EPS d c frames w ccs (ne_of_gt hfps) hne hrect hw
      (fun k hk => timeToFrames_grid hR Gen.SNAP_EPS d.fps snap_eps_ok hfps k (by omega))
      (keepR_of_nonpos hR d.fps d.minDurMs hfps hmin)
      hc1 hc2 hc3 hc4 hc5 hc7 notes total hdec pr henc f p hf hp⟩

/-- **roll_roundtrip_float**: for EVERY rounding operator `R` with the three IEEE properties
(`Rounding`), every positive frame rate
(in particular all of {8, 16, 31.25, 32, 50, 62.5, 100}), every boolean roll with fewer than 2³¹
frames and at most 128 pitches: decoding the roll and encoding the result with the snap tolerance
found in the source gives back the roll cell by cell, in a roll of `#frames + 1` or `#frames + 2`
frames whose extra frames are silent.  The decoder drops nothing (`hmin : min_duration_ms ≤ 0`) and the
encoder is the plain one on the same pitches (`hc1`–`hc7`: the fields of `Mirrors`, and no blank frame, which
`roll_roundtrip_float_anyblank` shows is not needed).  (`R32`, `Rv` arbitrary: they do not touch the active roll.) -/
theorem roll_roundtrip_float {R : Rat → Rat} (hR : Rounding R) (R32 Rv : Rat → Rat) (d : DCfg) (c : Cfg)
    (frames : List (List Bool)) (w : Nat) (ccs : List PCC)
    (hfps : 0 < d.fps) (hne : frames ≠ []) (hrect : isRect frames frames.length w = true)
    (hw : w ≤ Gen.VEL_SLOTS) (hlen : frames.length + 1 < 2 ^ 31) (hmin : d.minDurMs ≤ 0)
    (hc1 : c.fps = d.fps) (hc2 : c.minPitch = d.minMidiPitch)
    (hc3 : c.maxPitch = d.minMidiPitch + (w : Int) - 1) (hc4 : c.mode = 0) (hc5 : c.overlap = true)
    (hc6 : c.blank = false) (hc7 : c.occ = 0)
    (notes : List ONote) (total : Rat) (hdec : decode R Rv d frames none none none = .ok (notes, total))
    (pr : Pianoroll) (henc : encode R R32 Gen.SNAP_EPS c total (notes.map toPNote) ccs = .ok pr) :
    ((frames.length : Int) + 1 ≤ numRows R c.fps total ∧ numRows R c.fps total ≤ (frames.length : Int) + 2) ∧
    ∀ f p : Nat, f < (numRows R c.fps total).toNat → p < w →
      getCell pr.active f p = some (if frameCol frames p f = true then 1 else 0) :=
  roll_roundtrip_float_anyblank hR R32 Rv d c frames w ccs hfps hne hrect hw hlen hmin hc1 hc2 hc3 hc4 hc5 hc7 notes total
    hdec pr henc

/-- **roll_roundtrip (exact arithmetic)**: the same with no rounding at all (`R = id`).  `hlen`, `hc6` and the
particular tolerance come with `roll_roundtrip_float`; exact arithmetic needs none of them (a grid time is read back by
`snap_int`, for every `eps`). -/
theorem roll_roundtrip (d : DCfg) (c : Cfg) (frames : List (List Bool)) (w : Nat) (ccs : List PCC)
    (hfps : 0 < d.fps) (hne : frames ≠ []) (hrect : isRect frames frames.length w = true)
    (hw : w ≤ Gen.VEL_SLOTS) (hlen : frames.length + 1 < 2 ^ 31) (hmin : d.minDurMs ≤ 0)
    (hc1 : c.fps = d.fps) (hc2 : c.minPitch = d.minMidiPitch)
    (hc3 : c.maxPitch = d.minMidiPitch + (w : Int) - 1) (hc4 : c.mode = 0) (hc5 : c.overlap = true)
    (hc6 : c.blank = false) (hc7 : c.occ = 0)
    (notes : List ONote) (total : Rat) (hdec : decode id id d frames none none none = .ok (notes, total))
    (pr : Pianoroll) (henc : encode id id Gen.SNAP_EPS c total (notes.map toPNote) ccs = .ok pr) :
    ∀ f p : Nat, f < (numRows id c.fps total).toNat → p < w →
      getCell pr.active f p = some (if frameCol frames p f = true then 1 else 0) :=
  (roll_roundtrip_float rounding_id id id d c frames w ccs hfps hne hrect hw hlen hmin hc1 hc2 hc3 hc4
    hc5 hc6 hc7 notes total hdec pr henc).2

/-- **roll_roundtrip (encode then decode) under floating point, either blank setting** -/
theorem roll_roundtrip_notes_float_anyblank {R : Rat → Rat} (hR : Rounding R) (R32 Rv : Rat → Rat) (d : DCfg)
    (c : Cfg) (gl : List Emit) (total : Rat) (ccs : List PCC) (w : Nat)
    (hfps : 0 < d.fps) (hw : w ≤ Gen.VEL_SLOTS) (hmin : d.minDurMs ≤ 0)
    (hc1 : c.fps = d.fps) (hc2 : c.minPitch = d.minMidiPitch)
    (hc3 : c.maxPitch = d.minMidiPitch + (w : Int) - 1) (hc4 : c.mode = 0) (hc5 : c.overlap = true)
    (hc7 : c.occ = 0)
    (hrows : 1 ≤ numRows R c.fps total) (hrows' : numRows R c.fps total < 2 ^ 31)
    (hgl : ∀ g ∈ gl, g.pitch < w ∧ g.s < g.e ∧ (g.e : Int) ≤ numRows R c.fps total)
    (hsep : ∀ a ∈ gl, ∀ b ∈ gl, a.pitch = b.pitch → (a.s = b.s ∧ a.e = b.e) ∨ a.e < b.s ∨ b.e < a.s)
    (pr : Pianoroll)
    (henc : encode R R32 Gen.SNAP_EPS c total
      (gl.map fun g => toPNote (emitNote R (R (1 / d.fps)) d.minMidiPitch g)) ccs = .ok pr) :
    ∃ ems : List Emit,
      decode R Rv d (toBoolRoll pr.active) none none none =
        .ok (ems.map (emitNote R (R (1 / d.fps)) d.minMidiPitch),
             R ((((toBoolRoll pr.active).length + 1 : Nat) : Rat) * R (1 / d.fps))) ∧
      ems.Pairwise emitLt ∧
      ∀ e : Emit, e ∈ ems ↔
        e.vel = d.velocity ∧ ∃ g ∈ gl, g.pitch = e.pitch ∧ g.s = e.s ∧ g.e = e.e :=
  roll_roundtrip_notes_of_grid_anyblank R R32 Rv Gen.SNAP_EPS d c gl total ccs w (ne_of_gt hfps) hw hc1 hc2 hc3
    hc4 hc5 hc7 hrows
    (fun k hk => timeToFrames_grid hR Gen.SNAP_EPS d.fps snap_eps_ok hfps k (by omega))
    (keepR_of_nonpos hR d.fps d.minDurMs hfps hmin) hgl hsep pr henc

/-- **roll_roundtrip (encode then decode) under floating point**: for every `Rounding R`, every
positive frame rate and every roll of fewer than 2³¹ frames, without blank frames (`hc6`, which
`roll_roundtrip_notes_float_anyblank` shows is not needed) -/
theorem roll_roundtrip_notes_float {R : Rat → Rat} (hR : Rounding R) (R32 Rv : Rat → Rat) (d : DCfg) (c : Cfg)
    (gl : List Emit) (total : Rat) (ccs : List PCC) (w : Nat)
    (hfps : 0 < d.fps) (hw : w ≤ Gen.VEL_SLOTS) (hmin : d.minDurMs ≤ 0)
    (hc1 : c.fps = d.fps) (hc2 : c.minPitch = d.minMidiPitch)
    (hc3 : c.maxPitch = d.minMidiPitch + (w : Int) - 1) (hc4 : c.mode = 0) (hc5 : c.overlap = true)
    (hc6 : c.blank = false) (hc7 : c.occ = 0)
    (hrows : 1 ≤ numRows R c.fps total) (hrows' : numRows R c.fps total < 2 ^ 31)
    (hgl : ∀ g ∈ gl, g.pitch < w ∧ g.s < g.e ∧ (g.e : Int) ≤ numRows R c.fps total)
    (hsep : ∀ a ∈ gl, ∀ b ∈ gl, a.pitch = b.pitch → (a.s = b.s ∧ a.e = b.e) ∨ a.e < b.s ∨ b.e < a.s)
    (pr : Pianoroll)
    (henc : encode R R32 Gen.SNAP_EPS c total
      (gl.map fun g => toPNote (emitNote R (R (1 / d.fps)) d.minMidiPitch g)) ccs = .ok pr) :
    ∃ ems : List Emit,
      decode R Rv d (toBoolRoll pr.active) none none none =
        .ok (ems.map (emitNote R (R (1 / d.fps)) d.minMidiPitch),
             R ((((toBoolRoll pr.active).length + 1 : Nat) : Rat) * R (1 / d.fps))) ∧
      ems.Pairwise emitLt ∧
      ∀ e : Emit, e ∈ ems ↔
        e.vel = d.velocity ∧ ∃ g ∈ gl, g.pitch = e.pitch ∧ g.s = e.s ∧ g.e = e.e :=
  roll_roundtrip_notes_float_anyblank hR R32 Rv d c gl total ccs w hfps hw hmin hc1 hc2 hc3 hc4 hc5 hc7 hrows hrows' hgl hsep
    pr henc

theorem rat_ceil_eq (y : Rat) : y.ceil = ⌈y⌉ := by
  rw [Rat.ceil_eq_neg_floor_neg]; rfl

/-- **keepR_reported** (every `R`): a run `[s, e)` is kept iff `min_duration_ms ≤ R (R (end − start) · 1000)` where
`start`, `end` are the times of the note the decoder reports for that run (`emitNote`). -/
theorem keepR_reported (R : Rat → Rat) (fls minDur : Rat) (mp : Int) (em : Emit) :
    keepR R fls minDur em.s em.e = true ↔
      minDur ≤ R (R ((emitNote R fls mp em).end_ - (emitNote R fls mp em).start) * 1000) := by
  simp [keepR, emitNote]

/-- `frames_from_times` in exact arithmetic, as one expression of the two frame positions -/
theorem framesFromTimes_id (eps fps occ s e : Rat) :
    framesFromTimes id eps fps occ s e =
      (let xs := timeToFrames id eps fps s
       let xe := timeToFrames id eps fps e
       let sf := if 0 < occ ∧ ((truncR xs + 1 : Int) : Rat) - xs < occ then truncR xs + 1 else truncR xs
       (sf, max (sf + 1) (if 0 < occ ∧ xe - (sf : Rat) - 1 < occ then xe.ceil - 1 else xe.ceil))) := by
  rfl

/-- **occ_first_frame** (`R = id`, threshold `> 0`, start position `≥ 0`): the first labelled frame is
`⌊xs⌋` iff the share `⌊xs⌋ + 1 − xs` of that frame after the start reaches the threshold, else `⌊xs⌋ + 1`. -/
theorem occ_first_frame (eps fps occ s e : Rat) (hocc : 0 < occ) (hs0 : 0 ≤ timeToFrames id eps fps s) :
    (framesFromTimes id eps fps occ s e).1 =
      if ((⌊timeToFrames id eps fps s⌋ : Int) : Rat) + 1 - timeToFrames id eps fps s < occ
      then ⌊timeToFrames id eps fps s⌋ + 1 else ⌊timeToFrames id eps fps s⌋ := by
  rw [framesFromTimes_id]
  have ht : truncR (timeToFrames id eps fps s) = ⌊timeToFrames id eps fps s⌋ := by
    unfold truncR; rw [if_pos hs0]; rfl
  simp only [ht, hocc, true_and]
  push_cast
  rfl

/-- **occ_last_frame_adjacent** (`R = id`, threshold `> 0`): when the note's last frame `⌈xe⌉ − 1` is the frame right
after its first labelled frame `sf`, that last frame is labelled iff the share `xe − (sf + 1)` of it the note covers
reaches the threshold. -/
theorem occ_last_frame_adjacent (eps fps occ s e : Rat) (hocc : 0 < occ) (sf : Int)
    (hsf : (framesFromTimes id eps fps occ s e).1 = sf)
    (hadj : ⌈timeToFrames id eps fps e⌉ = sf + 2) :
    (framesFromTimes id eps fps occ s e).2 =
      if timeToFrames id eps fps e - ((sf : Rat) + 1) < occ then sf + 1 else sf + 2 := by
  rw [framesFromTimes_id] at hsf ⊢
  simp only at hsf ⊢
  rw [hsf, rat_ceil_eq, hadj]
  simp only [hocc, true_and]
  have : timeToFrames id eps fps e - (sf : Rat) - 1 = timeToFrames id eps fps e - ((sf : Rat) + 1) := by ring
  rw [this]
  split <;> omega

/-- **occ_last_frame_far** (`R = id`, threshold `≤ 1`): when the last frame lies further than one frame after the
first labelled frame, it is labelled whatever share of it the note covers (`end_frames − start_frame − 1 > 1`). -/
theorem occ_last_frame_far (eps fps occ s e : Rat) (hocc1 : occ ≤ 1) (sf : Int)
    (hsf : (framesFromTimes id eps fps occ s e).1 = sf)
    (hfar : sf + 2 < ⌈timeToFrames id eps fps e⌉) :
    (framesFromTimes id eps fps occ s e).2 = ⌈timeToFrames id eps fps e⌉ := by
  rw [framesFromTimes_id] at hsf ⊢
  simp only at hsf ⊢
  rw [hsf, rat_ceil_eq]
  have hx : ((sf + 2 : Int) : Rat) < timeToFrames id eps fps e := Int.lt_ceil.mp hfar
  push_cast at hx
  have hn : ¬ (0 < occ ∧ timeToFrames id eps fps e - (sf : Rat) - 1 < occ) := by
    rintro ⟨_, h⟩; linarith
  rw [if_neg hn]
  omega

/-- **occ_three_frames** (`R = id`): a note that starts at the share `fs` of frame `a` with less than the threshold
left of it (`1 − fs < occ`), fills frame `a + 1` and ends at the share `fe ∈ (0, 1)` of frame `a + 2` is labelled in
frame `a + 1`, and in frame `a + 2` iff `fe ≥ occ`; frame `a` is not labelled. -/
theorem occ_three_frames (eps fps occ s e : Rat) (a : Nat) (fs fe : Rat) (hocc : 0 < occ)
    (hfs0 : 0 ≤ fs) (hfs1 : fs < 1) (hskip : 1 - fs < occ) (hfe0 : 0 < fe) (hfe1 : fe < 1)
    (hs : timeToFrames id eps fps s = (a : Rat) + fs) (he : timeToFrames id eps fps e = (a : Rat) + 2 + fe) :
    framesFromTimes id eps fps occ s e = ((a : Int) + 1, if fe < occ then (a : Int) + 2 else (a : Int) + 3) := by
  have hfl : ⌊timeToFrames id eps fps s⌋ = (a : Int) := by
    rw [hs]; exact Int.floor_eq_iff.mpr ⟨by push_cast; linarith, by push_cast; linarith⟩
  have hs0 : 0 ≤ timeToFrames id eps fps s := by rw [hs]; linarith
  have h1 : (framesFromTimes id eps fps occ s e).1 = (a : Int) + 1 := by
    rw [occ_first_frame eps fps occ s e hocc hs0, hfl, hs]
    have : (((a : Int) : Rat)) + 1 - ((a : Rat) + fs) < occ := by push_cast; linarith
    rw [if_pos this]
  have hce : ⌈timeToFrames id eps fps e⌉ = (a : Int) + 1 + 2 := by
    rw [he]; exact Int.ceil_eq_iff.mpr ⟨by push_cast; linarith, by push_cast; linarith⟩
  have h2 := occ_last_frame_adjacent eps fps occ s e hocc _ h1 hce
  rw [he] at h2
  have hcond : ((a : Rat) + 2 + fe - ((((a : Int) + 1 : Int) : Rat) + 1) < occ) ↔ fe < occ := by
    push_cast; constructor <;> intro h <;> linarith
  ext
  · exact h1
  · rw [h2]
    by_cases hf : fe < occ
    · rw [if_pos (hcond.mpr hf), if_pos hf]; show (a : Int) + 1 + 1 = (a : Int) + 2; omega
    · rw [if_neg (fun h => hf (hcond.mp h)), if_neg hf]; show (a : Int) + 1 + 2 = (a : Int) + 3; omega

/-! ## non-vacuity (kernel-evaluated instances) -/

-- keepR_reported: the 35-frame run [1, 36) at 100 fps is reported as 0.01 .. 0.36 (binary64), whose duration
-- evaluates to exactly 350.0 ms: kept with min_duration_ms = 350, although 36·0.01 − 1·0.01 ≥ 350·10⁻³ fails in binary64
example : keepR rne53 (rne53 (1 / 100)) 350 1 36 = true ∧
    decide (rne53 (350 * rne53 (1 / 1000)) ≤
      rne53 (rne53 ((36 : Rat) * rne53 (1 / 100)) - rne53 ((1 : Rat) * rne53 (1 / 100)))) = false := by
  decide +kernel
-- occ_three_frames at 16 fps, threshold 1/2: the note 6.75/16 .. 8.25/16 s gets frame 7 only, 6.75/16 .. 8.625/16 s
-- frames 7 and 8 (the two corpus cases of seed C18-12)
example : framesFromTimes id Gen.SNAP_EPS 16 (1 / 2) (27 / 64) (33 / 64) = (7, 8) ∧
    framesFromTimes id Gen.SNAP_EPS 16 (1 / 2) (27 / 64) (69 / 128) = (7, 9) := by decide +kernel
-- occ_last_frame_far: 6.0/16 .. 8.125/16 s keeps frame 8 although only 1/8 of it is covered (threshold 1/2)
example : framesFromTimes id Gen.SNAP_EPS 16 (1 / 2) (6 / 16) (65 / 128) = (6, 9) := by decide +kernel

-- keepR_float_kept / keepR_float_dropped: their hypotheses hold for 3 frames resp. 1 frame against 20 ms at 100 fps
example : (0 : Rat) ≤ (((4 : Nat) : Rat) - (1 : Nat)) - (((4 : Nat) : Rat) + (1 : Nat)) * u53 ∧
    (20 : Rat) ≤ (1 - u53) ^ 3 * ((((4 : Nat) : Rat) - (1 : Nat)) - (((4 : Nat) : Rat) + (1 : Nat)) * u53) * (1000 / 100) := by
  unfold u53; norm_num
example : (1 + u53) ^ 3 * ((((2 : Nat) : Rat) - (1 : Nat)) + (((2 : Nat) : Rat) + (1 : Nat)) * u53) * (1000 / 100) < (20 : Rat) := by
  unfold u53; norm_num
-- Rounding is inhabited (exact arithmetic)
example : Rounding id := rounding_id

end NSV.C18

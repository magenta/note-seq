import NoteSeqVerif.Proofs.C10
/-! # C10 — transposing the RESULT of a transposition

`transpose_ns_compose`: transposing by `j` and then by `k` is transposing by `j + k` — the same notes are kept and
deleted, every pitched note ends `j + k` higher, drums are untouched, every key signature is `(key + j + k) mod 12`,
`total_time` is the same, chord symbols removed once stay removed — provided the first step deletes nothing (otherwise
a note deleted by the first step could have come back into range after the second, which no composition law can repair).
The theorem is stated for `transpose_chords = False`, where the text loop is a filter.  With chords the two-step and
the one-step figure agree in root, bass and pitch classes (`transpose_symbol_hom` of Props/C10.lean applied twice, given
that the splitter re-reads the intermediate figure) but not as strings — C♯ by `+1` then `−1` is D♭ — so there is no
equation of sequences to state. -/
namespace NSV.C10

theorem keepNote_moveNote (j k mn mx : Int) (n : Note) :
    keepNote k mn mx (moveNote j n) = keepNote (j + k) mn mx n := by
  unfold keepNote moveNote
  cases h : n.isDrum <;> simp [h, Int.add_assoc]

theorem moveNote_moveNote (j k : Int) (n : Note) : moveNote k (moveNote j n) = moveNote (j + k) n := by
  unfold moveNote
  cases h : n.isDrum <;> simp [h, Int.add_assoc]

theorem transposeKey_transposeKey (j k : Int) (ks : KeySig) :
    transposeKey k (transposeKey j ks) = transposeKey (j + k) ks := by
  unfold transposeKey
  simp only [fmod12, KeySig.mk.injEq, true_and, and_true]
  omega

/-- **transposition composes**: if the first step (by `j`) deletes no note, then transposing its result by `k` gives
exactly what one transposition by `j + k` gives — sequence and deleted-note count (`transpose_chords = False`:
with chords there is no equation of sequences, see the header). -/
theorem transpose_ns_compose (split : String → Except Err Sym) (s : NoteSeq) (j k mn mx : Int)
    (h1 : ∀ n ∈ s.notes, keepNote j mn mx n = true) :
    (transposeNS split s j mn mx false).bind (fun r => transposeNS split r.1 k mn mx false) =
      transposeNS split s (j + k) mn mx false := by
  have hk : s.notes.filter (keepNote j mn mx) = s.notes := List.filter_eq_self.mpr h1
  have hd : s.notes.filter (fun n => !keepNote j mn mx n) = [] :=
    List.filter_eq_nil_iff.mpr (by intro n hn; simp [h1 n hn])
  simp only [transposeNS, noteLoop_eq, List.nil_append, Nat.zero_add, Bool.false_eq_true, if_false, hk, hd,
    Except.bind, List.length_nil, List.filter_map, Function.comp_def, keepNote_moveNote, List.length_map,
    List.foldl_map, maxEnd, moveNote_end, List.map_map, List.filter_filter, Bool.and_self]
  congr 2
  · congr 1
    · apply List.map_congr_left; intro n _; exact moveNote_moveNote j k n
    · apply List.map_congr_left; intro ks _; exact transposeKey_transposeKey j k ks

-- non-vacuity: two pitched notes, a drum note and a key signature through two steps; the second step deletes one note
def cmpNote (p : Int) (drum : Bool) : Note :=
  { pitch := p, velocity := 90, start := 0, end_ := 1, qs := 0, qe := 0, instrument := 0, program := 0, isDrum := drum
    numerator := 0, denominator := 0, voice := 0, part := 0, pitchName := 3 }
def cmpSeq : NoteSeq := { notes := [cmpNote 60 false, cmpNote 126 false, cmpNote 38 true], keySigs := [⟨0, 11, 0⟩], totalTime := 9 }

example : (∀ n ∈ cmpSeq.notes, keepNote 1 0 127 n = true) ∧
    ((transposeNS (fun _ => .error .valueError) cmpSeq 1 0 127 false).bind
        (fun r => transposeNS (fun _ => .error .valueError) r.1 2 0 127 false)).toOption.map
      (fun r => (r.1.notes.map (·.pitch), r.1.keySigs.map (·.key), r.1.totalTime, r.2)) =
      some ([63, 38], [2], 1, 1) := by
  decide +kernel

end NSV.C10

import NoteSeqVerif.Props.C06P
import NoteSeqVerif.Proofs.C06PFloat
/-! C06 (performance half) — the round trips: render → quantize at the same resolution → extract is the identity on
every canonical event list of `Performance`, `MetricPerformance` and `NotePerformance`, for every `Rounding` operator
(`rne53` = IEEE binary64 included), no size bound other than steps `< 2^40`.  The float half (`Proofs/C06Float.lean`)
enters through the `Grid` interface (`Proofs/C06PGrid.lean`, instantiated in `Proofs/C06PFloat.lean`); the discrete half
and the canonical predicates' meaning are core Lean (`Props/C06P.lean` and below). -/
namespace NSV.C06P
open NSV.C06 NSV.C07

/-- **roundtrip_NotePerformance**: for every canonical tuple list (`CanonicalNotePerf`: shift in
`0..max_shift_steps`, duration in `1..max_duration_steps`, pitch in `0..127`, bin in `1..127`, tuples of one step in
pitch order), every bin count `1..127`, every `steps_per_second ≥ 1`, every start step `≥ 0` (all steps below
`2^40`), every rounding operator satisfying `Rounding` (in particular IEEE binary64):
`NotePerformance.to_sequence` → `quantize_note_sequence_absolute` at the same rate → `NotePerformance(…)` returns
exactly the same tuples, start step, resolution and bin count. -/
theorem roundtrip_NotePerformance {R : ℚ → ℚ} (hR : Rounding R) (p : NotePerfObj) (inst : Int) (prog : Option Int)
    (ms md : Int) (filt : Option Int)
    (hcanon : CanonicalNotePerf ms md p.events)
    (hnb1 : 1 ≤ p.nb) (hnb2 : p.nb ≤ 127) (hsps : 0 < p.stepsPerSecond) (hS : 0 ≤ p.startStep)
    (hfilt : filt = none ∨ filt = some inst)
    (hbound : p.startStep + npSpan p.events < 2 ^ 40) :
    ∃ r, rtNotePerfR R p inst prog ms md filt = .ok r ∧ r.events = p.events ∧ r.startStep = p.startStep ∧
      r.stepsPerSecond = p.stepsPerSecond ∧ r.numVelocityBins = p.nb := by
  unfold CanonicalNotePerf CanonicalNotePerfB at hcanon
  simp only [Bool.and_eq_true, List.all_eq_true] at hcanon
  obtain ⟨hok, hord⟩ := hcanon
  let σ := secPerStepAbsR R p.stepsPerSecond
  let c : RenderCfg := ⟨σ, seqStartR R σ p.startStep, none, inst, resolveProgram prog p.program, resolveDrum p.isDrum⟩
  let rs := npSpec p.nb 0 p.events
  have hne : ¬ p.stepsPerSecond = 0 := by omega
  have hrender : notePerfToSequenceR R p inst prog = .ok (renderedSeq (rs.map (mkNote R c))) := by
    simp only [notePerfToSequenceR, hne, ↓reduceIte, notePerfNotes_ok p.nb (by omega)]
    rfl
  have hspan := npSpan_nonneg ms md p.events hok
  let B := npSpan p.events + 1
  have g := grid_abs hR p.stepsPerSecond p.startStep B hsps hS (by omega)
  have hin : ∀ r ∈ rs, r.inB B := by
    intro r hr
    have := npSpec_bounds p.nb ms md p.events 0 hok r hr
    exact ⟨by omega, by omega, by omega⟩
  obtain ⟨q, hq, hqn, hqsps, _⟩ := quantizeAbs_grid (R := R) (c := c) C01.Gen.QUANTIZE_CUTOFF p.stepsPerSecond
    (renderedSeq _) rs rfl rfl rfl g hS rfl hin
  have hsel : selectNotes q p.startStep filt = q.notes := by
    refine selectNotes_qnote (R := R) (c := c) (B := B) q filt hfilt fun n hn => ?_
    obtain ⟨r, hr, rfl⟩ := List.mem_map.mp (hqn ▸ hn)
    exact ⟨r, hin r hr, rfl⟩
  have hsorted : sortedNotes q p.startStep filt = q.notes := by
    unfold sortedNotes
    rw [hsel, hqn]
    apply List.mergeSort_of_pairwise
    rw [List.pairwise_map]
    refine (npSpec_sorted p.nb ms md p.events 0 hok hord).imp_of_mem ?_
    intro a b ha hb hab
    rw [timePitchLe_qnote g a b (hin a ha) (hin b hb)]
    exact hab
  have hloop := notePerfLoop_roundtrip (R := R) c p.startStep p.nb ms md hnb1 p.events 0 hok
  rw [Int.add_zero] at hloop
  change notePerfLoop p.nb ms md p.startStep (List.map (qnote R c p.startStep) rs) = _ at hloop
  refine ⟨⟨p.events, p.startStep, p.nb, (programAndIsDrum q filt).1, (programAndIsDrum q filt).2, q.sps⟩,
    rt_ok hrender hq ?_, rfl, rfl, hqsps, rfl⟩
  unfold notePerfFromQuantized
  have hnbv : ¬ p.nb > C07.Gen.MAX_NUM_VELOCITY_BINS := by simp only [C07.Gen.MAX_NUM_VELOCITY_BINS]; omega
  have hqpos : 0 < q.sps := by rw [hqsps]; exact hsps
  simp only [hnbv, ↓reduceIte, hqpos, not_true_eq_false, hsorted, hqn, hloop]

example : ∃ r, rtNotePerfR rne53 exNP 0 none 1000 1000 none = .ok r ∧ r.events = exNP.events ∧ r.startStep = 7 ∧
    r.stepsPerSecond = 100 ∧ r.numVelocityBins = 8 :=
  roundtrip_NotePerformance rounding_rne53 exNP 0 none 1000 1000 none (by decide) (by decide) (by decide) (by decide)
    (by decide) (Or.inl rfl) (by decide)

/-- the round trip of the `Performance` object `p` (absolute quantization) returns the event list `evs`, and `p`'s
start step, resolution, bin count and maximal shift -/
def RoundtripPerfTo (R : ℚ → ℚ) (p : PerfObj) (a : SeqArgs) (filt : Option Int) (evs : List PEvent) : Prop :=
  ∃ r, rtPerfR R p a filt = .ok r ∧ r.events = evs ∧ r.startStep = p.startStep ∧
    r.stepsPer = p.stepsPer ∧ r.numVelocityBins = p.nb ∧ r.maxShiftSteps = p.maxShift

/-- … of the `MetricPerformance` object `p` at tempo `qpm` (`max_shift_steps = spq · max_shift_quarters`) -/
def RoundtripMetricTo (R : ℚ → ℚ) (p : PerfObj) (a : SeqArgs) (qpm : ℚ) (msq : Int) (filt : Option Int)
    (evs : List PEvent) : Prop :=
  ∃ r, rtMetricR R p a qpm msq filt = .ok r ∧ r.events = evs ∧ r.startStep = p.startStep ∧
    r.stepsPer = p.stepsPer ∧ r.numVelocityBins = p.nb ∧ r.maxShiftSteps = p.maxShift

/-- the statement of the property for one object: the round trip is the identity -/
def RoundtripPerf (R : ℚ → ℚ) (p : PerfObj) (a : SeqArgs) (filt : Option Int) : Prop :=
  RoundtripPerfTo R p a filt p.events

def RoundtripMetric (R : ℚ → ℚ) (p : PerfObj) (a : SeqArgs) (qpm : ℚ) (msq : Int) (filt : Option Int) : Prop :=
  RoundtripMetricTo R p a qpm msq filt p.events

/-- the configurations of the quantifier: bins `0..127`, a positive resolution, a non-negative start step, no
`max_note_duration`, re-extraction of the rendered instrument (or of all), all steps below `2^40` -/
structure PerfDomain (p : PerfObj) (a : SeqArgs) (filt : Option Int) : Prop where
  nb0 : 0 ≤ p.nb
  nb1 : p.nb ≤ 127
  res : 0 < p.stepsPer
  start : 0 ≤ p.startStep
  noCut : a.maxDur = none
  filt : filt = none ∨ filt = some a.instrument
  bound : p.startStep + shiftSum p.events < 2 ^ 40

/-- the `Performance` round trip from its discrete half: `seconds_per_step = 1.0 / steps_per_second` against
`quantize_note_sequence_absolute` is a grid (`grid_abs`) -/
theorem roundtripPerfTo_of_half {R : ℚ → ℚ} (hR : Rounding R) (p : PerfObj) (a : SeqArgs) (filt : Option Int)
    (evs : List PEvent)
    (hd : PerfDomain ⟨evs, p.startStep, p.nb, p.maxShift, p.stepsPer, p.program, p.isDrum⟩ a filt)
    (hhalf : DiscreteHalf R (secPerStepAbsR R p.stepsPer) p a filt evs) : RoundtripPerfTo R p a filt evs := by
  obtain ⟨_, hnb1, hsps, hS, hmd, _, hbound⟩ := hd
  simp only at hnb1 hsps hS hbound
  have g := grid_abs hR p.stepsPer p.startStep (shiftSum evs + 1) hsps hS (by omega)
  obtain ⟨D, hD, hin, hext⟩ := hhalf _ g
  obtain ⟨q, hq, hqn, hqsps, _⟩ := quantizeAbs_grid (R := R) (c := renderCfg R (secPerStepAbsR R p.stepsPer) p a)
    C01.Gen.QUANTIZE_CUTOFF p.stepsPer (renderedSeq _) D rfl rfl rfl g hS rfl hin
  refine ⟨⟨evs, p.startStep, p.nb, p.maxShift, (programAndIsDrum q filt).1, (programAndIsDrum q filt).2, q.sps⟩,
    rt_ok ?_ hq ?_, rfl, rfl, hqsps, rfl, rfl⟩
  · simp only [perfToSequenceR, show ¬ p.stepsPer = 0 by omega, ↓reduceIte]
    exact toSequenceCore_ok R _ p a D hD hmd
  · unfold perfFromQuantized
    have hnbv : ¬ p.nb > C07.Gen.MAX_NUM_VELOCITY_BINS := by simp only [C07.Gen.MAX_NUM_VELOCITY_BINS]; omega
    have hqpos : 0 < q.sps := by rw [hqsps]; exact hsps
    simp only [hqpos, not_true_eq_false, ↓reduceIte, hext q hqn, hnbv]

/-- … the `MetricPerformance` round trip at tempo `qpm`: `60.0 / (steps_per_quarter * qpm)` against
`quantize_note_sequence` (`grid_metric`) -/
theorem roundtripMetricTo_of_half {R : ℚ → ℚ} (hR : Rounding R) (p : PerfObj) (a : SeqArgs) (qpm : ℚ) (msq : Int)
    (filt : Option Int) (evs : List PEvent)
    (hd : PerfDomain ⟨evs, p.startStep, p.nb, p.maxShift, p.stepsPer, p.program, p.isDrum⟩ a filt)
    (hqpm : 0 < qpm) (hms : p.maxShift = p.stepsPer * msq)
    (hhalf : DiscreteHalf R (secPerStepMetricR R qpm p.stepsPer) p a filt evs) :
    RoundtripMetricTo R p a qpm msq filt evs := by
  obtain ⟨_, hnb1, hspq, hS, hmd, _, hbound⟩ := hd
  simp only at hnb1 hspq hS hbound
  have g := grid_metric hR qpm p.stepsPer p.startStep (shiftSum evs + 1) hqpm hspq hS (by omega)
  obtain ⟨D, hD, hin, hext⟩ := hhalf _ g
  have hpos : (0 : ℚ) < (p.stepsPer : ℚ) * qpm := by
    have : (0 : ℚ) < p.stepsPer := by exact_mod_cast hspq
    positivity
  -- a positive product does not round to zero, so `60.0 / (spq * qpm)` does not raise
  have hne : ¬ R ((p.stepsPer : ℚ) * qpm) = 0 := (hR.relErr.pos (by norm_num) hpos).ne'
  obtain ⟨q, hq, hqn, _, hqspq⟩ := quantizeRel_grid (R := R)
    (c := renderCfg R (secPerStepMetricR R qpm p.stepsPer) p a) C01.Gen.QUANTIZE_CUTOFF C01.Gen.DEFAULT_QPM qpm
    p.stepsPer { renderedSeq _ with tempos := [⟨0, qpm⟩] } D rfl rfl rfl rfl rfl g hS rfl hin
  have hev := hext q hqn
  rw [hms] at hev
  refine ⟨⟨evs, p.startStep, p.nb, q.spq * msq, (programAndIsDrum q filt).1, (programAndIsDrum q filt).2, q.spq⟩,
    rt_ok ?_ hq ?_, rfl, rfl, hqspq, rfl, by rw [hqspq, hms]⟩
  · simp only [metricToSequenceR, hne, ↓reduceIte, toSequenceCore_ok R _ p a D hD hmd]
  · unfold metricPerfFromQuantized
    have hnbv : ¬ p.nb > C07.Gen.MAX_NUM_VELOCITY_BINS := by simp only [C07.Gen.MAX_NUM_VELOCITY_BINS]; omega
    simp only [hqspq, hspq, not_true_eq_false, ↓reduceIte, hev, hnbv]

/-- **roundtrip_Performance_normal** (strictly canonical lists are normal forms): if `p` renders to the same notes as a
strictly canonical event list `evs` (`CanonicalPerf`), in any storage order, the round trip of `p` returns `evs`;
`p.events` itself need not be canonical. -/
theorem roundtrip_Performance_normal {R : ℚ → ℚ} (hR : Rounding R) (p : PerfObj) (a : SeqArgs)
    (filt : Option Int) (evs : List PEvent) (hcanon : CanonicalPerf p.nb p.maxShift evs)
    (hd : PerfDomain ⟨evs, p.startStep, p.nb, p.maxShift, p.stepsPer, p.program, p.isDrum⟩ a filt)
    (hsame : SameNotes p a evs) : RoundtripPerfTo R p a filt evs :=
  roundtripPerfTo_of_half hR p a filt evs hd (discreteHalf_of_sameNotes _ hcanon hd.nb0 hd.filt hsame)

/-- **roundtrip_MetricPerformance_normal**: the same for `MetricPerformance` at any tempo `qpm > 0` (any rational,
hence any double) and any `steps_per_quarter ≥ 1`: `to_sequence(qpm)` → `quantize_note_sequence` →
`MetricPerformance(quantized_sequence=…, max_shift_quarters)` with `max_shift_steps = spq · max_shift_quarters`. -/
theorem roundtrip_MetricPerformance_normal {R : ℚ → ℚ} (hR : Rounding R) (p : PerfObj) (a : SeqArgs) (qpm : ℚ)
    (msq : Int) (filt : Option Int) (evs : List PEvent) (hcanon : CanonicalPerf p.nb p.maxShift evs)
    (hd : PerfDomain ⟨evs, p.startStep, p.nb, p.maxShift, p.stepsPer, p.program, p.isDrum⟩ a filt)
    (hqpm : 0 < qpm) (hms : p.maxShift = p.stepsPer * msq) (hsame : SameNotes p a evs) :
    RoundtripMetricTo R p a qpm msq filt evs :=
  roundtripMetricTo_of_half hR p a qpm msq filt evs hd hqpm hms
    (discreteHalf_of_sameNotes _ hcanon hd.nb0 hd.filt hsame)

/-- **roundtrip_Performance** — the property at full strength for `Performance`: for every canonical event list
(`CanonicalPerfFull`: laid out as the extractor lays out its stream; every NOTE_OFF ends an earlier NOTE_ON of its
pitch, FIFO; events in the extractor's `(step, note, on-before-off)` order; NOTE_ONs in `(step, pitch)` order, several
of one pitch may share a step), every bin count `0..127`, every `max_shift_steps ≥ 1`, every `steps_per_second ≥ 1`,
every start step `≥ 0` (steps below `2^40`) and every rounding operator satisfying `Rounding` (IEEE binary64 included):
`Performance.to_sequence` without `max_note_duration` → `quantize_note_sequence_absolute` →
`Performance(quantized_sequence=…)` returns exactly the same events, start step, resolution, bin count and maximal
shift.  Notes of one pitch MAY overlap. -/
theorem roundtrip_Performance {R : ℚ → ℚ} (hR : Rounding R) (p : PerfObj) (a : SeqArgs) (filt : Option Int)
    (hcanon : CanonicalPerfFull p.nb p.maxShift p.events) (hd : PerfDomain p a filt) : RoundtripPerf R p a filt :=
  roundtripPerfTo_of_half hR p a filt p.events hd (discreteHalf_full _ hcanon hd.nb0 hd.filt)

/-- **roundtrip_MetricPerformance** — the property at full strength for `MetricPerformance`, at every tempo
`qpm > 0` and every `steps_per_quarter ≥ 1` -/
theorem roundtrip_MetricPerformance {R : ℚ → ℚ} (hR : Rounding R) (p : PerfObj) (a : SeqArgs) (qpm : ℚ)
    (msq : Int) (filt : Option Int) (hcanon : CanonicalPerfFull p.nb p.maxShift p.events) (hd : PerfDomain p a filt)
    (hqpm : 0 < qpm) (hms : p.maxShift = p.stepsPer * msq) : RoundtripMetric R p a qpm msq filt :=
  roundtripMetricTo_of_half hR p a qpm msq filt p.events hd hqpm hms (discreteHalf_full _ hcanon hd.nb0 hd.filt)

/-- **roundtrip_Performance_partial**: the property for the strictly canonical lists (`CanonicalPerf`: no two NOTE_ONs of
one pitch on one step; notes of one pitch may still overlap) — the special case of `roundtrip_Performance` -/
theorem roundtrip_Performance_partial {R : ℚ → ℚ} (hR : Rounding R) (p : PerfObj) (a : SeqArgs)
    (filt : Option Int) (hcanon : CanonicalPerf p.nb p.maxShift p.events) (hd : PerfDomain p a filt) :
    RoundtripPerf R p a filt :=
  roundtrip_Performance hR p a filt (canonicalFull_of_canonical _ _ _ hcanon) hd

/-- **roundtrip_MetricPerformance_partial**: … of `roundtrip_MetricPerformance` -/
theorem roundtrip_MetricPerformance_partial {R : ℚ → ℚ} (hR : Rounding R) (p : PerfObj) (a : SeqArgs) (qpm : ℚ)
    (msq : Int) (filt : Option Int) (hcanon : CanonicalPerf p.nb p.maxShift p.events) (hd : PerfDomain p a filt)
    (hqpm : 0 < qpm) (hms : p.maxShift = p.stepsPer * msq) : RoundtripMetric R p a qpm msq filt :=
  roundtrip_MetricPerformance hR p a qpm msq filt (canonicalFull_of_canonical _ _ _ hcanon) hd hqpm hms

example : PerfDomain ⟨exEvents, 12, 8, 3, 31, none, none⟩ ⟨100, 0, none, none⟩ none :=
  ⟨by decide, by decide, by decide, by decide, rfl, Or.inl rfl, by decide⟩
example : RoundtripPerf rne53 ⟨exEvents, 12, 8, 3, 31, none, none⟩ ⟨100, 0, none, none⟩ none :=
  roundtrip_Performance_partial rounding_rne53 _ _ _ (by decide)
    ⟨by decide, by decide, by decide, by decide, rfl, Or.inl rfl, by decide⟩
example : RoundtripMetric rne53 ⟨exEvents, 12, 8, 3, 3, none, none⟩ ⟨100, 0, none, none⟩ (rne53 (100 / 3)) 1 none :=
  roundtrip_MetricPerformance_partial rounding_rne53 _ _ _ 1 _ (by decide)
    ⟨by decide, by decide, by decide, by decide, rfl, Or.inl rfl, by decide⟩ (by decide +kernel) rfl

/-- … and the round trip returns a different list: the canonical list with the same notes (the last two NOTE_OFFs
swapped), by `roundtrip_Performance_normal` -/
example : RoundtripPerfTo rne53 ⟨exOverlapEvents, 0, 0, 100, 10, none, none⟩ ⟨100, 0, none, none⟩ none exOverlapFifo ∧
    exOverlapFifo ≠ exOverlapEvents :=
  ⟨roundtrip_Performance_normal rounding_rne53 _ _ _ exOverlapFifo (by decide)
    ⟨by decide, by decide, by decide, by decide, rfl, Or.inl rfl, by decide⟩
    ⟨[⟨60, 0, 4, 100⟩, ⟨62, 1, 8, 100⟩, ⟨60, 2, 8, 100⟩], [⟨60, 0, 4, 100⟩, ⟨60, 2, 8, 100⟩, ⟨62, 1, 8, 100⟩],
      by decide, by decide, by decide⟩, by decide⟩

example : RoundtripPerf rne53 ⟨[.velocity 1, .noteOn 60, .velocity 2, .noteOn 60, .timeShift 2, .noteOff 60,
    .timeShift 1, .noteOff 60], 0, 4, 100, 100, none, none⟩ ⟨100, 0, none, none⟩ none :=
  roundtrip_Performance rounding_rne53 _ _ _ (by decide)
    ⟨by decide, by decide, by decide, by decide, rfl, Or.inl rfl, by decide⟩

end NSV.C06P

import NoteSeqVerif.Proofs.C04_events
import NoteSeqVerif.Proofs.C04_repeatsG
import Mathlib.Tactic.NormNum
/-! C04 — what `expand_section_groups` does to the NON-NOTE containers of a tune (tempos, time and key
signatures, text annotations, section annotations), per section copy.  Exact arithmetic (`R = id`).

`expandAll` (`Model/C04Full.lean`) is `expand_section_groups` assembled from property C02's model of
`extract_subsequence` and property C13's model of the section table and `concatenate_sequences` (each is
tied to the code by its own property's correspondence, and `expandAll` by C04's: every container of the
real expansion is compared on every run).

`copiesOf bs T 0 play`: the plays of the sections in playing order — id, section start `s`, section end
`e` (next annotation, `total_time` for the last) and the offset `off` = the summed section lengths of
the plays before it.  `C02.specState … evs s e` is C02's closed form of a state container of the piece
`[s, e)`: the event in force at `s` (the last one at or before `s` in stable time order) re-emitted at
time 0, then the events strictly inside `(s, e)` shifted by `-s`. -/
namespace NSV.C04

/-- For every tune whose section annotations are those of well-formed blocks (increasing starts below
the total time — as those of a parsed ABC tune are under the hypotheses of `abc_expand_events_parsed`)
with section groups whose ids are in range:
`expand_section_groups` succeeds, and in the result
* there is one section annotation per play, `(offset, id)`, in playing order;
* every event of a section appears once per play of that section, shifted by that play's offset:
  tempos, time signatures and key signatures are, play by play, the events strictly inside the section
  plus the one in force at its start re-emitted at the play's start — then `remove_redundant_data` drops
  an event that repeats the value of its predecessor in time order (`C13.redTempos` etc.);
* text annotations likewise for chord symbols (with the carried chord) and beats, nothing removed;
  annotations of any other type are dropped (that is what `extract_subsequence` does);
* the notes are the section's notes (C02's `specNotes`: start in `[s, e)`, end clipped to `e`,
  shifted by `-s`) shifted by the play's offset. -/
theorem abc_expand_events (t : Tune) (bs : List Block) (hsec : t.sections = blockSections bs 0)
    (hwf : BlocksWF bs t.totalTime) (hne : t.groups ≠ []) (hids : ∀ g ∈ t.groups, 0 ≤ g.1 ∧ g.1 < bs.length) :
    ∃ r, expandAll id t = .ok r ∧
      r.sectionAnns = (copiesOf bs t.totalTime 0 (playOrder t.groups)).map (fun c => ⟨c.off, c.id⟩) ∧
      r.tempos = C13.redTempos ((copiesOf bs t.totalTime 0 (playOrder t.groups)).flatMap (fun c =>
        (C02.specState id (·.time) C02.Tempo.setTime (toNS t).tempos c.s c.e).map
          (fun e => { e with time := e.time + c.off }))) ∧
      r.timeSigs = C13.redTimeSigs ((copiesOf bs t.totalTime 0 (playOrder t.groups)).flatMap (fun c =>
        (C02.specState id (·.time) C02.TimeSig.setTime (toNS t).timeSigs c.s c.e).map
          (fun e => { e with time := e.time + c.off }))) ∧
      r.keySigs = C13.redKeySigs ((copiesOf bs t.totalTime 0 (playOrder t.groups)).flatMap (fun c =>
        (C02.specState id (·.time) C02.KeySig.setTime (toNS t).keySigs c.s c.e).map
          (fun e => { e with time := e.time + c.off }))) ∧
      r.texts = (copiesOf bs t.totalTime 0 (playOrder t.groups)).flatMap (fun c =>
        (C02.specState id (·.time) C02.TextAnn.setTime (C02.chords (toNS t)) c.s c.e ++
          C02.specBeats id (toNS t) c.s c.e).map (fun e => { e with time := e.time + c.off })) ∧
      r.notes = (copiesOf bs t.totalTime 0 (playOrder t.groups)).flatMap (fun c =>
        (C02.specNotes id (toNS t) c.s c.e).map (fun n => { n with start := n.start + c.off, end_ := n.end_ + c.off })) := by
  have hmem : ∀ i ∈ playOrder t.groups, 0 ≤ i ∧ i < bs.length := forall_playList hids
  unfold expandAll
  rw [if_neg hne]
  have hsa : (toNS t).sectionAnns = (blockSections bs 0).map (fun p => (⟨p.1, p.2⟩ : SectionAnn)) := by
    simp [toNS, hsec]
  rw [hsa, sectionSpans_blocks, buildSections_spans t _ [] (by
    intro sp hsp
    obtain ⟨k, s, ns, hk, rfl⟩ := mem_spansFrom hsp
    obtain ⟨h1, h2⟩ := span_valid hwf k s ns hk
    exact ⟨le_of_lt h1, lt_of_lt_of_le h1 h2⟩)]
  simp only [List.append_nil]
  rw [lookupSections_ok _ _ (entryOf t bs t.totalTime) (fun i hi => find_entry t bs t.totalTime i (hmem i hi).1 (hmem i hi).2)]
  simp only
  by_cases hplay : playOrder t.groups = []
  · rw [hplay]
    refine ⟨_, rfl, ?_⟩
    simp [copiesOf, C13.finishCat, C13.removeRedundant, C13.emptyM, C13.redTempos,
      C13.redTimeSigs, C13.redKeySigs, C13.dropRepeats, sortByRat]
  · have hd : ∀ i ∈ playOrder t.groups, (spanOf bs t.totalTime i).1 ≤ (spanOf bs t.totalTime i).2 :=
      fun i hi => le_of_lt (spanOf_valid hwf i (hmem i hi).1 (hmem i hi).2).1
    obtain ⟨r, hr, hpieces⟩ := concat_entries t bs t.totalTime (playOrder t.groups) hplay hd
    rw [hr]
    refine ⟨_, rfl, ?_⟩
    obtain ⟨c1, c2, _, _, c5, _, c7, c8, c9, _⟩ := C13.concat_spec id _ _ _ r hr
    have hoff := copiesOf_off_nonneg bs t.totalTime (playOrder t.groups) 0 (le_refl _) hd
    rw [hpieces] at c1 c2 c5 c7 c8 c9
    simp only [List.flatMap_map] at c1 c2 c5 c7 c8 c9
    -- every container of a placed piece is the piece's container moved by the offset
    have hpl := fun c (hc : c ∈ copiesOf bs t.totalTime 0 (playOrder t.groups)) =>
      C13.placed_moved c.off (pieceOf t c.id c.s c.e) (hoff c hc)
    refine ⟨?_, ?_, ?_, ?_, ?_, ?_⟩
    · rw [c5, List.map_eq_flatMap]
      apply flatMap_congr'
      intro c hc
      rw [(hpl c hc).sectionAnns]
      simp [pieceOf]
    · rw [c7]
      refine congrArg C13.redTempos ?_
      apply flatMap_congr'
      intro c hc
      rw [(hpl c hc).tempos]
      rfl
    · rw [c8]
      refine congrArg C13.redTimeSigs ?_
      apply flatMap_congr'
      intro c hc
      rw [(hpl c hc).timeSigs]
      rfl
    · rw [c9]
      refine congrArg C13.redKeySigs ?_
      apply flatMap_congr'
      intro c hc
      rw [(hpl c hc).keySigs]
      rfl
    · rw [c2]
      apply flatMap_congr'
      intro c hc
      rw [(hpl c hc).texts]
      rfl
    · rw [c1]
      apply flatMap_congr'
      intro c hc
      rw [(hpl c hc).notes]
      rfl

/-- … in particular for EVERY parsed ABC tune with section groups (positive final durations,
broken-rhythm pairs inside a bar): there are blocks `bs` — its sections — for which the closed forms of
`abc_expand_events` hold. -/
theorem abc_expand_events_parsed (lines : List Line) (tune : Tune) (h : parseTune id lines = .ok tune)
    (hpos : ∀ n ∈ tune.notes, n.start < n.end_) (hbk : brokenOK (flatten lines) = true) (hg : tune.groups ≠ []) :
    ∃ bs r, tune.sections = blockSections bs 0 ∧ expandAll id tune = .ok r ∧
      r.sectionAnns = (copiesOf bs tune.totalTime 0 (playOrder tune.groups)).map (fun c => ⟨c.off, c.id⟩) ∧
      r.tempos = C13.redTempos ((copiesOf bs tune.totalTime 0 (playOrder tune.groups)).flatMap (fun c =>
        (C02.specState id (·.time) C02.Tempo.setTime (toNS tune).tempos c.s c.e).map
          (fun e => { e with time := e.time + c.off }))) ∧
      r.timeSigs = C13.redTimeSigs ((copiesOf bs tune.totalTime 0 (playOrder tune.groups)).flatMap (fun c =>
        (C02.specState id (·.time) C02.TimeSig.setTime (toNS tune).timeSigs c.s c.e).map
          (fun e => { e with time := e.time + c.off }))) ∧
      r.keySigs = C13.redKeySigs ((copiesOf bs tune.totalTime 0 (playOrder tune.groups)).flatMap (fun c =>
        (C02.specState id (·.time) C02.KeySig.setTime (toNS tune).keySigs c.s c.e).map
          (fun e => { e with time := e.time + c.off }))) ∧
      r.texts = (copiesOf bs tune.totalTime 0 (playOrder tune.groups)).flatMap (fun c =>
        (C02.specState id (·.time) C02.TextAnn.setTime (C02.chords (toNS tune)) c.s c.e ++
          C02.specBeats id (toNS tune) c.s c.e).map (fun e => { e with time := e.time + c.off })) := by
  obtain ⟨_, _, _, ⟨h0, _⟩ | ⟨bs, h1, _, h3, _, _, h6, _⟩⟩ := parsed_sectioned lines tune h hpos hbk
  · exact absurd h0 hg
  · obtain ⟨r, hr, a1, a2, a3, a4, a5, _⟩ := abc_expand_events tune bs h1 h3 hg h6
    exact ⟨bs, r, h1, hr, a1, a2, a3, a4, a5⟩

/-- `C |: [Q:1/4=60] D :| E` — a tempo change inside a repeated section -/
abbrev eventsExample : List Line :=
  [.field (.refnum 1), .music [.note .none 'C' [] ⟨none, 0, none⟩, .bar 0 1 1, .inline (.tempo [(1, 4)] 60),
    .note .none 'D' [] ⟨none, 0, none⟩, .bar 1 1 0, .note .none 'E' [] ⟨none, 0, none⟩]]

/-- the hypotheses of `abc_expand_events` hold for the parsed example (sections at 0, 1/4, 3/4; total
5/4; groups 0×1, 1×2, 2×1), so its expansion has the four section annotations
(0, 0) (1/4, 1) (3/4, 1) (5/4, 2) — what the real `expand_section_groups` returns for this tune -/
example : ∃ tune r, parseTune id eventsExample = .ok tune ∧ expandAll id tune = .ok r ∧
    r.sectionAnns = [⟨0, 0⟩, ⟨1 / 4, 1⟩, ⟨3 / 4, 1⟩, ⟨5 / 4, 2⟩] := by
  obtain ⟨tune, hp, h1, h2, h3⟩ := ok_of_decide (x := parseTune id eventsExample)
    (P := fun t => t.sections = blockSections [(0, []), (1 / 4, []), (3 / 4, [])] 0 ∧ t.totalTime = 5 / 4 ∧
      t.groups = [(0, 1), (1, 2), (2, 1)]) (by decide +kernel)
  obtain ⟨r, hr, a1, _⟩ := abc_expand_events tune [(0, []), (1 / 4, []), (3 / 4, [])] h1
    (by rw [h2]; simp [BlocksWF, endOf]; norm_num) (by rw [h3]; simp) (by rw [h3]; decide)
  refine ⟨tune, r, hp, hr, ?_⟩
  rw [a1, h2, h3]
  decide +kernel


/-- THE TWO MODELS OF THE EXPANSION AGREE ON THE NOTES: on every tune whose notes are partitioned by
its section annotations (as in `abc_repeats_expansion`; a parsed tune with positive durations and broken-rhythm pairs inside a
bar is one, `C<|:D:|` of `abc_broken_across_section_fails` is not) the notes of the full
model `expandAll` (C02's extract + C13's concatenate) are the notes of the notes-only model `expand` —
the one the repeat theorems `abc_repeats*` speak about. -/
theorem abc_expand_models_agree (bs : List Block) (T : Rat) (groups : List (Int × Nat)) (base : Tune)
    (hwf : BlocksWF bs T) (hsorted : (blockNotes bs).Pairwise (fun a b => a.start ≤ b.start))
    (hne : groups ≠ []) (hids : ∀ g ∈ groups, 0 ≤ g.1 ∧ g.1 < bs.length) :
    ∃ r L, expandAll id (tuneOfBlocks bs T groups base) = .ok r ∧ expand id (tuneOfBlocks bs T groups base) = .ok L ∧
      r.notes = L.map toNote := by
  obtain ⟨r, hr, _, _, _, _, _, hn⟩ := abc_expand_events (tuneOfBlocks bs T groups base) bs rfl hwf hne hids
  refine ⟨r, _, hr, expand_blocks_full bs T groups base hwf hsorted hne hids, ?_⟩
  rw [hn]
  exact (placed_copies bs T groups base hwf hsorted (playOrder groups) (forall_playList hids) 0).symm

end NSV.C04

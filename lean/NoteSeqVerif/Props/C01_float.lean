import NoteSeqVerif.Props.C01
import NoteSeqVerif.Proofs.C01Float
/-! C01 — the float half: what the theorems of `Props/C01.lean` give for the arithmetic the
Python actually performs (`R = rne53`, IEEE-754 binary64 round-to-nearest-even, proved to be a
`Rounding` in `Proofs/Rounding.lean`). -/
namespace NSV.C01

/-- "nearest step" for doubles: away from a window of relative width 2^-51 around the half-step
boundaries the float computation returns exactly the real-number answer `⌊t·s + 1/2⌋` … -/
theorem qstep_float_nearest (t s : ℚ) (h0 : 0 ≤ t * s) (hlt : t * s < 2 ^ 52)
    (hfar : ∀ n : ℤ, (t * s + 1) / 2 ^ 51 < |t * s - ((n : ℚ) + 1 / 2)|) :
    qstepR rne53 (1 / 2) t s = ⌊t * s + 1 / 2⌋ :=
  qstep_float_rne53 t s h0 hlt hfar

/-- … and inside the window (times "within a few ulps of a half-step boundary") it is off by at
most one step -/
theorem qstep_float_within_one (t s : ℚ) (hx : |t * s| < 2 ^ 52) :
    |qstepR rne53 (1 / 2) t s - ⌊t * s + 1 / 2⌋| ≤ 1 :=
  qstep_near_rne53 t s hx

/-- step assignment by the float computation is monotone in time -/
theorem qstep_float_mono (c t₁ t₂ s : ℚ) (hs : 0 ≤ s) (h : t₁ ≤ t₂) :
    qstepR rne53 c t₁ s ≤ qstepR rne53 c t₂ s :=
  qstep_mono rne53 (fun _ _ hab => rne53_mono hab) c t₁ t₂ s hs h

/-- hence every note quantized by the float computation is at least one step long -/
theorem quantize_min_len_float (c sps : ℚ) (hs : 0 ≤ sps) (s r : NoteSeq)
    (hwf : ∀ n ∈ s.notes, n.start ≤ n.end_)
    (h : quantizeNotes (fun t => qstepR rne53 c t sps) s = .ok r) :
    ∀ n ∈ r.notes, n.qs + 1 ≤ n.qe :=
  quantize_min_len _ (fun a b hab => qstep_float_mono c a b sps hs hab) s r hwf h

/-- the side condition `0 ≤ s` of the two theorems above for tempo-relative quantization as the code performs it -/
theorem sps_float_nonneg (spq : Int) (qpm : ℚ) (h1 : 0 ≤ spq) (h2 : 0 ≤ qpm) : 0 ≤ spsR rne53 spq qpm :=
  spsR_nonneg rne53 (fun _ _ h => rne53_mono h) rounding_rne53.zero spq qpm h1 h2

/-- exact half-step ties round UP also in the float computation: when the real product `t·s` is exactly
`k + 1/2` (0 ≤ k < 2^51) the product, the sum with 0.5 and the truncation are all exact, so
`quantize_to_step` returns `k + 1` — no tolerance window applies to a tie the doubles hit exactly -/
theorem qstep_float_tie_up (t s : ℚ) (k : ℤ) (h0 : 0 ≤ k) (hlt : k < 2 ^ 51)
    (htie : t * s = (k : ℚ) + 1 / 2) :
    qstepR rne53 (1 / 2) t s = k + 1 :=
  qstep_tie rounding_rne53 t s k h0 (by omega) htie

example : qstepR rne53 (1 / 2) (1 / 2) 93 = 47 := by
  have := qstep_float_tie_up (1 / 2) 93 46 (by norm_num) (by norm_num) (by norm_num)
  simpa using this
end NSV.C01

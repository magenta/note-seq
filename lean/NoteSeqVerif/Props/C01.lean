import NoteSeqVerif.Proofs.C01
import NoteSeqVerif.Proofs.RoundingInt
import Mathlib.Tactic.Linarith
import Mathlib.Tactic.Ring
import Mathlib.Tactic.FieldSimp
import Mathlib.Data.Rat.Floor
/-! C01 — property theorems (quantization).  `R` is the rounding operator applied after every
float operation of the Python (`R = id`: exact-arithmetic reading of the property; the compiled
driver runs `R = rne53` and is compared bit-exactly with CPython on every run). -/
namespace NSV.C01

theorem qstep_exact_eq (t s : Rat) (h : 0 ≤ t * s) : qstepR id (1/2) t s = ⌊t * s + 1/2⌋ := by
  unfold qstepR
  simp only [id]
  rw [truncR_of_nonneg _ (by linarith), show t * s + (1 - 1/2) = t * s + 1/2 by ring]
  rfl

theorem qstep_exact_iff (t s : Rat) (h : 0 ≤ t * s) (m : Int) :
    qstepR id (1/2) t s = m ↔ -(1/2 : Rat) < (m : Rat) - t * s ∧ (m : Rat) - t * s ≤ 1/2 := by
  rw [qstep_exact_eq t s h, Int.floor_eq_iff, and_comm, sub_le_iff_le_add']
  exact and_congr_left' ⟨fun a => by linarith, fun a => by linarith⟩

theorem qstep_exact_nearest (t s : Rat) (h : 0 ≤ t * s) :
    |((qstepR id (1/2) t s : Int) : Rat) - t * s| ≤ 1/2 := by
  have := (qstep_exact_iff t s h _).mp rfl
  exact abs_le.mpr ⟨this.1.le, this.2⟩

theorem qstep_exact_tie_up (t s : Rat) (n : Int) (hn : 0 ≤ n) (h : t * s = n + 1/2) :
    qstepR id (1/2) t s = n + 1 := by
  have h0 : 0 ≤ t * s := h ▸ add_nonneg (by exact_mod_cast hn) (by norm_num)
  refine (qstep_exact_iff t s h0 _).mpr ?_
  rw [h]; push_cast; norm_num

/-- the quantized step is the only integer strictly closer than 1/2, and the upper one on a tie -/
theorem qstep_exact_unique (t s : Rat) (h : 0 ≤ t * s) (m : Int)
    (hm : -(1/2 : Rat) < (m : Rat) - t * s ∧ (m : Rat) - t * s ≤ 1/2) :
    qstepR id (1/2) t s = m :=
  (qstep_exact_iff t s h m).mpr hm

/-- step assignment is monotone in time for every monotone rounding operator -/
theorem qstep_mono (R : Rat → Rat) (hR : ∀ a b, a ≤ b → R a ≤ R b) (c t₁ t₂ s : Rat)
    (hs : 0 ≤ s) (h : t₁ ≤ t₂) : qstepR R c t₁ s ≤ qstepR R c t₂ s := by
  unfold qstepR
  apply truncR_mono
  apply hR
  have := hR _ _ (mul_le_mul_of_nonneg_right h hs)
  linarith

/-- the side condition `0 ≤ s` of `qstep_mono` for tempo-relative quantization -/
theorem spsR_nonneg (R : Rat → Rat) (hR : ∀ a b, a ≤ b → R a ≤ R b) (h0 : R 0 = 0) (spq : Int)
    (qpm : Rat) (h1 : 0 ≤ spq) (h2 : 0 ≤ qpm) : 0 ≤ spsR R spq qpm :=
  have h3 : 0 ≤ R ((spq : Rat) * qpm) := h0.ge.trans (hR _ _ (mul_nonneg (by exact_mod_cast h1) h2))
  h0.ge.trans (hR _ _ (div_nonneg h3 (by norm_num)))

/-- tempo-relative quantization is invariant under uniform stretching (exact arithmetic):
stretching multiplies every time by `f` and divides the tempo by `f` -/
theorem qstep_stretch_invariant (c t qpm f : Rat) (spq : Int) (hf : f ≠ 0) :
    qstepR id c (t * f) (spsR id spq (qpm / f)) = qstepR id c t (spsR id spq qpm) := by
  unfold qstepR spsR
  simp only [id]
  congr 2
  field_simp

example : (0:Rat) ≤ (7/2 : Rat) * 4 ∧ qstepR id (1/2) (7/2) 4 = 14 ∧ qstepR id (1/2) (5/8) 4 = 3 := by
  refine ⟨by norm_num, by decide +kernel, by decide +kernel⟩

/-- every quantized note is at least one step long (monotone step function, `start ≤ end`) -/
theorem quantize_min_len (q : Rat → Int) (hq : ∀ a b, a ≤ b → q a ≤ q b) (s r : NoteSeq)
    (hwf : ∀ n ∈ s.notes, n.start ≤ n.end_) (h : quantizeNotes q s = .ok r) :
    ∀ n ∈ r.notes, n.qs + 1 ≤ n.qe := by
  obtain ⟨_, rfl⟩ := quantizeNotes_ok h
  intro n hn
  obtain ⟨m, hm, rfl⟩ := List.mem_map.mp hn
  have := hq _ _ (hwf m hm)
  simp only [qNote, fixEnd]
  split <;> omega

/-- `total_quantized_steps` covers every note end and never decreases -/
theorem quantize_total_covers (q : Rat → Int) (s r : NoteSeq) (h : quantizeNotes q s = .ok r) :
    s.totalQSteps ≤ r.totalQSteps ∧ ∀ n ∈ r.notes, n.qe ≤ r.totalQSteps := by
  obtain ⟨_, rfl⟩ := quantizeNotes_ok h
  refine ⟨(foldl_max_ge _ _).1, fun n hn => ?_⟩
  obtain ⟨m, hm, rfl⟩ := List.mem_map.mp hn
  exact (foldl_max_ge _ _).2 _ (List.mem_map.mpr ⟨m, hm, rfl⟩)

/-- no step of a returned sequence is negative -/
theorem quantize_nonneg (q : Rat → Int) (s r : NoteSeq) (h : quantizeNotes q s = .ok r) :
    (∀ n ∈ r.notes, 0 ≤ n.qs ∧ 0 ≤ n.qe) ∧ (∀ c ∈ r.ccs, 0 ≤ c.qstep) ∧ (∀ c ∈ r.texts, 0 ≤ c.qstep) := by
  obtain ⟨hn, rfl⟩ := quantizeNotes_ok h
  unfold anyNeg at hn
  refine ⟨fun n hc => ?_, fun c hc => ?_, fun c hc => ?_⟩
  · obtain ⟨m, hm, rfl⟩ := List.mem_map.mp hc
    have : ¬ noteNeg q m := fun hh => hn (Or.inl ⟨m, hm, hh⟩)
    unfold noteNeg at this
    simp only [qNote]; omega
  · obtain ⟨m, hm, rfl⟩ := List.mem_map.mp hc
    have : ¬ q m.time < 0 := fun hh => hn (Or.inr (Or.inl ⟨m, hm, hh⟩))
    simp only []; omega
  · obtain ⟨m, hm, rfl⟩ := List.mem_map.mp hc
    have : ¬ q m.time < 0 := fun hh => hn (Or.inr (Or.inr ⟨m, hm, hh⟩))
    simp only []; omega

/-- exactly the negative-time inputs are rejected, and only with `NegativeTimeError` -/
theorem quantizeNotes_negative_iff (q : Rat → Int) (s : NoteSeq) :
    (quantizeNotes q s = .error .negativeTimeError ↔ anyNeg q s) ∧
    (∀ e, quantizeNotes q s = .error e → e = .negativeTimeError) := by
  rw [quantizeNotes_spec]
  split <;> simp [*]

/-- every step assigned is the step function of the event's own time (so "nearest step" and
monotonicity transfer from `qstepR`), order and all other attributes of every record intact -/
theorem quantizeNotes_frame (q : Rat → Int) (s r : NoteSeq) (h : quantizeNotes q s = .ok r) :
    r.notes = s.notes.map (fun n => { n with qs := q n.start, qe := fixEnd (q n.start) (q n.end_) }) ∧
    r.ccs = s.ccs.map (fun c => { c with qstep := q c.time }) ∧
    r.texts = s.texts.map (fun c => { c with qstep := q c.time }) ∧
    r.tempos = s.tempos ∧ r.timeSigs = s.timeSigs ∧ r.keySigs = s.keySigs ∧ r.bends = s.bends ∧
    r.sectionAnns = s.sectionAnns ∧ r.sgroups = s.sgroups ∧ r.totalTime = s.totalTime ∧
    r.spq = s.spq ∧ r.sps = s.sps ∧ r.hasSub = s.hasSub ∧ r.subStart = s.subStart ∧
    r.subEnd = s.subEnd ∧ r.tpq = s.tpq ∧ r.metaTag = s.metaTag := by
  obtain ⟨_, rfl⟩ := quantizeNotes_ok h
  simp [quantized, qNote]

/-- absolute quantization: only the quantization fields change -/
theorem quantizeAbs_frame (R : Rat → Rat) (c : Rat) (s r : NoteSeq) (sps : Int)
    (h : quantizeAbsR R c s sps = .ok r) :
    let q := fun t => qstepR R c t (sps : Rat)
    r.notes = s.notes.map (fun n => { n with qs := q n.start, qe := fixEnd (q n.start) (q n.end_) }) ∧
    r.ccs = s.ccs.map (fun c => { c with qstep := q c.time }) ∧
    r.texts = s.texts.map (fun c => { c with qstep := q c.time }) ∧
    r.tempos = s.tempos ∧ r.timeSigs = s.timeSigs ∧ r.keySigs = s.keySigs ∧ r.bends = s.bends ∧
    r.sectionAnns = s.sectionAnns ∧ r.sgroups = s.sgroups ∧ r.totalTime = s.totalTime ∧
    r.spq = 0 ∧ r.sps = sps ∧ r.hasSub = s.hasSub ∧ r.subStart = s.subStart ∧
    r.subEnd = s.subEnd ∧ r.tpq = s.tpq ∧ r.metaTag = s.metaTag ∧
    q s.totalTime ≤ r.totalQSteps := by
  unfold quantizeAbsR at h
  have hf := quantizeNotes_frame _ _ _ h
  have ht := (quantize_total_covers _ _ _ h).1
  simp only [] at hf ht ⊢
  simp [hf, ht]

/-- a genuine time-signature change, or an implicit change from the initial 4/4, is rejected -/
theorem quantizeRel_rejects_time_signature_change (R : Rat → Rat) (c dq : Rat) (s : NoteSeq) (spq : Int)
    (h : tsChange s.timeSigs ∨ tsImplicit s.timeSigs) :
    quantizeRelR R c dq s spq = .error .multipleTimeSignatureError := by
  rw [quantizeRelR_eq, if_pos h]

/-- zero numerator or non-power-of-two denominator → `BadTimeSignatureError` -/
theorem quantizeRel_bad_time_signature (R : Rat → Rat) (c dq : Rat) (s : NoteSeq) (spq : Int)
    (h1 : ¬ tsChange s.timeSigs) (h2 : ¬ tsImplicit s.timeSigs)
    (hbad : isPow2 (keptTimeSig s).den = false ∨ (keptTimeSig s).num = 0) :
    quantizeRelR R c dq s spq = .error .badTimeSignatureError := by
  rw [quantizeRelR_eq, if_neg (not_or.mpr ⟨h1, h2⟩), if_pos hbad]

/-- `_is_power_of_2` accepts exactly the powers of two -/
theorem isPow2_iff (x : Int) : isPow2 x = true ↔ ∃ k : Nat, x = 2 ^ k := by
  unfold isPow2
  constructor
  · intro h
    simp only [Bool.and_eq_true, decide_eq_true_eq, beq_iff_eq] at h
    obtain ⟨hpos, hand⟩ := h
    have hne : x.toNat ≠ 0 := by omega
    obtain ⟨k, hk⟩ := (Nat.and_sub_one_eq_zero_iff_isPowerOfTwo hne).mp hand
    refine ⟨k, ?_⟩
    have : (x.toNat : Int) = x := Int.toNat_of_nonneg (by omega)
    rw [← this, hk]; push_cast; rfl
  · rintro ⟨k, rfl⟩
    have hpos : (0 : Int) < 2 ^ k := by positivity
    have htn : ((2 : Int) ^ k).toNat = 2 ^ k := by
      have : ((2 : Int) ^ k) = ((2 ^ k : Nat) : Int) := by push_cast; rfl
      rw [this, Int.toNat_natCast]
    simp only [Bool.and_eq_true, decide_eq_true_eq, beq_iff_eq]
    refine ⟨hpos, ?_⟩
    rw [htn]
    exact (Nat.and_sub_one_eq_zero_iff_isPowerOfTwo (by positivity)).mpr ⟨k, rfl⟩

/-- every power of two — in particular each of the 31 legal denominators 2^0 … 2^30 of the int32 field — passes
`_is_power_of_2`, so none of them is rejected as a bad time signature -/
theorem isPow2_two_pow (k : Nat) : isPow2 (2 ^ k) = true := (isPow2_iff _).mpr ⟨k, rfl⟩

example : isPow2 (2 ^ 29) = true ∧ isPow2 (2 ^ 30) = true ∧ isPow2 (2 ^ 29 + 1) = false := by decide

/-- a genuine tempo change (or implicit change from the default tempo `dq`) is rejected -/
theorem quantizeRel_rejects_tempo_change (R : Rat → Rat) (c dq : Rat) (s : NoteSeq) (spq : Int)
    (h1 : ¬ tsChange s.timeSigs) (h2 : ¬ tsImplicit s.timeSigs)
    (hp : isPow2 (keptTimeSig s).den = true) (hn : (keptTimeSig s).num ≠ 0)
    (h : tpChange s.tempos ∨ tpImplicit dq s.tempos) :
    quantizeRelR R c dq s spq = .error .multipleTempoError := by
  rw [quantizeRelR_eq, if_neg (not_or.mpr ⟨h1, h2⟩), if_neg (by simp [hp, hn]), if_pos h]

/-- the accepted case: one tempo and one time signature made explicit at time zero, then
`_quantize_notes` at `steps_per_quarter * qpm / 60` steps per second — nothing else changes -/
theorem quantizeRel_accepts (R : Rat → Rat) (c dq : Rat) (s : NoteSeq) (spq : Int)
    (h1 : ¬ tsChange s.timeSigs) (h2 : ¬ tsImplicit s.timeSigs)
    (hp : isPow2 (keptTimeSig s).den = true) (hn : (keptTimeSig s).num ≠ 0)
    (g1 : ¬ tpChange s.tempos) (g2 : ¬ tpImplicit dq s.tempos) :
    let q := fun t => qstepR R c t (spsR R spq (keptTempo dq s).qpm)
    quantizeRelR R c dq s spq =
      quantizeNotes q { s with spq := spq, sps := 0, timeSigs := [keptTimeSig s],
                               tempos := [keptTempo dq s], totalQSteps := q s.totalTime } := by
  rw [quantizeRelR_eq, if_neg (not_or.mpr ⟨h1, h2⟩), if_neg (by simp [hp, hn]),
    if_neg (not_or.mpr ⟨g1, g2⟩)]

/-- a returned value has passed every validation: it is what `_quantize_notes` returns on the
sequence with the kept time signature and tempo made explicit -/
theorem quantizeRel_ok (R : Rat → Rat) (c dq : Rat) (s r : NoteSeq) (spq : Int)
    (h : quantizeRelR R c dq s spq = .ok r) :
    let q := fun t => qstepR R c t (spsR R spq (keptTempo dq s).qpm)
    quantizeNotes q { s with spq := spq, sps := 0, timeSigs := [keptTimeSig s],
                             tempos := [keptTempo dq s], totalQSteps := q s.totalTime } = .ok r := by
  rw [quantizeRelR_eq] at h
  split at h
  · cases h
  split at h
  · cases h
  split at h
  · cases h
  exact h

theorem quantizeRel_frame (R : Rat → Rat) (c dq : Rat) (s r : NoteSeq) (spq : Int)
    (h : quantizeRelR R c dq s spq = .ok r) :
    let q := fun t => qstepR R c t (spsR R spq (keptTempo dq s).qpm)
    r.notes = s.notes.map (fun n => { n with qs := q n.start, qe := fixEnd (q n.start) (q n.end_) }) ∧
    r.ccs = s.ccs.map (fun c => { c with qstep := q c.time }) ∧
    r.texts = s.texts.map (fun c => { c with qstep := q c.time }) ∧
    r.tempos = [keptTempo dq s] ∧ r.timeSigs = [keptTimeSig s] ∧
    r.keySigs = s.keySigs ∧ r.bends = s.bends ∧
    r.sectionAnns = s.sectionAnns ∧ r.sgroups = s.sgroups ∧ r.totalTime = s.totalTime ∧
    r.spq = spq ∧ r.sps = 0 ∧ r.hasSub = s.hasSub ∧ r.subStart = s.subStart ∧
    r.subEnd = s.subEnd ∧ r.tpq = s.tpq ∧ r.metaTag = s.metaTag ∧
    q s.totalTime ≤ r.totalQSteps := by
  have h := quantizeRel_ok R c dq s r spq h
  have hf := quantizeNotes_frame _ _ _ h
  have ht := (quantize_total_covers _ _ _ h).1
  simp only [] at hf ht ⊢
  simp [hf, ht]

/-- the verdict on the time signatures, and the signature kept, do not depend on the order in which the time
signatures are stored -/
theorem checkTimeSigs_perm {l l' : List TimeSig} (h : l.Perm l') :
    (checkTimeSigs l).map (fun t => (t.time, t.num, t.den)) =
    (checkTimeSigs l').map (fun t => (t.time, t.num, t.den)) := by
  rw [checkTimeSigs_eq_of_perm h]

theorem checkTempos_perm (dq : Rat) {l l' : List Tempo} (h : l.Perm l') :
    (checkTempos dq l).map (fun t => (t.time, t.qpm)) = (checkTempos dq l').map (fun t => (t.time, t.qpm)) := by
  rw [checkTempos_eq_of_perm dq h]

/-! non-vacuity: a stored-out-of-order genuine change (the layout of the repaired note-seq defect F-C01-1) is a `tsChange`,
and an accepted sequence exists -/
example : tsChange [⟨5, 3, 4⟩, ⟨0, 4, 4⟩] := ⟨⟨5, 3, 4⟩, by simp, ⟨0, 4, 4⟩, by simp, by decide⟩
example : ¬ tsChange [⟨2, 4, 4⟩, ⟨0, 4, 4⟩] ∧ ¬ tsImplicit [⟨2, 4, 4⟩, ⟨0, 4, 4⟩] := by
  constructor
  · rintro ⟨a, ha, b, hb, hab⟩
    simp at ha hb
    rcases ha with rfl | rfl <;> rcases hb with rfl | rfl <;> exact hab ⟨rfl, rfl⟩
  · rintro ⟨e, he, _, _, h44⟩
    simp at he
    rcases he with rfl | rfl <;> exact h44 ⟨rfl, rfl⟩

end NSV.C01

import NoteSeqVerif.Props.C13
/-! C13 — exactly which notes `adjust_notesequence_times` (and `rectify_beats`, which calls it with
the interpolation through the beat knots) keeps, and exactly when it raises, for every time map `f` and every
rounding operator `R`.  The test is `f start = f end` on the two values as the code computes them — exact
equality, no tolerance at any magnitude.  Everything is derived from `adjust_ok_iff` / `adjust_error_iff`
(Props/C13.lean), i.e. from the transcribed loop `adjNotes`. -/
namespace NSV.C13
open List

def movedNote (f : Rat → Rat) (n : Note) : Note := { n with start := f n.start, end_ := f n.end_ }

theorem adjNote_none_md (f R : Rat → Rat) (n : Note) :
    adjNote f R 0 n = if f n.start = f n.end_ then none else some (movedNote f n) := by
  unfold adjNote adjImage adjEnd movedNote
  by_cases h : f n.start = f n.end_ <;> simp [h]

theorem filterMap_adjNote (f R : Rat → Rat) : ∀ l : List Note,
    l.filterMap (adjNote f R 0) = (l.filter (fun n => decide (f n.start ≠ f n.end_))).map (movedNote f)
  | [] => rfl
  | n :: l => by
    rw [filterMap_cons, adjNote_none_md, filterMap_adjNote f R l]
    by_cases h : f n.start = f n.end_ <;> simp [h]

theorem countP_adjNote (f R : Rat → Rat) : ∀ l : List Note,
    l.countP (fun n => (adjNote f R 0 n).isNone) = l.countP (fun n => decide (f n.start = f n.end_))
  | [] => rfl
  | n :: l => by
    rw [countP_cons, countP_cons, countP_adjNote f R l, adjNote_none_md]
    by_cases h : f n.start = f n.end_ <;> simp [h]

/-- a note makes the call raise iff it is reversed, or it is kept and starts before zero -/
theorem adjBad_md0_iff (f R : Rat → Rat) (n : Note) :
    adjBad f R 0 n ↔ (f n.end_ < f n.start ∨ (f n.start < f n.end_ ∧ f n.start < 0)) := by
  unfold adjBad
  rw [adjNote_none_md]
  split
  · simp only [reduceCtorEq, false_and, exists_false, false_iff]; grind
  · -- the mapped times differ, so one is the smaller; `end < 0` with `start < end` gives `start < 0`
    simp only [Option.some.injEq, exists_eq_left', movedNote]; grind

/-- **Which notes are kept** (no `minimum_duration`; any time map `f`, any rounding `R`).  Whenever the call returns
`(r, k)`, `r.notes` are exactly the input notes with `f start ≠ f end`, in storage order, each with both times mapped
through `f` and nothing else changed; `k` (`skipped_notes`) counts the others; every kept note is strictly forward and
starts at or after zero. -/
theorem adjust_keeps_exactly (f R : Rat → Rat) (s r : NoteSeq) (k : Nat) (h : adjustR f R 0 s = .ok (r, k)) :
    r.notes = (s.notes.filter (fun n => decide (f n.start ≠ f n.end_))).map (movedNote f) ∧
    k = s.notes.countP (fun n => decide (f n.start = f n.end_)) ∧
    r.notes.length + k = s.notes.length ∧
    (∀ n ∈ s.notes, f n.start ≠ f n.end_ → f n.start < f n.end_ ∧ 0 ≤ f n.start) ∧
    (∀ n ∈ s.notes, (movedNote f n ∈ r.notes ↔ f n.start ≠ f n.end_)) := by
  obtain ⟨hb, _, hr, hk⟩ := (adjust_ok_iff f R 0 s r k).mp h
  have hn : r.notes = (s.notes.filter (fun n => decide (f n.start ≠ f n.end_))).map (movedNote f) := by
    rw [hr]; exact filterMap_adjNote f R s.notes
  have hk' : k = s.notes.countP (fun n => decide (f n.start = f n.end_)) := by
    rw [hk]; exact countP_adjNote f R s.notes
  refine ⟨hn, hk', ?_, fun n hnm hne => ?_, fun n hnm => ?_⟩
  · have h1 := length_eq_countP_add_countP (fun n : Note => decide (f n.start ≠ f n.end_)) (l := s.notes)
    simp only [ne_eq, decide_not, Bool.not_eq_true', countP_eq_length_filter] at h1
    rw [hn, hk', length_map, countP_eq_length_filter]
    simpa [Nat.add_comm] using h1.symm
  · have hnb := hb n hnm
    rw [adjBad_md0_iff] at hnb
    grind
  · rw [hn, mem_map]
    constructor
    · rintro ⟨n', hn', he⟩
      have hs := congrArg Note.start he
      have he' := congrArg Note.end_ he
      have hf := (mem_filter.mp hn').2
      simp only [movedNote, decide_eq_true_eq] at hs he' hf
      rwa [hs, he'] at hf
    · exact fun hne => ⟨n, mem_filter.mpr ⟨hnm, by simpa using hne⟩, rfl⟩

/-- **When the call raises** (no `minimum_duration`): iff some note is reversed (`f end < f start`), or
some kept note starts before zero, or some event of the six mapped containers lands before zero —
and then it is `InvalidTimeAdjustmentError` (`adjust_error_iff`).  A collapsed note never raises. -/
theorem adjust_raises_iff (f R : Rat → Rat) (s : NoteSeq) :
    adjustR f R 0 s = .error .invalidTimeAdjustmentError ↔
      ((∃ n ∈ s.notes, f n.end_ < f n.start ∨ (f n.start < f n.end_ ∧ f n.start < 0)) ∨
        ∃ t ∈ adjustedTimes s, f t < 0) := by
  rw [adjust_error_iff]
  simp only [true_and, adjBad_md0_iff]

/-- for a time map without negative values: the call raises **iff some note is reversed** -/
theorem adjust_raises_iff_reversed (f R : Rat → Rat) (s : NoteSeq) (hnn : ∀ t, 0 ≤ f t) :
    adjustR f R 0 s = .error .invalidTimeAdjustmentError ↔ ∃ n ∈ s.notes, f n.end_ < f n.start := by
  rw [adjust_raises_iff]
  constructor
  · rintro (⟨n, hn, h | ⟨_, h⟩⟩ | ⟨t, _, h⟩)
    · exact ⟨n, hn, h⟩
    · exact absurd h (Rat.not_lt.mpr (hnn _))
    · exact absurd h (Rat.not_lt.mpr (hnn _))
  · rintro ⟨n, hn, h⟩
    exact Or.inl ⟨n, hn, Or.inl h⟩

/-- with a `minimum_duration` (`md ≠ 0`) no note is dropped: every note is kept as
`(f start, f end)`, or `(f start, R (f end + md))` when it collapsed; `skipped_notes = 0` -/
theorem adjust_min_duration_keeps_all (f R : Rat → Rat) (md : Rat) (hmd : md ≠ 0) (s r : NoteSeq) (k : Nat)
    (h : adjustR f R md s = .ok (r, k)) :
    r.notes = s.notes.map (adjImage f R md) ∧ k = 0 := by
  obtain ⟨_, _, hr, hk⟩ := (adjust_ok_iff f R md s r k).mp h
  have hs : ∀ n, adjNote f R md n = some (adjImage f R md n) := by
    intro n; simp [adjNote, hmd]
  constructor
  · rw [hr]
    show s.notes.filterMap (adjNote f R md) = _
    have : adjNote f R md = fun n => some (adjImage f R md n) := funext hs
    rw [this, filterMap_eq_map']
  · rw [hk]
    apply countP_eq_zero.mpr
    intro n _
    simp [hs n]

/-- `rectify_beats` keeps exactly the notes whose two ends the beat map `M` (np.interp through the beat
knots, as floats compute it under `R`) sends to different values; it never drops a note of non-zero
mapped length, however short, and every kept note is strictly forward -/
theorem rectify_keeps_exactly (R : Rat → Rat) (bpm : Rat) (s r : NoteSeq) (al : List (Rat × Rat))
    (h : rectifyR R bpm s = .ok (r, al)) :
    ∃ p rest, beatKnots R bpm s = p :: rest ∧ al = p :: rest ∧
      r.notes = (s.notes.filter (fun n => decide (interpR R p rest 0 s.totalTime n.start ≠
                  interpR R p rest 0 s.totalTime n.end_))).map (movedNote (interpR R p rest 0 s.totalTime)) ∧
      (∀ n ∈ s.notes, interpR R p rest 0 s.totalTime n.start ≠ interpR R p rest 0 s.totalTime n.end_ →
        interpR R p rest 0 s.totalTime n.start < interpR R p rest 0 s.totalTime n.end_) := by
  obtain ⟨p, rest, r', k, hk, hal, ha, rfl⟩ := rectify_ok h
  obtain ⟨hn, _, _, hfw, _⟩ := adjust_keeps_exactly _ R s r' k ha
  exact ⟨p, rest, hk, hal, hn, fun n hnm hne => (hfw n hnm hne).1⟩

/-- `rectify_beats` raises `InvalidTimeAdjustmentError` iff the beat map as computed reverses a note, or
sends a kept note's start or an event before zero -/
theorem rectify_raises_iff (R : Rat → Rat) (bpm : Rat) (s : NoteSeq) (hq : s.isQuantized = false)
    (hb : beatTimes s ≠ []) (h0 : bpm ≠ 0) :
    ∃ p rest, beatKnots R bpm s = p :: rest ∧
      (rectifyR R bpm s = .error .invalidTimeAdjustmentError ↔
        ((∃ n ∈ s.notes, interpR R p rest 0 s.totalTime n.end_ < interpR R p rest 0 s.totalTime n.start ∨
            (interpR R p rest 0 s.totalTime n.start < interpR R p rest 0 s.totalTime n.end_ ∧
              interpR R p rest 0 s.totalTime n.start < 0)) ∨
          ∃ t ∈ adjustedTimes s, interpR R p rest 0 s.totalTime t < 0)) := by
  obtain ⟨p, rest, hk, hspec⟩ := rectify_spec R bpm s hq hb h0
  refine ⟨p, rest, hk, ?_⟩
  rw [hspec, ← adjust_raises_iff _ R s]
  cases ha : adjustR (interpR R p rest 0 s.totalTime) R 0 s with
  | error e => simp
  | ok v => simp

/-! ### non-vacuity: both sides of the boundary, at two magnitudes -/

/-- a 2 ms note five minutes into the piece, a 1e-12 s note at 10^4 s, and a zero-length note -/
def exShort : NoteSeq :=
  { notes := [{ exNote with start := 300, end_ := 300 + 2 / 1000 },
              { exNote with pitch := 61, start := 10000, end_ := 10000 + 1 / 1000000000000 },
              { exNote with pitch := 62, start := 7, end_ := 7 }]
    totalTime := 10001 }

/-- slope 1/1000: the short notes shrink to 2e-6 s and 1e-15 s and are kept; only the zero-length one goes -/
example : (adjustR (fun t => t / 1000) id 0 exShort).toOption.map
      (fun rk => (rk.1.notes.map (fun n => (n.pitch, n.start, n.end_)), rk.2)) =
    some ([(60, 3 / 10, 3 / 10 + 2 / 1000000), (61, 10, 10 + 1 / 1000000000000000)], 1) := by decide +kernel

/-- a map that is flat on [300, 301] collapses the first note (dropped, counted) and keeps the others -/
example : (adjustR (fun t => if t < 300 then t else if t < 301 then 300 else t - 1) id 0 exShort).toOption.map
      (fun rk => (rk.1.notes.map (fun n => n.pitch), rk.2)) = some ([61], 2) := by decide +kernel

/-- a reversing map raises; a minimum duration keeps the zero-length note -/
example : errOf (adjustR (fun t => 20000 - t) id 0 exShort) = some .invalidTimeAdjustmentError ∧
    (adjustR (fun t => t) id (1 / 100) exShort).toOption.map (fun rk => (rk.1.notes.length, rk.2)) = some (3, 0) := by
  decide +kernel

end NSV.C13

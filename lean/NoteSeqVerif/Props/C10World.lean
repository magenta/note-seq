import NoteSeqVerif.Model.C10World
import NoteSeqVerif.Props.C10Heap
/-! C10 — objects built from the caller's lists: the lists are never rewritten, two objects built from one list
are independent, and transposing both moves both by the same amount (they agree with each other and with
`LeadSheet.transpose` of the list's contents). -/
namespace NSV.C10

variable (split : String → Except Err Sym)

/-- FRAME for the caller's lists: no operation — construction, deepcopy, transpose, squash, also one that
raises — changes any list the caller handed to a constructor -/
theorem world_step_lists (w : World) (op : WOp) :
    (wStep split w op).1.evLists = w.evLists ∧ (wStep split w op).1.figLists = w.figLists := by
  cases op with
  | build e f => unfold wStep; cases hb : built w e f <;> simp [hb]
  | obj o => simp [wStep]

/-- … hence after any history the caller's lists hold what they held when they were handed over -/
theorem world_lists_invariant (w : World) (ops : List WOp) :
    (wRun split w ops).evLists = w.evLists ∧ (wRun split w ops).figLists = w.figLists := by
  induction ops generalizing w with
  | nil => simp [wRun]
  | cons op ops ih =>
    have h := ih (wStep split w op).1
    have hs := world_step_lists split w op
    simp only [wRun, List.foldl_cons] at h ⊢
    exact ⟨h.1.trans hs.1, h.2.trans hs.2⟩

/-- construction appends an object holding the contents of the lists and changes no existing object -/
theorem world_build (w : World) (e f : Option Nat) (o : Obj) (hb : built w e f = some o) :
    (wStep split w (.build e f)).1.heap = w.heap ++ [o] ∧
    (wStep split w (.build e f)).1.heap[w.heap.length]? = some o ∧
    ∀ j, j < w.heap.length → (wStep split w (.build e f)).1.heap[j]? = w.heap[j]? := by
  unfold wStep
  simp only [hb]
  refine ⟨trivial, by simp, fun j hj => ?_⟩
  simp [List.getElem?_append_left hj]

/-- what is built depends on the lists only: building again from the same lists — after whatever happened to
the objects in between — gives an object with the same contents -/
theorem built_after_history (w : World) (ops : List WOp) (e f : Option Nat) :
    built (wRun split w ops) e f = built w e f := by
  have h := world_lists_invariant split w ops
  unfold built
  rw [h.1, h.2]

/-- two objects from ONE list (`a = Cls(l); b = Cls(l); a.transpose(k)`): `a` holds the transposition of the
list's contents, `b` still holds the contents, the lists are unchanged -/
theorem build_twice_transpose_one (w : World) (e f : Option Nat) (o : Obj) (k mn mx : Int)
    (hb : built w e f = some o) :
    let w2 := wRun split w [.build e f, .build e f, .obj (.transpose w.heap.length k mn mx)]
    w2.heap[w.heap.length]? = some (objTranspose split k mn mx o).1 ∧
    w2.heap[w.heap.length + 1]? = some o ∧
    (∀ j, j < w.heap.length → w2.heap[j]? = w.heap[j]?) ∧
    w2.evLists = w.evLists ∧ w2.figLists = w.figLists := by
  have hb2 : built { w with heap := w.heap ++ [o] } e f = some o := by
    unfold built at hb ⊢; exact hb
  simp only [wRun, List.foldl_cons, List.foldl_nil, wStep, hb, hb2]
  have hi : (w.heap ++ [o] ++ [o])[w.heap.length]? = some o := by
    rw [List.append_assoc, List.getElem?_append_right (Nat.le_refl _)]; simp
  have hs := heap_transpose_self split (w.heap ++ [o] ++ [o]) w.heap.length o k mn mx hi
  refine ⟨hs.1, ?_, fun j hj => ?_, trivial, trivial⟩
  · rw [heap_transpose_frame split _ _ _ k mn mx (by omega)]
    rw [List.getElem?_append_right (by simp)]; simp
  · rw [heap_transpose_frame split _ _ _ k mn mx (by omega)]
    rw [List.append_assoc, List.getElem?_append_left hj]

/-- … and transposing the second one as well moves it by the same amount: both objects agree (each holds
`LeadSheet.transpose` of the list's contents, once) -/
theorem build_twice_transpose_both (w : World) (e f : Option Nat) (o : Obj) (k mn mx : Int)
    (hb : built w e f = some o) :
    let w2 := wRun split w [.build e f, .build e f, .obj (.transpose w.heap.length k mn mx),
      .obj (.transpose (w.heap.length + 1) k mn mx)]
    w2.heap[w.heap.length]? = some (objTranspose split k mn mx o).1 ∧
    w2.heap[w.heap.length + 1]? = some (objTranspose split k mn mx o).1 ∧
    w2.evLists = w.evLists ∧ w2.figLists = w.figLists := by
  have h3 := build_twice_transpose_one split w e f o k mn mx hb
  simp only [wRun, List.foldl_cons, List.foldl_nil] at h3 ⊢
  obtain ⟨ha, hbb, _, hl1, hl2⟩ := h3
  generalize hw : (wStep split (wStep split (wStep split w (.build e f)).1 (.build e f)).1
    (.obj (.transpose w.heap.length k mn mx))).1 = w3 at ha hbb hl1 hl2 ⊢
  have hs := heap_transpose_self split w3.heap (w.heap.length + 1) o k mn mx hbb
  refine ⟨?_, ?_, hl1, hl2⟩
  · show (hStep split w3.heap _).1[w.heap.length]? = _
    rw [heap_transpose_frame split _ _ _ k mn mx (by omega)]; exact ha
  · exact hs.1

/-- non-vacuity: a progression and a lead sheet's chords built from one figures list -/
example : built ⟨[[60, -2]], [["C", "N.C."]], []⟩ none (some 0) = some ⟨[], ["C", "N.C."]⟩ ∧
    built ⟨[[60, -2]], [["C", "N.C."]], []⟩ (some 0) (some 0) = some ⟨[60, -2], ["C", "N.C."]⟩ ∧
    built ⟨[[60, -2]], [["C", "N.C."]], []⟩ (some 1) (some 0) = none := by decide

end NSV.C10

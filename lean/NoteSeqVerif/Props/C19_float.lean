import NoteSeqVerif.Props.C19
import NoteSeqVerif.Proofs.Rounding
/-! C19 — the optimality theorems instantiated for rounded (floating-point) arithmetic.

A double is modelled as a rational or −∞ (`ExtQ`), the sum of two doubles as `R (a + b)` with −∞
absorbing.  For every *monotone* rounding `R` this addition is left-monotone, so every theorem of
`Props/C19.lean` applies; `rne53` (IEEE-754 binary64 round-to-nearest-even, the project's model of
CPython / numpy double arithmetic, `Common/Float.lean`) is monotone (`Proofs/Rounding.lean`).
The compiled driver runs exactly this instance (requests `melQ`, `kcQ` of `Driver/C19.lean`) on the
float tables of each run that are small enough for rational arithmetic and is compared bit for bit
with numpy; larger ones, among them the real 1164-state key-chord tables, run over native `Float`. -/
set_option linter.unnecessarySeqFocus false
namespace NSV.C19

namespace ExtQ
@[simp] theorem fin_le_fin (a b : Rat) : (fin a ≤ fin b) ↔ a ≤ b := Iff.rfl
@[simp] theorem ninf_le (b : ExtQ) : ninf ≤ b := by cases b <;> trivial
@[simp] theorem fin_le_ninf (a : Rat) : ¬ (fin a ≤ ninf) := fun h => h
@[simp] theorem fin_lt_fin (a b : Rat) : (fin a < fin b) ↔ a < b := Iff.rfl
@[simp] theorem ninf_lt_fin (b : Rat) : ninf < fin b := trivial
@[simp] theorem not_lt_ninf (a : ExtQ) : ¬ (a < ninf) := by cases a <;> exact fun h => h
end ExtQ

instance : LinearOrder ExtQ where
  le := (· ≤ ·)
  lt := (· < ·)
  le_refl := fun a => by cases a <;> simp
  le_trans := fun a b c => by
    cases a <;> cases b <;> cases c <;> simp <;> exact le_trans
  le_antisymm := fun a b => by
    cases a <;> cases b <;> simp <;> exact le_antisymm
  le_total := fun a b => by
    cases a <;> cases b <;> simp <;> exact le_total _ _
  lt_iff_le_not_ge := fun a b => by
    cases a <;> cases b <;> simp <;> exact le_of_lt
  toDecidableLE := inferInstance
  toDecidableLT := inferInstance
  toDecidableEq := inferInstance

theorem mono_extq (R : Rat → Rat) (hR : ∀ x y : Rat, x ≤ y → R x ≤ R y) : Mono (ExtQ.addR R) := by
  intro a a' b h
  cases a <;> cases a' <;> cases b <;> simp [ExtQ.addR] at *
  exact hR _ _ (by linarith)

theorem mono_extq_rne53 : Mono (ExtQ.addR rne53) := mono_extq rne53 (fun _ _ h => rne53_mono h)

theorem extq_absorbing (R : Rat → Rat) :
    (∀ b, ExtQ.addR R .ninf b = .ninf) ∧ (∀ a, ExtQ.addR R a .ninf = .ninf) :=
  ⟨fun b => by cases b <;> rfl, fun a => by cases a <;> rfl⟩

/-- **optimality of the floating-point program**: with double additions (`rne53 (a + b)`, −∞
absorbing) `_key_chord_viterbi` returns a path of maximal score among all key-chord paths … -/
theorem keychord_viterbi_optimal_float (C : Nat) (hC : 0 < C) (negLog12 : ExtQ)
    (kc fl tr : Nat → Nat → ExtQ) (frames : Nat) (hf : 0 < frames) :
    let T := kcTables (ExtQ.addR rne53) C negLog12 kc fl tr
    ∃ path, viterbi (ExtQ.addR rne53) T frames = .ok path ∧ path.length = frames ∧ (∀ s ∈ path, s < 12 * C) ∧
      score (ExtQ.addR rne53) T path = some (optimum (ExtQ.addR rne53) T frames) ∧
      ∀ p : List Nat, p.length = frames → (∀ s ∈ p, s < 12 * C) →
        ∀ v, score (ExtQ.addR rne53) T p = some v → v ≤ optimum (ExtQ.addR rne53) T frames :=
  keychord_viterbi_optimal (ExtQ.addR rne53) mono_extq_rne53 C hC negLog12 kc fl tr frames hf

/-- … and so does `_melody_viterbi` -/
theorem melody_viterbi_optimal_float (P : Nat) (fl tr : Nat → Nat → ExtQ) (frames : Nat) (hf : 0 < frames) :
    let T := melTables (ExtQ.addR rne53) P fl tr
    ∃ path, viterbi (ExtQ.addR rne53) T frames = .ok path ∧ path.length = frames ∧ (∀ s ∈ path, s < 2 * P + 1) ∧
      score (ExtQ.addR rne53) T path = some (optimum (ExtQ.addR rne53) T frames) ∧
      ∀ p : List Nat, p.length = frames → (∀ s ∈ p, s < 2 * P + 1) →
        ∀ v, score (ExtQ.addR rne53) T p = some v → v ≤ optimum (ExtQ.addR rne53) T frames :=
  melody_viterbi_optimal (ExtQ.addR rne53) mono_extq_rne53 P fl tr frames hf

/-- the path the float program returns carries no −∞ term unless its score is −∞ -/
theorem viterbi_path_finite_float (T : Tables ExtQ) (frames : Nat)
    (hne : optimum (ExtQ.addR rne53) T frames ≠ .ninf) :
    pathFinite T .ninf (viterbiExec (ExtQ.addR rne53) T frames) :=
  viterbi_path_finite (ExtQ.addR rne53) T .ninf (extq_absorbing rne53).1 (extq_absorbing rne53).2 frames hne

/-- chord annotation times `frame * seconds_per_chord` (a float product) are non-decreasing -/
theorem chord_times_nondecreasing_float (spc : Rat) (hspc : 0 ≤ spc) (steps : Int) (addKeys : Bool)
    (states : List (Nat × String × String)) (anns : List ChordAnn) (keys : List KeySig)
    (h : chordWriter rne53 (.perChord spc steps) addKeys states = .ok (anns, keys)) :
    anns.Pairwise (fun a b => a.time ≤ b.time) :=
  chord_times_nondecreasing rne53 (.perChord spc steps) addKeys states anns keys h
    (fun f g t u hfg _ ht hu =>
      perChord_times_monotone rne53 (fun _ _ h => rne53_mono h) spc hspc steps f g t u hfg ht hu)

/-- non-vacuity: 0.1 + 0.2 in doubles, and −∞ absorbing -/
example : ExtQ.addR rne53 (.fin (3602879701896397 / 36028797018963968)) (.fin (3602879701896397 / 18014398509481984)) =
    .fin (1351079888211149 / 4503599627370496) ∧ ExtQ.addR rne53 .ninf (.fin 1) = .ninf := by
  constructor
  · decide +kernel
  · rfl

end NSV.C19

import NoteSeqVerif.Props.C14
import NoteSeqVerif.Proofs.C11WF
import Mathlib.Tactic.Linarith
-- THEOREMS: wf_sustain_partial no_invention_sustain_partial
/-! # C11 (b) — apply_sustain_control_changes returns a well-formed sequence and invents nothing
Corollaries of `NSV.C14.sustain_spec` (model owned by C14).  C14's closed form is
proved for sequences in which no two notes of one pitch on one instrument overlap (C14's quantifier);
the corollaries inherit that hypothesis and are therefore named `…_partial`; the full statements are
kept below as `def`s (they are monitored on the implementation by the C11 oracle for arbitrary
well-formed input, overlaps included). -/
namespace NSV.C11
open NSV.C14

/-- full statement (no overlap hypothesis) — not proved here -/
def WfSustainFull : Prop :=
  ∀ (ctl : Int) (s r : NoteSeq), WF s → applySustain ctl s = .ok r → WF r

/-- full statement (no overlap hypothesis) — not proved here -/
def NoInventionSustainFull : Prop :=
  ∀ (ctl : Int) (s r : NoteSeq), applySustain ctl s = .ok r →
    NoInvention s.notes r.notes ∧ NoDuplication s.notes r.notes

theorem sustain_ok_unquantized {ctl : Int} {s r : NoteSeq} (h : applySustain ctl s = .ok r) : s.isQuantized = false := by
  cases hq : s.isQuantized with
  | false => rfl
  | true => rw [sustain_rejects_quantized ctl s hq] at h; cases h

theorem wf_sustain_partial (ctl : Int) (s r : NoteSeq) (hw : WF s) (ho : NoSamePitchOverlap s)
    (h : applySustain ctl s = .ok r) : WF r := by
  have hq := sustain_ok_unquantized h
  have hw14 : WellFormed s := fun nt hnt _ => (hw.notes nt hnt).2.1
  obtain ⟨T, h1, h2, _, _⟩ := sustain_spec ctl s hq hw14 ho
  obtain ⟨r', hr', hcov⟩ := sustain_total_covers ctl s hq hw14 ho (fun nt hnt => (hw.notes nt hnt).2.2)
  rw [hr'] at h
  cases h
  rw [h1] at hr'
  cases hr'
  have ev := hw.events
  refine ⟨?_, le_trans hw.total h2,
    ⟨ev.tempos, ev.timeSigs, ev.keySigs, ev.texts, ev.ccs, ev.bends, ev.sectionAnns⟩⟩
  intro n hn
  have hc := hcov n hn
  obtain ⟨m, hm, rfl⟩ := List.mem_map.mp hn
  obtain ⟨h0, hse, _⟩ := hw.notes m hm
  exact ⟨h0, le_trans hse (heldEnd_ge ctl s m hm), hc⟩

theorem no_invention_sustain_partial (ctl : Int) (s r : NoteSeq) (hw : ∀ nt ∈ s.notes, nt.isDrum = false → nt.start ≤ nt.end_)
    (ho : NoSamePitchOverlap s) (h : applySustain ctl s = .ok r) :
    NoInvention s.notes r.notes ∧ NoDuplication s.notes r.notes ∧ r.notes.length = s.notes.length := by
  have hq := sustain_ok_unquantized h
  obtain ⟨T, h1, _⟩ := sustain_spec ctl s hq hw ho
  rw [h1] at h
  cases h
  apply no_invention_map
  intro n
  exact SameNote.refl n

/-! non-vacuity: C14's first example satisfies every hypothesis -/
example : WF ex1 :=
  ⟨by decide +kernel, by decide +kernel, ⟨by decide +kernel, by decide +kernel, by decide +kernel,
    by decide +kernel, by decide +kernel, by decide +kernel, by decide +kernel⟩⟩

example : NoSamePitchOverlap ex1 ∧ ∃ r, applySustain 64 ex1 = .ok r := by
  refine ⟨by decide, ?_⟩
  obtain ⟨T, h, _⟩ := sustain_spec 64 ex1 (by decide) (by decide) (by decide)
  exact ⟨_, h⟩

end NSV.C11

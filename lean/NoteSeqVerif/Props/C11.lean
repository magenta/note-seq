import NoteSeqVerif.Proofs.C11
/-! # C11 (a) — sequence operations never modify their argument

`pure_sound`: whenever the checker accepts a program (`pureProg p = true`), **every** execution of its
entry operation in the heap semantics of `Model/C11.lean` — from any well-formed heap, with any
arguments that refer to allocated objects only, whether it returns, falls off the end or raises (at any
point) — leaves every object that is reachable from the arguments unchanged (`pure_sound_all`: every
allocated object, with no condition on the arguments).

`pure_<op>` (in `Props/C11_ops.lean`): the checker accepts the IR that `gen/refir.py` regenerates from
the current Python source of `<op>` on every run (`Generated/C11.lean`).
-/
namespace NSV.C11

theorem Reach.allocated {h : Heap} {args : List Val} (hwf : h.WF)
    (hargs : ∀ a ∈ args, ∀ o, RefIn a o → o < h.next) {o : Nat} (hr : Reach h args o) : o < h.next := by
  induction hr with
  | root ha ho => exact hargs _ ha _ ho
  | kid _ hk ih => exact (hwf _ _ hk).1 ih

theorem pureProg_spec {p : Prog} (hp : pureProg p = true) :
    checkList p.contracts p.ops p.contracts = true ∧
      ∃ d c, p.ops[p.entry]? = some d ∧ p.contracts[p.entry]? = some c ∧ c.pre = topPre d.nparams := by
  unfold pureProg at hp
  simp only [Bool.and_eq_true] at hp
  refine ⟨hp.1, ?_⟩
  have h2 := hp.2
  split at h2
  · rename_i d c hd hc
    exact ⟨d, c, hd, hc, by simpa using h2⟩
  · simp at h2

/-- every run of an accepted program keeps the heap invariant relative to the heap it started from, and
what it returns has the provenance the entry's contract promises -/
theorem run_sound {p : Prog} (hp : pureProg p = true) {h h' : Heap} {args : List Val} {r : Res}
    (hwf : h.WF) (hrun : Run p h args h' r) :
    ∃ c, p.contracts[p.entry]? = some c ∧ Inv h.next h h' ∧ ∀ v, r = .ret v → Gam h.next c.ret v := by
  obtain ⟨hcs, d, c, hd, hc, hpre⟩ := pureProg_spec hp
  obtain ⟨d', hd', hlen, hex⟩ := hrun
  rw [hd] at hd'; cases hd'
  have hchk := checkList_get hcs hd hc
  simp only [checkOp, Bool.and_eq_true, List.isEmpty_iff] at hchk
  have hargs : GamArgs h.next c.pre args := by rw [hpre]; exact GamArgs.top hlen
  obtain ⟨hi, hr⟩ := exec_sound hcs hex hchk.1 (Inv.init hwf) hargs (GamEnv.empty _ [])
  exact ⟨c, hc, hi, fun v hv => by subst hv; exact Gam.mono hchk.2 hr⟩

/-- **Soundness, strongest form**: nothing that existed before the call has changed afterwards —
for every way the call can end (`r` ranges over normal completion, `return v` and a raised exception). -/
theorem pure_sound_all (p : Prog) (hp : pureProg p = true) {h h' : Heap} {args : List Val} {r : Res}
    (hwf : h.WF) (hrun : Run p h args h' r) : ∀ o, o < h.next → h'.cell o = h.cell o := by
  obtain ⟨_, _, hi, _⟩ := run_sound hp hwf hrun
  exact hi.same

/-- **`pure_sound`**: every object reachable from the arguments is unchanged after executing the
operation — including executions that end in `raise`. -/
theorem pure_sound (p : Prog) (hp : pureProg p = true) {h h' : Heap} {args : List Val} {r : Res}
    (hwf : h.WF) (hargs : ∀ a ∈ args, ∀ o, RefIn a o → o < h.next) (hrun : Run p h args h' r) :
    ∀ o, Reach h args o → h'.cell o = h.cell o :=
  fun o ho => pure_sound_all p hp hwf hrun o (ho.allocated hwf hargs)

/-- the raising executions, spelled out -/
theorem pure_sound_raise (p : Prog) (hp : pureProg p = true) {h h' : Heap} {args : List Val}
    (hwf : h.WF) (hargs : ∀ a ∈ args, ∀ o, RefIn a o → o < h.next) (hrun : Run p h args h' .exc) :
    ∀ o, Reach h args o → h'.cell o = h.cell o :=
  pure_sound p hp hwf hargs hrun

/-- if in addition `freshResult p`, whatever the operation returns contains newly allocated objects
only: the result shares nothing with the arguments (mutating it later cannot reach them). -/
theorem fresh_result_sound (p : Prog) (hp : freshResult p = true) {h h' : Heap} {args : List Val} {v : Val}
    (hwf : h.WF) (hrun : Run p h args h' (.ret v)) : ∀ o, RefIn v o → h.next ≤ o := by
  unfold freshResult at hp
  simp only [Bool.and_eq_true] at hp
  obtain ⟨c, hc, _, hg⟩ := run_sound hp.1 hwf hrun
  have hret : c.ret.inp = false := by simpa [hc] using hp.2
  intro o ho
  exact Nat.le_of_not_lt fun hlt => by simpa [hret] using (hg v rfl o ho).1 hlt

/-! ## Non-vacuity: the semantics can observe a mutation, and the checker tells the two apart -/

/-- `def f(s): c = deepcopy(s); c.notes[0].x = 1; return c` -/
def exCopy : Prog :=
  ⟨[⟨"copy_then_write", 1, .block [.assign 0 (.copyOf (.param 0)), .write 2 (.elem (.field (.var 0))), .ret (.var 0)]⟩],
   [⟨[AbsVal.both], AbsVal.fresh⟩], 0⟩

/-- `def g(s): s.notes[0].x = 1` -/
def exAlias : Prog :=
  ⟨[⟨"write_through_alias", 1, .block [.assign 0 (.elem (.param 0)), .write 2 (.var 0)]⟩],
   [⟨[AbsVal.both], AbsVal.bot⟩], 0⟩

example : pureProg exCopy = true ∧ freshResult exCopy = true := by decide
example : pureProg exAlias = false := by decide

/-- a two-object heap: object 0 (a sequence) owns object 1 (a note) -/
def exHeap : Heap := ⟨fun o => if o = 0 then ⟨7, [1]⟩ else if o = 1 then ⟨5, []⟩ else ⟨0, []⟩, 2⟩
def exHeap' : Heap := ⟨fun o => if o = 0 then ⟨7, [1]⟩ else if o = 1 then ⟨6, []⟩ else ⟨0, []⟩, 2⟩

theorem exHeap_wf : exHeap.WF := by
  intro o k hk
  unfold exHeap at hk ⊢
  by_cases h0 : o = 0
  · subst h0; simp at hk; subst hk; simp
  · by_cases h1 : o = 1
    · subst h1; simp at hk
    · simp [h0, h1] at hk

/-- the hypotheses of `pure_sound` are satisfiable, and the rejected program really has an execution
that changes an object reachable from its argument (so `pure_sound` is not true of all programs) -/
example : exHeap.WF ∧ (∀ a ∈ [Val.ref 0], ∀ o, RefIn a o → o < exHeap.next) ∧
    Run exAlias exHeap [.ref 0] exHeap' (.norm (Env.empty.upd 0 (.ref 1))) ∧
    Reach exHeap [.ref 0] 1 ∧ exHeap'.cell 1 ≠ exHeap.cell 1 := by
  refine ⟨exHeap_wf, ?_, ?_, ?_, ?_⟩
  · intro a ha o ho
    simp at ha; subst ha
    have := Sub.ref_ref ho
    subst this; decide
  · refine ⟨_, rfl, rfl, ?_⟩
    show Exec _ _ _ _ (Stmt.seq _ _) _ _
    refine Exec.seq (ρ1 := Env.empty.upd 0 (.ref 1))
      (Exec.assign (v := .ref 1) (Eval.elem (c := .ref 1) Eval.param (Nav.kid (o := 0) (k := 1) (Sub.refl _) ?_))) ?_
    · simp [exHeap]
    · refine Exec.write (o := 1) (h1 := exHeap) Eval.var (by decide) ?_
      refine ⟨Nat.le_refl _, ?_, ?_, ?_⟩
      · intro p hp hne
        have : p = 0 := by simp [exHeap] at hp; omega
        subst this; rfl
      · intro k hk; simp [exHeap'] at hk
      · intro p k hp hk
        have h0 : p ≠ 0 := by simp [exHeap] at hp; omega
        have h1 : p ≠ 1 := by simp [exHeap] at hp; omega
        simp [exHeap', h0, h1] at hk
  · exact Reach.kid (Reach.root (a := .ref 0) (by simp) (Sub.refl _)) (by simp [exHeap])
  · simp [exHeap, exHeap']

/-- the accepted program has an execution that really performs its write (on the copy) and returns -/
example : ∃ h' v, Run exCopy exHeap [.ref 0] h' (.ret v) ∧ h'.cell 3 ≠ exHeap.cell 3 := by
  -- deepcopy allocates 2 ↦ ⟨7,[3]⟩, 3 ↦ ⟨5,[]⟩; the write turns 3 into ⟨6,[]⟩
  let h1 : Heap := ⟨fun o => if o = 2 then ⟨7, [3]⟩ else if o = 3 then ⟨5, []⟩ else exHeap.cell o, 4⟩
  let h2 : Heap := ⟨fun o => if o = 3 then ⟨6, []⟩ else h1.cell o, 4⟩
  refine ⟨h2, .ref 2, ⟨_, rfl, rfl, ?_⟩, ?_⟩
  · show Exec _ _ _ _ (Stmt.seq _ (Stmt.seq _ _)) _ _
    have hal : Alloc exHeap h1 := by
      refine ⟨by decide, ?_, ?_⟩
      · intro o ho
        have h2' : o ≠ 2 := by simp [exHeap] at ho; omega
        have h3' : o ≠ 3 := by simp [exHeap] at ho; omega
        simp [h1, h2', h3']
      · intro o k ho hk
        by_cases e2 : o = 2
        · subst e2; simp [h1] at hk; subst hk; simp [exHeap]
        · by_cases e3 : o = 3
          · subst e3; simp [h1] at hk
          · have h0 : o ≠ 0 := by simp [exHeap] at ho; omega
            have h1' : o ≠ 1 := by simp [exHeap] at ho; omega
            simp [h1, e2, e3, exHeap, h0, h1'] at hk
    refine Exec.seq (Exec.assign (Eval.copyOf (o := 2) Eval.param hal (by decide) (by decide))) ?_
    refine Exec.seq (ρ1 := (Env.empty.upd 0 (.ref 2))) (h1 := h2) ?_ (Exec.ret Eval.var)
    refine Exec.write (o := 3) (h1 := h1)
      (Eval.elem (Eval.field (c := .ref 2) Eval.var (Nav.sub (Sub.refl _)))
        (Nav.kid (o := 2) (Sub.refl _) (by simp [h1]))) (by decide) ?_
    refine ⟨Nat.le_refl _, ?_, ?_, ?_⟩
    · intro p _ hne; simp [h2, hne]
    · intro k hk; simp [h2] at hk
    · intro p k hp hk
      have e3 : p ≠ 3 := by simp [h1] at hp; omega
      have e2 : p ≠ 2 := by simp [h1] at hp; omega
      have e0 : p ≠ 0 := by simp [h1] at hp; omega
      have e1 : p ≠ 1 := by simp [h1] at hp; omega
      simp [h2, h1, e3, e2, exHeap, e0, e1] at hk
  · simp [h2, exHeap]

end NSV.C11

import NoteSeqVerif.Proofs.C06Glue
import NoteSeqVerif.Proofs.C06Chords
import NoteSeqVerif.Proofs.C06Roll
import NoteSeqVerif.Proofs.C06Melody
/-! C06 — property theorems (DESIGN 6.6): rendering a canonical event sequence to notes, quantizing at the same
resolution and extracting again is the identity — at every tempo `qpm > 0`, every resolution, every start step,
with the float arithmetic the Python performs (`R` = any rounding operator with `Rounding R`, in particular
`rne53` = IEEE binary64), no bound other than `start + length < 2^40` and, where the extractor computes a bar
length, `spq ≤ 2^40`.  `to_sequence` is called with the default `sequence_start_time = 0.0` where it has that argument.

Here the float half (`render_quantize_exact`) and the discrete halves (through the specification theorems of C07)
are composed per type, together with `extract_canonical_*` (the canonical predicate is exactly what extraction produces) and non-vacuity examples. -/
namespace NSV.C06
open NSV.C07

variable {R : ℚ → ℚ}

/-- **DrumTrack, any storage order of the rendered notes** (the Python iterates a `frozenset`), any `total_time` -/
theorem roundtrip_Drums_anyorder (hR : Rounding R) (ev : List (List ℤ)) (S spq vel inst prog : ℤ) (qpm : ℚ)
    (ss gapBars : ℤ) (pad ign : Bool) (sn : List SNote) (tt : ℚ)
    (hq : 0 < qpm) (hspq : 0 < spq) (hspq' : spq ≤ 2 ^ 40) (hvel : vel ≠ 0)
    (hlen : S + ev.length < 2 ^ 40)
    (hc : CanonicalDrums (4 * spq) (gapBars * (4 * spq)) pad ss S ev)
    (hperm : sn.Perm (drumNotes ev)) :
    extractStage (fun q => drumsFromQuantized q ss gapBars pad ign)
      (quantizeStage R spq (.ok (timedSeq
        (stepTimeR R (secPerStepR R qpm spq) (seqStartR R (secPerStepR R qpm spq) S))
        qpm vel inst prog true sn [] tt))) =
      .ok ⟨ev, S, S + ev.length, 4 * spq, spq⟩ := by
  have hS : 0 ≤ S := by rcases hc with ⟨_, h⟩ | ⟨_, h1, h2, _⟩ <;> omega
  have hmem : ∀ d, d ∈ sn ↔ ∃ i : ℕ, i < ev.length ∧ d.a = i ∧ d.b = i + 1 ∧ d.pitch ∈ evAt ev i := by
    intro d; rw [hperm.mem_iff, mem_drumNotes]
  rw [quantize_rendered hR qpm spq S vel inst prog true sn [] tt hq hspq hS
    (by
      intro d hd
      obtain ⟨i, hi, ha, hb, _⟩ := (hmem d).mp hd
      have : (i : ℤ) < ev.length := by exact_mod_cast hi
      omega)
    (by intro c hcm; simp at hcm)]
  unfold extractStage
  simp only
  rw [drums_discrete _ ev S ss gapBars pad ign (4 * spq)
    (stepsPerBar_stepped _ _ _ _ _ _ _ _ _ _ _ _ hspq hspq') (by omega) ?_ ?_ hc]
  · rfl
  · intro n hn
    simp only [steppedSeq, List.mem_map] at hn
    obtain ⟨d, _, rfl⟩ := hn
    exact ⟨rfl, hvel⟩
  · intro t p
    simp only [steppedSeq, List.mem_map]
    constructor
    · rintro ⟨n, ⟨d, hd, rfl⟩, rfl, rfl⟩
      obtain ⟨i, hi, ha, _, hp⟩ := (hmem d).mp hd
      exact ⟨i, hi, by show S + d.a = S + i; omega, hp⟩
    · rintro ⟨i, hi, rfl, hp⟩
      obtain hd := (hmem ⟨p, i, i + 1⟩).mpr ⟨i, hi, rfl, rfl, hp⟩
      exact ⟨_, ⟨_, hd, rfl⟩, rfl, rfl⟩

/-- **`roundtrip_Drums`**: `DrumTrack(ev, start_step = S, steps_per_quarter = spq).to_sequence(velocity, instrument,
program, qpm = qpm)` → `quantize_note_sequence(·, spq)` → `DrumTrack().from_quantized_sequence(·, ss, gap_bars,
pad_end, ignore_is_drum)` returns `ev`, `S`, `S + len`, `4·spq`, `spq`. -/
theorem roundtrip_Drums (hR : Rounding R) (ev : List (List ℤ)) (S spq vel inst prog : ℤ) (qpm : ℚ)
    (ss gapBars : ℤ) (pad ign : Bool)
    (hq : 0 < qpm) (hspq : 0 < spq) (hspq' : spq ≤ 2 ^ 40) (hvel : vel ≠ 0)
    (hlen : S + ev.length < 2 ^ 40)
    (hc : CanonicalDrums (4 * spq) (gapBars * (4 * spq)) pad ss S ev) :
    tripDrums R ev S spq vel inst prog 0 qpm ss gapBars pad ign =
      .ok ⟨ev, S, S + ev.length, 4 * spq, spq⟩ := by
  unfold tripDrums renderDrums
  rw [if_neg (no_zero_div hq hspq)]
  simp only [seqStartAddR_zero hR]
  exact roundtrip_Drums_anyorder hR ev S spq vel inst prog qpm ss gapBars pad ign (drumNotes ev) _
    hq hspq hspq' hvel hlen hc (List.Perm.refl _)

/-- **`extract_canonical_Drums`**: whatever `DrumTrack.from_quantized_sequence` returns — on any quantized sequence
with a positive bar length, any `search_start_step ≥ 0`, `gap_bars`, `pad_end`, `ignore_is_drum` — satisfies
`CanonicalDrums` for the same parameters (and `end_step = start_step + len`). -/
theorem extract_canonical_Drums (s : NoteSeq) (ss gapBars : ℤ) (pad ign : Bool) (spb : ℤ)
    (hspb : stepsPerBar s = .ok spb) (hpos : 0 < spb) (hss : 0 ≤ ss)
    (r : SimpleResult (List ℤ)) (hr : drumsFromQuantized s ss gapBars pad ign = .ok r) :
    CanonicalDrums spb (gapBars * spb) pad ss r.startStep r.events ∧
      r.endStep = r.startStep + r.events.length ∧ r.stepsPerBar = spb ∧ r.stepsPerQuarter = s.spq := by
  by_cases hsel : s.notes.filter (drumSel ss ign) = []
  · rw [drums_empty s ss gapBars pad ign spb hspb hsel] at hr
    cases hr
    exact ⟨Or.inl ⟨rfl, rfl⟩, by simp, rfl, rfl⟩
  · obtain ⟨r', first, last, hr', ⟨nf, hnf, hnfq⟩, hmin, hstart, hrspb, hrspq, ⟨nl, hnl, hnlq⟩, hreach, -, hend,
      hlen, hev⟩ := drums_steps s ss gapBars pad ign spb hspb hpos hsel
    rw [hr] at hr'
    cases hr'
    have hfss : ss ≤ first := by
      have := (List.mem_filter.mp hnf).2
      simp only [drumSel, Bool.and_eq_true, decide_eq_true_eq] at this
      exact hnfq ▸ this.2
    generalize s.notes.filter (drumSel ss ign) = sel at *
    generalize r.startStep = S at *
    obtain ⟨hSf, hfS, hmod⟩ := (bar_line hpos S).mp hstart.symm
    have hfl : first ≤ last := hnlq ▸ hmin nl hnl
    -- the first and the last selected step as indexes `a ≤ l` into the events
    obtain ⟨l, rfl⟩ := Int.le.dest (Int.le_trans hSf hfl)
    obtain ⟨a, rfl⟩ := Int.le.dest hSf
    have hal : a ≤ l := by omega
    rw [show S + (l : ℤ) - S + 1 = (l : ℤ) + 1 by omega] at hlen
    have hll : l < r.events.length := by
      have : 0 ≤ (if pad then Int.fmod (-((l : ℤ) + 1)) spb else 0) := by
        split
        · exact Int.fmod_nonneg_of_pos _ hpos
        · exact Int.le_refl 0
      omega
    -- event `i` is non-empty exactly when `i ≤ l` and a selected note sits on step `S + i`
    have hocc : ∀ i : ℕ, i < r.events.length → (evAt r.events i ≠ [] ↔ i ≤ l ∧ ∃ n ∈ sel, n.qs = S + i) := by
      intro i hi
      have := hev i hi
      rw [getElem?_eq_evAt hi, Option.some.injEq] at this
      simp only [Int.add_le_add_iff_left, Int.ofNat_le] at this
      rw [this]
      split
      · rename_i h
        refine ⟨fun hne => ⟨h, ?_⟩, fun ⟨_, n, hn, hq⟩ => List.ne_nil_of_mem (mem_pitchesAt.mpr ⟨n, hn, hq, rfl⟩)⟩
        apply Decidable.byContradiction
        intro hno
        exact hne (pitchesAt_nil fun n hn hq => hno ⟨n, hn, hq⟩)
      · rename_i h
        exact ⟨fun hne => absurd rfl hne, fun h' => absurd h'.1 h⟩
    have hbefore : ∀ j : ℕ, j < a → evAt r.events j = [] := by
      intro j hj
      apply Decidable.byContradiction
      intro hne
      obtain ⟨_, n, hn, hq⟩ := (hocc j (Nat.lt_trans hj (Nat.lt_of_le_of_lt hal hll))).mp hne
      have := hmin n hn
      omega
    refine ⟨Or.inr ⟨?_, hss, le_bar_line hpos hfss hfS hmod, hmod,
      ⟨a, Nat.lt_of_le_of_lt hal hll, by omega, (hocc a (Nat.lt_of_le_of_lt hal hll)).mpr ⟨hal, nf, hnf, hnfq⟩,
        hbefore⟩, ?_,
      ⟨l, hll, (hocc l hll).mpr ⟨Nat.le_refl l, nl, hnl, hnlq⟩, ?_, hlen⟩⟩, hend, hrspb, hrspq⟩
    · intro e he
      obtain ⟨i, hi, rfl⟩ := List.mem_iff_getElem.mp he
      have := hev i hi
      rw [List.getElem?_eq_getElem hi, Option.some.injEq] at this
      rw [this]
      split
      · exact pitchesAt_sorted _ _
      · exact List.Pairwise.nil
    · -- a non-empty event is the first one or is reached from an earlier one by a hop below the gap
      intro j hj hne
      obtain ⟨hjl, n, hn, hq⟩ := (hocc j hj).mp hne
      rcases hreach n hn (hq ▸ Int.add_le_add_left (Int.ofNat_le.mpr hjl) S) with hnf' | ⟨m, hm, hmlt, hmgap⟩
      · have : j = a := index_of_step_unique hq hnf'
        exact Or.inl fun i hi => hbefore i (this ▸ hi)
      · have := hmin m hm
        obtain ⟨i, hi⟩ := Int.le.dest (Int.le_trans hSf this)
        have ⟨hij, hgap⟩ : i < j ∧ (j : ℤ) - (i + 1) < gapBars * spb := hop_on_indices hi hq hmlt hmgap
        exact Or.inr ⟨i, hij,
          (hocc i (Nat.lt_trans hij hj)).mpr ⟨Nat.le_of_lt (Nat.lt_of_lt_of_le hij hjl), m, hm, hi.symm⟩, hgap⟩
    · intro j hj hlj
      apply Decidable.byContradiction
      intro hne
      exact absurd hlj (Nat.not_lt.mpr ((hocc j hj).mp hne).1)

/-- non-vacuity: two bars at 3 steps per quarter, 100/3 qpm (rounded to a double), start step 24, gap of one bar
minus one step, padded to the bar -/
example : tripDrums rne53 [[], [36, 42], [], [38], [], [], [], [], [], [], [], [], [], [], [], [36], [42], [], [], [],
      [], [], [], []] 24 3 100 9 0 0 (rne53 (100 / 3)) 12 1 true false =
    .ok ⟨[[], [36, 42], [], [38], [], [], [], [], [], [], [], [], [], [], [], [36], [42], [], [], [], [], [], [], []],
      24, 48, 12, 3⟩ :=
  roundtrip_Drums rounding_rne53 _ 24 3 100 9 0 _ 12 1 true false (by decide +kernel) (by decide) (by decide)
    (by decide) (by decide) (by decide +kernel)

/-- **`roundtrip_Chords`**: `ChordProgression(ev, start_step = S, steps_per_quarter = spq).to_sequence(qpm = qpm)` →
`quantize_note_sequence(·, spq)` → `ChordProgression().from_quantized_sequence(·, S, S + len)` returns `ev`, `S`,
`S + len`, `4·spq`, `spq`, for every non-empty list of figures. -/
theorem roundtrip_Chords (hR : Rounding R) (ev : List String) (S spq : ℤ) (qpm : ℚ)
    (hq : 0 < qpm) (hspq : 0 < spq) (hspq' : spq ≤ 2 ^ 40) (hlen : S + ev.length < 2 ^ 40)
    (hc : CanonicalChords S ev) :
    tripChords R ev S spq 0 qpm = .ok ⟨ev, S, S + ev.length, 4 * spq, spq⟩ := by
  obtain ⟨hne, hS⟩ := hc
  unfold tripChords renderChords
  rw [if_neg (no_zero_div hq hspq)]
  simp only [seqStartAddR_zero hR]
  rw [quantize_rendered hR qpm spq S 0 0 0 false [] (chordChanges ev) 0 hq hspq hS
    (by intro d hd; simp at hd)
    (by
      intro c hcm
      have := chordChangesFrom_bounds ev 0 Gen.NO_CHORD c hcm
      omega)]
  unfold extractStage
  simp only
  rw [chords_discrete _ _ ev S (4 * spq) (stepsPerBar_stepped _ _ _ _ _ _ _ _ _ _ _ _ hspq hspq') rfl hne]
  rfl

/-- **`extract_canonical_Chords`**: whatever `ChordProgression.from_quantized_sequence(·, start, end)` returns for
`0 ≤ start < end` is canonical (a non-empty list of `end − start` figures at `start`). -/
theorem extract_canonical_Chords (s : NoteSeq) (start end_ : ℤ) (h0 : 0 ≤ start) (hse : start < end_)
    (r : SimpleResult String) (hr : chordsFromQuantized s start end_ = .ok r) :
    CanonicalChords r.startStep r.events ∧ r.startStep = start ∧ r.endStep = end_ ∧
      r.endStep = r.startStep + r.events.length ∧ r.stepsPerQuarter = s.spq := by
  rw [chordsFromQuantized_eq] at hr
  simp only [show ¬ end_ ≤ start by omega, ↓reduceIte] at hr
  split at hr
  · cases hr
  · split at hr
    · cases hr
    · cases hr
      refine ⟨⟨?_, h0⟩, rfl, rfl, ?_, rfl⟩
      · intro h
        have := congrArg List.length h
        simp only [length_chordTab, List.length_nil] at this
        omega
      · simp only [length_chordTab]
        omega

/-- non-vacuity: the list starts with NO_CHORD (hex `x4e2e432e`), changes, returns to NO_CHORD, repeats a figure -/
example : tripChords rne53 ["x4e2e432e", "x43", "x43", "x416d", "x4e2e432e", "x4e2e432e", "x43"] 16 4 0
      (rne53 (100 / 3)) =
    .ok ⟨["x4e2e432e", "x43", "x43", "x416d", "x4e2e432e", "x4e2e432e", "x43"], 16, 23, 16, 4⟩ :=
  roundtrip_Chords rounding_rne53 _ 16 4 _ (by decide +kernel) (by decide) (by decide) (by decide) (by decide +kernel)

/-- **PianorollSequence, any storage order of the rendered notes** (the Python iterates `set` differences) -/
theorem roundtrip_Pianoroll_anyorder (hR : Rounding R) (ev : List (List ℤ)) (S spq minP maxP vel inst prog : ℤ)
    (qpm : ℚ) (split : Bool) (sn : List SNote)
    (hq : 0 < qpm) (hspq : 0 < spq) (hlen : S + ev.length < 2 ^ 40)
    (hc : CanonicalPianoroll minP maxP S ev)
    (hperm : sn.Perm (rollNotes minP ev)) :
    extractStage (fun q => rollFromQuantized q S minP maxP split)
      (quantizeStage R spq (.ok (timedSeq
        (stepTimeR R (secPerStepR R qpm spq) (seqStartR R (secPerStepR R qpm spq) S))
        qpm vel inst prog false sn []
        (R (R (secPerStepR R qpm spq * ((ev.length : ℤ) : ℚ)) + seqStartR R (secPerStepR R qpm spq) S))))) =
      .ok ⟨ev, S, spq⟩ := by
  have hS : 0 ≤ S := hc.1
  have hsound := rollNotesFrom_sound minP ev 0 []
  have hb : ∀ d ∈ sn, 0 ≤ d.a ∧ d.a < d.b ∧ d.b ≤ ev.length := by
    intro d hd
    obtain ⟨p, i, m, rfl, him, hml, _⟩ := hsound d (hperm.mem_iff.mp hd)
    have : (m : ℤ) ≤ ev.length := by exact_mod_cast hml
    simp only
    omega
  rw [quantize_rendered hR qpm spq S vel inst prog false sn [] _ hq hspq hS
    (by intro d hd; obtain ⟨h1, h2, h3⟩ := hb d hd; omega)
    (by intro c hcm; simp at hcm)]
  have htot : C01.qstepR R (1 / 2)
      (R (R (secPerStepR R qpm spq * ((ev.length : ℤ) : ℚ)) + seqStartR R (secPerStepR R qpm spq) S))
      (C01.spsR R spq qpm) = S + ev.length := by
    have := render_quantize_exact hR qpm spq S (ev.length : ℤ) hq hspq hS (by omega) hlen
    unfold stepTimeR at this
    rw [mul_comm] at this
    exact this
  rw [htot, totalAfter_eq S sn _ (by intro d hd; obtain ⟨_, _, h3⟩ := hb d hd; omega)]
  unfold extractStage rollFromQuantized
  simp only
  rw [roll_discrete _ ev S minP maxP split (by exact hspq) rfl ?_ ?_ hc]
  · rfl
  · intro n hn
    simp only [steppedSeq, List.mem_map] at hn
    obtain ⟨d, hd, rfl⟩ := hn
    exact ⟨d, hperm.mem_iff.mp hd, rfl, rfl, rfl⟩
  · intro d hd
    exact ⟨_, by simp only [steppedSeq, List.mem_map]; exact ⟨d, hperm.mem_iff.mpr hd, rfl⟩, rfl, rfl, rfl⟩

/-- **`roundtrip_Pianoroll`**: `PianorollSequence(events_list = ev, steps_per_quarter = spq, start_step = S, min_pitch,
max_pitch).to_sequence(velocity, instrument, program, qpm)` → `quantize_note_sequence(·, spq)` →
`PianorollSequence(quantized_sequence = ·, start_step = S, min_pitch, max_pitch, split_repeats)` returns `ev`, `S`,
`spq`, with or without `split_repeats`; trailing silent frames included (the total time carries the length). -/
theorem roundtrip_Pianoroll (hR : Rounding R) (ev : List (List ℤ)) (S spq minP maxP vel inst prog : ℤ)
    (qpm : ℚ) (split : Bool)
    (hq : 0 < qpm) (hspq : 0 < spq) (hlen : S + ev.length < 2 ^ 40)
    (hc : CanonicalPianoroll minP maxP S ev) :
    tripPianoroll R ev S spq minP maxP vel inst prog qpm split = .ok ⟨ev, S, spq⟩ := by
  unfold tripPianoroll renderPianoroll
  rw [if_neg (no_zero_div hq hspq)]
  exact roundtrip_Pianoroll_anyorder hR ev S spq minP maxP vel inst prog qpm split (rollNotes minP ev)
    hq hspq hlen hc (List.Perm.refl _)

/-- **`extract_canonical_Pianoroll`**: every roll `PianorollSequence(quantized_sequence = …)` returns, from a start
step `≥ 0`, is canonical for its pitch range. -/
theorem extract_canonical_Pianoroll (s : NoteSeq) (S minP maxP : ℤ) (split : Bool) (hS : 0 ≤ S)
    (r : RollResult) (h : rollFromQuantized s S minP maxP split = .ok r) :
    CanonicalPianoroll minP maxP r.startStep r.events ∧ r.startStep = S ∧ r.stepsPerQuarter = s.spq := by
  unfold rollFromQuantized at h
  split at h
  · cases h
  · rename_i evs hevs
    cases h
    exact ⟨roll_extract_canonical s S minP maxP split hS evs hevs, rfl, rfl⟩

/-- non-vacuity: a sustained note, a re-strike after one silent frame, a chord, two trailing silent frames; range
60..72, 6 steps per quarter, 100/3 qpm, start step 48 -/
example : tripPianoroll rne53 [[0], [0, 4], [4], [], [4, 7, 12], [12], [], []] 48 6 60 72 100 0 0
      (rne53 (100 / 3)) true = .ok ⟨[[0], [0, 4], [4], [], [4, 7, 12], [12], [], []], 48, 6⟩ :=
  roundtrip_Pianoroll rounding_rne53 _ 48 6 60 72 100 0 0 _ true (by decide +kernel) (by decide) (by decide)
    (by decide +kernel)

/-- **`roundtrip_Melody`**: `Melody(ev, start_step = S, steps_per_quarter = spq).to_sequence(velocity, instrument,
program, qpm = qpm)` → `quantize_note_sequence(·, spq)` → `Melody().from_quantized_sequence(·, ss, instrument,
gap_bars, ignore_polyphonic_notes, pad_end, filter_drums)` returns `ev`, `S`, `S + len`, `4·spq`, `spq` — for
every canonical melody, `gap_bars ≥ 1`, non-zero velocity, any `ignore_polyphonic_notes` / `filter_drums`. -/
theorem roundtrip_Melody (hR : Rounding R) (ev : List ℤ) (S spq vel inst prog : ℤ) (qpm : ℚ)
    (ss gapBars : ℤ) (ip pad fd : Bool)
    (hq : 0 < qpm) (hspq : 0 < spq) (hspq' : spq ≤ 2 ^ 40) (hvel : vel ≠ 0) (hgap : 0 < gapBars)
    (hlen : S + ev.length < 2 ^ 40)
    (hc : CanonicalMelody (4 * spq) (gapBars * (4 * spq)) pad ss S ev) :
    tripMelody R ev S spq vel inst prog 0 qpm ss gapBars ip pad fd =
      .ok ⟨ev, S, S + ev.length, 4 * spq, spq⟩ := by
  have hS := hc.start_nonneg
  unfold tripMelody renderMelody
  rw [if_neg (no_zero_div hq hspq)]
  simp only [seqStartAddR_zero hR]
  rw [quantize_rendered hR qpm spq S vel inst prog false (melodyNotes ev) [] _ hq hspq hS
    (melodyNotes_bounds ev hlen)
    (by intro c hcm; simp at hcm)]
  unfold extractStage
  simp only
  rw [melody_discrete _ _ ev S ss inst gapBars vel prog ip pad fd (4 * spq)
    (stepsPerBar_stepped _ _ _ _ _ _ _ _ _ _ _ _ hspq hspq') (by omega) hgap hvel rfl hc]
  rfl

/-- **`extract_canonical_Melody`**: whatever `Melody.from_quantized_sequence` returns — on any quantized sequence with a
positive bar length whose selected notes have positive length and MIDI pitches, any `search_start_step ≥ 0`,
`gap_bars`, `pad_end`, `ignore_polyphonic_notes`, `filter_drums` — satisfies `CanonicalMelody` for the same
parameters (and `end_step = start_step + len`). -/
theorem extract_canonical_Melody (s : NoteSeq) (ss inst gapBars : ℤ) (ip pad fd : Bool) (spb : ℤ)
    (hspb : stepsPerBar s = .ok spb) (hpos : 0 < spb) (hss : 0 ≤ ss)
    (hvalid : ∀ n ∈ s.notes, melSel ss inst fd n = true → n.qs < n.qe ∧ 0 ≤ n.pitch ∧ n.pitch ≤ 127)
    (r : SimpleResult ℤ) (hr : melodyFromQuantized s ss inst gapBars ip pad fd = .ok r) :
    CanonicalMelody spb (gapBars * spb) pad ss r.startStep r.events ∧
      r.endStep = r.startStep + r.events.length ∧ r.stepsPerBar = spb ∧ r.stepsPerQuarter = s.spq := by
  cases hL : (s.notes.filter (melSel ss inst fd)).mergeSort melLe with
  | nil =>
    have hsel : s.notes.filter (melSel ss inst fd) = [] := by
      have := congrArg List.length hL
      rw [List.length_mergeSort] at this
      exact List.eq_nil_of_length_eq_zero this
    rw [melody_empty s ss inst gapBars ip pad fd spb hspb hsel] at hr
    cases hr
    exact ⟨Or.inl ⟨rfl, rfl⟩, by simp, rfl, rfl⟩
  | cons first rest =>
    obtain ⟨hdupcase, hmain⟩ := melody_steps s ss inst gapBars ip pad fd spb hspb hpos
      (fun n hn h => ⟨(hvalid n hn h).1, (hvalid n hn h).2.1⟩) first rest hL
    by_cases hdup : ip = false ∧ dupFrom (gapBars * spb) first rest = true
    · rw [hdupcase hdup] at hr; cases hr
    · obtain ⟨last, evs, hlast, hres, hlen, hidx⟩ := hmain hdup
      rw [hres] at hr
      cases hr
      have hmemsel : ∀ n ∈ first :: rest, n ∈ s.notes ∧ melSel ss inst fd n = true := by
        intro n hn
        rw [← hL, List.mem_mergeSort, List.mem_filter] at hn
        exact hn
      have hsorted : (first :: rest).Pairwise (fun a b => a.qs ≤ b.qs) := by
        rw [← hL]
        apply List.Pairwise.imp _ (melSorted _)
        intro a b h; rcases h with h | h <;> omega
      have hinc := kept_increasing (gapBars * spb) rest first hsorted
      have hsub := keptFrom_sublist (gapBars * spb) rest first
      have hKmem : ∀ k ∈ first :: keptFrom (gapBars * spb) first rest, k ∈ first :: rest := by
        intro k hk
        rcases List.mem_cons.mp hk with rfl | h
        · exact List.mem_cons_self ..
        · exact List.mem_cons_of_mem _ (hsub.subset h)
      have hfss : ss ≤ first.qs := by
        have := (hmemsel first (List.mem_cons_self ..)).2
        simp only [melSel, Bool.and_eq_true, decide_eq_true_eq] at this
        exact this.1.1.2
      generalize hstart : first.qs - Int.fmod (first.qs - ss) spb = start at *
      obtain ⟨hSf, hfS, hmod⟩ := (bar_line hpos start).mp hstart
      have hssS := le_bar_line hpos hfss hfS hmod
      let rel : Note → SNote := fun k => ⟨k.pitch, k.qs - start, k.qe - start⟩
      have hchain : ChainData (gapBars * spb) (rel first :: (keptFrom (gapBars * spb) first rest).map rel) := by
        rw [← List.map_cons]
        refine ⟨?_, ?_, ?_⟩
        · rw [List.pairwise_map]
          apply List.Pairwise.imp _ hinc
          intro a b h
          show a.qs - start < b.qs - start
          omega
        · intro d hd
          obtain ⟨k, hk, rfl⟩ := List.mem_map.mp hd
          obtain ⟨hks, hksel⟩ := hmemsel k (hKmem k hk)
          obtain ⟨h1, h2, h3⟩ := hvalid k hks hksel
          exact ⟨by show k.qs - start < k.qe - start; omega, (isPitch_iff k.pitch).mpr ⟨h2, h3⟩⟩
        · intro pre x y post hsplit
          obtain ⟨l1, l2, hK, hl1, hl2⟩ := List.map_eq_append_iff.mp hsplit
          obtain ⟨x', l3, hl2', hx', hl3⟩ := List.map_eq_cons_iff.mp hl2
          obtain ⟨y', l4, hl3', hy', _⟩ := List.map_eq_cons_iff.mp hl3
          have := kept_chain (gapBars * spb) rest first l1 x' y' l4 (by rw [hK, hl2', hl3'])
          rw [← hx', ← hy']
          show y'.qs - start - (x'.qe - start) < gapBars * spb
          omega
      have hlast' : (rel first :: (keptFrom (gapBars * spb) first rest).map rel).getLast? = some (rel last) := by
        rw [← List.map_cons, List.getLast?_map, hlast]; rfl
      have hcanon := canonical_of_rule spb (gapBars * spb) pad ss start (rel first)
        ((keptFrom (gapBars * spb) first rest).map rel) (rel last) evs hpos hchain hlast'
        (by show 0 ≤ first.qs - start; omega) (by show first.qs - start < spb; omega) hss (by omega) hmod
        (by rw [hlen])
        (by
          intro i hi
          rw [hidx i hi, melRule_rel start, List.map_cons])
      exact ⟨hcanon, rfl, rfl, rfl⟩

/-- non-vacuity: a bar and a half at 2 steps per quarter: leading rest, a note cut by the next, a NOTE_OFF, silence one
step short of the one-bar gap, a final note sustained to the end; start step 16, search from step 8 -/
example : tripMelody rne53 [-2, 60, -2, 62, -1, -2, -2, -2, -2, -2, -2, 64, -2] 16 2 100 0 0 0 (rne53 (100 / 3))
      8 1 false false true = .ok ⟨[-2, 60, -2, 62, -1, -2, -2, -2, -2, -2, -2, 64, -2], 16, 29, 8, 2⟩ :=
  roundtrip_Melody rounding_rne53 _ 16 2 100 0 0 _ 8 1 false false true (by decide +kernel) (by decide)
    (by decide) (by decide) (by decide) (by decide) (by decide +kernel)

/-- non-vacuity with `pad_end`: the last note's NOTE_OFF lies in the last bar -/
example : tripMelody rne53 [60, -2, -2, 67, -2, -1, -2, -2] 0 1 100 0 0 0 120 0 2 true true false =
    .ok ⟨[60, -2, -2, 67, -2, -1, -2, -2], 0, 8, 4, 1⟩ :=
  roundtrip_Melody rounding_rne53 _ 0 1 100 0 0 _ 0 2 true true false (by decide +kernel) (by decide)
    (by decide) (by decide) (by decide) (by decide) (by decide +kernel)

/-- **`roundtrip_LeadSheet`**: `LeadSheet(Melody(mel, S, spq), ChordProgression(ch, S, spq)).to_sequence(velocity,
instrument, qpm = qpm)` → `quantize_note_sequence(·, spq)` → the melody extractor, then the chord extractor over the
melody's `[start_step, end_step)`: both come back unchanged, on the same range (so `LeadSheet(melody, chords)`
accepts them). -/
theorem roundtrip_LeadSheet (hR : Rounding R) (mel : List ℤ) (ch : List String) (S spq vel inst : ℤ) (qpm : ℚ)
    (ss gapBars : ℤ) (ip pad fd : Bool)
    (hq : 0 < qpm) (hspq : 0 < spq) (hspq' : spq ≤ 2 ^ 40) (hvel : vel ≠ 0) (hgap : 0 < gapBars)
    (hlen : S + mel.length < 2 ^ 40)
    (hc : CanonicalLeadSheet (4 * spq) (gapBars * (4 * spq)) pad ss S mel ch) :
    tripLeadSheet R mel ch S spq vel inst 0 qpm ss gapBars ip pad fd =
      .ok (⟨mel, S, S + mel.length, 4 * spq, spq⟩, ⟨ch, S, S + mel.length, 4 * spq, spq⟩) := by
  obtain ⟨hne, hcm, hl⟩ := hc
  have hS := hcm.start_nonneg
  have hchne : ch ≠ [] := by
    intro h; rw [h] at hl; simp at hl; exact hne (List.eq_nil_of_length_eq_zero hl.symm)
  unfold tripLeadSheet renderLeadSheet
  rw [if_neg (no_zero_div hq hspq)]
  simp only [seqStartAddR_zero hR]
  rw [quantize_rendered hR qpm spq S vel inst 0 false (melodyNotes mel) (chordChanges ch) _ hq hspq hS
    (melodyNotes_bounds mel hlen)
    (by
      intro c hcm'
      have := chordChangesFrom_bounds ch 0 Gen.NO_CHORD c hcm'
      have : (ch.length : ℤ) = mel.length := by exact_mod_cast hl
      omega)]
  unfold extractStage
  simp only
  rw [melody_discrete _ _ mel S ss inst gapBars vel 0 ip pad fd (4 * spq)
    (stepsPerBar_stepped _ _ _ _ _ _ _ _ _ _ _ _ hspq hspq') (by omega) hgap hvel rfl hcm]
  simp only
  have hl' : S + (mel.length : ℤ) = S + (ch.length : ℤ) := by
    have : (ch.length : ℤ) = mel.length := by exact_mod_cast hl
    omega
  rw [hl', chords_discrete _ _ ch S (4 * spq) (stepsPerBar_stepped _ _ _ _ _ _ _ _ _ _ _ _ hspq hspq') rfl hchne]
  rfl

/-- **`extract_canonical_LeadSheet`**: a non-empty melody returned by the melody extractor together with the chords
returned by the chord extractor over the melody's `[start_step, end_step)` is a canonical lead sheet (the two have
the same length and start step, which is what the `LeadSheet` constructor demands). -/
theorem extract_canonical_LeadSheet (s : NoteSeq) (ss inst gapBars : ℤ) (ip pad fd : Bool) (spb : ℤ)
    (hspb : stepsPerBar s = .ok spb) (hpos : 0 < spb) (hss : 0 ≤ ss)
    (hvalid : ∀ n ∈ s.notes, melSel ss inst fd n = true → n.qs < n.qe ∧ 0 ≤ n.pitch ∧ n.pitch ≤ 127)
    (m : SimpleResult ℤ) (hm : melodyFromQuantized s ss inst gapBars ip pad fd = .ok m) (hne : m.events ≠ [])
    (c : SimpleResult String) (hc : chordsFromQuantized s m.startStep m.endStep = .ok c) :
    CanonicalLeadSheet spb (gapBars * spb) pad ss m.startStep m.events c.events ∧
      c.startStep = m.startStep ∧ c.endStep = m.endStep := by
  obtain ⟨hcm, hend, _, _⟩ := extract_canonical_Melody s ss inst gapBars ip pad fd spb hspb hpos hss hvalid m hm
  have hS := hcm.start_nonneg
  have hlen : 0 < m.events.length := List.length_pos_iff.mpr hne
  obtain ⟨_, h1, h3, h2, _⟩ := extract_canonical_Chords s m.startStep m.endStep hS (by omega) c hc
  refine ⟨⟨hne, hcm, ?_⟩, h1, h3⟩
  have : (c.events.length : ℤ) = m.events.length := by omega
  exact_mod_cast this

/-- non-vacuity: one bar at 1 step per quarter with a chord change on the third step -/
example : tripLeadSheet rne53 [60, -2, 62, -2] ["x43", "x43", "x4737", "x4737"] 4 1 100 0 0 (rne53 (100 / 3))
      0 1 false false true =
    .ok (⟨[60, -2, 62, -2], 4, 8, 4, 1⟩, ⟨["x43", "x43", "x4737", "x4737"], 4, 8, 4, 1⟩) :=
  roundtrip_LeadSheet rounding_rne53 _ _ 4 1 100 0 _ 0 1 false false true (by decide +kernel) (by decide)
    (by decide) (by decide) (by decide) (by decide) (by decide +kernel)

/-! ## non-vacuity of the `extract_canonical_*` theorems: C07's example sequence `exRel` (4 steps per quarter, 4/4:
a drum hit, a two-note chord, abutting notes, a note two bars later, chord annotations) -/

example : ∃ r, drumsFromQuantized exRel 0 1 true true = .ok r ∧
    CanonicalDrums 16 (1 * 16) true 0 r.startStep r.events ∧ r.events ≠ [] := by
  obtain ⟨r, hr, hne⟩ := ok_of_decide (x := drumsFromQuantized exRel 0 1 true true) (P := fun r => r.events ≠ [])
    (by decide +kernel)
  exact ⟨r, hr, (extract_canonical_Drums exRel 0 1 true true 16 exRel_spb (by decide) (by decide) r hr).1, hne⟩

/-- the melody of `exRel` on instrument 0 (polyphony ignored): the kept notes are 64@0–2, 60@2–4, 60@4–6 -/
theorem exRel_melody : ∃ evs, melodyFromQuantized exRel 0 0 1 true false true = .ok ⟨evs, 0, 6, 16, 4⟩ ∧
    evs.length = 6 := by
  obtain ⟨last, evs, hlast, hres, hlen, _⟩ :=
    (melody_steps exRel 0 0 1 true false true 16 exRel_spb (by decide) exRel_melValid _ _ exRel_melSorted).2 (by simp)
  have hk : keptFrom (1 * 16) (exNote 64 0 2) [exNote 55 0 2, exNote 60 2 4, exNote 60 4 6, exNote 62 24 26] =
      [exNote 60 2 4, exNote 60 4 6] := by decide +kernel
  rw [hk] at hlast
  simp only [List.getLast?_cons_cons, List.getLast?_singleton, Option.some.injEq] at hlast
  subst hlast
  have hs : (exNote 64 0 2).qs - Int.fmod ((exNote 64 0 2).qs - 0) 16 = 0 := by decide +kernel
  rw [hs] at hres hlen
  have hl6 : evs.length = 6 := by
    have : (evs.length : ℤ) = 6 := by rw [hlen]; decide +kernel
    exact_mod_cast this
  refine ⟨evs, ?_, hl6⟩
  rw [hres, hl6]
  rfl

example : ∃ r, melodyFromQuantized exRel 0 0 1 true false true = .ok r ∧
    CanonicalMelody 16 (1 * 16) false 0 r.startStep r.events ∧ r.events ≠ [] := by
  obtain ⟨evs, hr, hl⟩ := exRel_melody
  refine ⟨_, hr, (extract_canonical_Melody exRel 0 0 1 true false true 16 exRel_spb (by decide) (by decide)
    (by decide) _ hr).1, ?_⟩
  intro h3
  simp only at h3
  rw [h3] at hl; simp at hl

example : ∃ r, chordsFromQuantized exRel 0 12 = .ok r ∧ CanonicalChords r.startStep r.events := by
  obtain ⟨E, hr, _, _⟩ := chords_steps exRel 0 12 16 exRel_spb (by decide) exRel_noCoincidence
  exact ⟨_, hr, (extract_canonical_Chords exRel 0 12 (by decide) (by decide) _ hr).1⟩

example : ∃ r, rollFromQuantized exRel 0 55 64 true = .ok r ∧ CanonicalPianoroll 55 64 r.startStep r.events ∧
    r.events.length = 26 := by
  obtain ⟨evs, hr, hlen, _⟩ := pianoroll_frame_mem exRel 0 55 64 true (by decide) (by decide) (by decide) (by decide)
  have hr' : rollFromQuantized exRel 0 55 64 true = .ok ⟨evs, 0, exRel.spq⟩ := by
    unfold rollFromQuantized; rw [hr]
  refine ⟨_, hr', (extract_canonical_Pianoroll exRel 0 55 64 true (by decide) _ hr').1, ?_⟩
  have : (evs.length : ℤ) = 26 := by rw [hlen]; decide
  exact_mod_cast this

example : ∃ m c, melodyFromQuantized exRel 0 0 1 true false true = .ok m ∧
    chordsFromQuantized exRel m.startStep m.endStep = .ok c ∧
    CanonicalLeadSheet 16 (1 * 16) false 0 m.startStep m.events c.events := by
  obtain ⟨evs, hm, hl⟩ := exRel_melody
  have hnc : ¬ ChordsCoincident exRel 0 6 := by
    rintro ⟨a, ha, b, hb, h1, h2, h3, h4, h5, h6⟩
    exact exRel_noCoincidence ⟨a, ha, b, hb, h1, h2, h3, h4, by omega, h6⟩
  obtain ⟨E, hc, _, _⟩ := chords_steps exRel 0 6 16 exRel_spb (by decide) hnc
  have hne : evs ≠ [] := by intro h; rw [h] at hl; simp at hl
  exact ⟨_, _, hm, hc, (extract_canonical_LeadSheet exRel 0 0 1 true false true 16 exRel_spb (by decide)
    (by decide) (by decide) _ hm hne _ hc).1⟩

end NSV.C06

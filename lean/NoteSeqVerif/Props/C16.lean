import NoteSeqVerif.Proofs.C16
/-! C16 — decoding arbitrary bytes as MIDI fails only with MIDIConversionError, and what is
returned is well-formed.

The byte-level decoder (`pretty_midi.PrettyMIDI` on top of `mido`) is third-party: it is the
parameter `decodeCtor`.  The theorems are about note-seq's own code — the handler around the
constructor (its caught classes are regenerated from the source into `Gen.ctorTrys`) and the
code after it (`post`, whose `try` contexts are the regenerated `Gen.h_*`) — for EVERY object
the constructor can return that satisfies the explicit invariant `Inv`, and every exception it
can raise.  `Inv` is an assumption on third-party code; the harness evaluates it on every real
object the constructor returns (`invB`, proved equivalent below). -/
namespace NSV.C16

/-- Whatever class the constructor raises (arbitrary name and MRO, so also `MemoryError`,
`KeyboardInterrupt`, …), the handler regenerated from the source turns it into
`MIDIConversionError` — provided building the handler's message does not itself raise.
Fails to check as soon as the bare `except:` is narrowed or removed. -/
theorem ctor_handler_catches_everything (ce : CtorErr) (h : ce.fmtRaises = none) :
    ctorRaise Gen.ctorTrys ce = mce := by
  simp [Gen.ctorTrys, ctorRaise, firstMatch, catches, h, raiseThrough, excOfName]

example : ctorRaise Gen.ctorTrys ⟨⟨"KeyboardInterrupt", ["KeyboardInterrupt", "BaseException", "object"]⟩, none⟩ = mce := by
  decide

/-- the denominator assignment is the only one inside a `try`: its int32 overflow is converted -/
theorem denominator_overflow_converted (t : PMTimeSig) (hn : inInt32 t.num = true)
    (hd : inInt32 t.den = false) : convTimeSig t = .error mce := by
  rw [convTimeSig_eq hn, hd]; rfl

/-- under `Inv` no statement after the constructor raises anything but
`MIDIConversionError`. -/
theorem midi_post_total {pm : PM} (h : Inv pm) {e : PyExc} (he : post pm = .error e) : e = mce := by
  rcases post_spec h with ⟨_, hs⟩ | ⟨_, _, l, _, hs⟩
  · rw [hs] at he; cases he; rfl
  · rw [hs] at he; cases he

/-- under `Inv`, `post` rejects exactly: non-positive resolution (SMPTE division), a time
signature denominator outside int32 (e.g. `2^255`), a key number whose mode is neither 0 nor 1 -/
theorem midi_post_rejects_iff {pm : PM} (h : Inv pm) : post pm = .error mce ↔ Rejected pm := by
  rcases post_spec h with ⟨hr, hs⟩ | ⟨hr, _, l, _, hs⟩
  · exact ⟨fun _ => hr, fun _ => hs⟩
  · exact ⟨fun he => (by rw [hs] at he; cases he), fun hr' => absurd hr' hr⟩

/-- … and otherwise returns exactly the PrettyMIDI object's contents, record by record, in order -/
theorem midi_post_returns {pm : PM} (h : Inv pm) (hr : ¬ Rejected pm) :
    ∃ l, pm.tempoChanges = .ok l ∧ post pm = .ok (postValue pm l) := by
  rcases post_spec h with ⟨hr', _⟩ | ⟨_, _, l, hl, hs⟩
  · exact absurd hr' hr
  · exact ⟨l, hl, hs⟩

/-- `total_time` of the result is the largest note end (0 when there is no note) -/
theorem postValue_total_time {pm : PM} (h : InvPos pm) (l : List (Rat × Rat)) :
    let ends := (taggedNotes (enumFrom 0 pm.instruments)).map (fun t => t.2.2.2.end_)
    (∀ e ∈ ends, e ≤ (postValue pm l).seq.totalTime) ∧
    ((postValue pm l).seq.totalTime = 0 ∨ (postValue pm l).seq.totalTime ∈ ends) := by
  intro ends
  have hends : ∀ e ∈ ends, (0 : Rat) ≤ e := by
    intro e he
    obtain ⟨t, ht, rfl⟩ := List.mem_map.1 he
    obtain ⟨_, _, i, hi, hn⟩ := mem_tagged h PMInst.notes ht
    have := h.notes i hi _ hn
    exact Rat.le_trans this.2.2.2.2.1 this.2.2.2.2.2
  have hmem : ends.foldl totalStep 0 = 0 ∨ ends.foldl totalStep 0 ∈ ends :=
    foldl_totalStep hends 0 ▸ foldl_max_mem ends 0
  exact ⟨(totalStep_fold _ 0 hends).2, hmem⟩

theorem postValue_wf {pm : PM} (h : InvPos pm) {l : List (Rat × Rat)} (hl : pm.tempoChanges = .ok l) :
    WFmidi (postValue pm l) := by
  obtain ⟨l', hl', hpos⟩ := h.tempoOk
  rw [hl] at hl'; cases hl'
  exact {
    notes := List.forall_mem_map.2 fun t ht =>
      have ⟨_, _, i, hi, hn⟩ := mem_tagged h PMInst.notes ht
      have hi := h.notes i hi _ hn
      ⟨hi.2.2.2.2.1, hi.2.2.2.2.2, (postValue_total_time h l).1 _ (List.mem_map.2 ⟨t, ht, rfl⟩),
        hi.1, hi.2.1, hi.2.2.1, hi.2.2.2.1⟩
    tempos := List.forall_mem_map.2 hpos
    timeSigs := List.forall_mem_map.2 h.tsTime
    keySigs := List.forall_mem_map.2 h.keyTime
    bends := List.forall_mem_map.2 fun t ht =>
      have ⟨_, _, i, hi, hn⟩ := mem_tagged h PMInst.bends ht
      (h.bends i hi _ hn).2
    ccs := List.forall_mem_map.2 fun t ht =>
      have ⟨_, _, i, hi, hn⟩ := mem_tagged h PMInst.ccs ht
      (h.ccs i hi _ hn).2.2 }

theorem midi_post_wf {pm : PM} (h : Inv pm) {s : MidiSeq} (hs : post pm = .ok s) : WFmidi s := by
  rcases post_spec h with ⟨_, he⟩ | ⟨_, hp, l, hl, hv⟩
  · rw [he] at hs; cases hs
  · rw [hv] at hs; cases hs; exact postValue_wf hp hl

/-- `post` returns only for an object with positive resolution, the value it copies into
`ticks_per_quarter` (the F-C16-1 guard), with or without `Inv` -/
theorem midi_post_ok_resolution_pos {pm : PM} {s : MidiSeq} (hs : post pm = .ok s) : 0 < pm.resolution :=
  Int.not_le.mp fun hres => by rw [post_nonpos hres] at hs; cases hs

/-- the property: for every constructor behaviour and every byte string — if what the
constructor returns satisfies `Inv`, and building the handler's message does not raise — the
function either returns a well-formed sequence or raises `MIDIConversionError`; nothing else. -/
theorem midi_errors_closed (decodeCtor : Bytes → Except CtorErr PM) (b : Bytes)
    (hinv : ∀ pm, decodeCtor b = .ok pm → Inv pm)
    (hfmt : ∀ ce, decodeCtor b = .error ce → ce.fmtRaises = none) :
    (∃ s, midiToNoteSequence decodeCtor b = .ok s ∧ WFmidi s) ∨
    midiToNoteSequence decodeCtor b = .error mce := by
  unfold midiToNoteSequence
  cases hd : decodeCtor b with
  | error ce =>
    right
    simp only []
    rw [ctor_handler_catches_everything ce (hfmt ce hd)]
  | ok pm =>
    simp only []
    cases hp : post pm with
    | error e => right; rw [midi_post_total (hinv pm hd) hp]
    | ok s => left; exact ⟨s, rfl, midi_post_wf (hinv pm hd) hp⟩

/-- the same with the outcome spelled out: returned iff the constructor returned an object that is
not `Rejected` -/
theorem midi_returns_iff (decodeCtor : Bytes → Except CtorErr PM) (b : Bytes)
    (hinv : ∀ pm, decodeCtor b = .ok pm → Inv pm) :
    (∃ s, midiToNoteSequence decodeCtor b = .ok s) ↔ ∃ pm, decodeCtor b = .ok pm ∧ ¬ Rejected pm := by
  unfold midiToNoteSequence
  cases hd : decodeCtor b with
  | error ce => simp
  | ok pm =>
    simp only []
    rcases post_spec (hinv pm hd) with ⟨hr, hs⟩ | ⟨hr, _, l, _, hs⟩
    · rw [hs]; simp [hr]
    · rw [hs]; simp [hr]

/-! ## the executable checks the driver / monitor run are the predicates of the theorems -/

theorem invPosB_iff (pm : PM) : invPosB pm = true ↔ InvPos pm := by
  constructor
  · intro h
    simp only [invPosB, Bool.and_eq_true, List.all_eq_true, decide_eq_true_eq] at h
    obtain ⟨⟨⟨⟨h2, h3⟩, h4⟩, h5⟩, h6⟩ := h
    refine ⟨fun t ht => (h2 t ht).1, fun t ht => (h2 t ht).2, h3, ?_, h5,
      fun i hi => (h6 i hi).1.1.1, fun i hi n hn => (h6 i hi).1.1.2 n hn,
      fun i hi b hb => (h6 i hi).1.2 b hb, fun i hi c hc => ?_⟩
    · cases ht : pm.tempoChanges with
      | error e => simp [ht] at h4
      | ok l =>
        simp only [ht, List.all_eq_true, decide_eq_true_eq] at h4
        exact ⟨l, rfl, h4⟩
    · have := (h6 i hi).2 c hc
      exact ⟨this.1.1, this.1.2, this.2⟩
  · intro h
    obtain ⟨l, hl, hpos⟩ := h.tempoOk
    simp only [invPosB, Bool.and_eq_true, List.all_eq_true, decide_eq_true_eq, hl]
    exact ⟨⟨⟨⟨fun t ht => ⟨h.tsNum t ht, h.tsTime t ht⟩, h.keyTime⟩, hpos⟩, h.nInst⟩,
      fun i hi => ⟨⟨⟨h.program i hi, h.notes i hi⟩, h.bends i hi⟩,
        fun c hc => ⟨⟨(h.ccs i hi c hc).1, (h.ccs i hi c hc).2.1⟩, (h.ccs i hi c hc).2.2⟩⟩⟩

/-- the Boolean the driver prints (and the harness recomputes on the real object) is `Inv` -/
theorem invB_iff (pm : PM) : invB pm = true ↔ Inv pm := by
  unfold invB Inv
  rw [Bool.and_eq_true, Bool.or_eq_true, invPosB_iff, Bool.not_eq_true', decide_eq_false_iff_not,
    ← Decidable.imp_iff_not_or]

theorem wfB_iff (s : MidiSeq) : wfB s = true ↔ WFmidi s := by
  simp only [wfB, Bool.and_eq_true, List.all_eq_true, decide_eq_true_eq]
  constructor
  · rintro ⟨⟨⟨⟨⟨h1, h2⟩, h3⟩, h4⟩, h5⟩, h6⟩
    exact ⟨h1, h2, h3, h4, h5, h6⟩
  · intro h
    exact ⟨⟨⟨⟨⟨h.notes, h.tempos⟩, h.timeSigs⟩, h.keySigs⟩, h.bends⟩, h.ccs⟩

/-! ## the model was transcribed from exactly this statement sequence -/

/-- the statements of `midi_to_note_sequence` that `Model/C16.lean` transcribes, in source
order.  `Gen.sourceOrder` is regenerated from the AST on every run: any statement added, removed,
moved (e.g. out of a `try`), or changed makes `source_order_tied` fail. -/
def transcribedFrom : List String := [
  "if isinstance(midi_data, pretty_midi.PrettyMIDI):",
  "midi = midi_data",
  "else:",
  "try:",
  "midi = pretty_midi.PrettyMIDI(io.BytesIO(midi_data))",
  "except:",
  "raise MIDIConversionError",
  "end",
  "end",
  "if midi.resolution <= 0:",
  "raise MIDIConversionError",
  "end",
  "sequence = music_pb2.NoteSequence()",
  "sequence.ticks_per_quarter = midi.resolution  # int32",
  "sequence.source_info.parser = music_pb2.NoteSequence.SourceInfo.PRETTY_MIDI  # enum",
  "sequence.source_info.encoding_type = music_pb2.NoteSequence.SourceInfo.MIDI  # enum",
  "for midi_time in midi.time_signature_changes:",
  "time_signature = sequence.time_signatures.add()",
  "time_signature.time = midi_time.time  # double",
  "time_signature.numerator = midi_time.numerator  # int32",
  "try:",
  "time_signature.denominator = midi_time.denominator  # int32",
  "except ValueError:",
  "raise MIDIConversionError",
  "end",
  "end",
  "for midi_key in midi.key_signature_changes:",
  "key_signature = sequence.key_signatures.add()",
  "key_signature.time = midi_key.time  # double",
  "key_signature.key = midi_key.key_number % 12  # enum",
  "midi_mode = midi_key.key_number // 12",
  "if midi_mode == 0:",
  "key_signature.mode = key_signature.MAJOR  # enum",
  "else:",
  "if midi_mode == 1:",
  "key_signature.mode = key_signature.MINOR  # enum",
  "else:",
  "raise MIDIConversionError",
  "end",
  "end",
  "end",
  "tempo_times, tempo_qpms = midi.get_tempo_changes()",
  "for (time_in_seconds, tempo_in_qpm) in zip(tempo_times, tempo_qpms):",
  "tempo = sequence.tempos.add()",
  "tempo.time = time_in_seconds  # double",
  "tempo.qpm = tempo_in_qpm  # double",
  "end",
  "midi_notes = []",
  "midi_pitch_bends = []",
  "midi_control_changes = []",
  "for (num_instrument, midi_instrument) in enumerate(midi.instruments):",
  "if midi_instrument.name:",
  "instrument_info = sequence.instrument_infos.add()",
  "instrument_info.name = midi_instrument.name  # string",
  "instrument_info.instrument = num_instrument  # int32",
  "end",
  "for midi_note in midi_instrument.notes:",
  "if not sequence.total_time or midi_note.end > sequence.total_time:",
  "sequence.total_time = midi_note.end  # double",
  "end",
  "midi_notes.append((midi_instrument.program, num_instrument, midi_instrument.is_drum, midi_note))",
  "end",
  "for midi_pitch_bend in midi_instrument.pitch_bends:",
  "midi_pitch_bends.append((midi_instrument.program, num_instrument, midi_instrument.is_drum, midi_pitch_bend))",
  "end",
  "for midi_control_change in midi_instrument.control_changes:",
  "midi_control_changes.append((midi_instrument.program, num_instrument, midi_instrument.is_drum, midi_control_change))",
  "end",
  "end",
  "for (program, instrument, is_drum, midi_note) in midi_notes:",
  "note = sequence.notes.add()",
  "note.instrument = instrument  # int32",
  "note.program = program  # int32",
  "note.start_time = midi_note.start  # double",
  "note.end_time = midi_note.end  # double",
  "note.pitch = midi_note.pitch  # int32",
  "note.velocity = midi_note.velocity  # int32",
  "note.is_drum = is_drum  # bool",
  "end",
  "for (program, instrument, is_drum, midi_pitch_bend) in midi_pitch_bends:",
  "pitch_bend = sequence.pitch_bends.add()",
  "pitch_bend.instrument = instrument  # int32",
  "pitch_bend.program = program  # int32",
  "pitch_bend.time = midi_pitch_bend.time  # double",
  "pitch_bend.bend = midi_pitch_bend.pitch  # int32",
  "pitch_bend.is_drum = is_drum  # bool",
  "end",
  "for (program, instrument, is_drum, midi_control_change) in midi_control_changes:",
  "control_change = sequence.control_changes.add()",
  "control_change.instrument = instrument  # int32",
  "control_change.program = program  # int32",
  "control_change.time = midi_control_change.time  # double",
  "control_change.control_number = midi_control_change.number  # int32",
  "control_change.control_value = midi_control_change.value  # int32",
  "control_change.is_drum = is_drum  # bool",
  "end",
  "return sequence"
]

theorem source_order_tied : Gen.sourceOrder = transcribedFrom := rfl

/-! ## non-vacuity: the hypotheses are satisfiable, every rejection class is inhabited, and the
clauses of `Inv` are needed -/

/-- an ordinary object: 2 instruments (one named, one drum kit), 3 notes, a bend, a pedal,
3/4 time, A minor, two tempi -/
def pmGood : PM :=
  { resolution := 480,
    timeSigs := [⟨3, 4, 0⟩],
    keys := [⟨21, 0⟩],
    tempoChanges := .ok [(0, 120), (3/2, 90)],
    instruments := [
      ⟨0, false, "Piano", [⟨100, 60, 0, 1/2⟩, ⟨90, 64, 1/2, 5/4⟩], [⟨-8192, 1/4⟩], [⟨64, 127, 0⟩]⟩,
      ⟨0, true, "", [⟨127, 36, 1, 9/8⟩], [], []⟩] }

example : Inv pmGood := (invB_iff _).1 (by decide +kernel)
example : ¬ Rejected pmGood := by
  have h : Inv pmGood := (invB_iff _).1 (by decide +kernel)
  intro hr
  have := (midi_post_rejects_iff h).2 hr
  revert this
  decide +kernel
example : post pmGood = .ok (postValue pmGood [(0, 120), (3/2, 90)]) := by decide +kernel
example : (postValue pmGood [(0, 120), (3/2, 90)]).seq.notes.length = 3 := by decide +kernel
example : (postValue pmGood [(0, 120), (3/2, 90)]).seq.totalTime = 5/4 := by decide +kernel
example : (postValue pmGood [(0, 120), (3/2, 90)]).seq.keySigs = [⟨0, 9, 1⟩] := by decide +kernel
example : (postValue pmGood [(0, 120), (3/2, 90)]).infos = [(0, "Piano")] := by decide +kernel
example : midiToNoteSequence (fun _ => .ok pmGood) [0x4d, 0x54] = post pmGood := rfl

/-- time signature x/2^255: the int32 overflow is converted -/
def pmDen : PM := { pmGood with timeSigs := [⟨4, 4, 0⟩, ⟨4, 2 ^ 255, 1⟩] }
example : Inv pmDen := (invB_iff _).1 (by decide +kernel)
example : post pmDen = .error mce := by decide +kernel

/-- SMPTE division 0x8000 read as −32768 ticks per beat, with the negative tempo time this gives
(F-C16-1): satisfies `Inv` (which claims nothing about times then) and is rejected -/
def pmSmpte : PM :=
  { resolution := -32768, timeSigs := [], keys := [], tempoChanges := .ok [(0, 120), (-203125/100000, 100)],
    instruments := [] }
example : Inv pmSmpte := (invB_iff _).1 (by decide +kernel)
example : post pmSmpte = .error mce := by decide +kernel

/-- a key number outside 0..23 (mode 2): rejected -/
example : post { pmGood with keys := [⟨24, 0⟩] } = .error mce := by decide +kernel
example : post { pmGood with keys := [⟨-1, 0⟩] } = .error mce := by decide +kernel

/-- the clauses of `Inv` are needed: a numerator outside int32 is NOT converted (that assignment
is outside the `try`) … -/
example : post { pmGood with timeSigs := [⟨2 ^ 31, 4, 0⟩] } = .error valueError := by decide +kernel
/-- … a failing `get_tempo_changes()` escapes as it is … -/
example : post { pmGood with tempoChanges := .error ⟨"IndexError", ["IndexError"]⟩ } =
    .error ⟨"IndexError", ["IndexError"]⟩ := by decide +kernel
/-- … and negative note times give an ill-formed result (`total_time` below a note end) -/
example : (post { pmGood with instruments := [⟨0, false, "", [⟨1, 1, 0, 0⟩, ⟨1, 1, -2, -1⟩], [], []⟩] }).toOption.map
    (fun s => wfB s) = some false := by decide +kernel

/-- a constructor that raises: converted whatever the class -/
example : midiToNoteSequence (fun _ => .error ⟨⟨"EOFError", ["EOFError", "Exception", "BaseException", "object"]⟩, none⟩) [] =
    .error mce := by decide +kernel

end NSV.C16

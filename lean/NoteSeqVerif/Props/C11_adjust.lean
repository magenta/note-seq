import NoteSeqVerif.Props.C13
import NoteSeqVerif.Proofs.C11WF
import Mathlib.Tactic.Linarith
-- THEOREMS: wf_adjust wf_rectify no_invention_adjust no_invention_rectify
/-! # C11 (b) — adjust_notesequence_times / rectify_beats return well-formed sequences, invent nothing
Corollaries of `NSV.C13.adjust_ok_iff` (model owned by C13).  These two operations
*check* what they produce (they raise `InvalidTimeAdjustmentError` otherwise), so the result is
well-formed for **every** input sequence, every time map `f` (monotone or not) and every `R` —
no hypothesis at all. -/
namespace NSV.C11
open NSV.C13

/-- the two checks of `adjust_notesequence_times`, once passed (`h1` notes, `h2` other events), give
well-formedness of what it returns; tempos need no check: the function deletes them all -/
theorem wf_adjusted (f R : Rat → Rat) (md : Rat) (s : NoteSeq)
    (h1 : ∀ n ∈ s.notes, ¬ adjBad f R md n) (h2 : ∀ t ∈ adjustedTimes s, ¬ f t < 0) : WF (adjusted f R md s) := by
  have hev : ∀ t ∈ adjustedTimes s, 0 ≤ f t := fun t ht => not_lt.mp (h2 t ht)
  simp only [adjustedTimes, List.mem_append, List.mem_map, or_imp, forall_and, forall_exists_index, and_imp,
    forall_apply_eq_imp_iff₂] at hev
  obtain ⟨⟨⟨⟨⟨hcc, hbd⟩, hts⟩, hks⟩, htx⟩, hsa⟩ := hev
  refine ⟨?_, (maxEnd_is_max _ 0).1, ⟨fun e he => (nomatch he), List.forall_mem_map.mpr hts,
    List.forall_mem_map.mpr hks, List.forall_mem_map.mpr htx, List.forall_mem_map.mpr hcc,
    List.forall_mem_map.mpr hbd, List.forall_mem_map.mpr hsa⟩⟩
  intro n hn
  have hcov := (adjust_total_is_max f R md s).1 n hn
  have hn' : n ∈ s.notes.filterMap (adjNote f R md) := hn
  obtain ⟨m, hm, hmn⟩ := List.mem_filterMap.mp hn'
  have hb := h1 m hm
  unfold adjBad at hb
  have hgood : ¬ (n.end_ < n.start ∨ n.start < 0 ∨ n.end_ < 0) := fun hh => hb ⟨n, hmn, hh⟩
  exact ⟨not_lt.mp fun hc => hgood (Or.inr (Or.inl hc)), not_lt.mp fun hc => hgood (Or.inl hc), hcov⟩

theorem wf_adjust (f R : Rat → Rat) (md : Rat) (s r : NoteSeq) (k : Nat) (h : adjustR f R md s = .ok (r, k)) :
    WF r := by
  obtain ⟨h1, h2, hr, _⟩ := (adjust_ok_iff f R md s r k).mp h
  rw [hr]; exact wf_adjusted f R md s h1 h2

/-- a `rectify_beats` that returns is an `adjust_notesequence_times` (through the beat knots) whose time
signatures are then deleted and whose tempos are replaced by the single tempo `bpm` -/
theorem rectify_ok_adjust {R : Rat → Rat} {bpm : Rat} {s r : NoteSeq} {al : List (Rat × Rat)}
    (h : rectifyR R bpm s = .ok (r, al)) :
    ∃ f r' k, adjustR f R 0 s = .ok (r', k) ∧ r = { r' with timeSigs := [], tempos := [⟨0, bpm⟩] } := by
  obtain ⟨p, rest, r', k, _, _, ha, hr⟩ := rectify_ok h
  exact ⟨_, r', k, ha, hr⟩

theorem wf_rectify (R : Rat → Rat) (bpm : Rat) (s r : NoteSeq) (al : List (Rat × Rat))
    (h : rectifyR R bpm s = .ok (r, al)) : WF r := by
  obtain ⟨f, r', k, ha, rfl⟩ := rectify_ok_adjust h
  have hw := wf_adjust f R 0 s r' k ha
  have ev := hw.events
  refine ⟨hw.notes, hw.total, ⟨?_, fun e he => (nomatch he), ev.keySigs, ev.texts, ev.ccs, ev.bends, ev.sectionAnns⟩⟩
  intro e he
  rw [List.mem_singleton.mp he]

/-- the kept notes are input notes in the sense of `SameNote` (tag, velocity, instrument, … intact), no tag
more often than in the input; a note mapped to zero length may be dropped, hence no statement about the length -/
theorem no_invention_adjust (f R : Rat → Rat) (md : Rat) (s r : NoteSeq) (k : Nat)
    (h : adjustR f R md s = .ok (r, k)) : NoInvention s.notes r.notes ∧ NoDuplication s.notes r.notes := by
  obtain ⟨_, _, hr, _⟩ := (adjust_ok_iff f R md s r k).mp h
  rw [hr]
  refine no_invention_filterMap (adjNote f R md) (fun a b hab => ?_) (List.Sublist.refl _) (List.Perm.refl _)
  unfold adjNote at hab
  split at hab
  · cases hab
  · cases hab; exact SameNote.refl a

theorem no_invention_rectify (R : Rat → Rat) (bpm : Rat) (s r : NoteSeq) (al : List (Rat × Rat))
    (h : rectifyR R bpm s = .ok (r, al)) : NoInvention s.notes r.notes ∧ NoDuplication s.notes r.notes := by
  obtain ⟨f, r', k, ha, rfl⟩ := rectify_ok_adjust h
  exact no_invention_adjust f R 0 s r' k ha

/-! non-vacuity: `adjust_notesequence_times` returns on C13's example for the time map `t ↦ 2 t` -/
example : (adjustR (fun t => 2 * t) id 0 exSeq).toOption.isSome = true := by decide +kernel

end NSV.C11

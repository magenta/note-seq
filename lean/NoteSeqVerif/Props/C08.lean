import NoteSeqVerif.Proofs.C08Inst
/-! C08 — property theorems (decoding the labels an encoder produced reconstructs the event sequence).

All statements are for every event list, every position, every configuration — no size bound.
`ValidEv oh e` / `DecodeTotal oh` are the hypotheses on the abstract one-hot encoding (what C09
proves for the concrete ones); `LegalDists` = every lookback distance is at least 1. -/
namespace NSV.C08

section Lookback
variable {ε : Type} [DecidableEq ε]

theorem lookback_label_spec (oh : OneHot ε) (c : LookbackCfg) (evs : List ε) (p : Nat)
    (hp : p < evs.length) (hd : LegalDists c.dists) (hv : ValidEv oh evs[p]) :
    ∃ l, lbEventsToLabel oh c evs p = .ok l ∧ 0 ≤ l ∧ l < lbNumClasses oh c ∧
      lbClassIndexToEvent oh c l (evs.take p) = .ok evs[p] := by
  obtain ⟨i0, he, h0, h1, hdec⟩ := hv
  unfold lbNumClasses lbClassIndexToEvent
  rcases lbLabel_spec oh c evs p hp hd with ⟨i, hm, _, h⟩ | ⟨_, h⟩
  · -- the greatest matching lookback, cited against the prefix, is the event
    have ⟨d, hi, _⟩ := hm
    have hil := (List.getElem?_eq_some_iff.mp hi).1
    exact ⟨oh.numClasses + i, h, by omega, by omega, by
      rw [citeLoop_idx _ _ _ _ _ _ d hi]; exact matches_cite hp hm hi (hd d (List.mem_of_getElem? hi))⟩
  · exact ⟨i0, by rw [h, he], h0, by omega, by rw [citeLoop_plain _ _ _ _ _ _ (.inl h1), hdec]⟩

/-- `class_index_to_event(events_to_label(evs, p), evs[:p]) = evs[p]` -/
theorem lookback_decode_label (oh : OneHot ε) (c : LookbackCfg) (evs : List ε) (p : Nat)
    (hp : p < evs.length) (hd : LegalDists c.dists) (hv : ValidEv oh evs[p]) :
    ∃ l, lbEventsToLabel oh c evs p = .ok l ∧
      lbClassIndexToEvent oh c l (evs.take p) = .ok evs[p] := by
  obtain ⟨l, hl, _, _, hc⟩ := lookback_label_spec oh c evs p hp hd hv
  exact ⟨l, hl, hc⟩

theorem lookback_label_in_range (oh : OneHot ε) (c : LookbackCfg) (evs : List ε) (p : Nat)
    (hp : p < evs.length) (hd : LegalDists c.dists) (hv : ValidEv oh evs[p]) :
    ∃ l, lbEventsToLabel oh c evs p = .ok l ∧ 0 ≤ l ∧ l < lbNumClasses oh c := by
  obtain ⟨l, hl, hl0, hl1, _⟩ := lookback_label_spec oh c evs p hp hd hv
  exact ⟨l, hl, hl0, hl1⟩

/-- documented precedence, index form: the label is `numClasses + i` for the greatest lookback index `i`
that matches (`Matches`: a real repeat, or — for the last distance only — a default event closer to the
start than that distance); when no lookback matches it is the plain one-hot class of the event -/
theorem lookback_label_precedence (oh : OneHot ε) (c : LookbackCfg) (evs : List ε) (p : Nat)
    (hp : p < evs.length) (hd : LegalDists c.dists) :
    (∀ i, Matches oh.default c.dists evs p i → (∀ j, i < j → ¬ Matches oh.default c.dists evs p j) →
        lbEventsToLabel oh c evs p = .ok (oh.numClasses + i)) ∧
    ((∀ i, ¬ Matches oh.default c.dists evs p i) → lbEventsToLabel oh c evs p = oh.encode evs[p]) := by
  rcases lbLabel_spec oh c evs p hp hd with ⟨i', hm', hmax', h⟩ | ⟨hno, h⟩
  · refine ⟨fun i hm hmax => ?_, fun hno => absurd hm' (hno i')⟩
    -- two greatest matching indices are equal
    have h1 : ¬ i < i' := fun hlt => hmax i' hlt hm'
    have h2 : ¬ i' < i := fun hlt => hmax' i hlt hm
    rw [h, show i' = i by omega]
  · exact ⟨fun i hm _ => absurd hm (hno i), fun _ => h⟩

/-- for a strictly ascending distance list the selected lookback is the *farthest* matching one
(the rule as the docstring words it) -/
theorem lookback_label_farthest (oh : OneHot ε) (c : LookbackCfg) (evs : List ε) (p : Nat)
    (hp : p < evs.length) (hd : LegalDists c.dists) (hs : c.dists.Pairwise (· < ·))
    (i : Nat) (hm : Matches oh.default c.dists evs p i)
    (hmax : ∀ j, i < j → ¬ Matches oh.default c.dists evs p j) :
    lbEventsToLabel oh c evs p = .ok (oh.numClasses + i) ∧
    ∀ j dj di, Matches oh.default c.dists evs p j → c.dists[j]? = some dj → c.dists[i]? = some di → dj ≤ di := by
  refine ⟨(lookback_label_precedence oh c evs p hp hd).1 i hm hmax, ?_⟩
  intro j dj di hmj hj hi
  rcases Nat.lt_trichotomy j i with h | rfl | h
  · obtain ⟨hj1, rfl⟩ := List.getElem?_eq_some_iff.mp hj
    obtain ⟨hi1, rfl⟩ := List.getElem?_eq_some_iff.mp hi
    exact Int.le_of_lt ((List.pairwise_iff_getElem.mp hs) j i hj1 hi1 h)
  · exact Int.le_of_eq (Option.some.inj (hj.symm.trans hi))
  · exact absurd hmj (hmax j h)

/-- the exact layout of the input vector, hence "exactly one 1 in each one-hot block" (`oneHotVec_get`,
`oneHotVec_count`), counter bits in `{-1, 1}` (`counterBit_pm`), repeat flags in `{0, 1}` (`repFlag_01`):
block 0 is the one-hot of the current event, block `k+1` the one-hot of the event that followed lookback
`k` (`NextEv`; the default event before the start), then `bits` counter values for `p + 1`, then one
repeat flag per lookback.  `f d` names the class index of the event of lookback distance `d`. -/
theorem lookback_input_blocks (oh : OneHot ε) (c : LookbackCfg) (evs : List ε) (p : Nat) (hp : p < evs.length)
    (hd : LegalDists c.dists) (hb : 0 ≤ c.bits) (n i0 : Nat) (hn : oh.numClasses = n)
    (h0 : oh.encode evs[p] = .ok i0) (hi0 : i0 < n) (f : Int → Nat)
    (hf : ∀ d ∈ c.dists, f d < n ∧ ∃ e, NextEv oh.default evs p d e ∧ oh.encode e = .ok (f d)) :
    lbEventsToInput oh c evs p = .ok
      (oneHotVec n i0 ++ (c.dists.map (fun d => oneHotVec n (f d))).flatten ++
        (List.range c.bits.toNat).map (counterBit ((p : Int) + 1)) ++ c.dists.map (repFlag evs p)) := by
  have hsz : lbInputSize oh c =
      ((n + (c.dists.length * n + ((List.range c.bits.toNat).length + (c.dists.length + 0))) : Nat) : Int) := by
    unfold lbInputSize; rw [hn, List.length_range]; push_cast; omega
  have s1 := pySet_block [] (c.dists.length * n + ((List.range c.bits.toNat).length + (c.dists.length + 0))) n i0 hi0
  have b1 := blank_block [] n i0 (c.dists.length * n + ((List.range c.bits.toNat).length + (c.dists.length + 0)))
  simp only [List.nil_append, List.length_nil, Int.natCast_zero, Int.zero_add] at s1 b1
  have := lbEventsToInput_steps oh c evs p evs[p] i0 _ _ _ _ (pyIdx_nat evs p hp) h0
    (by rw [hsz, zeros, Int.toNat_natCast]; exact s1)
    (by rw [hn, b1]; exact lbNextLoop_spec oh evs p n hn f c.dists hf _ _)
    (counterLoop_spec _ _ _ _) (repeatLoop_spec evs p hp c.dists hd _ _)
    (by rw [hsz]; simp only [blank, List.length_append, flatten_oneHot_length, oneHotVec_length, List.length_map]; omega)
  simpa [blank] using this

omit [DecidableEq ε] in
/-- the hypotheses of `lookback_input_blocks` hold whenever every event of the sequence and the default
event are valid: the class-index function `f` exists -/
theorem lookback_input_blocks_total (oh : OneHot ε) (c : LookbackCfg) (evs : List ε) (p : Nat) (hp : p < evs.length)
    (hd : LegalDists c.dists) (hv : ∀ e ∈ evs, ValidEv oh e) (hdef : ValidEv oh oh.default) :
    ∃ (n i0 : Nat) (f : Int → Nat), oh.numClasses = n ∧ oh.encode evs[p] = .ok i0 ∧ i0 < n ∧
      ∀ d ∈ c.dists, f d < n ∧ ∃ e, NextEv oh.default evs p d e ∧ oh.encode e = .ok (f d) := by
  obtain ⟨i, he, h0, h1, _⟩ := hv evs[p] (List.getElem_mem hp)
  -- the event block `d` encodes, as a function of the distance; it is valid for every legal distance
  let g : Int → ε := fun d =>
    if (p : Int) - d + 1 < 0 then oh.default else evs[((p : Int) - d + 1).toNat]?.getD oh.default
  have hg : ∀ d : Int, 1 ≤ d → NextEv oh.default evs p d (g d) ∧ ValidEv oh (g d) := by
    intro d hd1
    by_cases hlt : (p : Int) - d + 1 < 0
    · simp only [g, hlt, if_true]
      exact ⟨.inl ⟨hlt, rfl⟩, hdef⟩
    · have hq : ((p : Int) - d + 1).toNat < evs.length := by omega
      simp only [g, hlt, if_false, List.getElem?_eq_getElem hq, Option.getD_some]
      exact ⟨.inr ⟨by omega, List.getElem?_eq_getElem hq⟩, hv _ (List.getElem_mem hq)⟩
  refine ⟨oh.numClasses.toNat, i.toNat, fun d => match oh.encode (g d) with | .ok j => j.toNat | .error _ => 0,
    by omega, by rw [he]; congr 1; omega, by omega, fun d hdm => ?_⟩
  obtain ⟨hne, j, hj, hj0, hj1, _⟩ := hg d (hd d hdm)
  simp only [hj]
  exact ⟨by omega, g d, hne, by rw [hj]; congr 1; omega⟩

/-- every input vector has exactly `input_size` entries (whenever the computation succeeds at all:
any position, any events, any distances) -/
theorem lookback_input_size_exact (oh : OneHot ε) (c : LookbackCfg) (evs : List ε) (pos : Int) (v : List Int)
    (h : lbEventsToInput oh c evs pos = .ok v) : v.length = (lbInputSize oh c).toNat := by
  unfold lbEventsToInput at h
  obtain ⟨_, _, h⟩ := bind_ok h
  obtain ⟨_, _, h⟩ := bind_ok h
  obtain ⟨inp, hset, h⟩ := bind_ok h
  obtain ⟨st1, h1, h⟩ := bind_ok h
  obtain ⟨st2, h2, h⟩ := bind_ok h
  obtain ⟨st3, h3, h⟩ := bind_ok h
  split at h
  · rw [← Except.ok.inj h, repeatLoop_length _ _ _ _ _ h3, counterLoop_length _ _ _ _ h2,
      lbNextLoop_length _ _ _ _ _ _ h1, pySet_length hset]
    simp [zeros]
  · cases h

theorem counterBit_pm (n : Int) (i : Nat) : counterBit n i = 1 ∨ counterBit n i = -1 := by
  unfold counterBit; split <;> simp

theorem repFlag_01 (evs : List ε) (p : Nat) (d : Int) : repFlag evs p d = 1 ∨ repFlag evs p d = 0 := by
  unfold repFlag; split <;> simp

theorem counterBit_testBit (n i : Nat) : counterBit (n : Int) i = if n.testBit i then 1 else -1 := by
  have : (n : Int).fdiv (2 ^ i) = ((n >>> i : Nat) : Int) := by
    rw [Int.fdiv_eq_ediv_of_nonneg _ (Int.pow_nonneg (by omega)), Nat.shiftRight_eq_div_pow]; push_cast; rfl
  unfold counterBit
  rw [this]
  simp only [shiftRight_fmod_two]

omit [DecidableEq ε] in
/-- the generation loop: any list of in-range labels drives `class_index_to_event` + append without error from
any history of valid events; every produced event is valid and is the decoding of its label against
what precedes it -/
theorem lookback_generation_loop_total (oh : OneHot ε) (c : LookbackCfg) (hd : LegalDists c.dists)
    (hdt : DecodeTotal oh) (hdef : ValidEv oh oh.default)
    (labels : List Int) (hl : ∀ l ∈ labels, 0 ≤ l ∧ l < lbNumClasses oh c)
    (init : List ε) (hi : ∀ e ∈ init, ValidEv oh e) :
    ∃ out, genLoop (lbClassIndexToEvent oh c) labels init = .ok out ∧
      out.length = init.length + labels.length ∧ (∀ e ∈ out, ValidEv oh e) ∧ out.take init.length = init ∧
      ∀ k (hk : k < labels.length) (ho : init.length + k < out.length),
        lbClassIndexToEvent oh c labels[k] (out.take (init.length + k)) = .ok out[init.length + k] :=
  genLoop_total (lbClassIndexToEvent oh c) (ValidEv oh) (fun l => 0 ≤ l ∧ l < lbNumClasses oh c)
    (fun l evs hl hev => citeLoop_step oh.numClasses oh.default oh.decode (ValidEv oh) c.dists hd hdt hdef
      l hl.1 hl.2 evs hev) labels hl init hi

omit [DecidableEq ε] in
/-- `labels_to_num_steps` = the steps of the sequence the generation loop builds from nothing -/
theorem labels_to_num_steps_eq (oh : OneHot ε) (c : LookbackCfg) (hd : LegalDists c.dists)
    (hdt : DecodeTotal oh) (hdef : ValidEv oh oh.default)
    (labels : List Int) (hl : ∀ l ∈ labels, 0 ≤ l ∧ l < lbNumClasses oh c) :
    ∃ out, genLoop (lbClassIndexToEvent oh c) labels [] = .ok out ∧ out.length = labels.length ∧
      lbLabelsToNumSteps oh c labels = .ok ((out.map oh.numSteps).sum) := by
  obtain ⟨out, h1, h2, _⟩ := lookback_generation_loop_total oh c hd hdt hdef labels hl [] (by simp)
  exact ⟨out, h1, by simpa using h2, by unfold lbLabelsToNumSteps; rw [h1]; rfl⟩

/-- the title of the property: the labels of positions `k, k+1, …` drive the generation loop from the
first `k` events back to the whole sequence -/
theorem lookback_roundtrip (oh : OneHot ε) (c : LookbackCfg) (evs : List ε) (hd : LegalDists c.dists)
    (hv : ∀ e ∈ evs, ValidEv oh e) (k : Nat) (hk : k ≤ evs.length) :
    ∃ labels, mapE (fun p : Nat => lbEventsToLabel oh c evs p) (List.range' k (evs.length - k)) = .ok labels ∧
      genLoop (lbClassIndexToEvent oh c) labels (evs.take k) = .ok evs :=
  genLoop_roundtrip (lbClassIndexToEvent oh c) (fun p : Nat => lbEventsToLabel oh c evs p) evs
    (fun p hp => lookback_decode_label oh c evs p hp hd (hv _ (List.getElem_mem hp))) (evs.length - k) k (by omega)

end Lookback

section OneHotSeq
variable {ε : Type}

theorem onehot_label_spec (oh : OneHot ε) (evs : List ε) (p : Nat) (hp : p < evs.length)
    (hv : ValidEv oh evs[p]) :
    ∃ l, ohEventsToLabel oh evs p = .ok l ∧ 0 ≤ l ∧ l < ohNumClasses oh ∧
      ohClassIndexToEvent oh l (evs.take p) = .ok evs[p] := by
  obtain ⟨i, he, h0, h1, hdec⟩ := hv
  exact ⟨i, by rw [ohEventsToLabel_nat oh evs p hp, he], h0, h1, hdec⟩

theorem onehot_decode_label (oh : OneHot ε) (evs : List ε) (p : Nat) (hp : p < evs.length)
    (hv : ValidEv oh evs[p]) :
    ∃ l, ohEventsToLabel oh evs p = .ok l ∧ ohClassIndexToEvent oh l (evs.take p) = .ok evs[p] := by
  obtain ⟨l, hl, _, _, hc⟩ := onehot_label_spec oh evs p hp hv
  exact ⟨l, hl, hc⟩

theorem onehot_label_in_range (oh : OneHot ε) (evs : List ε) (p : Nat) (hp : p < evs.length)
    (hv : ValidEv oh evs[p]) :
    ∃ l, ohEventsToLabel oh evs p = .ok l ∧ 0 ≤ l ∧ l < ohNumClasses oh := by
  obtain ⟨l, hl, hl0, hl1, _⟩ := onehot_label_spec oh evs p hp hv
  exact ⟨l, hl, hl0, hl1⟩

theorem onehot_input_block (oh : OneHot ε) (evs : List ε) (p : Nat) (hp : p < evs.length)
    (n i : Nat) (hn : oh.numClasses = n) (he : oh.encode evs[p] = .ok i) (hi : i < n) :
    ohEventsToInput oh evs p = .ok (oneHotVec n i) := by
  unfold ohEventsToInput ohInputSize zeros
  simp only [pyIdx_nat evs p hp, bind, Except.bind, he, hn, Int.toNat_natCast]
  rw [pySet_nat _ _ _ (by simpa using hi)]
  rfl

theorem onehot_input_size_exact (oh : OneHot ε) (evs : List ε) (pos : Int) (v : List Int)
    (h : ohEventsToInput oh evs pos = .ok v) : v.length = (ohInputSize oh).toNat := by
  obtain ⟨_, _, h⟩ := bind_ok h
  obtain ⟨_, _, h⟩ := bind_ok h
  rw [pySet_length h]; simp [zeros]

/-- one-hot-index variant: `input_size = 1` and the single entry is the label -/
theorem onehot_index_input (oh : OneHot ε) (evs : List ε) (pos : Int) (v : List Int)
    (h : ohiEventsToInput oh evs pos = .ok v) :
    (v.length : Int) = ohiInputSize oh ∧ ∃ l, ohEventsToLabel oh evs pos = .ok l ∧ v = [l] := by
  obtain ⟨e, he, h⟩ := bind_ok h
  obtain ⟨i, hi, h⟩ := bind_ok h
  cases Except.ok.inj h
  exact ⟨by simp [ohiInputSize], i, by unfold ohEventsToLabel; rw [he]; exact hi, rfl⟩

theorem onehot_generation_loop_total (oh : OneHot ε) (hdt : DecodeTotal oh)
    (labels : List Int) (hl : ∀ l ∈ labels, 0 ≤ l ∧ l < ohNumClasses oh)
    (init : List ε) (hi : ∀ e ∈ init, ValidEv oh e) :
    ∃ out, genLoop (ohClassIndexToEvent oh) labels init = .ok out ∧
      out.length = init.length + labels.length ∧ (∀ e ∈ out, ValidEv oh e) ∧ out.take init.length = init ∧
      (init = [] → ohLabelsToNumSteps oh labels = .ok ((out.map oh.numSteps).sum)) := by
  obtain ⟨out, h1, h2, h3, h4, _⟩ := genLoop_total (ohClassIndexToEvent oh) (ValidEv oh)
    (fun l => 0 ≤ l ∧ l < ohNumClasses oh) (fun l _ hl _ => hdt l hl.1 hl.2) labels hl init hi
  exact ⟨out, h1, h2, h3, h4, fun h0 => by subst h0; unfold ohLabelsToNumSteps; rw [h1]; rfl⟩

end OneHotSeq

section Encode
variable {ε γ ι κ : Type}

/-- `encode` returns `len - 1` aligned pairs: input `i` is the input at position `i`, label `i` the label of
position `i + 1` -/
theorem encode_aligned (toInput : List ε → Int → Except String ι) (toLabel : List ε → Int → Except String κ)
    (evs : List ε) (ins : List ι) (labs : List κ) (h : encodeG toInput toLabel evs = .ok (ins, labs)) :
    ins.length = evs.length - 1 ∧ labs.length = evs.length - 1 ∧
    ∀ i (hi : i < ins.length) (hl : i < labs.length),
      toInput evs i = .ok ins[i] ∧ toLabel evs ((i : Int) + 1) = .ok labs[i] := by
  obtain ⟨ps, hm, hu⟩ := map_ok h
  obtain ⟨hlen, hget⟩ := mapE_ok _ _ _ hm
  obtain ⟨rfl, rfl⟩ : ins = ps.map Prod.fst ∧ labs = ps.map Prod.snd := by
    rw [← List.unzip_fst, ← List.unzip_snd, hu]; exact ⟨rfl, rfl⟩
  simp only [List.length_map, List.length_range] at hlen ⊢
  refine ⟨hlen, hlen, fun i hi hl => ?_⟩
  have := hget i (by simp; omega) hi
  simp only [List.getElem_range, List.getElem_map] at this ⊢
  unfold encodeStep at this
  split at this
  · cases this
  · split at this
    · cases this
    · rw [← Except.ok.inj this]; exact ⟨‹_›, ‹_›⟩

theorem encode_total (toInput : List ε → Int → Except String ι) (toLabel : List ε → Int → Except String κ)
    (evs : List ε)
    (h : ∀ i : Nat, i < evs.length - 1 → (∃ a, toInput evs i = .ok a) ∧ ∃ b, toLabel evs ((i : Int) + 1) = .ok b) :
    ∃ ins labs, encodeG toInput toLabel evs = .ok (ins, labs) := by
  unfold encodeG
  obtain ⟨ps, hps⟩ := mapE_total (encodeStep toInput toLabel evs) (List.range (evs.length - 1)) (by
    intro i hi
    obtain ⟨⟨a, ha⟩, b, hb⟩ := h i (by simpa using hi)
    exact ⟨(a, b), by unfold encodeStep; simp only [ha, hb]⟩)
  rw [hps]
  exact ⟨ps.unzip.1, ps.unzip.2, rfl⟩

theorem condEventsToInput_ok {cIn : List γ → Int → Except String (List ι)} {tIn : List ε → Int → Except String (List ι)}
    {ctrl : List γ} {tgt : List ε} {pos : Int} {v : List ι} (h : condEventsToInput cIn tIn ctrl tgt pos = .ok v) :
    ∃ a b, cIn ctrl (pos + 1) = .ok a ∧ tIn tgt pos = .ok b ∧ v = a ++ b := by
  obtain ⟨a, ha, h⟩ := bind_ok h
  obtain ⟨b, hb, h⟩ := bind_ok h
  exact ⟨a, b, ha, hb, (Except.ok.inj h).symm⟩

/-- `encode` of the wrapper, for any cell type: equal lengths and `len - 1` aligned pairs of the wrapper's input at
`i` and the target's label at `i + 1` -/
theorem condEncode_ok (cIn : List γ → Int → Except String (List ι)) (tIn : List ε → Int → Except String (List ι))
    (tLab : List ε → Int → Except String κ) (ctrl : List γ) (tgt : List ε) (ins : List (List ι)) (labs : List κ)
    (h : condEncode cIn tIn tLab ctrl tgt = .ok (ins, labs)) :
    ctrl.length = tgt.length ∧ ins.length = tgt.length - 1 ∧ labs.length = tgt.length - 1 ∧
    ∀ i (hi : i < ins.length) (hl : i < labs.length),
      condEventsToInput cIn tIn ctrl tgt i = .ok ins[i] ∧ tLab tgt ((i : Int) + 1) = .ok labs[i] := by
  unfold condEncode at h
  split at h
  · cases h
  · rename_i hlen
    obtain ⟨h1, h2, h3⟩ := encode_aligned _ _ _ _ _ h
    exact ⟨by simpa using hlen, h1, h2, h3⟩

/-- conditional wrapper: input `i` = control input at `i + 1` ++ target input at `i`; label `i` = target label
at `i + 1`; the sequences have equal length -/
theorem cond_encode_aligned (cIn : List γ → Int → Except String (List Int))
    (tIn : List ε → Int → Except String (List Int)) (tLab : List ε → Int → Except String κ)
    (ctrl : List γ) (tgt : List ε) (ins : List (List Int)) (labs : List κ)
    (h : condEncode cIn tIn tLab ctrl tgt = .ok (ins, labs)) :
    ctrl.length = tgt.length ∧ ins.length = tgt.length - 1 ∧ labs.length = tgt.length - 1 ∧
    ∀ i (hi : i < ins.length) (hl : i < labs.length),
      (∃ a b, cIn ctrl ((i : Int) + 1) = .ok a ∧ tIn tgt i = .ok b ∧ ins[i] = a ++ b) ∧
      tLab tgt ((i : Int) + 1) = .ok labs[i] := by
  obtain ⟨hlen, h1, h2, h3⟩ := condEncode_ok cIn tIn tLab ctrl tgt ins labs h
  exact ⟨hlen, h1, h2, fun i hi hl => ⟨condEventsToInput_ok (h3 i hi hl).1, (h3 i hi hl).2⟩⟩

theorem cond_encode_length_mismatch (cIn : List γ → Int → Except String (List Int))
    (tIn : List ε → Int → Except String (List Int)) (tLab : List ε → Int → Except String κ)
    (ctrl : List γ) (tgt : List ε) (h : ctrl.length ≠ tgt.length) :
    condEncode cIn tIn tLab ctrl tgt = .error "ValueError" := by
  unfold condEncode; rw [if_pos h]

end Encode

section
variable {ε γ : Type} [DecidableEq ε]

/-- `encode` never fails on a sequence of valid events (legal distances, non-negative counter width) and returns
`len - 1` inputs and labels -/
theorem lookback_encode_total (oh : OneHot ε) (c : LookbackCfg) (evs : List ε) (hd : LegalDists c.dists)
    (hb : 0 ≤ c.bits) (hv : ∀ e ∈ evs, ValidEv oh e) (hdef : ValidEv oh oh.default) :
    ∃ ins labs, encodeG (lbEventsToInput oh c) (lbEventsToLabel oh c) evs = .ok (ins, labs) ∧
      ins.length = evs.length - 1 ∧ labs.length = evs.length - 1 := by
  obtain ⟨ins, labs, h⟩ := encode_total (lbEventsToInput oh c) (lbEventsToLabel oh c) evs (by
    intro i hi
    constructor
    · obtain ⟨n, i0, f, h1, h2, h3, h4⟩ := lookback_input_blocks_total oh c evs i (by omega) hd hv hdef
      exact ⟨_, lookback_input_blocks oh c evs i (by omega) hd hb n i0 h1 h2 h3 f h4⟩
    · obtain ⟨l, hl, _⟩ := lookback_label_in_range oh c evs (i + 1) (by omega) hd (hv _ (List.getElem_mem (by omega)))
      exact ⟨l, by simpa using hl⟩)
  obtain ⟨h1, h2, _⟩ := encode_aligned _ _ _ _ _ h
  exact ⟨ins, labs, h, h1, h2⟩

omit [DecidableEq ε] in
/-- the conditional input has `control.input_size + target.input_size` entries -/
theorem cond_input_size_exact (cIn : List γ → Int → Except String (List Int))
    (tIn : List ε → Int → Except String (List Int)) (ctrl : List γ) (tgt : List ε) (pos : Int) (v : List Int)
    (nc nt : Nat) (hc : ∀ p a, cIn ctrl p = .ok a → a.length = nc) (ht : ∀ p b, tIn tgt p = .ok b → b.length = nt)
    (h : condEventsToInput cIn tIn ctrl tgt pos = .ok v) : v.length = nc + nt := by
  obtain ⟨a, b, ha, hb, rfl⟩ := condEventsToInput_ok h
  rw [List.length_append, hc _ _ ha, ht _ _ hb]
end

section KeyMelody
open Gen

/-- `class_index_to_event(events_to_label(evs, p), evs[:p]) = evs[p]` and the label lies in `[0, num_classes)`
(every lookback list incl. the empty one; melody events within `[min_note, max_note)`) -/
theorem keymelody_label_spec (c : KeyCfg) (hc : KeyCfgOk c) (evs : List Int) (p : Nat) (hp : p < evs.length)
    (hv : KeyEvent c evs[p]) :
    ∃ l, keyEventsToLabel c evs p = .ok l ∧ 0 ≤ l ∧ l < keyNumClasses c ∧
      keyClassIndexToEvent c l (evs.take p) = .ok evs[p] := by
  obtain ⟨l, h1, h2, h3, h4⟩ := lookback_label_spec (keyOneHot c) ⟨c.dists, c.bits⟩ evs p hp hc.2.2 (key_valid c hc _ hv)
  exact ⟨l, (keyEventsToLabel_eq c evs p).trans h1, h2,
    by unfold lbNumClasses keyOneHot at h3; unfold keyNumClasses NUM_SPECIAL_MELODY_EVENTS; omega,
    h4⟩

theorem keymelody_decode_label (c : KeyCfg) (hc : KeyCfgOk c) (evs : List Int) (p : Nat) (hp : p < evs.length)
    (hv : KeyEvent c evs[p]) :
    ∃ l, keyEventsToLabel c evs p = .ok l ∧ keyClassIndexToEvent c l (evs.take p) = .ok evs[p] := by
  obtain ⟨l, hl, _, _, hcite⟩ := keymelody_label_spec c hc evs p hp hv
  exact ⟨l, hl, hcite⟩

theorem keymelody_label_in_range (c : KeyCfg) (hc : KeyCfgOk c) (evs : List Int) (p : Nat) (hp : p < evs.length)
    (hv : KeyEvent c evs[p]) :
    ∃ l, keyEventsToLabel c evs p = .ok l ∧ 0 ≤ l ∧ l < keyNumClasses c := by
  obtain ⟨l, hl, hl0, hl1, _⟩ := keymelody_label_spec c hc evs p hp hv
  exact ⟨l, hl, hl0, hl1⟩

/-- precedence (index form): greatest matching lookback index first (`note_range + 2 + i`), plain class last -/
theorem keymelody_label_precedence (c : KeyCfg) (hc : KeyCfgOk c) (evs : List Int) (p : Nat) (hp : p < evs.length) :
    (∀ i, Matches MELODY_NO_EVENT c.dists evs p i → (∀ j, i < j → ¬ Matches MELODY_NO_EVENT c.dists evs p j) →
        keyEventsToLabel c evs p = .ok (c.noteRange + 2 + i)) ∧
    ((∀ i, ¬ Matches MELODY_NO_EVENT c.dists evs p i) → keyEventsToLabel c evs p = keyPlainLabel c evs p) := by
  have h := lookback_label_precedence (keyOneHot c) ⟨c.dists, c.bits⟩ evs p hp hc.2.2
  rw [← keyEventsToLabel_eq] at h
  exact ⟨h.1, fun hno => (h.2 hno).trans (by simp only [keyPlainLabel, pyIdx_nat evs p hp, bind, Except.bind]; rfl)⟩

/-- generation loop: in-range labels never fail and produce melody events of the configuration;
`labels_to_num_steps` (base class: `len(labels)`) is the length of what was generated -/
theorem keymelody_generation_loop_total (c : KeyCfg) (hc : KeyCfgOk c)
    (labels : List Int) (hl : ∀ l ∈ labels, 0 ≤ l ∧ l < keyNumClasses c)
    (init : List Int) (hi : ∀ e ∈ init, KeyEvent c e) :
    ∃ out, genLoop (keyClassIndexToEvent c) labels init = .ok out ∧
      out.length = init.length + labels.length ∧ (∀ e ∈ out, KeyEvent c e) ∧ out.take init.length = init ∧
      (keyLabelsToNumSteps labels : Int) = out.length - init.length := by
  obtain ⟨out, h1, h2, h3, h4, _⟩ := genLoop_total (keyClassIndexToEvent c) (KeyEvent c)
    (fun l => 0 ≤ l ∧ l < keyNumClasses c) (by
      intro l evs ⟨hl0, hl1⟩ hev
      unfold keyClassIndexToEvent
      apply citeLoop_step (c.noteRange + 2) MELODY_NO_EVENT (fun l => .ok (keyPlainEvent c l)) (KeyEvent c)
        c.dists hc.2.2 _ (.inl rfl) l hl0 (by unfold keyNumClasses NUM_SPECIAL_MELODY_EVENTS at hl1; omega) evs hev
      intro l h0 h1
      refine ⟨_, rfl, ?_⟩
      unfold keyPlainEvent KeyEvent KeyCfg.noteRange at *
      split
      · exact .inr (.inl rfl)
      · split
        · exact .inl rfl
        · exact .inr (.inr (by omega))) labels hl init hi
  exact ⟨out, h1, h2, h3, h4, by unfold keyLabelsToNumSteps; omega⟩

theorem keymelody_input_size_exact (c : KeyCfg) (evs : List Int) (pos : Int) (v : List Int)
    (h : keyEventsToInput c evs pos = .ok v) : v.length = (keyInputSize c).toNat := by
  unfold keyEventsToInput at h
  obtain ⟨sub, _, h⟩ := bind_ok h
  obtain ⟨i1, h1, h⟩ := bind_ok h
  obtain ⟨i2, h2, h⟩ := bind_ok h
  obtain ⟨i3, h3, h⟩ := bind_ok h
  obtain ⟨s4, h4, h⟩ := bind_ok h
  obtain ⟨s5, h5, h⟩ := bind_ok h
  obtain ⟨i6, h6, h⟩ := bind_ok h
  obtain ⟨s7, h7, h⟩ := bind_ok h
  obtain ⟨l3, _, h⟩ := bind_ok h
  obtain ⟨s8, h8, h⟩ := bind_ok h
  split at h
  · rw [← Except.ok.inj h, histLoop_length _ _ _ _ h8, histLoop_length _ _ _ _ h7, setIf_length h6,
      counterLoop_length _ _ _ _ h5, repeatLoop_length _ _ _ _ _ h4, keyWriteAsc_length _ _ _ _ h3,
      setIf_length h2, keyWriteNote_length _ _ _ _ _ h1]
    simp [zeros]
  · cases h

/-- the key table the model reads with `getD` is total: 12 rows, keys below 12 (so no `IndexError` is hidden) -/
theorem note_keys_wellformed :
    NOTE_KEYS.length = NOTES_PER_OCTAVE ∧ NOTE_KEYS.all (fun row => row.all (· < NOTES_PER_OCTAVE)) = true := by
  decide

end KeyMelody

section NotePerf
open Gen

theorem noteperf_label_in_range (c : NPCfg) (E : NPEnc) (hE : npInit c = .ok E) (ev : NPEvent)
    (hv : NPValid c ev) : LabelInRange (npEncodeEvent E ev) E.numClasses := by
  obtain ⟨hm, s1, s2, s3, d1, d2, d3, hnc⟩ := npInit_spec c E hE
  obtain ⟨v1, v2, v3, v4, v5, v6, v7, v8⟩ := hv
  obtain ⟨a1, a2, a3, a4, _⟩ := divmod_spec ev.shift E.shiftPer E.shiftSeg s2 v1 (by omega)
  obtain ⟨b1, b2, b3, b4, _⟩ := divmod_spec (ev.dur - 1) E.durPer E.durSeg d2 (by omega) (by omega)
  rw [hnc, npEncodeEvent, labelInRange_six, hm]
  exact ⟨⟨a1, a2⟩, ⟨a3, a4⟩, ⟨by omega, by omega⟩, ⟨by omega, by omega⟩, ⟨b1, b2⟩, b3, b4⟩

theorem noteperf_decode_label (c : NPCfg) (hc : NPCfgOk c) (E : NPEnc) (hE : npInit c = .ok E) (ev : NPEvent)
    (hv : NPValid c ev) : npClassIndexToEvent E (npEncodeEvent E ev) = .ok ev := by
  obtain ⟨hm, s1, s2, s3, d1, d2, d3, hnc⟩ := npInit_spec c E hE
  obtain ⟨_, _, _, _, a5⟩ := divmod_spec ev.shift E.shiftPer E.shiftSeg s2 hv.1 (by have := hv.2.1; omega)
  obtain ⟨_, _, _, _, b5⟩ := divmod_spec (ev.dur - 1) E.durPer E.durSeg d2
    (by have := hv.2.2.2.2.2.2.1; omega) (by have := hv.2.2.2.2.2.2.2; omega)
  -- recombining the sub-labels gives the event back
  have e : (⟨ev.shift.fdiv E.shiftPer * E.shiftPer + ev.shift.fmod E.shiftPer, ev.pitch - E.minPitch + E.minPitch,
      ev.vel - 1 + 1, (ev.dur - 1).fdiv E.durPer * E.durPer + (ev.dur - 1).fmod E.durPer + 1⟩ : NPEvent) = ev := by
    rw [a5, b5, Int.sub_add_cancel, Int.sub_add_cancel, Int.sub_add_cancel]
  rw [npEncodeEvent, npClassIndexToEvent_ok c hc E _ _ _ _ _ _ (by rw [e]; exact hv), e]

/-- the converse: every in-range label decodes to a valid event that encodes back to the label (so label ↔ event
is a bijection between `∏ [0, num_classes[k])` and the valid events) -/
theorem noteperf_encode_decode (c : NPCfg) (hc : NPCfgOk c) (E : NPEnc) (hE : npInit c = .ok E) (l : List Int)
    (hl : LabelInRange l E.numClasses) :
    ∃ ev, npClassIndexToEvent E l = .ok ev ∧ NPValid c ev ∧ npEncodeEvent E ev = l := by
  obtain ⟨hm, s1, s2, s3, d1, d2, d3, hnc⟩ := npInit_spec c E hE
  have ⟨c1, c2, c3, c4, c5⟩ := hc
  rw [hnc] at hl
  match l, hl with
  | [a, b, p, v, dM, dm], hl =>
    obtain ⟨⟨a0, a1⟩, ⟨b0, b1⟩, ⟨p0, p1⟩, ⟨v0, v1⟩, ⟨m0, m1⟩, n0, n1⟩ := (labelInRange_six ..).mp hl
    unfold MAX_NUM_VELOCITY_BINS MIN_MIDI_PITCH MAX_MIDI_PITCH at *
    obtain ⟨hs0, hs1, x1, x2⟩ := divmod_unique a b E.shiftPer E.shiftSeg a0 a1 b0 b1
    obtain ⟨hd0, hd1, y1, y2⟩ := divmod_unique dM dm E.durPer E.durSeg m0 m1 n0 n1
    have hv : NPValid c ⟨a * E.shiftPer + b, p + E.minPitch, v + 1, dM * E.durPer + dm + 1⟩ := by
      unfold NPValid; dsimp only; omega
    refine ⟨_, npClassIndexToEvent_ok c hc E a b p v dM dm hv, hv, ?_⟩
    · rw [npEncodeEvent]
      dsimp only
      rw [x1, x2, Int.add_sub_cancel, Int.add_sub_cancel, Int.add_sub_cancel, y1, y2]

/-- the input is six one-hot blocks of sizes `num_classes[k]` with the `1` at sub-label `k`; its length is
`input_size` -/
theorem noteperf_input_blocks (c : NPCfg) (E : NPEnc) (hE : npInit c = .ok E) (evs : List NPEvent) (p : Nat)
    (hp : p < evs.length) (hv : NPValid c evs[p]) :
    npEventsToInput E evs p = .ok ((List.zipWith (fun n k => oneHotVec n.toNat k.toNat) E.numClasses
        (npEncodeEvent E evs[p])).flatten) ∧
    (((List.zipWith (fun n k => oneHotVec n.toNat k.toNat) E.numClasses
        (npEncodeEvent E evs[p])).flatten).length : Int) = npInputSize E := by
  obtain ⟨h1, h2⟩ := npOneHots_spec _ _ (noteperf_label_in_range c E hE evs[p] hv)
  refine ⟨?_, h2⟩
  unfold npEventsToInput
  simp only [pyIdx_nat evs p hp, bind, Except.bind]
  exact h1

/-- `labels_to_num_steps` = all time shifts of the decoded events plus the duration of the last one
(0 for the empty label sequence) -/
theorem noteperf_num_steps (E : NPEnc) (labels : List (List Int)) (out : List NPEvent)
    (h : mapE (npClassIndexToEvent E) labels = .ok out) :
    npLabelsToNumSteps E labels = .ok ((out.map NPEvent.shift).sum +
      (match out.getLast? with | some e => e.dur | none => 0)) := by
  unfold npLabelsToNumSteps
  rw [npStepsLoop_spec E labels out h 0 none]
  cases out.getLast? with
  | none => simp
  | some e => simp

theorem noteperf_generation_total (c : NPCfg) (hc : NPCfgOk c) (E : NPEnc) (hE : npInit c = .ok E)
    (labels : List (List Int)) (hl : ∀ l ∈ labels, LabelInRange l E.numClasses) :
    ∃ out, mapE (npClassIndexToEvent E) labels = .ok out ∧ out.length = labels.length ∧
      ∀ i (h1 : i < labels.length) (h2 : i < out.length), NPValid c out[i] ∧ npEncodeEvent E out[i] = labels[i] := by
  obtain ⟨out, ho⟩ := mapE_total (npClassIndexToEvent E) labels (fun l hlm => by
    obtain ⟨ev, h1, _⟩ := noteperf_encode_decode c hc E hE l (hl l hlm); exact ⟨ev, h1⟩)
  obtain ⟨h1, h2⟩ := mapE_ok _ _ _ ho
  refine ⟨out, ho, h1, fun i hi1 hi2 => ?_⟩
  obtain ⟨ev, e1, e2, e3⟩ := noteperf_encode_decode c hc E hE labels[i] (hl _ (List.getElem_mem hi1))
  have := h2 i hi1 hi2
  rw [e1] at this
  injection this with this
  rw [← this]
  exact ⟨e2, e3⟩

end NotePerf

section Pianoroll

theorem pianoroll_label_in_range (n : Nat) (ev : List Nat) (hv : PrEvent n ev) :
    0 ≤ prEventToLabel ev ∧ prEventToLabel ev < prNumClasses n := by
  obtain ⟨f, rfl⟩ := prEvent_eq_filter hv
  rw [prEventToLabel_filter, prNumClasses]
  exact ⟨Int.natCast_nonneg _, by exact_mod_cast C09.powSum_lt f n⟩

theorem pianoroll_decode_label (n : Nat) (ev : List Nat) (hv : PrEvent n ev) :
    prClassIndexToEvent n (prEventToLabel ev) = .ok ev := by
  obtain ⟨f, rfl⟩ := prEvent_eq_filter hv
  rw [prEventToLabel_filter, prClassIndexToEvent_nat n _ (C09.powSum_lt f n)]
  congr 1
  apply List.filter_congr
  intro k hk
  rw [C09.testBit_powSum, decide_eq_true (List.mem_range.mp hk), Bool.true_and]

theorem pianoroll_encode_decode (n : Nat) (l : Int) (h0 : 0 ≤ l) (h1 : l < prNumClasses n) :
    ∃ ev, prClassIndexToEvent n l = .ok ev ∧ PrEvent n ev ∧ prEventToLabel ev = l := by
  obtain ⟨m, rfl⟩ := Int.eq_ofNat_of_zero_le h0
  have hm : m < 2 ^ n := by unfold prNumClasses at h1; exact_mod_cast h1
  refine ⟨_, prClassIndexToEvent_nat n m hm, ⟨List.pairwise_lt_range.filter _, fun p hp => ?_⟩, ?_⟩
  · exact List.mem_range.mp (List.mem_filter.mp hp).1
  · rw [prEventToLabel_filter, C09.powSum_testBit hm]

theorem pianoroll_input_size_exact (n : Nat) (ev : List Int) (v : List Int)
    (h : prEventToInput n ev = .ok v) : v.length = n := by
  unfold prEventToInput at h
  split at h
  · injection h with h
    rw [← h]
    have : ∀ (l : List Int) (inp : List Int),
        (l.foldl (fun inp p => inp.set (if p < 0 then p + (n : Int) else p).toNat 1) inp).length = inp.length := by
      intro l
      induction l with
      | nil => intro inp; rfl
      | cons a as ih => intro inp; simp only [List.foldl_cons]; rw [ih]; simp
    rw [this]; simp [zeros]
  · cases h

end Pianoroll

/-! ## the concrete melody instance: no abstract hypothesis left (C09 discharges them) -/
section Instances
open Gen

theorem melody_lookback_decode_label (mn mx : Int) (hc : C09.MelCfg mn mx) (c : LookbackCfg) (hd : LegalDists c.dists)
    (evs : List Int) (p : Nat) (hp : p < evs.length) (he : C09.MelEvent mn mx evs[p]) :
    ∃ l, lbEventsToLabel (melOneHot mn mx) c evs p = .ok l ∧ 0 ≤ l ∧ l < lbNumClasses (melOneHot mn mx) c ∧
      lbClassIndexToEvent (melOneHot mn mx) c l (evs.take p) = .ok evs[p] :=
  lookback_label_spec (melOneHot mn mx) c evs p hp hd (melody_valid mn mx _ hc he)

theorem melody_lookback_generation_total (mn mx : Int) (hc : C09.MelCfg mn mx) (c : LookbackCfg)
    (hd : LegalDists c.dists) (labels : List Int)
    (hl : ∀ l ∈ labels, 0 ≤ l ∧ l < lbNumClasses (melOneHot mn mx) c) :
    ∃ out, genLoop (lbClassIndexToEvent (melOneHot mn mx) c) labels [] = .ok out ∧ out.length = labels.length ∧
      (∀ e ∈ out, C09.MelEvent mn mx e) ∧
      lbLabelsToNumSteps (melOneHot mn mx) c labels = .ok (out.length : Int) := by
  obtain ⟨out, h1, h2, h3, _⟩ := lookback_generation_loop_total (melOneHot mn mx) c hd
    (melody_decode_total mn mx hc) (melody_default_valid mn mx hc) labels hl [] (by simp)
  refine ⟨out, h1, by simpa using h2, ?_, ?_⟩
  · intro e he
    obtain ⟨i, hi, _⟩ := h3 e he
    -- an event that encodes is a melody event (C09: invalid events are rejected)
    by_cases h : C09.MelEvent mn mx e
    · exact h
    · rw [show (melOneHot mn mx).encode e = _ from C09.melody_encode_rejects mn mx e h] at hi
      cases hi
  · unfold lbLabelsToNumSteps; rw [h1]
    simp only [Except.map, stepsOf, melOneHot]
    congr 1
    rw [List.map_const', List.sum_replicate_int, Int.mul_one]

/-! ## ModuloPerformanceEventSequenceEncoderDecoder (label side; input: size only) -/

theorem modulo_decode_label (c : ModCfg) (hc : ModCfgOk c) (evs : List (Nat × Int)) (p : Nat) (hp : p < evs.length)
    (he : ModEvent c evs[p]) :
    ∃ l, ohEventsToLabel (perfOneHot c.bins c.maxShift MIN_MIDI_PITCH MAX_MIDI_PITCH) evs p = .ok l ∧
      0 ≤ l ∧ l < ohNumClasses (perfOneHot c.bins c.maxShift MIN_MIDI_PITCH MAX_MIDI_PITCH) ∧
      ohClassIndexToEvent (perfOneHot c.bins c.maxShift MIN_MIDI_PITCH MAX_MIDI_PITCH) l (evs.take p) = .ok evs[p] :=
  onehot_label_spec _ evs p hp (modulo_valid c hc _ he)

theorem modulo_input_size_exact (c : ModCfg) (evs : List (Nat × Int)) (pos : Int) (v : List MCell)
    (h : modEventsToInput c evs pos = .ok v) : v.length = (modInputSize c).toNat := by
  unfold modEventsToInput at h
  obtain ⟨ev, _, h⟩ := bind_ok h
  obtain ⟨⟨offset, value⟩, _, h⟩ := bind_ok h
  obtain ⟨i1, h1, h⟩ := bind_ok h
  simp only [] at h
  split at h
  · obtain ⟨⟨a, b⟩, _, h⟩ := bind_ok h
    obtain ⟨i2, h2, h⟩ := bind_ok h
    obtain ⟨i3, h3, h⟩ := bind_ok h
    obtain ⟨⟨a', b'⟩, _, h⟩ := bind_ok h
    obtain ⟨i4, h4, h⟩ := bind_ok h
    rw [pySet_length h, pySet_length h4, pySet_length h3, pySet_length h2, pySet_length h1]
    simp
  · split at h
    · obtain ⟨⟨a, b⟩, _, h⟩ := bind_ok h
      obtain ⟨i2, h2, h⟩ := bind_ok h
      rw [pySet_length h, pySet_length h2, pySet_length h1]
      simp
    · obtain ⟨⟨a, b⟩, _, h⟩ := bind_ok h
      obtain ⟨i2, h2, h⟩ := bind_ok h
      rw [pySet_length h, pySet_length h2, pySet_length h1]
      simp
end Instances

open Gen

/-! ## non-vacuity: the hypotheses of the theorems above are satisfiable by non-trivial inputs, and the
conclusions are what the model computes on them -/
section Examples

example : LegalDists [2, 4] ∧ LegalDists [] ∧ LegalDists [3, 1, 3] ∧ LegalDists [1000] := by
  refine ⟨?_, ?_, ?_, ?_⟩ <;> intro d hd <;> simp at hd <;> omega

theorem ex_melcfg : C09.MelCfg 48 84 := by
  unfold C09.MelCfg C09.Gen.MIN_MIDI_PITCH C09.Gen.MAX_MIDI_PITCH; omega

/-- valid events exist: a pitch, note-off and the default event of `MelodyOneHotEncoding(48, 84)` -/
example : ValidEv (melOneHot 48 84) 60 ∧ ValidEv (melOneHot 48 84) (-1) ∧
    ValidEv (melOneHot 48 84) (melOneHot 48 84).default ∧ DecodeTotal (melOneHot 48 84) :=
  ⟨melody_valid 48 84 60 ex_melcfg (by unfold C09.MelEvent; omega),
   melody_valid 48 84 (-1) ex_melcfg (by unfold C09.MelEvent; omega),
   melody_default_valid 48 84 ex_melcfg, melody_decode_total 48 84 ex_melcfg⟩

/-- `lookback_label_precedence` / `lookback_decode_label` on `[60, -2, 60, -2]`, distances `[2, 4]`, position 2:
lookback 0 (distance 2) matches, lookback 1 does not, the label is `38 + 0` and decodes to 60 -/
example : Matches (-2 : Int) [2, 4] [60, -2, 60, -2] 2 0 := ⟨2, rfl, .inl (by decide)⟩
example : ¬ Matches (-2 : Int) [2, 4] [60, -2, 60, -2] 2 1 := by
  rintro ⟨d, hd, h⟩
  simp at hd; subst hd
  rcases h with h | ⟨_, _, h⟩
  · revert h; decide
  · simp at h
example : lbEventsToLabel (melOneHot 48 84) ⟨[2, 4], 3⟩ [60, -2, 60, -2] (2 : Nat) = .ok 38 ∧
    lbClassIndexToEvent (melOneHot 48 84) ⟨[2, 4], 3⟩ 38 [60, -2] = .ok 60 := by
  constructor <;> rfl
/-- the virtual prehistory: a default event at position 1 < 4 gets the *last* lookback label, and decodes
to the default event although the history is shorter than the distance -/
example : Matches (-2 : Int) [2, 4] [60, -2, 60, -2] 1 1 := ⟨4, rfl, .inr ⟨rfl, by decide, rfl⟩⟩
example : lbEventsToLabel (melOneHot 48 84) ⟨[2, 4], 3⟩ [60, -2, 60, -2] (1 : Nat) = .ok 39 ∧
    lbClassIndexToEvent (melOneHot 48 84) ⟨[2, 4], 3⟩ 39 [60] = .ok (-2) := by
  constructor <;> rfl
/-- unsorted distances `[3, 1]`: both match at position 3 of `[5, 0, 5, 5]`… the greater *index* (distance 1) wins -/
example : lbEventsToLabel (melOneHot 0 8) ⟨[3, 1], 0⟩ [5, 0, 5, 5] (3 : Nat) = .ok 11 := by rfl

/-- `lookback_input_blocks`: its hypotheses hold for every valid sequence (`lookback_input_blocks_total`); one
concrete layout — 4 classes, distances `[1, 2]`, 2 counter bits, position 2 of `[0, 1, 0]` -/
example : lbEventsToInput (melOneHot 0 2) ⟨[1, 2], 2⟩ [0, 1, 0] (2 : Nat)
    = .ok [0, 0, 1, 0,  0, 0, 1, 0,  0, 0, 0, 1,  1, 1,  0, 1] := by rfl

/-- `encode_aligned`: three events give two aligned pairs -/
example : ∃ ins labs, encodeG (lbEventsToInput (melOneHot 0 2) ⟨[1], 0⟩) (lbEventsToLabel (melOneHot 0 2) ⟨[1], 0⟩)
    [0, 1, 1] = .ok (ins, labs) ∧ ins.length = 2 ∧ labs = [3, 4] := ⟨_, _, rfl, rfl, rfl⟩

/-- generation loop hypotheses: in-range labels (incl. lookback labels on an empty history) -/
example : ∀ l ∈ [39, 38, 14, 1, 39], 0 ≤ l ∧ l < lbNumClasses (melOneHot 48 84) ⟨[2, 4], 3⟩ := by
  intro l hl; simp at hl; unfold lbNumClasses melOneHot C09.Gen.melNumClasses
  rcases hl with h | h | h | h | h <;> subst h <;> simp
example : genLoop (lbClassIndexToEvent (melOneHot 48 84) ⟨[2, 4], 3⟩) [39, 38, 14, 1, 39] []
    = .ok [-2, -2, 60, -1, -2] := by rfl

/-- key-melody: legal configuration (incl. the empty lookback list), events, a concrete label -/
example : KeyCfgOk ⟨48, 84, [16, 32], 7⟩ ∧ KeyCfgOk ⟨0, 128, [], 0⟩ ∧ KeyEvent ⟨48, 84, [16, 32], 7⟩ 60 ∧
    KeyEvent ⟨48, 84, [16, 32], 7⟩ (-2) := by
  unfold KeyCfgOk KeyEvent MELODY_NO_EVENT MELODY_NOTE_OFF
  refine ⟨⟨by simp, by simp, ?_⟩, ⟨by simp, by simp, by simp⟩, by simp, by simp⟩
  intro d hd; simp at hd; omega
example : keyEventsToLabel ⟨48, 84, [2, 4], 7⟩ [60, -2, 60, -1] (2 : Nat) = .ok 38 ∧
    keyClassIndexToEvent ⟨48, 84, [2, 4], 7⟩ 38 [60, -2] = .ok 60 ∧
    keyEventsToLabel ⟨48, 84, [], 7⟩ [60, -2, 60, -1] (3 : Nat) = .ok 37 := ⟨rfl, rfl, rfl⟩

/-- note-performance: the constructor succeeds for composite step counts; a valid event and its label -/
example : ∃ E, npInit ⟨32, 99, 100, 0, 127⟩ = .ok E ∧ E.numClasses = [10, 10, 128, 32, 10, 10] ∧
    npEncodeEvent E ⟨57, 60, 32, 100⟩ = [5, 7, 60, 31, 9, 9] ∧
    npClassIndexToEvent E [5, 7, 60, 31, 9, 9] = .ok ⟨57, 60, 32, 100⟩ := ⟨_, rfl, rfl, rfl, rfl⟩
example : NPCfgOk ⟨32, 99, 100, 0, 127⟩ ∧ NPValid ⟨32, 99, 100, 0, 127⟩ ⟨57, 60, 32, 100⟩ := by
  unfold NPCfgOk NPValid MAX_NUM_VELOCITY_BINS MIN_MIDI_PITCH MAX_MIDI_PITCH; simp
/-- prime step counts are outside "legal configuration": the constructor's assertion fails -/
example : npInit ⟨32, 100, 100, 0, 127⟩ = .error "AssertionError" := rfl

/-- pianoroll: a strictly increasing tuple and its label -/
example : PrEvent 8 [0, 2, 5] ∧ prEventToLabel [0, 2, 5] = 37 ∧ prClassIndexToEvent 8 37 = .ok [0, 2, 5] := by
  refine ⟨⟨by simp, by intro p hp; simp at hp; omega⟩, rfl, rfl⟩

/-- modulo-performance: legal configuration and events -/
example : ModCfgOk ⟨32, 100⟩ ∧ ModEvent ⟨32, 100⟩ (TIME_SHIFT, 100) ∧ ModEvent ⟨32, 100⟩ (NOTE_ON, 60) := by
  unfold ModCfgOk ModEvent MAX_NUM_VELOCITY_BINS C09.perfRanges
  refine ⟨by simp, ⟨⟨C09.Gen.TIME_SHIFT, 1, 100⟩, by simp, rfl, by simp, by simp⟩,
    ⟨⟨C09.Gen.NOTE_ON, MIN_MIDI_PITCH, MAX_MIDI_PITCH⟩, by simp, rfl, by simp [MIN_MIDI_PITCH], by simp [MAX_MIDI_PITCH]⟩⟩

end Examples
end NSV.C08

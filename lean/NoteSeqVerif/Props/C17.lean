import NoteSeqVerif.Proofs.C17
/-! C17 — event sequences keep length, step range and indexing consistent under any edits.

All statements are universally quantified over the class record (`Lawful c`: SimpleEventSequence
with any pad event, Melody, DrumTrack, ChordProgression), over states, over operation arguments and
over operation lists of any length.  The operation domain `OpOk` only asks for a length `≥ 0`, a
resolution factor `≥ 1` and a valid fill event; events, slice bounds (negative, past the end, `None`)
and re-initialisation arguments are arbitrary. -/
namespace NSV.C17
open Gen
variable {α : Type}

/-- the start offset of `l[i:j]` is `slice(i, j).indices(len)[0]`: within `[0, len]`, equal to `i`
for `0 ≤ i ≤ len`, to `len + i` for `-len ≤ i < 0`, clamped to `len` / `0` beyond, `0` for `None` -/
theorem py_slice_start (len : Nat) (i : Int) :
    (∀ o, sliceLo len o ≤ len) ∧
    (0 ≤ i → i ≤ len → (sliceLo len (some i) : Int) = i) ∧
    ((len : Int) < i → sliceLo len (some i) = len) ∧
    (-(len : Int) ≤ i → i < 0 → (sliceLo len (some i) : Int) = len + i) ∧
    (i < -(len : Int) → sliceLo len (some i) = 0) ∧ sliceLo len none = 0 := by
  refine ⟨sliceLo_le len, ?_⟩
  simp only [sliceLo, clampIdx]
  refine ⟨?_, ?_, ?_, ?_, trivial⟩ <;> intros <;> split <;> omega

example : sliceLo 4 (some (-2)) = 2 ∧ sliceLo 4 (some 7) = 4 ∧ sliceLo 4 (some (-9)) = 0 := by decide

theorem py_slice_elements (l : List α) (i j : Option Int) :
    (pySlice l i j).length = sliceHi l.length j - sliceLo l.length i ∧
    ∀ k, k < (pySlice l i j).length → (pySlice l i j)[k]? = l[sliceLo l.length i + k]? :=
  ⟨pySlice_length l i j, fun k hk => pySlice_getElem l i j k hk⟩

example : pySlice [10, 11, 12, 13] (some (-3)) (some 3) = [11, 12] := by decide

/-- `l[i]`: non-negative and negative indices address the same elements, anything else is an
`IndexError` -/
theorem py_index (l : List α) :
    (∀ k (_ : k < l.length), pyIndex l (k : Int) = .ok l[k] ∧ pyIndex l ((k : Int) - l.length) = .ok l[k]) ∧
    (∀ i : Int, (l.length : Int) ≤ i ∨ i < -(l.length : Int) → pyIndex l i = .error .indexError) := by
  constructor
  · intro k h
    constructor
    · simp [pyIndex, Int.not_lt.2 (Int.natCast_nonneg k), h]
    · have h1 : (k : Int) - l.length < 0 := by omega
      simp [pyIndex, h1, h]
  · intro i hi
    unfold pyIndex
    rcases hi with hi | hi
    · have h1 : ¬ i < 0 := by omega
      have h2 : l.length ≤ i.toNat := by omega
      simp [h1, List.getElem?_eq_none h2]
    · have h1 : i < 0 := by omega
      have h2 : i + l.length < 0 := by omega
      simp [h1, h2]

example : pyIndex [10, 11, 12] (-1) = .ok 12 ∧ pyIndex [10, 11, 12] 3 = .error .indexError := ⟨rfl, rfl⟩

theorem py_range (a b : Int) :
    (pyRange a b).length = (b - a).toNat ∧ ∀ k, k < (b - a).toNat → (pyRange a b)[k]? = some (a + k) := by
  unfold pyRange
  exact ⟨by simp, fun k hk => by simp [hk]⟩

theorem class_records_lawful :
    Lawful melodyCls ∧ Lawful drumCls ∧ Lawful chordCls ∧ ∀ pad : α, Lawful (simpleCls pad) :=
  ⟨melody_lawful, drum_lawful, chord_lawful, simple_lawful⟩

theorem inv_init (c : Cls α) (start spb spq : Int) : Inv c (Seq.empty start spb spq) :=
  ⟨by simp [Seq.empty], by simp [Seq.empty]⟩

theorem inv_from_event_list (c : Cls α) (hc : Lawful c) (evs : List α) (st b q : Int) (s : Seq α)
    (h : fromEventList c evs st b q = .ok s) : Inv c s := by
  obtain ⟨hv, rfl⟩ := fromEventList_ok c evs st b q s h
  exact ⟨by dsimp only; omega, hc.clean_valid evs hv⟩

example : ∃ s, fromEventList melodyCls [-1, 60, -2] 4 16 4 = .ok s ∧ s.events = [-2, 60, -2] ∧ s.stop = 7 :=
  ⟨_, rfl, by decide, by decide⟩

/-- every operation, with every argument, preserves the invariant (`set_length(0)` from either
side, negative and past-the-end slice bounds, `increase_resolution(1)`, … included) -/
theorem inv_step (c : Cls α) (hc : Lawful c) (s s' : Seq α) (op : Op α) (hi : Inv c s)
    (hok : OpOk c op) (h : step c s op = .ok s') : Inv c s' := by
  cases op with
  | append e =>
    obtain ⟨hv, rfl⟩ := step_append_ok c s s' e h
    exact ⟨by simp; have := hi.1; omega, List.forall_mem_append.2 ⟨hi.2, List.forall_mem_singleton.2 hv⟩⟩
  | setLength n fl => simp only [step] at h; cases h; exact setLength_inv c hc s n fl hok hi
  | slice i j => exact inv_from_event_list c hc _ _ _ _ _ h
  | sliceStep i j k => exact inv_from_event_list c hc _ _ _ _ _ (step_sliceStep_ok c s s' i j k h).2
  | incRes k fill => simp only [step] at h; cases h; exact incRes_inv c hc s k fill hok hi
  | deepcopy => exact inv_from_event_list c hc _ _ _ _ _ h
  | reinit ev st b q => exact inv_from_event_list c hc _ _ _ _ _ h
  | reset => simp only [step] at h; cases h; exact ⟨by simp, by simp⟩

/-- the inputs of findings F-C17-1 (`set_length(0, from_left=True)`) and F-C17-2 (a negative slice
start), evaluated -/
example : ∃ s', step (simpleCls (0 : Int)) ⟨[1, 2, 3], 4, 7, 16, 4⟩ (.setLength 0 true) = .ok s' ∧
    s'.events = [] ∧ s'.start = 7 ∧ s'.stop = 7 := ⟨_, rfl, by decide, by decide, by decide⟩
example : ∃ s', step (simpleCls (0 : Int)) ⟨[1, 2, 3, 4], 4, 8, 16, 4⟩ (.slice (some (-2)) none) = .ok s' ∧
    s'.events = [3, 4] ∧ s'.start = 6 ∧ s'.stop = 8 := ⟨_, rfl, by decide, by decide, by decide⟩

/-- the invariant holds after any history: any list of operations, of any length, applied by a
caller that catches the exceptions of rejected operations -/
theorem inv_reachable (c : Cls α) (hc : Lawful c) (ops : List (Op α)) (s : Seq α) (hi : Inv c s)
    (hok : ∀ op ∈ ops, OpOk c op) : Inv c (runSkip c s ops) :=
  foldl_inv (stepSkip c) (Inv c) (OpOk c)
    (fun s o hi ho => (stepSkip_cases c s o).elim (fun e => by rw [e]; exact hi) (inv_step c hc s _ o hi ho))
    ops s hi hok

example : (runSkip melodyCls ⟨[60], 0, 1, 16, 4⟩
    [.setLength 3 false, .append 128, .slice (some (-2)) none, .incRes 2 none, .setLength 0 true]).events = [] := by
  decide

/-- under the invariant the observations agree: `len = end_step - start_step`, `steps` lists one
step per event, namely `start_step + k`, iteration and indexing (from either end) return the same
events, and indexing outside `-len..len-1` raises `IndexError` -/
theorem observations_consistent (c : Cls α) (s : Seq α) (h : Inv c s) :
    (s.len : Int) = s.stop - s.start ∧ s.iter.length = s.len ∧
    s.steps.length = s.len ∧ (∀ k, k < s.len → s.steps[k]? = some (s.start + k)) ∧
    (∀ k (hk : k < s.iter.length), s.index (k : Int) = .ok s.iter[k] ∧ s.index ((k : Int) - s.len) = .ok s.iter[k]) ∧
    (∀ i : Int, (s.len : Int) ≤ i ∨ i < -(s.len : Int) → s.index i = .error .indexError) := by
  have h1 := h.1
  obtain ⟨r1, r2⟩ := py_range s.start s.stop
  obtain ⟨i1, i2⟩ := py_index s.events
  have hl : (s.stop - s.start).toNat = s.events.length := by omega
  refine ⟨by simp [Seq.len]; omega, rfl, ?_, ?_, i1, i2⟩
  · simp [Seq.steps, Seq.len, r1, hl]
  · intro k hk; exact r2 k (by simp [Seq.len] at hk; omega)

/-- Melody events stay within -2..127 (the literal bounds of the property text; `melodyCls.valid`
uses the constants regenerated from the source) -/
theorem melody_in_range (s : Seq Int) (h : Inv melodyCls s) : ∀ e ∈ s.events, -2 ≤ e ∧ e ≤ 127 := by
  intro e he
  have := h.2 e he
  simp only [melodyCls, melValid, MIN_MELODY_EVENT, MAX_MELODY_EVENT, Bool.and_eq_true] at this
  exact ⟨of_decide_eq_true this.1, of_decide_eq_true this.2⟩

/-- `set_length(n)` yields exactly `n` events and a step range of exactly `n` steps -/
theorem set_length_exact (c : Cls α) (s : Seq α) (n : Int) (fl : Bool) (hn : 0 ≤ n) (hi : Inv c s) :
    (setLength c s n fl).events.length = n.toNat ∧ (setLength c s n fl).stop - (setLength c s n fl).start = n :=
  ⟨setLength_length c s n fl hn, setLength_span c s n fl⟩

example : (setLength (simpleCls (0 : Int)) ⟨[1, 2, 3], 4, 7, 16, 4⟩ 5 true).events = [0, 0, 1, 2, 3] := by decide

/-- `set_length` keeps the retained side.  From the right: `start_step` stays, shrinking keeps the
first `n` events, growing appends pad events after all old events (the first new event is what
`Melody`'s scan decides, see `melody_set_length_first_new`).  From the left: `end_step` stays,
shrinking keeps the last `n` events, growing prepends pad events. -/
theorem set_length_keeps (c : Cls α) (s : Seq α) (n : Int) (hn : 0 ≤ n) :
    ((setLength c s n false).start = s.start ∧
      (setLength c s n false).events =
        if n.toNat ≤ s.events.length then s.events.take n.toNat
        else s.events ++ ((c.sustain s.events).getD c.pad :: List.replicate (n.toNat - s.events.length - 1) c.pad)) ∧
    ((setLength c s n true).stop = s.stop ∧
      (setLength c s n true).events =
        if n.toNat ≤ s.events.length then s.events.drop (s.events.length - n.toNat)
        else List.replicate (n.toNat - s.events.length) c.pad ++ s.events) :=
  ⟨⟨(setLength_fields_right c s n).1, setLength_events_right c s n hn⟩,
   ⟨(setLength_fields_left c s n).2.1, setLength_events_left c s n hn⟩⟩

/-- `Melody.set_length`'s scan returns NOTE_OFF exactly when a note is sounding (the last event
other than NO_EVENT is a pitch), and nothing otherwise -/
theorem melody_sustain_iff (evs : List Int) :
    (melodyCls.sustain evs = some MELODY_NOTE_OFF ↔ Sounding evs) ∧
    (melodyCls.sustain evs = none ↔ ¬ Sounding evs) :=
  ⟨melSustain_iff evs, melSustain_none_iff evs⟩

/-- growing a melody on the right: the first new step is NOTE_OFF iff a note is sounding, else
NO_EVENT; all old events are kept -/
theorem melody_set_length_first_new (s : Seq Int) (n : Int) (hn : (s.events.length : Int) < n) :
    (setLength melodyCls s n false).events.take s.events.length = s.events ∧
    (Sounding s.events → (setLength melodyCls s n false).events[s.events.length]? = some MELODY_NOTE_OFF) ∧
    (¬ Sounding s.events → (setLength melodyCls s n false).events[s.events.length]? = some MELODY_NO_EVENT) := by
  have h1 : ¬ n.toNat ≤ s.events.length := by omega
  rw [setLength_events_right melodyCls s n (by omega), if_neg h1]
  refine ⟨by simp, ?_, ?_⟩
  · intro hs
    have : melSustain s.events = some MELODY_NOTE_OFF := (melSustain_iff _).2 hs
    simp [this, melodyCls]
  · intro hs
    have : melSustain s.events = none := (melSustain_none_iff _).2 hs
    simp [this, melodyCls]

example : Sounding [60, -2] ∧ ¬ Sounding [60, -1, -2] := by
  constructor
  · exact ⟨[], 60, [-2], rfl, by decide, by decide, by simp [MELODY_NO_EVENT]⟩
  · rw [← melSustain_iff]; decide
example : (setLength melodyCls ⟨[60, -2], 0, 2, 16, 4⟩ 4 false).events = [60, -2, -1, -2] := by decide

/-- a slice starts at `start_step + clamp(i)`, contains the cleaned slice of the events and keeps
the resolution -/
theorem slice_offset (c : Cls α) (s s' : Seq α) (i j : Option Int) (h : step c s (.slice i j) = .ok s') :
    s'.start = s.start + (sliceLo s.events.length i : Int) ∧ s'.events = c.clean (pySlice s.events i j) ∧
    s'.spb = s.spb ∧ s'.spq = s.spq := by
  obtain ⟨_, rfl⟩ := fromEventList_ok _ _ _ _ _ _ h
  exact ⟨rfl, rfl, rfl, rfl⟩

/-- slices carry the step offset of the elements they contain: the slice lies within the source's
step range, and (before the class's cleaning) the element at step `t` of the slice is the element
at step `t` of the source -/
theorem slice_elements (c : Cls α) (hc : Lawful c) (s s' : Seq α) (i j : Option Int) (hi : Inv c s)
    (h : step c s (.slice i j) = .ok s') :
    s.start ≤ s'.start ∧ s'.start + (s'.events.length : Int) ≤ s.stop ∧
    ∃ raw, s'.events = c.clean raw ∧ ∀ k, k < raw.length →
      raw[k]? = s.events[((s'.start + (k : Int)) - s.start).toNat]? := by
  obtain ⟨_, rfl⟩ := fromEventList_ok _ _ _ _ _ _ h
  have hlo := sliceLo_le s.events.length i
  have hhi := sliceHi_le s.events.length j
  have h1 := hi.1
  dsimp only
  refine ⟨by omega, ?_, pySlice s.events i j, rfl, ?_⟩
  · rw [hc.clean_length, pySlice_length]; omega
  · intro k hk
    rw [pySlice_getElem _ _ _ _ hk]
    congr 1
    omega

/-- the only thing `Melody`'s cleaning ever does to an element is to turn a NOTE_OFF into NO_EVENT;
for the other classes cleaning is the identity -/
theorem clean_pointwise (l : List Int) (k : Nat) :
    ((melodyCls.clean l)[k]? = l[k]? ∨
      ((melodyCls.clean l)[k]? = some MELODY_NO_EVENT ∧ l[k]? = some MELODY_NOTE_OFF)) ∧
    (∀ l' : List DrumEv, drumCls.clean l' = l') ∧ (∀ l' : List String, chordCls.clean l' = l') ∧
    (∀ (pad : α) (l' : List α), (simpleCls pad).clean l' = l') :=
  ⟨melClean_getElem l k, fun _ => rfl, fun _ => rfl, fun _ _ => rfl⟩

/-- `increase_resolution(k)`, `k ≥ 1`: length, start, end, steps per bar and steps per quarter are
all multiplied by `k` and original event `i` sits at index `i * k` -/
theorem inc_res_scales (c : Cls α) (s : Seq α) (k : Int) (fill : Option α) (hk : 1 ≤ k) :
    (incRes c s k fill).events.length = s.events.length * k.toNat ∧
    (incRes c s k fill).start = s.start * k ∧ (incRes c s k fill).stop = s.stop * k ∧
    (incRes c s k fill).spb = s.spb * k ∧ (incRes c s k fill).spq = s.spq * k ∧
    ∀ i, (incRes c s k fill).events[i * k.toNat]? = s.events[i]? := by
  refine ⟨incRes_length c s k fill hk, rfl, rfl, rfl, rfl, ?_⟩
  intro i
  simp only [incRes]
  rw [flatMap_getElem_mul s.events _ k.toNat (by omega) (fillOf_length _ k hk) id (fun e => fillOf_head _ k hk e) i]
  simp

example : (incRes melodyCls ⟨[60, -1], 2, 4, 16, 4⟩ 3 none).events = [60, -2, -2, -1, -2, -2] ∧
    (incRes melodyCls ⟨[60, -1], 2, 4, 16, 4⟩ 3 none).stop = 12 ∧
    (incRes melodyCls ⟨[60, -1], 2, 4, 16, 4⟩ 3 none).spb = 48 := by decide

/-- what the other operations leave alone (append: everything but the new last event; deepcopy:
everything up to the class's cleaning; set_length / slice: the resolution) -/
theorem step_frame (c : Cls α) (s s' : Seq α) (op : Op α) (h : step c s op = .ok s') :
    match op with
    | .append e => s'.events = s.events ++ [e] ∧ s'.start = s.start ∧ s'.spb = s.spb ∧ s'.spq = s.spq
    | .setLength _ _ => s'.spb = s.spb ∧ s'.spq = s.spq
    | .slice _ _ => s'.spb = s.spb ∧ s'.spq = s.spq
    | .sliceStep _ _ _ => s'.spb = s.spb ∧ s'.spq = s.spq
    | .deepcopy => s'.events = c.clean s.events ∧ s'.start = s.start ∧ s'.spb = s.spb ∧ s'.spq = s.spq
    | .reinit ev st b q => s'.events = c.clean ev ∧ s'.start = st ∧ s'.spb = b ∧ s'.spq = q
    | .reset => s'.events = [] ∧ s'.start = 0
    | .incRes _ _ => True := by
  cases op with
  | append e => obtain ⟨_, rfl⟩ := step_append_ok c s s' e h; exact ⟨rfl, rfl, rfl, rfl⟩
  | setLength n fl =>
    simp only [step] at h; cases h
    cases fl
    · exact (setLength_fields_right c s n).2.2
    · exact (setLength_fields_left c s n).2.2
  | slice i j => obtain ⟨_, rfl⟩ := fromEventList_ok _ _ _ _ _ _ h; exact ⟨rfl, rfl⟩
  | sliceStep i j k =>
    obtain ⟨_, rfl⟩ := fromEventList_ok _ _ _ _ _ _ (step_sliceStep_ok c s s' i j k h).2
    exact ⟨rfl, rfl⟩
  | deepcopy => obtain ⟨_, rfl⟩ := fromEventList_ok _ _ _ _ _ _ h; exact ⟨rfl, rfl, rfl, rfl⟩
  | reinit ev st b q => obtain ⟨_, rfl⟩ := fromEventList_ok _ _ _ _ _ _ h; exact ⟨rfl, rfl, rfl, rfl⟩
  | reset => simp only [step] at h; cases h; exact ⟨rfl, rfl⟩
  | incRes k f => trivial

/-- lock-step against the abstract list model of the property text: on states satisfying the
invariant the implementation model and the abstract `(start, List event)` model (`astep`, plain
list functions, no end step) produce the same result for every operation — the same abstract
state, or the same exception -/
theorem refines_abstract (c : Cls α) (s : Seq α) (op : Op α) (hi : Inv c s) (hok : OpOk c op) :
    (step c s op).map Seq.abs = astep c s.abs op := by
  cases op with
  | append e =>
    by_cases hv : c.valid e = true <;> simp [step, astep, Seq.abs, hv, Except.map]
  | setLength n fl =>
    have hn : 0 ≤ n := hok
    cases fl
    · obtain ⟨a, _, _, _⟩ := setLength_fields_right c s n
      simp only [step, Except.map, astep, Seq.abs, a, setLength_events_right c s n hn]
      rfl
    · obtain ⟨a, _, _, _⟩ := setLength_fields_left c s n
      have := hi.1
      simp only [step, Except.map, astep, Seq.abs, a, setLength_events_left c s n hn]
      congr 2
      omega
  | slice i j =>
    simp only [step, fromEventList_map_abs, astep, Seq.abs, pySlice]
    rfl
  | sliceStep i j k =>
    by_cases hk : k = 0
    · simp [step, astep, hk, Except.map]
    · simp only [step, astep, hk, if_false, fromEventList_map_abs, Seq.abs]
      rfl
  | incRes k f =>
    simp only [step, Except.map, astep, Seq.abs, incRes]
    refine congrArg (fun g => Except.ok (s.start * k, List.flatMap g s.events)) ?_
    funext e
    unfold fillOf pyRepeat
    have hk : 1 ≤ k := hok.1
    have : (k - 1).toNat = k.toNat - 1 := by omega
    cases c.fixedFill <;> cases f <;> simp [this]
  | deepcopy => simp only [step, fromEventList_map_abs, astep, Seq.abs]; rfl
  | reinit ev st b q => simp only [step, fromEventList_map_abs, astep]
  | reset => rfl

theorem lead_inv_init :
    (∀ l l', lstep l .reset = .ok l' → LInv l') ∧
    (∀ l l' mev ms mb mq cev cs cb cq, lstep l (.init mev ms mb mq cev cs cb cq) = .ok l' → LInv l') :=
  ⟨fun l l' h => by
    simp only [lstep] at h; cases h
    exact ⟨inv_init _ _ _ _, inv_init _ _ _ _, rfl, rfl, rfl, rfl, rfl⟩,
   fun l l' mev ms mb mq cev cs cb cq h =>
    lead_bind_inv _ _ l' (inv_from_event_list _ melody_lawful _ _ _ _) (inv_from_event_list _ chord_lawful _ _ _ _) h⟩

/-- every LeadSheet operation keeps melody and chords individually consistent and in agreement on
length, step range and resolution -/
theorem lead_inv_step (l l' : LeadSheet) (op : LOp) (hi : LInv l) (hok : LOpOk op) (h : lstep l op = .ok l') :
    LInv l' := by
  obtain ⟨im, ic, hlen, hst, hsp, hb, hq⟩ := hi
  have hm := fun o (ho : OpOk melodyCls o) m => inv_step melodyCls melody_lawful l.melody m o im ho
  have hc := fun o (ho : OpOk chordCls o) c => inv_step chordCls chord_lawful l.chords c o ic ho
  cases op with
  | append m c =>
    simp only [lstep] at h
    obtain ⟨m', em, h⟩ := bind_ok h
    obtain ⟨c', ec, h⟩ := bind_ok h
    cases h
    have im' := hm (.append m) trivial _ em
    have ic' := hc (.append c) trivial _ ec
    obtain ⟨_, rfl⟩ := step_append_ok _ _ _ _ em
    obtain ⟨_, rfl⟩ := step_append_ok _ _ _ _ ec
    exact ⟨im', ic', by simp [hlen], hst, by simp [hsp], hb, hq⟩
  | setLength n =>
    simp only [lstep] at h; cases h
    have hn : 0 ≤ n := hok
    obtain ⟨a1, a2, a3, a4⟩ := setLength_fields_right melodyCls l.melody n
    obtain ⟨b1, b2, b3, b4⟩ := setLength_fields_right chordCls l.chords n
    refine ⟨setLength_inv _ melody_lawful _ _ _ hn im, setLength_inv _ chord_lawful _ _ _ hn ic, ?_, ?_, ?_, ?_, ?_⟩
    · simp only [setLength_length _ _ _ _ hn]
    · simp only [a1, b1, hst]
    · simp only [a2, b2, hst]
    · simp only [a3, b3, hb]
    · simp only [a4, b4, hq]
  | slice i j => exact lead_bind_inv _ _ l' (hm (.slice i j) trivial) (hc (.slice i j) trivial) h
  | sliceStep i j k => exact lead_bind_inv _ _ l' (hm (.sliceStep i j k) trivial) (hc (.sliceStep i j k) trivial) h
  | incRes k =>
    simp only [lstep] at h; cases h
    have hk : 1 ≤ k := hok
    refine ⟨incRes_inv _ melody_lawful _ k none ⟨hk, by simp [melodyCls]⟩ im,
      incRes_inv _ chord_lawful _ k none ⟨hk, by simp⟩ ic, ?_, ?_, ?_, ?_, ?_⟩
    · simp only [incRes_length _ _ _ _ hk, hlen]
    · simp only [incRes, hst]
    · simp only [incRes, hsp]
    · simp only [incRes, hb]
    · simp only [incRes, hq]
  | deepcopy => exact lead_bind_inv _ _ l' (hm .deepcopy trivial) (hc .deepcopy trivial) h
  | init mev ms mb mq cev cs cb cq => exact lead_inv_init.2 l l' _ _ _ _ _ _ _ _ h
  | reset => exact lead_inv_init.1 l l' h

theorem lead_inv_reachable (ops : List LOp) (l : LeadSheet) (hi : LInv l) (hok : ∀ op ∈ ops, LOpOk op) :
    LInv (lrunSkip l ops) :=
  foldl_inv lstepSkip LInv LOpOk
    (fun l o hi ho => (lstepSkip_cases l o).elim (fun e => by rw [e]; exact hi) (lead_inv_step l _ o hi ho))
    ops l hi hok

/-- iteration pairs melody and chords, has `len` elements, agrees with indexing, melody part
within -2..127 -/
theorem lead_observations_consistent (l : LeadSheet) (hi : LInv l) :
    (l.len : Int) = l.melody.stop - l.melody.start ∧ l.iter.length = l.len ∧
    l.steps.length = l.len ∧ (∀ k, k < l.len → l.steps[k]? = some (l.melody.start + k)) ∧
    (∀ k (hk : k < l.iter.length), l.index (k : Int) = .ok l.iter[k] ∧ l.index ((k : Int) - l.len) = .ok l.iter[k]) ∧
    (∀ i : Int, (l.len : Int) ≤ i ∨ i < -(l.len : Int) → l.index i = .error .indexError) ∧
    (∀ e ∈ l.iter, -2 ≤ e.1 ∧ e.1 ≤ 127) := by
  obtain ⟨im, ic, hlen, hst, hsp, hb, hq⟩ := hi
  obtain ⟨o1, _, o3, o4, _, _⟩ := observations_consistent melodyCls l.melody im
  have hzl : l.iter.length = l.len := by simp [LeadSheet.iter, LeadSheet.len, hlen]
  have hidx : ∀ i, l.index i = pyIndex l.iter i := pyIndex_zip _ _ hlen
  obtain ⟨i1, i2⟩ := py_index l.iter
  refine ⟨o1, hzl, o3, o4, fun k hk => ?_, fun i hi' => ?_,
    fun e he => melody_in_range l.melody im e.1 (List.of_mem_zip he).1⟩
  · rw [hidx, hidx, ← hzl]; exact i1 k hk
  · rw [hidx]; exact i2 i (hzl ▸ hi')

/-- slicing a consistent lead sheet never raises MelodyChordsMismatchError and gives a lead sheet
with the clamped start offset and the sliced melody / chords -/
theorem lead_slice_ok (l : LeadSheet) (i j : Option Int) (hi : LInv l) :
    ∃ l', lstep l (.slice i j) = .ok l' ∧
      l'.melody.start = l.melody.start + (sliceLo l.len i : Int) ∧
      l'.len = sliceHi l.len j - sliceLo l.len i ∧
      l'.chords.events = pySlice l.chords.events i j ∧
      l'.melody.events = melClean (pySlice l.melody.events i j) := by
  obtain ⟨im, ic, hlen, hst, hsp, hb, hq⟩ := hi
  have hcl : (melodyCls.clean (pySlice l.melody.events i j)).length = (pySlice l.chords.events i j).length := by
    rw [melody_lawful.clean_length, pySlice_length, pySlice_length, hlen]
  refine ⟨_, lead_bind_ok _ _ _ _ (step_slice_ok melodyCls l.melody i j im.2) (step_slice_ok chordCls l.chords i j ic.2)
    hcl hb hq ?_ ?_, rfl, ?_, rfl, rfl⟩
  · show l.melody.start + _ = l.chords.start + _
    rw [hst, hlen]
  · show l.melody.start + _ + _ = l.chords.start + _ + ((pySlice l.chords.events i j).length : Int)
    rw [hst, hlen, hcl]
  · simp only [LeadSheet.len, melody_lawful.clean_length, pySlice_length]

/-- `LeadSheet.set_length(n)`: exactly `n` (melody, chord) pairs over exactly `n` steps, start kept;
melody and chords are each cut / padded as `set_length_keeps` says -/
theorem lead_set_length_exact (l : LeadSheet) (n : Int) (hn : 0 ≤ n) :
    ∃ l', lstep l (.setLength n) = .ok l' ∧ l'.len = n.toNat ∧ l'.iter.length = n.toNat ∧
      l'.melody.stop - l'.melody.start = n ∧ l'.melody.start = l.melody.start ∧
      l'.melody = setLength melodyCls l.melody n false ∧ l'.chords = setLength chordCls l.chords n false := by
  refine ⟨_, rfl, ?_, ?_, ?_, ?_, rfl, rfl⟩
  · exact setLength_length _ _ _ _ hn
  · simp only [LeadSheet.iter, List.length_zip, setLength_length _ _ _ _ hn, Nat.min_self]
  · obtain ⟨a, b, _, _⟩ := setLength_fields_right melodyCls l.melody n
    rw [a, b]; omega
  · exact (setLength_fields_right melodyCls l.melody n).1

example : ∃ l, lstep ⟨Seq.empty 0 0 0, Seq.empty 0 0 0⟩ (.init [60, -2] 0 16 4 ["C", "Am"] 0 16 4) = .ok l ∧
    (lstepSkip l (.slice (some 1) none)).iter = [(-2, "Am")] ∧
    (lstepSkip l (.slice (some 1) none)).melody.start = 1 := ⟨_, rfl, by decide, by decide⟩

/-- every operation keeps start / resolution / pitch range, `len = end_step - start_step`, and does
what it says to the event list -/
theorem roll_step (r r' : Roll) (op : ROp) (h : rstep r op = .ok r') :
    r'.start = r.start ∧ r'.spq = r.spq ∧ r'.minPitch = r.minPitch ∧ r'.maxPitch = r.maxPitch ∧
    (r'.len : Int) = r'.stop - r'.start ∧
    (match op with
     | .append e false => r'.events = r.events ++ [e]
     | .append _ true => ∃ e', r'.events = r.events ++ [e'] ∧ ∀ x ∈ e', 0 ≤ x ∧ x ≤ r.maxPitch - r.minPitch
     | .setLength n _ => (r'.events.length : Int) = n
     | .deepcopy => r' = r) := by
  have hlen : ∀ q : Roll, (q.len : Int) = q.stop - q.start := by
    intro q; simp only [Roll.len, Roll.stop, Roll.numSteps]; omega
  cases op with
  | append e sh =>
    simp only [rstep] at h; cases h
    refine ⟨rfl, rfl, rfl, rfl, hlen _, ?_⟩
    cases sh with
    | false => simp
    | true =>
      refine ⟨_, rfl, ?_⟩
      intro x hx
      simp only [if_true, List.mem_map, List.mem_filter, Bool.and_eq_true, decide_eq_true_eq] at hx
      obtain ⟨a, ⟨_, h1, h2⟩, rfl⟩ := hx
      omega
  | setLength n fl =>
    simp only [rstep] at h
    split at h
    · cases h
    · split at h
      · rename_i hl; cases h; exact ⟨rfl, rfl, rfl, rfl, hlen _, hl⟩
      · cases h
  | deepcopy => simp only [rstep] at h; cases h; exact ⟨rfl, rfl, rfl, rfl, hlen _, rfl⟩

/-- `set_length(n)`, `n ≥ 0`, never trips its assertion, yields exactly `n` steps, keeps the
first events and pads with empty events -/
theorem roll_set_length_exact (r : Roll) (n : Int) (h : 0 ≤ n) :
    ∃ r', rstep r (.setLength n false) = .ok r' ∧ r' = rstepSkip r (.setLength n false) ∧
      r'.events.length = n.toNat ∧ r'.numSteps = n ∧ r'.stop - r'.start = n ∧
      r'.start = r.start ∧ r'.spq = r.spq ∧
      r'.events = (if n.toNat ≤ r.events.length then r.events.take n.toNat
        else r.events ++ List.replicate (n.toNat - r.events.length) []) := by
  have he := rollSetLengthCore_events r n h
  have hl : (rollSetLengthCore r n).events.length = n.toNat := by
    rw [he]
    split
    · rw [List.length_take]; omega
    · rw [List.length_append, List.length_replicate]; omega
  refine ⟨rollSetLengthCore r n, ?_, rfl, hl, ?_, ?_, rfl, rfl, he⟩
  · have : ((rollSetLengthCore r n).events.length : Int) = n := by omega
    simp [rstep, this]
  · simp only [Roll.numSteps]; omega
  · simp only [Roll.stop, Roll.numSteps]; omega

example : ∃ r', rstep ⟨[[1, 2], []], 2, 4, 0, 127⟩ (.setLength 4 false) = .ok r' ∧
    r'.events = [[1, 2], [], [], []] := ⟨_, rfl, by decide⟩

theorem roll_observations_consistent (r : Roll) :
    (r.len : Int) = r.stop - r.start ∧ r.numSteps = r.len ∧ r.steps.length = r.len ∧
    (∀ k, k < r.len → r.steps[k]? = some (r.start + k)) ∧
    (∀ k (hk : k < r.events.length), r.index (k : Int) = .ok r.events[k] ∧ r.index ((k : Int) - r.len) = .ok r.events[k]) ∧
    (∀ i : Int, (r.len : Int) ≤ i ∨ i < -(r.len : Int) → r.index i = .error .indexError) := by
  obtain ⟨r1, r2⟩ := py_range r.start r.stop
  obtain ⟨i1, i2⟩ := py_index r.events
  have hl : (r.stop - r.start).toNat = r.events.length := by simp only [Roll.stop, Roll.numSteps]; omega
  refine ⟨by simp only [Roll.len, Roll.stop, Roll.numSteps]; omega, rfl, ?_, ?_, i1, i2⟩
  · simp only [Roll.steps, Roll.len, r1, hl]
  · intro k hk; exact r2 k (by simp only [Roll.len] at hk; omega)

/-- `_append_steps(n)`, `n ≥ 0`: `num_steps` grows by exactly `n`, every time shift stays within
`1..max_shift_steps` if it was, every event but possibly the last is kept -/
theorem perf_append_steps (p : Perf) (n : Int) (hi : PInv p) (hn : 0 ≤ n) :
    ∃ p', appendSteps p n = .ok p' ∧ p'.numSteps = p.numSteps + n ∧ PInv p' ∧
      (ShiftsOk p.maxShift p.events → ShiftsOk p'.maxShift p'.events) ∧
      p'.start = p.start ∧ p'.maxShift = p.maxShift ∧
      p.events.dropLast <+: p'.events ∧ p.events.length ≤ p'.events.length := by
  obtain ⟨hmx, hnn⟩ := hi
  obtain ⟨out, a, b, c, d, ⟨tl, f⟩, g⟩ :=
    appendStepsRev_spec p.maxShift p.events.reverse n hmx hn ((NonNeg_reverse _).2 hnn)
  refine ⟨{ p with events := out }, ?_, ?_, ⟨hmx, c⟩, ?_, rfl, rfl, ?_, ?_⟩
  · simp [appendSteps, a]; rfl
  · simp only [Perf.numSteps, b, numStepsOf_reverse]
  · intro hok; exact d ((ShiftsOk_reverse _ _).2 hok)
  · rw [f, List.reverse_reverse]; exact List.prefix_append _ _
  · simpa using g

/-- `_trim_steps(n)`, `n ≥ 0`: `num_steps` shrinks by exactly `n` (to 0 if `n` exceeds it), shifts
stay within bounds, what remains is a prefix of the old events up to a shortened last shift -/
theorem perf_trim_steps (p : Perf) (n : Int) (hi : PInv p) (hn : 0 ≤ n) :
    ∃ p', trimSteps p n = .ok p' ∧ p'.numSteps = p.numSteps - min n p.numSteps ∧ PInv p' ∧
      (ShiftsOk p.maxShift p.events → ShiftsOk p'.maxShift p'.events) ∧
      p'.start = p.start ∧ p'.maxShift = p.maxShift ∧
      p'.events.dropLast <+: p.events ∧ p'.events.length ≤ p.events.length := by
  obtain ⟨hmx, hnn⟩ := hi
  obtain ⟨out, a, b, c, d, f, g⟩ :=
    trimRev_spec p.maxShift n p.events.reverse 0 hn ((NonNeg_reverse _).2 hnn)
  refine ⟨{ p with events := out.reverse }, ?_, ?_, ⟨hmx, (NonNeg_reverse _).2 c⟩, ?_, rfl, rfl, ?_, ?_⟩
  · simp [trimSteps, a]; rfl
  · simp only [Perf.numSteps, numStepsOf_reverse, b]; simp
  · intro hok; exact (ShiftsOk_reverse _ _).2 (d ((ShiftsOk_reverse _ _).2 hok))
  · rw [List.dropLast_reverse]
    have := List.reverse_prefix.2 f
    simpa using this
  · simpa using g

/-- the two together, in the form of DESIGN 6.17: `numSteps` changes by exactly `±n` and the shifts
stay in `1..max` -/
theorem perf_append_trim (p : Perf) (n : Int) (hi : PInv p) (hn : 0 ≤ n) (hs : ShiftsOk p.maxShift p.events) :
    (∃ p', appendSteps p n = .ok p' ∧ p'.numSteps = p.numSteps + n ∧ ShiftsOk p.maxShift p'.events) ∧
    (n ≤ p.numSteps → ∃ p', trimSteps p n = .ok p' ∧ p'.numSteps = p.numSteps - n ∧ ShiftsOk p.maxShift p'.events) := by
  constructor
  · obtain ⟨p', a, b, _, d, _, f, _⟩ := perf_append_steps p n hi hn
    exact ⟨p', a, b, f ▸ d hs⟩
  · intro hle
    obtain ⟨p', a, b, _, d, _, f, _⟩ := perf_trim_steps p n hi hn
    exact ⟨p', a, by rw [b]; omega, f ▸ d hs⟩

example : ∃ p', appendSteps ⟨[⟨1, 60⟩, ⟨3, 2⟩], 7, 3⟩ 5 = .ok p' ∧
    p'.events = [⟨1, 60⟩, ⟨3, 3⟩, ⟨3, 3⟩, ⟨3, 1⟩] := ⟨_, rfl, by decide⟩
example : ∃ p', trimSteps ⟨[⟨1, 60⟩, ⟨3, 3⟩, ⟨2, 60⟩, ⟨3, 3⟩], 7, 3⟩ 4 = .ok p' ∧
    p'.events = [⟨1, 60⟩, ⟨3, 2⟩] := ⟨_, rfl, by decide⟩

/-- `set_length(n)`, `n ≥ 0`: never trips its assertion, yields exactly `n` steps, keeps the shift
bound, and keeps the events of the retained side (all but a lengthened last shift when growing; a
prefix up to a shortened last shift when shrinking; everything when `n` is the current length) -/
theorem perf_set_length_exact (p : Perf) (n : Int) (hi : PInv p) (hn : 0 ≤ n) :
    ∃ p', pstep p (.setLength n false) = .ok p' ∧ p'.numSteps = n ∧ PInv p' ∧
      (ShiftsOk p.maxShift p.events → ShiftsOk p'.maxShift p'.events) ∧
      p'.start = p.start ∧ p'.maxShift = p.maxShift ∧
      (p.numSteps ≤ n → p.events.dropLast <+: p'.events ∧ p.events.length ≤ p'.events.length) ∧
      (n ≤ p.numSteps → p'.events.dropLast <+: p.events ∧ p'.events.length ≤ p.events.length) ∧
      (n = p.numSteps → p' = p) := by
  simp only [pstep, perfSetLengthCore, Perf.numSteps, Bool.false_eq_true, if_false]
  by_cases h1 : numStepsOf p.events < n
  · obtain ⟨p', a, b, c, d, e, f, g, h⟩ := perf_append_steps p (n - numStepsOf p.events) hi (by omega)
    have hb : numStepsOf p'.events = n := by simp only [Perf.numSteps] at b; omega
    exact ⟨p', by simp [h1, a, hb, bind, Except.bind, pure, Except.pure], hb, c, d, e, f, fun _ => ⟨g, h⟩,
      fun h2 => by omega, fun h2 => by omega⟩
  · by_cases h2 : numStepsOf p.events > n
    · obtain ⟨p', a, b, c, d, e, f, g, h⟩ := perf_trim_steps p (numStepsOf p.events - n) hi (by omega)
      have hb : numStepsOf p'.events = n := by simp only [Perf.numSteps] at b; omega
      exact ⟨p', by simp [h1, h2, a, hb, bind, Except.bind, pure, Except.pure], hb, c, d, e, f,
        fun h3 => by omega, fun _ => ⟨g, h⟩, fun h3 => by omega⟩
    · have hb : numStepsOf p.events = n := by omega
      exact ⟨p, by simp [hb, bind, Except.bind, pure, Except.pure], hb, hi, fun h => h, rfl, rfl,
        fun _ => ⟨List.dropLast_prefix _, Nat.le_refl _⟩, fun _ => ⟨List.dropLast_prefix _, Nat.le_refl _⟩, fun _ => rfl⟩

/-- every operation preserves the validator's guarantee (shifts `≥ 0`), start and
`max_shift_steps`, and the `1..max` bound on shifts as long as appended shifts respect it -/
theorem perf_inv_step (p p' : Perf) (op : POp) (hi : PInv p) (hok : POpOk op) (h : pstep p op = .ok p') :
    PInv p' ∧ p'.start = p.start ∧ p'.maxShift = p.maxShift ∧
      (ShiftsOk p.maxShift p.events → POpShiftOk p.maxShift op → ShiftsOk p'.maxShift p'.events) := by
  cases op with
  | append ty v =>
    obtain ⟨e, hm, h⟩ := bind_ok h
    cases h
    obtain ⟨rfl, hv⟩ := mkEvent_ok ty v e hm
    exact ⟨⟨hi.1, List.forall_mem_append.2 ⟨hi.2, List.forall_mem_singleton.2 (fun hs => hv (of_decide_eq_true hs))⟩⟩,
      rfl, rfl, fun hsh hop =>
        List.forall_mem_append.2 ⟨hsh, List.forall_mem_singleton.2 (fun hs => hop (of_decide_eq_true hs))⟩⟩
  | appendBad => simp [pstep] at h
  | setLength n fl =>
    cases fl with
    | true => simp [pstep] at h
    | false =>
      obtain ⟨q, a, _, c, d, e, f, _⟩ := perf_set_length_exact p n hi hok
      rw [a] at h; cases h
      exact ⟨c, e, f, fun hs _ => d hs⟩
  | truncate n =>
    simp only [pstep] at h; cases h
    refine ⟨⟨hi.1, fun x hx hs => hi.2 x (pySlice_mem _ _ _ x hx) hs⟩, rfl, rfl, ?_⟩
    intro hsh _ x hx hs
    exact hsh x (pySlice_mem _ _ _ x hx) hs
  | appendSteps n =>
    obtain ⟨q, a, _, c, d, e, f, _⟩ := perf_append_steps p n hi hok
    simp only [pstep] at h; rw [a] at h; cases h
    exact ⟨c, e, f, fun hs _ => d hs⟩
  | trimSteps n =>
    obtain ⟨q, a, _, c, d, e, f, _⟩ := perf_trim_steps p n hi hok
    simp only [pstep] at h; rw [a] at h; cases h
    exact ⟨c, e, f, fun hs _ => d hs⟩
  | deepcopy => simp only [pstep] at h; cases h; exact ⟨hi, rfl, rfl, fun hs _ => hs⟩

/-- on a consistent performance `set_length(n)`, `n ≥ 0`, never trips its assertion, so here too a
caller that catches exceptions goes on with the receiver as it was or with the result of the call -/
theorem pstepSkip_cases (p : Perf) (op : POp) (hi : PInv p) (hok : POpOk op) :
    pstepSkip p op = p ∨ pstep p op = .ok (pstepSkip p op) := by
  unfold pstepSkip
  split
  · rename_i n
    obtain ⟨p', a, _⟩ := perf_set_length_exact p n hi hok
    rw [perf_setLength_core p p' n a]
    exact .inr a
  · cases pstep p op <;> simp

theorem perf_inv_reachable (ops : List POp) (p : Perf) (hi : PInv p) (hok : ∀ op ∈ ops, POpOk op) :
    PInv (prunSkip p ops) ∧ (prunSkip p ops).start = p.start ∧ (prunSkip p ops).maxShift = p.maxShift ∧
      (ShiftsOk p.maxShift p.events → (∀ op ∈ ops, POpShiftOk p.maxShift op) →
        ShiftsOk p.maxShift (prunSkip p ops).events) := by
  refine foldl_inv pstepSkip
    (fun q => PInv q ∧ q.start = p.start ∧ q.maxShift = p.maxShift ∧
      (ShiftsOk p.maxShift p.events → (∀ op ∈ ops, POpShiftOk p.maxShift op) → ShiftsOk p.maxShift q.events))
    (· ∈ ops) ?_ ops p ⟨hi, rfl, rfl, fun h _ => h⟩ (fun _ h => h)
  rintro q o ⟨iq, sq, mq, shq⟩ ho
  rcases pstepSkip_cases q o iq (hok o ho) with e | e
  · rw [e]; exact ⟨iq, sq, mq, shq⟩
  · obtain ⟨a, b, c, d⟩ := perf_inv_step q _ o iq (hok o ho) e
    rw [c, mq] at d
    exact ⟨a, b.trans sq, c.trans mq, fun h1 h2 => d (shq h1 h2) (h2 o ho)⟩

/-- `steps` has one entry per event, entry `k` is `start_step` plus the shifts before event `k`,
the list is non-decreasing, and `end_step = start_step + num_steps` -/
theorem perf_observations_consistent (p : Perf) (hi : PInv p) :
    p.steps.length = p.len ∧ p.stop = p.start + p.numSteps ∧
    (∀ k, k < p.len → p.steps[k]? = some (p.start + numStepsOf (p.events.take k))) ∧
    p.steps.Pairwise (· ≤ ·) ∧ (∀ x ∈ p.steps, p.start ≤ x) ∧
    (∀ k (hk : k < p.events.length), p.index (k : Int) = .ok p.events[k] ∧ p.index ((k : Int) - p.len) = .ok p.events[k]) ∧
    (∀ i : Int, (p.len : Int) ≤ i ∨ i < -(p.len : Int) → p.index i = .error .indexError) := by
  obtain ⟨m1, m2⟩ := stepsFrom_mono p.start p.events hi.2
  obtain ⟨i1, i2⟩ := py_index p.events
  exact ⟨stepsFrom_length _ _, rfl, fun k hk => stepsFrom_getElem _ _ k hk, m2, m1, i1, i2⟩

example : PInv ⟨[⟨1, 60⟩, ⟨3, 2⟩], 7, 3⟩ ∧ ShiftsOk 3 [⟨1, 60⟩, ⟨3, 2⟩] := by
  refine ⟨⟨by decide, ?_⟩, ?_⟩ <;> intro e he <;> simp at he <;> rcases he with rfl | rfl <;> decide

/-! ## Melody events stay within -2..127

`melody_in_range` reads the bound off the invariant, which the constructor establishes (`inv_init`,
`inv_from_event_list`) and every operation preserves (`inv_step`).  Spelled out for Melody: after any
single operation of the alphabet and after any history.  `Melody.transpose` / `Melody.squash` are not in
C17's operation alphabet; their range behaviour is C10's `melody_transpose_fold` / `squash_spec`. -/

/-- `hok` is `OpOk melodyCls op` without its clause on fill events, which is vacuous for Melody
(`fixedFill` is set, so the caller's fill event is ignored) -/
theorem melody_step_in_range (s s' : Seq Int) (op : Op Int) (hi : Inv melodyCls s)
    (hok : match op with | .setLength n _ => 0 ≤ n | .incRes k _ => 1 ≤ k | _ => True)
    (h : step melodyCls s op = .ok s') : ∀ e ∈ s'.events, -2 ≤ e ∧ e ≤ 127 := by
  refine melody_in_range s' (inv_step melodyCls melody_lawful s s' op hi ?_ h)
  cases op <;> first | trivial | exact hok | exact ⟨hok, by simp [melodyCls]⟩

/-- out-of-range events never get in: `append` and re-initialisation reject them, object unchanged -/
example : step melodyCls ⟨[60], 0, 1, 16, 4⟩ (.append 128) = .error .valueError ∧
    step melodyCls ⟨[60], 0, 1, 16, 4⟩ (.append (-3)) = .error .valueError ∧
    step melodyCls ⟨[60], 0, 1, 16, 4⟩ (.reinit [60, 200] 0 16 4) = .error .valueError ∧
    stepSkip melodyCls ⟨[60], 0, 1, 16, 4⟩ (.append 128) = ⟨[60], 0, 1, 16, 4⟩ := ⟨rfl, rfl, rfl, rfl⟩

theorem melody_reachable_in_range (ops : List (Op Int)) (s : Seq Int) (hi : Inv melodyCls s)
    (hok : ∀ op ∈ ops, OpOk melodyCls op) : ∀ e ∈ (runSkip melodyCls s ops).events, -2 ≤ e ∧ e ≤ 127 :=
  melody_in_range _ (inv_reachable melodyCls melody_lawful ops s hi hok)

example : (runSkip melodyCls ⟨[60], 0, 1, 16, 4⟩
    [.append 127, .append 128, .setLength 5 false, .incRes 2 none, .sliceStep none none (-3), .reinit [-1, 0] 2 8 2]).events
    = [-2, 0] := by decide

theorem lead_melody_reachable_in_range (ops : List LOp) (l : LeadSheet) (hi : LInv l)
    (hok : ∀ op ∈ ops, LOpOk op) :
    ∀ e ∈ (lrunSkip l ops).melody.events, -2 ≤ e ∧ e ≤ 127 :=
  melody_in_range _ (lead_inv_reachable ops l hi hok).1

example : (lrunSkip ⟨⟨[60], 0, 1, 16, 4⟩, ⟨["C"], 0, 1, 16, 4⟩⟩
    [.append 200 "G", .append 127 "G", .setLength 4, .sliceStep none none (-1)]).melody.events = [-2, -2, 127, 60] := by decide

/-! ## Extended slices `s[i:j:k]`

What the code does with a stride (and the model transcribes): `self._events.__getitem__(key)`
raises `ValueError` for `k = 0`; otherwise the result is a new sequence of the same class holding
`events[lo], events[lo + k], events[lo + 2k], …` with `start_step = self.start_step + lo`, where
`(lo, hi, k) = slice(i, j, k).indices(len)`, and `end_step = start_step + len(result)`.  The result
is a consistent sequence (`inv_step` covers `Op.sliceStep`), but the clause "slices carry the step
offset of the elements they contain" cannot hold for it: element `m` comes from source step
`start + lo + m·k` and is reported at `start + lo + m` (`strided_slice_misplaces`) — for a negative
stride the reported range even leaves the source's range.  That is why the clause is stated for
unit-stride slices (`slice_elements`), with which stride 1 coincides (`py_slice_step_unit`). -/

theorem py_slice_step_elements (l : List α) (i j : Option Int) (k : Int) (hk : k ≠ 0) :
    (pySliceStep l i j k).length = stepCount (stepLo l.length k i) (stepHi l.length k j) k ∧
    ∀ m, m < stepCount (stepLo l.length k i) (stepHi l.length k j) k →
      0 ≤ stepLo l.length k i + m * k ∧ stepLo l.length k i + m * k < l.length ∧
      (pySliceStep l i j k)[m]? = l[(stepLo l.length k i + (m : Int) * k).toNat]? := by
  have hall : ∀ x ∈ List.range (stepCount (stepLo l.length k i) (stepHi l.length k j) k),
      (l[(stepLo l.length k i + (x : Int) * k).toNat]?).isSome = true := by
    intro x hx
    obtain ⟨a, b⟩ := step_idx_in_range l.length i j k x hk (List.mem_range.1 hx)
    have : (stepLo l.length k i + (x : Int) * k).toNat < l.length := by omega
    simp [this]
  obtain ⟨hl, hg⟩ := filterMap_all_some (fun (m : Nat) => l[(stepLo l.length k i + (m : Int) * k).toNat]?) _ hall
  refine ⟨by simpa [pySliceStep] using hl, ?_⟩
  intro m hm
  obtain ⟨a, b⟩ := step_idx_in_range l.length i j k m hk hm
  refine ⟨a, b, ?_⟩
  simp only [pySliceStep]
  rw [hg m]
  simp [hm]

example : pySliceStep [10, 11, 12, 13, 14, 15] (some 1) none 2 = [11, 13, 15] ∧
    pySliceStep [10, 11, 12, 13, 14, 15] none none (-1) = [15, 14, 13, 12, 11, 10] ∧
    pySliceStep [10, 11, 12, 13, 14, 15] (some (-2)) none (-2) = [14, 12, 10] ∧
    stepLo 6 (-2) (some (-2)) = 4 ∧ stepLo 0 (-1) none = -1 := by decide

theorem py_slice_step_unit (l : List α) (i j : Option Int) :
    pySliceStep l i j 1 = pySlice l i j ∧ stepLo l.length 1 i = (sliceLo l.length i : Int) := by
  refine ⟨?_, stepLo_one l.length i⟩
  obtain ⟨hl, hg⟩ := py_slice_step_elements l i j 1 (by decide)
  rw [stepLo_one, stepHi_one, stepCount_one] at hl hg
  apply List.ext_getElem?
  intro m
  by_cases hm : m < sliceHi l.length j - sliceLo l.length i
  · obtain ⟨_, _, e⟩ := hg m hm
    rw [e, pySlice_getElem l i j m (by rw [pySlice_length]; exact hm)]
    congr 1
    omega
  · rw [List.getElem?_eq_none (by omega), List.getElem?_eq_none (by rw [pySlice_length]; omega)]

example : pySliceStep [10, 11, 12, 13] (some (-3)) (some 3) 1 = [11, 12] ∧ stepLo 4 1 (some (-3)) = 1 := by decide

/-- `s[i:j:k]`, `k ≠ 0`: offset, events, resolution; always succeeds on a consistent sequence and
gives a consistent sequence with `len(range(lo, hi, k))` events -/
theorem strided_slice_result (c : Cls α) (hc : Lawful c) (s : Seq α) (i j : Option Int) (k : Int) (hk : k ≠ 0)
    (hi : Inv c s) :
    ∃ s', step c s (.sliceStep i j k) = .ok s' ∧ Inv c s' ∧
      s'.start = s.start + stepLo s.events.length k i ∧ s'.events = c.clean (pySliceStep s.events i j k) ∧
      s'.events.length = stepCount (stepLo s.events.length k i) (stepHi s.events.length k j) k ∧
      s'.spb = s.spb ∧ s'.spq = s.spq := by
  have hv := fromEventList_of_valid c (pySliceStep s.events i j k) (s.start + stepLo s.events.length k i) s.spb s.spq
    (fun e he => hi.2 e (pySliceStep_mem _ _ _ _ e he))
  have hs : step c s (.sliceStep i j k) = .ok ⟨c.clean (pySliceStep s.events i j k), s.start + stepLo s.events.length k i,
      s.start + stepLo s.events.length k i + ((c.clean (pySliceStep s.events i j k)).length : Int), s.spb, s.spq⟩ := by
    simp only [step, hk, if_false]; exact hv
  refine ⟨_, hs, inv_step c hc s _ (.sliceStep i j k) hi trivial hs, rfl, rfl, ?_, rfl, rfl⟩
  simp only [hc.clean_length]
  exact (py_slice_step_elements s.events i j k hk).1

theorem strided_slice_zero_step (c : Cls α) (s : Seq α) (i j : Option Int) :
    step c s (.sliceStep i j 0) = .error .valueError ∧ stepSkip c s (.sliceStep i j 0) = s := by
  simp [step, stepSkip]

example : step melodyCls ⟨[60, -2], 4, 6, 16, 4⟩ (.sliceStep (some 1) none 0) = .error .valueError := rfl

/-- where the elements of `s[i:j:k]` come from and where the slice says they are: element `m` is
the source element at absolute step `start + lo + m·k` (a step of the source), the slice reports it
at `start + lo + m`, and the two agree exactly for `m = 0` or `k = 1` -/
theorem strided_slice_misplaces (c : Cls α) (s s' : Seq α) (i j : Option Int) (k : Int) (hk : k ≠ 0)
    (hi : Inv c s) (h : step c s (.sliceStep i j k) = .ok s') :
    ∃ raw, s'.events = c.clean raw ∧ ∀ m, m < raw.length →
      s.start ≤ s.start + (stepLo s.events.length k i + m * k) ∧
      s.start + (stepLo s.events.length k i + m * k) < s.stop ∧
      raw[m]? = s.events[(stepLo s.events.length k i + (m : Int) * k).toNat]? ∧
      (s'.start + (m : Int) = s.start + (stepLo s.events.length k i + m * k) ↔ (m = 0 ∨ k = 1)) := by
  obtain ⟨_, rfl⟩ := fromEventList_ok _ _ _ _ _ _ (step_sliceStep_ok c s s' i j k h).2
  obtain ⟨hl, hg⟩ := py_slice_step_elements s.events i j k hk
  refine ⟨_, rfl, ?_⟩
  intro m hm
  obtain ⟨a, b, e⟩ := hg m (hl ▸ hm)
  have h1 := hi.1
  refine ⟨by omega, by omega, e, ?_⟩
  dsimp only
  constructor
  · intro heq
    have h2 : (m : Int) * (k - 1) = 0 := by rw [Int.mul_sub, Int.mul_one]; omega
    rcases Int.mul_eq_zero.1 h2 with h3 | h3
    · left; omega
    · right; omega
  · rintro (h3 | h3)
    · subst h3; simp
    · subst h3; omega

example : ∃ s', step (simpleCls (0 : Int)) ⟨[1, 2, 3, 4, 5, 6], 4, 10, 16, 4⟩ (.sliceStep none none (-1)) = .ok s' ∧
    s'.events = [6, 5, 4, 3, 2, 1] ∧ s'.start = 9 ∧ s'.stop = 15 := ⟨_, rfl, by decide, by decide, by decide⟩
example : ∃ s', step (simpleCls (0 : Int)) ⟨[1, 2, 3, 4, 5, 6], 4, 10, 16, 4⟩ (.sliceStep (some 1) none 2) = .ok s' ∧
    s'.events = [2, 4, 6] ∧ s'.start = 5 ∧ s'.stop = 8 := ⟨_, rfl, by decide, by decide, by decide⟩

/-- `LeadSheet[i:j:k]`, `k ≠ 0`, on a consistent lead sheet: never MelodyChordsMismatchError, the
result is a consistent lead sheet of `len(range(lo, hi, k))` pairs starting at `start + lo` -/
theorem lead_strided_slice_ok (l : LeadSheet) (i j : Option Int) (k : Int) (hk : k ≠ 0) (hi : LInv l) :
    ∃ l', lstep l (.sliceStep i j k) = .ok l' ∧ LInv l' ∧
      l'.melody.start = l.melody.start + stepLo l.len k i ∧
      l'.len = stepCount (stepLo l.len k i) (stepHi l.len k j) k ∧
      l'.chords.events = pySliceStep l.chords.events i j k ∧
      l'.melody.events = melClean (pySliceStep l.melody.events i j k) := by
  obtain ⟨im, ic, hlen, hst, hsp, hb, hq⟩ := hi
  obtain ⟨m', hm, im', m1, m2, m3, m4, m5⟩ := strided_slice_result melodyCls melody_lawful l.melody i j k hk im
  obtain ⟨c', hc, ic', c1, c2, c3, c4, c5⟩ := strided_slice_result chordCls chord_lawful l.chords i j k hk ic
  have e1 : m'.events.length = c'.events.length := by rw [m3, c3, hlen]
  have e2 : m'.start = c'.start := by rw [m1, c1, hst, hlen]
  have hl : lstep l (.sliceStep i j k) = .ok ⟨m', c'⟩ :=
    lead_bind_ok _ _ m' c' hm hc e1 (by rw [m4, c4, hb]) (by rw [m5, c5, hq]) e2
      (by have := im'.1; have := ic'.1; omega)
  exact ⟨_, hl, lead_inv_step l _ (.sliceStep i j k) ⟨im, ic, hlen, hst, hsp, hb, hq⟩ trivial hl, m1, m3, c2, m2⟩

example : ∃ l', lstep ⟨⟨[60, -2, -1, 62], 0, 4, 16, 4⟩, ⟨["C", "C", "G", "G"], 0, 4, 16, 4⟩⟩ (.sliceStep none none (-1)) = .ok l' ∧
    l'.iter = [(62, "G"), (-1, "G"), (-2, "C"), (60, "C")] ∧ l'.melody.start = 3 ∧ l'.melody.stop = 7 :=
  ⟨_, rfl, by decide, by decide, by decide⟩

/-! ## NotePerformance

Not in the property's list of classes (its `set_length` is a documented no-op, so "set_length(n)
yields exactly n steps" is false for it by design — `nperf_set_length_noop`).  Everything else the
property says holds and is proved: observations agree with each other, `truncate` keeps a prefix,
`append` adds at the end, nothing else changes. -/

theorem nperf_step (p : NPerf) (e : NEvent) (n : Int) :
    nstep p (.append e) = .ok { p with events := p.events ++ [e] } ∧
    nstep p .appendBad = .error .valueError ∧ nstepSkip p .appendBad = p ∧
    nstep p .deepcopy = .ok p ∧
    (0 ≤ n → nstep p (.truncate n) = .ok { p with events := p.events.take n.toNat }) ∧
    (∃ p', nstep p (.truncate n) = .ok p' ∧ p'.events <+: p.events ∧ p'.start = p.start ∧ p'.maxShift = p.maxShift) := by
  refine ⟨rfl, rfl, rfl, rfl, ?_, _, rfl, ?_, rfl, rfl⟩
  · intro hn
    simp only [nstep, pySlice, sliceLo, sliceHi, clampIdx_of_nonneg _ _ hn]
    congr 2
    simp only [List.drop_zero, Nat.sub_zero, List.take_eq_take_iff]
    omega
  · simp only [pySlice, sliceLo, List.drop_zero]
    exact List.take_prefix _ _

example : (nrunSkip ⟨[], 3, 10⟩ [.append ⟨2, 60, 5, 4⟩, .append ⟨1, 62, 5, 2⟩, .appendBad, .truncate (-1)]).events = [⟨2, 60, 5, 4⟩] := by
  decide

/-- the real behaviour of `NotePerformance.set_length`: nothing happens, whatever the arguments -/
theorem nperf_set_length_noop (p : NPerf) (n : Int) (fl : Bool) :
    nstep p (.setLength n fl) = .ok p ∧ nstepSkip p (.setLength n fl) = p ∧
    (p.numSteps ≠ n → (nstepSkip p (.setLength n fl)).numSteps ≠ n) :=
  ⟨rfl, rfl, fun h => h⟩

example : (nstepSkip ⟨[⟨2, 60, 5, 4⟩, ⟨1, 62, 5, 2⟩], 3, 10⟩ (.setLength 0 false)).numSteps = 5 := by decide

/-- `steps` lists the onset step of every event (start plus the shifts up to and including its
own), `end_step - start_step = num_steps` = all shifts plus the last duration, indexing and
iteration agree, and with non-negative shifts the steps never decrease -/
theorem nperf_observations_consistent (p : NPerf) :
    p.steps.length = p.len ∧ p.stop - p.start = p.numSteps ∧
    p.numSteps = shiftSum p.events + (match p.events.getLast? with | some e => e.dur | none => 0) ∧
    (∀ k, k < p.len → p.steps[k]? = some (p.start + shiftSum (p.events.take (k + 1)))) ∧
    ((∀ e ∈ p.events, 0 ≤ e.shift) → p.steps.Pairwise (· ≤ ·) ∧ ∀ x ∈ p.steps, p.start ≤ x) ∧
    (∀ k (hk : k < p.events.length), p.index (k : Int) = .ok p.events[k] ∧ p.index ((k : Int) - p.len) = .ok p.events[k]) ∧
    (∀ i : Int, (p.len : Int) ≤ i ∨ i < -(p.len : Int) → p.index i = .error .indexError) := by
  obtain ⟨i1, i2⟩ := py_index p.events
  refine ⟨nstepsFrom_length _ _, by simp only [NPerf.stop]; omega, rfl, fun k hk => nstepsFrom_getElem _ _ k hk, ?_, i1, i2⟩
  intro h
  obtain ⟨a, b⟩ := nstepsFrom_mono p.start p.events h
  exact ⟨b, a⟩

example : (⟨[⟨2, 60, 5, 4⟩, ⟨1, 62, 5, 2⟩], 3, 10⟩ : NPerf).steps = [5, 6] ∧
    (⟨[⟨2, 60, 5, 4⟩, ⟨1, 62, 5, 2⟩], 3, 10⟩ : NPerf).numSteps = 5 ∧
    (⟨[⟨2, 60, 5, 4⟩, ⟨1, 62, 5, 2⟩], 3, 10⟩ : NPerf).stop = 8 := by decide

/-- after any history: start and max_shift_steps are what they were, and every shift is
non-negative if the initial and the appended ones are -/
theorem nperf_reachable (ops : List NOp) (p : NPerf) :
    (nrunSkip p ops).start = p.start ∧ (nrunSkip p ops).maxShift = p.maxShift ∧
    ((∀ e ∈ p.events, 0 ≤ e.shift) → (∀ e, NOp.append e ∈ ops → 0 ≤ e.shift) →
      ∀ e ∈ (nrunSkip p ops).events, 0 ≤ e.shift) := by
  refine foldl_inv nstepSkip
    (fun q => q.start = p.start ∧ q.maxShift = p.maxShift ∧
      ((∀ e ∈ p.events, 0 ≤ e.shift) → (∀ e, NOp.append e ∈ ops → 0 ≤ e.shift) → ∀ e ∈ q.events, 0 ≤ e.shift))
    (· ∈ ops) ?_ ops p ⟨rfl, rfl, fun h _ => h⟩ (fun _ h => h)
  rintro q op ⟨a, b, c⟩ hop
  cases op with
  | append e =>
    refine ⟨a, b, fun h1 h2 x hx => ?_⟩
    simp only [nstepSkip, nstep, List.mem_append, List.mem_singleton] at hx
    rcases hx with hx | hx
    · exact c h1 h2 x hx
    · rw [hx]; exact h2 e hop
  | truncate n => exact ⟨a, b, fun h1 h2 x hx => c h1 h2 x (pySlice_mem _ _ _ x hx)⟩
  | appendBad => exact ⟨a, b, c⟩
  | setLength n fl => exact ⟨a, b, c⟩
  | deepcopy => exact ⟨a, b, c⟩

end NSV.C17

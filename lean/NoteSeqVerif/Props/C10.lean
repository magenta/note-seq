import NoteSeqVerif.Proofs.C10
import NoteSeqVerif.Model.C10Events
/-! C10 — transposition shifts every pitch, key and chord by the same interval: property theorems.
Tables (`stepsAbove`, `stepsMidi`, `NOTES_PER_OCTAVE`, `clampTranspose`, …) are regenerated from the
Python source on every run, so a changed table changes the statements checked here.
`split` is the (unverified, monitored) regex splitter of chord figures: every theorem holds for
every `split`. -/
namespace NSV.C10
open Gen

/-- ∀ step ∈ A..G, ∀ alter ∈ ℤ, ∀ k ∈ ℤ: the MIDI pitch class of the transposed spelling is the
original pitch class plus `k` modulo 12 -/
theorem transpose_pitch_class_hom (p : PC) (k : Int) :
    (transposePC p k).midi = Int.fmod (p.midi + k) 12 := by
  have hk : (k % 12 - k) % 12 = 0 := by rw [Int.sub_emod, Int.emod_emod, Int.sub_self]; rfl
  unfold transposePC PC.midi
  simp only [fmod12, Int.emod_add_emod]
  apply Int.emod_eq_emod_iff_emod_sub_eq_zero.mpr
  obtain ⟨h0, h1, h2⟩ := walk_spec p.step (k % 12) (Int.emod_nonneg k (by decide))
  have hn := stepsMidi_next (walk p.step (k % 12)).1
  -- the difference is the walk's congruence plus `k % 12 ≡ k`, plus one table step when the walk overshoots
  have h2k := emod_eq_zero_of_eq_add h2 hk rfl
  generalize walk p.step (k % 12) = w at *
  split
  · split
    · exact emod_eq_zero_of_eq_add hn h2k (by simp only []; omega)
    · exact emod_eq_zero_of_eq_add h2 hk (by simp only []; omega)
  · exact emod_eq_zero_of_eq_add h2 hk (by simp only []; omega)

theorem midi_range (p : PC) : 0 ≤ p.midi ∧ p.midi < 12 := by
  unfold PC.midi; rw [fmod12]; omega

/-- transposing by a multiple of 12 leaves even the spelling alone -/
theorem transpose_pitch_class_octave (p : PC) (k : Int) (h : k % 12 = 0) : transposePC p k = p := by
  unfold transposePC
  have : Int.fmod k 12 = 0 := by rw [fmod12]; exact h
  rw [this, walk_zero]
  simp

theorem transpose_pitch_class_mod (p : PC) (k : Int) : transposePC p (Int.fmod k 12) = transposePC p k := by
  unfold transposePC
  have : Int.fmod (Int.fmod k 12) 12 = Int.fmod k 12 := by simp only [fmod12]; omega
  rw [this]

/-- `k` then `−k` is the identity on pitch classes (the spelling may change: C♯ → D → D♭) -/
theorem transpose_pitch_class_inverse (p : PC) (k : Int) :
    (transposePC (transposePC p k) (-k)).midi = p.midi := by
  rw [transpose_pitch_class_hom, transpose_pitch_class_hom]
  have := midi_range p
  simp only [fmod12]; omega

/-- a transposition changes the alteration by at most one, toward zero or from 0 to a single flat
(so repeated transposition never piles up accidentals: their number stays within `max |alter| 1`); that a
spelling never mixes sharps and flats needs no theorem: `PC` has one signed `alter`, printed by `accidentals` -/
theorem transpose_pitch_class_alter (p : PC) (k : Int) :
    (0 ≤ p.alter → (transposePC p k).alter = p.alter ∨ (transposePC p k).alter = p.alter - 1) ∧
    (p.alter < 0 → (transposePC p k).alter = p.alter ∨ (transposePC p k).alter = p.alter + 1) := by
  have hk : 0 ≤ Int.fmod k 12 := by rw [fmod12]; omega
  obtain ⟨h0, h1, _⟩ := walk_spec p.step (Int.fmod k 12) hk
  have h2 := stepsAbove_le_two (walk p.step (Int.fmod k 12)).1
  unfold transposePC
  by_cases hw : 0 < (walk p.step (Int.fmod k 12)).2 <;> by_cases ha : 0 ≤ p.alter <;>
    simp only [hw, ha, ↓reduceIte] <;> constructor <;> intro h <;>
    first | omega | exact False.elim h | exact Or.inl trivial

/-- re-parsing the printed pitch class (`_parse_pitch_class ∘ _pitch_class_to_string`) gives the
same step and alteration back, for every step and every alteration -/
theorem parse_print_pitch_class (p : PC) : parsePCChars (pcChars p) = some p := by
  obtain ⟨step, alter⟩ := p
  have hstep : ∀ s : Step, (if s.letter = 'A' then some Step.A else if s.letter = 'B' then some Step.B
      else if s.letter = 'C' then some Step.C else if s.letter = 'D' then some Step.D
      else if s.letter = 'E' then some Step.E else if s.letter = 'F' then some Step.F
      else if s.letter = 'G' then some Step.G else none) = some s := by
    intro s; cases s <;> decide
  simp only [pcChars, parsePCChars, hstep, accidentals]
  by_cases h : 0 ≤ alter
  · by_cases h0 : alter.natAbs = 0
    · have : alter = 0 := by omega
      subst this; simp
    · simp [h, h0, List.all_replicate]; omega
  · have h0 : alter.natAbs ≠ 0 := by omega
    simp [h, h0, List.all_replicate]; omega

example : transposePC ⟨.C, 1⟩ 1 = ⟨.D, 0⟩ ∧ transposePC ⟨.E, -2⟩ 7 = ⟨.B, -2⟩ ∧
    transposePC ⟨.B, 2⟩ (-13) = ⟨.B, 1⟩ ∧ (transposePC ⟨.F, 0⟩ 6).midi = 11 := by decide +kernel

/-- for every structured symbol and every `k`: root, bass and every pitch class move by `k` modulo 12;
kind and modifications — hence the scale degrees and the quality — are unchanged; a symbol whose
modifications cannot be applied stays uninterpretable (same error) -/
theorem transpose_symbol_hom (c : Sym) (k : Int) :
    symRoot (transposeSym c k) = Int.fmod (symRoot c + k) 12 ∧
    symBass (transposeSym c k) = Int.fmod (symBass c + k) 12 ∧
    symPitches (transposeSym c k) = (symPitches c).map (List.map (fun p => Int.fmod (p + k) 12)) ∧
    (transposeSym c k).kind = c.kind ∧ (transposeSym c k).mods = c.mods ∧
    (transposeSym c k).modList = c.modList ∧
    symQuality (transposeSym c k) = symQuality c := by
  refine ⟨transpose_pitch_class_hom _ _, ?_, ?_, rfl, rfl, rfl, rfl⟩
  · unfold symBass transposeSym
    cases c.bass <;> simp [transpose_pitch_class_hom]
  · have hr : (transposeSym c k).root.midi = Int.fmod (c.root.midi + k) 12 := transpose_pitch_class_hom _ _
    have hrel : symRel (transposeSym c k) = symRel c := rfl
    unfold symPitches
    rw [hrel, hr]
    cases symRel c with
    | error e => rfl
    | ok rel =>
      simp only [Except.map, List.map_map]
      congr 1
      apply List.map_congr_left
      intro r _
      simp only [Function.comp, fmod12]
      omega

/-- `k` then `−k` preserves root, bass, all pitch classes and the quality (the spelling may change);
multiples of 12 are `transpose_symbol_octave` -/
theorem transpose_symbol_inverse (c : Sym) (k : Int) :
    symRoot (transposeSym (transposeSym c k) (-k)) = symRoot c ∧
    symBass (transposeSym (transposeSym c k) (-k)) = symBass c ∧
    symPitches (transposeSym (transposeSym c k) (-k)) = symPitches c ∧
    symQuality (transposeSym (transposeSym c k) (-k)) = symQuality c := by
  refine ⟨transpose_pitch_class_inverse _ _, ?_, ?_, rfl⟩
  · unfold symBass transposeSym
    cases c.bass <;> simp [transpose_pitch_class_inverse]
  · have hr : (transposeSym (transposeSym c k) (-k)).root.midi = c.root.midi := transpose_pitch_class_inverse _ _
    have hrel : symRel (transposeSym (transposeSym c k) (-k)) = symRel c := rfl
    unfold symPitches
    rw [hrel, hr]

/-- transposing by an octave returns the very same symbol (spelling included) -/
theorem transpose_symbol_octave (c : Sym) (k : Int) (h : k % 12 = 0) : transposeSym c k = c := by
  obtain ⟨root, kind, mods, modList, bass⟩ := c
  unfold transposeSym
  cases bass <;> simp [transpose_pitch_class_octave _ k h]

/-- the code passes `transpose_amount % NOTES_PER_OCTAVE`; the spelling is the same as for `k` -/
theorem transposeSym_mod (c : Sym) (k : Int) :
    transposeSym c (Int.fmod k NOTES_PER_OCTAVE) = transposeSym c k := by
  unfold transposeSym
  rw [show NOTES_PER_OCTAVE = 12 from rfl, transpose_pitch_class_mod]
  cases c.bass <;> simp only [Option.map, transpose_pitch_class_mod]

/-- non-vacuity on C♯m7(b5)/G♭ up a minor third: a symbol with modifications and a slash bass -/
example : symPitches (transposeSym ⟨⟨.C, 1⟩, "m7", "(b5)", [⟨"b", 5⟩], some ⟨.G, -1⟩⟩ 3) = .ok [4, 7, 10, 2] ∧
    symPitches ⟨⟨.C, 1⟩, "m7", "(b5)", [⟨"b", 5⟩], some ⟨.G, -1⟩⟩ = .ok [1, 4, 7, 11] ∧
    render (transposeSym ⟨⟨.C, 1⟩, "m7", "(b5)", [⟨"b", 5⟩], some ⟨.G, -1⟩⟩ 3) = "Em7(b5)/A" := by
  decide +kernel

/-- the annotations `transpose_chord_symbol` is called on -/
def IsChord (t : TextAnn) : Prop := t.kind = CHORD_SYMBOL ∧ t.text ≠ NO_CHORD

/-- what the statement says about one annotation; the guard, written out, is `IsChord t` -/
def TextRel (split : String → Except Err Sym) (k : Int) (t t' : TextAnn) : Prop :=
  if t.kind = CHORD_SYMBOL ∧ t.text ≠ NO_CHORD then
    ∃ c, split t.text = .ok c ∧ t' = { t with text := render (transposeSym c k) }
  else t' = t

/-- what the text loop does to one annotation when it succeeds -/
def moveText (split : String → Except Err Sym) (k : Int) (t : TextAnn) : TextAnn :=
  if t.kind = CHORD_SYMBOL ∧ t.text ≠ NO_CHORD then
    match split t.text with
    | .ok c => { t with text := render (transposeSym c k) }
    | .error _ => t
  else t

/-- the exception the text loop raises at one annotation -/
def textErr (split : String → Except Err Sym) (t : TextAnn) : Option Err :=
  if t.kind = CHORD_SYMBOL ∧ t.text ≠ NO_CHORD then
    match split t.text with
    | .ok _ => none
    | .error e => some e
  else none

theorem textErr_some {split : String → Except Err Sym} {t : TextAnn} {e : Err} (h : textErr split t = some e) :
    IsChord t ∧ split t.text = .error e := by
  unfold textErr at h
  split at h
  · split at h
    · cases h
    · cases h; exact ⟨‹_›, ‹_›⟩
  · cases h

theorem textLoop_eq (split : String → Except Err Sym) (k : Int) : ∀ ts : List TextAnn,
    textLoop split k ts =
      match ts.findSome? (textErr split) with
      | some e => .error e
      | none => .ok (ts.map (moveText split k))
  | [] => rfl
  | t :: ts => by
    rw [textLoop, textLoop_eq split k ts, List.findSome?_cons, List.map_cons]
    generalize ts.findSome? (textErr split) = rest
    unfold textErr moveText transposeFigure
    by_cases hc : t.kind = CHORD_SYMBOL ∧ t.text ≠ NO_CHORD
    · simp only [if_pos hc]
      cases split t.text with
      | error e => rfl
      | ok c => cases rest <;> rfl
    · simp only [if_neg hc]
      cases rest <;> rfl

/-- the text loop either relates the annotations one to one or stops at a chord symbol the splitter
rejects, with the splitter's error -/
theorem textLoop_spec (split : String → Except Err Sym) (k : Int) (ts : List TextAnn) :
    match textLoop split k ts with
    | .ok r => Pointwise (TextRel split k) ts r
    | .error e => ∃ t ∈ ts, IsChord t ∧ split t.text = .error e := by
  rw [textLoop_eq]
  cases h : ts.findSome? (textErr split) with
  | some e =>
    obtain ⟨t, ht, he⟩ := List.exists_of_findSome?_eq_some h
    exact ⟨t, ht, textErr_some he⟩
  | none =>
    refine Pointwise.map _ _ _ fun t ht => ?_
    have hn := List.findSome?_eq_none_iff.mp h t ht
    unfold textErr at hn
    unfold TextRel moveText
    split
    · rw [if_pos ‹_›] at hn
      cases hs : split t.text with
      | ok c => exact ⟨c, rfl, rfl⟩
      | error e => rw [hs] at hn; cases hn
    · rfl

/-- `transpose_note_sequence`, for every sequence, amount, allowed range, `transpose_chords` flag and splitter, when
the call returns `(out, deleted)`: the kept notes are the drums and the pitched notes whose new pitch lies in
`[mn, mx]`, in input order, each through `moveNote` (`moveNote_spec`); `deleted` counts the others; `total_time` becomes
the largest of 0 and the kept ends (`end_time = 0` before the loop) — it is reset even when nothing is deleted; every
key moves by `k` mod 12; with `transpose_chords` the annotations correspond one to one (`TextRel`: chord symbols other
than `N.C.` become the re-assembled transposed structure), without it exactly the chord-symbol annotations
(`N.C.` included) are removed; nothing else changes. -/
theorem transpose_ns_spec (split : String → Except Err Sym) (s out : NoteSeq) (k mn mx : Int)
    (tc : Bool) (deleted : Nat) (h : transposeNS split s k mn mx tc = .ok (out, deleted)) :
    out.notes = (s.notes.filter (keepNote k mn mx)).map (moveNote k) ∧
    deleted = (s.notes.filter (fun n => !keepNote k mn mx n)).length ∧
    deleted + out.notes.length = s.notes.length ∧
    ((∀ n ∈ out.notes, n.end_ ≤ out.totalTime) ∧ 0 ≤ out.totalTime ∧
      (out.totalTime = 0 ∨ ∃ n ∈ out.notes, n.end_ = out.totalTime)) ∧
    out.keySigs = s.keySigs.map (fun ks => { ks with key := Int.fmod (ks.key + k) 12 }) ∧
    (tc = true → Pointwise (TextRel split k) s.texts out.texts) ∧
    (tc = false → out.texts = s.texts.filter (fun t => t.kind ≠ CHORD_SYMBOL)) ∧
    (out.tempos = s.tempos ∧ out.timeSigs = s.timeSigs ∧ out.ccs = s.ccs ∧ out.bends = s.bends ∧
      out.sectionAnns = s.sectionAnns ∧ out.sgroups = s.sgroups ∧ out.totalQSteps = s.totalQSteps ∧
      out.spq = s.spq ∧ out.sps = s.sps ∧ out.hasSub = s.hasSub ∧ out.subStart = s.subStart ∧
      out.subEnd = s.subEnd ∧ out.tpq = s.tpq ∧ out.metaTag = s.metaTag) := by
  unfold transposeNS at h
  rw [noteLoop_eq] at h
  simp only [List.nil_append, Nat.zero_add] at h
  have hlen : ∀ l : List Note, (l.filter (fun n => !keepNote k mn mx n)).length +
      ((l.filter (keepNote k mn mx)).map (moveNote k)).length = l.length := by
    intro l
    induction l with
    | nil => simp
    | cons a l ih =>
      by_cases hk : keepNote k mn mx a <;> simp [hk] at * <;> omega
  have htt : let kept := s.notes.filter (keepNote k mn mx)
      (∀ n ∈ kept.map (moveNote k), n.end_ ≤ kept.foldl maxEnd 0) ∧ 0 ≤ kept.foldl maxEnd 0 ∧
      (kept.foldl maxEnd 0 = 0 ∨ ∃ n ∈ kept.map (moveNote k), n.end_ = kept.foldl maxEnd 0) := by
    intro kept
    obtain ⟨h0, hcov, hatt⟩ := foldl_max_spec Note.end_ kept 0
    refine ⟨?_, h0, ?_⟩
    · intro n hn
      obtain ⟨m, hm, rfl⟩ := List.mem_map.mp hn
      rw [moveNote_end]
      exact hcov m hm
    · rcases hatt with h0 | ⟨m, hm, h1⟩
      · exact Or.inl h0
      · exact Or.inr ⟨moveNote k m, List.mem_map.mpr ⟨m, hm, rfl⟩, by rw [moveNote_end]; exact h1.symm⟩
  split at h
  · cases h
  rename_i texts ht
  cases h
  refine ⟨rfl, rfl, hlen _, htt, rfl, ?_, ?_, by simp⟩
  · intro htc
    rw [htc, if_pos rfl] at ht
    have hs := textLoop_spec split k s.texts
    rw [ht] at hs
    exact hs
  · intro htc
    rw [htc, if_neg Bool.false_ne_true] at ht
    cases ht
    rfl

/-- a kept note: drums are returned as they are; a pitched note moves by exactly `k`, keeps
velocity, times and every other attribute, and only loses its pitch name -/
theorem moveNote_spec (k : Int) (n : Note) :
    (n.isDrum = true → moveNote k n = n) ∧
    (n.isDrum = false → moveNote k n = { n with pitch := n.pitch + k, pitchName := UNKNOWN_PITCH_NAME }) := by
  unfold moveNote
  cases n.isDrum <;> simp

theorem keepNote_iff (k mn mx : Int) (n : Note) :
    keepNote k mn mx n = true ↔ (n.isDrum = true ∨ (mn ≤ n.pitch + k ∧ n.pitch + k ≤ mx)) := by
  unfold keepNote
  simp only [Bool.or_eq_true, Bool.and_eq_true, decide_eq_true_eq]
  constructor <;> intro h <;> rcases h with h | h <;> simp [h]

/-- the call raises exactly when `transpose_chords` is set and some chord-symbol annotation other
than `N.C.` cannot be split; the error is the splitter's -/
theorem transpose_ns_error (split : String → Except Err Sym) (s : NoteSeq) (k mn mx : Int) (tc : Bool) :
    (∀ e, transposeNS split s k mn mx tc = .error e →
      tc = true ∧ ∃ t ∈ s.texts, IsChord t ∧ split t.text = .error e) ∧
    ((tc = false ∨ ∀ t ∈ s.texts, IsChord t → ∃ c, split t.text = .ok c) →
      ∃ r, transposeNS split s k mn mx tc = .ok r) := by
  unfold transposeNS
  cases tc with
  | false => simp
  | true =>
    have hs := textLoop_spec split k s.texts
    simp only [if_true]
    cases ht : textLoop split k s.texts with
    | ok r => exact ⟨fun e h => (by cases h), fun _ => ⟨_, rfl⟩⟩
    | error e' =>
      rw [ht] at hs
      refine ⟨fun e h => ?_, fun h => ?_⟩
      · cases h
        exact ⟨trivial, hs⟩
      · obtain ⟨t, hmem, hc, hse⟩ := hs
        rcases h with h | h
        · cases h
        · obtain ⟨c, hc'⟩ := h t hmem hc
          rw [hc'] at hse
          cases hse

/-- every rewritten chord annotation denotes the transposed chord, provided re-splitting a
re-assembled transposed figure gives back the transposed structure (the string-layer fact that the
correspondence check monitors on every transposed figure of every run) -/
theorem transpose_ns_chords_hom (split : String → Except Err Sym) (k : Int) (t t' : TextAnn)
    (hresplit : ∀ c, split t.text = .ok c → split (render (transposeSym c k)) = .ok (transposeSym c k))
    (hc : IsChord t) (hrel : TextRel split k t t') :
    ∃ c c', split t.text = .ok c ∧ split t'.text = .ok c' ∧
      t'.time = t.time ∧ t'.kind = t.kind ∧ t'.qstep = t.qstep ∧
      symRoot c' = Int.fmod (symRoot c + k) 12 ∧ symBass c' = Int.fmod (symBass c + k) 12 ∧
      symPitches c' = (symPitches c).map (List.map (fun p => Int.fmod (p + k) 12)) ∧
      symQuality c' = symQuality c := by
  unfold TextRel at hrel
  rw [if_pos (show t.kind = CHORD_SYMBOL ∧ t.text ≠ NO_CHORD from hc)] at hrel
  obtain ⟨c, hs, rfl⟩ := hrel
  obtain ⟨h1, h2, h3, _, _, _, h4⟩ := transpose_symbol_hom c k
  exact ⟨c, transposeSym c k, hs, hresplit c hs, rfl, rfl, rfl, h1, h2, h3, h4⟩

/-- non-vacuity of `transpose_ns_chords_hom`: a splitter that knows `G7` and `A7`, a chord annotation, its image -/
example :
    let split : String → Except Err Sym := fun t =>
      if t = "G7" then .ok ⟨⟨.G, 0⟩, "7", "", [], none⟩
      else if t = "A7" then .ok ⟨⟨.A, 0⟩, "7", "", [], none⟩ else .error chordSymbolError
    let t : TextAnn := ⟨3 / 2, 0, 1, "G7"⟩
    IsChord t ∧ TextRel split 2 t { t with text := "A7" } ∧
    (∀ c, split t.text = .ok c → split (render (transposeSym c 2)) = .ok (transposeSym c 2)) := by
  intro split t
  have hc : IsChord t := by unfold IsChord; decide +kernel
  refine ⟨hc, ?_, ?_⟩
  · unfold TextRel
    rw [if_pos (show t.kind = CHORD_SYMBOL ∧ t.text ≠ NO_CHORD from hc)]
    exact ⟨⟨⟨.G, 0⟩, "7", "", [], none⟩, by decide +kernel, by decide +kernel⟩
  · intro c hcs
    have : c = ⟨⟨.G, 0⟩, "7", "", [], none⟩ := by
      have h2 : split t.text = .ok ⟨⟨.G, 0⟩, "7", "", [], none⟩ := by decide +kernel
      rw [h2] at hcs; cases hcs; rfl
    subst this
    decide +kernel

theorem transpose_key_range (k : Int) (ks : KeySig) :
    0 ≤ (transposeKey k ks).key ∧ (transposeKey k ks).key < 12 ∧
    ((transposeKey k ks).key - (ks.key + k)) % 12 = 0 ∧
    (transposeKey k ks).time = ks.time ∧ (transposeKey k ks).mode = ks.mode := by
  refine ⟨?_, ?_, ?_, rfl, rfl⟩ <;> simp only [transposeKey, fmod12] <;> omega

/-- non-vacuity: a drum at the lower edge, a pitched note exactly at the upper edge (kept), one just
above it (deleted), a key signature and a chord annotation -/
example :
    let split : String → Except Err Sym := fun t =>
      if t = "G7" then .ok ⟨⟨.G, 0⟩, "7", "", [], none⟩ else .error chordSymbolError
    let n (p : Int) (d : Bool) (e : Rat) : Note := { (default : Note) with pitch := p, isDrum := d, end_ := e }
    let s : NoteSeq := { notes := [n 10 true 1, n 70 false 2, n 71 false 3],
                         keySigs := [⟨0, 11, 0⟩], texts := [⟨0, 0, 1, "G7"⟩, ⟨0, 0, 1, "N.C."⟩], totalTime := 3 }
    transposeNS split s 2 60 72 true =
      .ok ({ s with notes := [n 10 true 1, { n 72 false 2 with pitchName := 0 }], totalTime := 2,
                    keySigs := [⟨0, 1, 0⟩], texts := [⟨0, 0, 1, "A7"⟩, ⟨0, 0, 1, "N.C."⟩] }, 1) := by
  decide +kernel

/-- for a sequence inside the allowed range the clamped amount keeps it inside, has the sign of the
request, is no larger in magnitude, and is the request itself when that already fits -/
theorem clamp_transpose_in_bounds (a lo hi mn mx : Int) (h1 : mn ≤ lo) (h3 : hi ≤ mx) :
    mn ≤ lo + clampTranspose a lo hi mn mx ∧ hi + clampTranspose a lo hi mn mx ≤ mx ∧
    (0 ≤ a → 0 ≤ clampTranspose a lo hi mn mx ∧ clampTranspose a lo hi mn mx ≤ a) ∧
    (a < 0 → a ≤ clampTranspose a lo hi mn mx ∧ clampTranspose a lo hi mn mx ≤ 0) ∧
    (mn ≤ lo + a ∧ hi + a ≤ mx → clampTranspose a lo hi mn mx = a) := by
  unfold clampTranspose
  split <;> omega

example : clampTranspose (-5) 3 90 0 127 = -3 ∧ clampTranspose 50 3 90 0 127 = 37 ∧
    clampTranspose 4 3 90 0 127 = 4 := by decide +kernel

/-- with `delete_out_of_range_notes = False` the interval handed to `random.randint` is the request
clamped against the lowest and highest pitch of a non-empty sequence -/
theorem augmentRange_clamped {s : NoteSeq} {minT maxT mn mx a b : Int}
    (h : augmentRange s minT maxT mn mx false = .ok (some (a, b))) :
    ∃ n0 ns, s.notes = n0 :: ns ∧
      clampTranspose minT (minPitch ns n0.pitch) (maxPitch ns n0.pitch) mn mx = a ∧
      clampTranspose maxT (minPitch ns n0.pitch) (maxPitch ns n0.pitch) mn mx = b := by
  unfold augmentRange at h
  by_cases h1 : mx < mn
  · rw [if_pos h1] at h; cases h
  by_cases h2 : maxT < minT
  · rw [if_neg h1, if_pos h2] at h; cases h
  rw [if_neg h1, if_neg h2] at h
  cases hn : s.notes with
  | nil => rw [hn] at h; cases h
  | cons n0 ns =>
    rw [hn] at h
    cases hq : s.isQuantized
    · simp only [hq, Bool.false_eq_true, if_false, Except.ok.injEq, Option.some.injEq, Prod.mk.injEq] at h
      exact ⟨n0, ns, rfl, h⟩
    · simp only [hq, if_true] at h; cases h

/-- with `delete_out_of_range_notes = False`, a sequence whose notes all lie in the allowed range
loses no note, whatever amount `random.randint` picks from the clamped interval -/
theorem augment_deletes_nothing (split : String → Except Err Sym) (pick : Int → Int → Int) (s out : NoteSeq)
    (minT maxT mn mx : Int)
    (hin : ∀ n ∈ s.notes, mn ≤ n.pitch ∧ n.pitch ≤ mx)
    (hpick : ∀ a b, a ≤ b → a ≤ pick a b ∧ pick a b ≤ b)
    (h : augment split pick s minT maxT mn mx false = .ok out) :
    out.notes.length = s.notes.length := by
  unfold augment at h
  split at h
  · cases h
  · cases h; rfl
  · rename_i a b hr
    split at h
    · cases h
    rename_i hab
    split at h
    · cases h
    rename_i r ht
    cases h
    obtain ⟨hn, _, _⟩ := transpose_ns_spec split s r.1 (pick a b) mn mx true r.2 ht
    rw [hn, List.length_map]
    congr 1
    apply List.filter_eq_self.mpr
    intro n hmem
    rw [keepNote_iff]
    right
    -- the clamped interval keeps [lo, hi] inside [mn, mx]
    obtain ⟨n0, ns, hnotes, rfl, rfl⟩ := augmentRange_clamped hr
    rw [hnotes] at hmem hin
    have hlo_in := (le_minPitch n0 ns mn).mpr fun m hm => (hin m hm).1
    have hhi_in := (maxPitch_le n0 ns mx).mpr fun m hm => (hin m hm).2
    have ca := (clamp_transpose_in_bounds minT _ _ mn mx hlo_in hhi_in).1
    have cb := (clamp_transpose_in_bounds maxT _ _ mn mx hlo_in hhi_in).2.1
    have hp := hpick _ _ (Int.not_lt.mp hab)
    have hn_lo := (le_minPitch n0 ns _).mp (Int.le_refl _) n hmem
    have hn_hi := (maxPitch_le n0 ns _).mp (Int.le_refl _) n hmem
    omega

/-- non-vacuity of `augment_deletes_nothing`: notes on both limits of `[21, 108]`, request `[-5, 7]`
clamped to `[0, 0]` -/
example :
    let n (p : Int) : Note := { (default : Note) with pitch := p, end_ := 1 }
    let s : NoteSeq := { notes := [n 21, n 60, n 108], totalTime := 1 }
    (∀ m ∈ s.notes, (21 : Int) ≤ m.pitch ∧ m.pitch ≤ 108) ∧
    augmentRange s (-5) 7 21 108 false = .ok (some (0, 0)) ∧
    (augment (fun _ => .error chordSymbolError) (fun _ b => b) s (-5) 7 21 108 false).toOption.map (·.notes.length) = some 3 := by
  decide +kernel

/-- ∀ `max − min ≥ 12`, ∀ event `e ≥ 0`, ∀ `k`: the result lies in `[min, max)` and is congruent to
`e + k` modulo 12 -/
theorem melody_transpose_fold (k mn mx e : Int) (hr : NOTES_PER_OCTAVE ≤ mx - mn) (he : MIN_MIDI_PITCH ≤ e) :
    mn ≤ melEvent k mn mx e ∧ melEvent k mn mx e < mx ∧
    (melEvent k mn mx e - (e + k)) % NOTES_PER_OCTAVE = 0 := by
  unfold melEvent
  unfold NOTES_PER_OCTAVE MIN_MIDI_PITCH at *
  rw [if_pos he]
  simp only [fmod12]
  split
  · omega
  · split <;> omega

/-- special events (below `MIN_MIDI_PITCH`: note-off, no-event) are untouched -/
theorem melody_transpose_special (k mn mx e : Int) (he : e < MIN_MIDI_PITCH) : melEvent k mn mx e = e := by
  unfold melEvent
  rw [if_neg (by omega)]

/-- an event already inside the range after the shift is moved by exactly `k` -/
theorem melody_transpose_exact (k mn mx e : Int) (he : MIN_MIDI_PITCH ≤ e) (h1 : mn ≤ e + k) (h2 : e + k < mx) :
    melEvent k mn mx e = e + k := by
  unfold melEvent
  rw [if_pos he]
  simp only []
  rw [if_neg (by omega), if_neg (by omega)]

/-- the whole melody: same length, every position by `melody_transpose_special` / `melody_transpose_fold` -/
theorem melody_transpose_events (k mn mx : Int) (es : List Int) (hr : NOTES_PER_OCTAVE ≤ mx - mn) :
    (melTranspose k mn mx es).length = es.length ∧
    ∀ (i : Nat) (h : i < es.length) (h' : i < (melTranspose k mn mx es).length),
      (es[i] < MIN_MIDI_PITCH → (melTranspose k mn mx es)[i] = es[i]) ∧
      (MIN_MIDI_PITCH ≤ es[i] → mn ≤ (melTranspose k mn mx es)[i] ∧ (melTranspose k mn mx es)[i] < mx ∧
        ((melTranspose k mn mx es)[i] - (es[i] + k)) % NOTES_PER_OCTAVE = 0) := by
  unfold melTranspose
  refine ⟨List.length_map _, ?_⟩
  intro i h h'
  rw [List.getElem_map]
  exact ⟨melody_transpose_special k mn mx _, melody_transpose_fold k mn mx _ hr⟩

/-- `k` then `−k` (and `12`) return every pitch to its pitch class (ranges with `min ≥ 0`, so that a
folded pitch is still a pitch) -/
theorem melody_transpose_inverse (k mn mx e : Int) (hr : NOTES_PER_OCTAVE ≤ mx - mn)
    (hmn : MIN_MIDI_PITCH ≤ mn) (he : MIN_MIDI_PITCH ≤ e) :
    (melEvent (-k) mn mx (melEvent k mn mx e) - e) % NOTES_PER_OCTAVE = 0 ∧
    (melEvent NOTES_PER_OCTAVE mn mx e - e) % NOTES_PER_OCTAVE = 0 := by
  obtain ⟨a1, a2, a3⟩ := melody_transpose_fold k mn mx e hr he
  obtain ⟨b1, b2, b3⟩ := melody_transpose_fold (-k) mn mx (melEvent k mn mx e) hr (by omega)
  obtain ⟨c1, c2, c3⟩ := melody_transpose_fold NOTES_PER_OCTAVE mn mx e hr he
  unfold NOTES_PER_OCTAVE at *
  omega

example : melEvent 5 48 60 58 = 51 ∧ melEvent (-30) 48 84 50 = 56 ∧ melEvent 3 0 128 (-2) = -2 ∧
    NOTES_PER_OCTAVE ≤ (60 : Int) - 48 := by decide +kernel

/-- `get_major_key` returns a key in `0..11` -/
theorem major_key_range (es : List Int) : 0 ≤ majorKey es ∧ majorKey es < NOTES_PER_OCTAVE := by
  unfold majorKey
  have : (keyHistogram es).length = NOTES_PER_OCTAVE.toNat := by simp [keyHistogram]
  have h := argmax_lt (keyHistogram es) (by rw [this]; decide)
  rw [this] at h
  unfold NOTES_PER_OCTAVE at *
  omega

/-- `squash` (for every rounding operator `R` standing for the float operations): the returned amount
is `transpose_to_key − melody_key` modulo 12 (`0` without a key or without pitches), the melody is
transposed by exactly that amount, every pitch ends in `[min, max)` with its transposed pitch
class, and special events are untouched.  `hev` is needed: `squash` looks for pitches in
`MIN_MIDI_PITCH..MAX_MIDI_PITCH` only, so a melody whose only events are above 127 takes the early
`return 0` and keeps them outside the range -/
theorem squash_spec (R : Rat → Rat) (es : List Int) (mn mx : Int) (key : Option Int)
    (hr : NOTES_PER_OCTAVE ≤ mx - mn) (hev : ∀ e ∈ es, e ≤ MAX_MIDI_PITCH) :
    let r := squashR R es mn mx key
    (match key with
     | some toKey => (r.2 - (toKey - majorKey es)) % NOTES_PER_OCTAVE = 0 ∨ (r.2 = 0 ∧ ∀ e ∈ es, e < MIN_MIDI_PITCH)
     | none => r.2 = 0) ∧
    r.1.length = es.length ∧
    ∀ (i : Nat) (h : i < es.length) (h' : i < r.1.length),
      (es[i] < MIN_MIDI_PITCH → r.1[i] = es[i]) ∧
      (MIN_MIDI_PITCH ≤ es[i] → mn ≤ r.1[i] ∧ r.1[i] < mx ∧ (r.1[i] - (es[i] + r.2)) % NOTES_PER_OCTAVE = 0) := by
  intro r
  cases ha : squashAmount R es mn mx key with
  | some a =>
    have hr1 : r = (melTranspose a mn mx es, a) := by simp only [r, squashR, ha]
    obtain ⟨hl, hev'⟩ := melody_transpose_events a mn mx es hr
    rw [hr1]
    refine ⟨?_, hl, hev'⟩
    cases key with
    | none => simp [squashAmount] at ha; exact ha.symm
    | some toKey =>
      left
      unfold squashAmount at ha
      simp only [] at ha
      split at ha
      · cases ha
      · simp only [Option.some.injEq] at ha
        subst ha
        unfold NOTES_PER_OCTAVE
        simp only []
        omega
  | none =>
    have hr1 : r = (es, 0) := by simp only [r, squashR, ha]
    rw [hr1]
    cases key with
    | none => simp [squashAmount] at ha
    | some toKey =>
      unfold squashAmount at ha
      simp only [] at ha
      split at ha
      · rename_i hf
        have hnone : ∀ e ∈ es, e < MIN_MIDI_PITCH := by
          intro e he
          have := List.filter_eq_nil_iff.mp hf e he
          have := hev e he
          simp only [Bool.and_eq_true, decide_eq_true_eq, not_and] at *
          omega
        refine ⟨Or.inr ⟨rfl, hnone⟩, rfl, ?_⟩
        intro i h h'
        refine ⟨fun _ => rfl, fun hge => ?_⟩
        have := hnone es[i] (List.getElem_mem h)
        simp only [] at *
        omega
      · cases ha

/-- non-vacuity of `squash_spec`: a C-major fragment squashed into `[48, 84)` in F (key 5): the amount is
`5 + 12·round((65.5 − 67) / 12) = 5`, with the binary64 rounding operator of the driver -/
example : NOTES_PER_OCTAVE ≤ (84 : Int) - 48 ∧ (∀ e ∈ [-2, 60, 62, 64, -1], e ≤ MAX_MIDI_PITCH) ∧
    majorKey [-2, 60, 62, 64, -1] = 0 ∧
    squash [-2, 60, 62, 64, -1] 48 84 (some 5) = ([-2, 65, 67, 69, -1], 5) ∧
    squash [-2, 60, 62, 64, -1] 48 84 none = ([-2, 60, 62, 64, -1], 0) ∧
    squash [-2, -1] 48 84 (some 5) = ([-2, -1], 0) := by
  decide +kernel

theorem cpEvent_mod (sp : String → Except Err Sym) (k : Int) :
    cpEvent sp (Int.fmod k NOTES_PER_OCTAVE) = cpEvent sp k := by
  funext f
  simp only [cpEvent, transposeFigure, transposeSym_mod]

theorem cpLoop_cons (sp : String → Except Err Sym) (k : Int) (f : String) (fs : List String) :
    cpLoop sp k (f :: fs) =
      match cpEvent sp k f with
      | .error e => (f :: fs, some e)
      | .ok f' => (f' :: (cpLoop sp k fs).1, (cpLoop sp k fs).2) := by
  by_cases hf : f ≠ NO_CHORD
  · rw [cpLoop, cpEvent, if_pos hf, if_pos hf]
    cases transposeFigure sp f k <;> rfl
  · rw [cpLoop, cpEvent, if_neg hf, if_neg hf]

/-- the in-place loop of `ChordProgression.transpose` is `mapM` of its one-event body; when the body
raises, the events before the failing one stay transposed and the rest is untouched -/
theorem cpLoop_spec (sp : String → Except Err Sym) (k : Int) (figs : List String) :
    match figs.mapM (cpEvent sp k) with
    | .ok out => cpLoop sp k figs = (out, none)
    | .error e => ∃ pre f post pre', figs = pre ++ f :: post ∧ pre.mapM (cpEvent sp k) = .ok pre' ∧
        cpEvent sp k f = .error e ∧ cpLoop sp k figs = (pre' ++ f :: post, some e) := by
  induction figs with
  | nil => rfl
  | cons f fs ih =>
    rw [List.mapM_cons, cpLoop_cons]
    cases hf : cpEvent sp k f with
    | error e => exact ⟨[], f, fs, [], rfl, rfl, hf, rfl⟩
    | ok g =>
      cases hm : fs.mapM (cpEvent sp k) with
      | ok out => rw [hm] at ih; simp only [ih]; rfl
      | error e =>
        rw [hm] at ih
        obtain ⟨pre, x, post, pre', h1, h2, h3, h4⟩ := ih
        refine ⟨f :: pre, x, post, g :: pre', ?_, ?_, h3, ?_⟩
        · rw [h1]; rfl
        · rw [List.mapM_cons, hf, h2]; rfl
        · simp only [h4]; rfl

/-- `ChordProgression.transpose` (and the chord half of `LeadSheet.transpose` / `squash`) is `mapM` of the
one-event body `cpEvent` — every event other than `N.C.` through `transpose_chord_symbol`, on its own
(the code passes `k mod 12`, which gives the same spelling); with an exception the events before the first
uninterpretable figure are transposed and that figure and everything after it are untouched -/
theorem chord_progression_transpose_spec (split : String → Except Err Sym) (k : Int) (figs : List String) :
    match figs.mapM (cpEvent split k) with
    | .ok out => cpTranspose split k figs = (out, none)
    | .error e => ∃ pre f post pre', figs = pre ++ f :: post ∧ pre.mapM (cpEvent split k) = .ok pre' ∧
        cpEvent split k f = .error e ∧ cpTranspose split k figs = (pre' ++ f :: post, some e) := by
  have h := cpLoop_spec split (Int.fmod k NOTES_PER_OCTAVE) figs
  rw [cpEvent_mod] at h
  exact h

/-- `LeadSheet.transpose` is `Melody.transpose` and `ChordProgression.transpose` by the same amount;
`LeadSheet.squash` transposes the chords by the amount `Melody.squash` returned.  Both hold by
unfolding `lsTranspose` / `lsSquashR`; what follows for every pitch and chord is
`lead_sheet_transpose_together` / `lead_sheet_squash_together` (Props/C10Events.lean) -/
theorem lead_sheet_transpose_spec (R : Rat → Rat) (split : String → Except Err Sym) (k mn mx toKey : Int)
    (es : List Int) (figs : List String) :
    lsTranspose split k mn mx es figs = (melTranspose k mn mx es, cpTranspose split k figs) ∧
    lsSquashR R split mn mx toKey es figs =
      ((squashR R es mn mx (some toKey)).1, (squashR R es mn mx (some toKey)).2,
       cpTranspose split (squashR R es mn mx (some toKey)).2 figs) := by
  exact ⟨rfl, rfl⟩

example :
    let split : String → Except Err Sym := fun t =>
      if t = "Am" then .ok ⟨⟨.A, 0⟩, "m", "", [], none⟩ else .error chordSymbolError
    cpTranspose split 15 ["Am", "N.C.", "Am"] = (["Cm", "N.C.", "Cm"], none) ∧
    cpTranspose split 3 ["Am", "H", "Am"] = (["Cm", "H", "Am"], some chordSymbolError) := by
  decide +kernel

end NSV.C10

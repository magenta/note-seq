import NoteSeqVerif.Props.C20
import NoteSeqVerif.Proofs.RoundingApps
/-! C20 — the side condition of `repeat_spec_float` discharged for the floating-point computation
itself (uses the `Rounding` interface of `Proofs/Rounding.lean`, hence single Mathlib modules, which
`Props/C20.lean` does not need).

Error analysis.  `P = D·rate` (exact), `n = int(R P) ≤ R P ≤ P·(1 + u)` with `u = 2^-53`.
`q' = R (D / R (len / rate))` is two roundings away from `q = P / len`, so `q·(1-u)² ≤ q'`, and
`k = ⌈q'⌉ ≥ q'`, hence `k·len ≥ P·(1-u)²`.  If `k·len < n` then, both being integers,
`k·len + 1 ≤ n`, so `P·(1-u)² + 1 ≤ P·(1+u)`, i.e. `1 ≤ P·(3u - u²) < 3·P/2^53`:
impossible for `P ≤ 2^51`. -/
namespace NSV.C20

/-- `q·(1-u)² ≤ R (D / R (len / rate))` with `q = D / (len / rate)`: two roundings -/
theorem numRepeats_arg_ge {R : ℚ → ℚ} (hR : Rounding R) (L r D : ℚ) (hL : 0 < L) (hr : 0 < r)
    (hD : 0 < D) :
    D / (L / r) * (1 - 1 / 2 ^ 53) ^ 2 ≤ R (D / R (L / r)) :=
  (FExpr.near hR (by norm_num : 1 ≤ 53) (.div (.lit D) (.div (.lit L) (.lit r))) ⟨hD, hL, hr⟩).1

/-- the float ceiling `⌈R(D / R(len/rate))⌉` yields enough copies, `int(R(D·rate)) ≤ num_repeats · len`, for at most
`2^51` requested samples (`D·rate ≤ 2^51`); no bound on the input length -/
theorem repeatEnough_float {R : Rat → Rat} (hR : Rounding R) (len : Nat) (rate : Int) (D : Rat)
    (hl : 0 < len) (hr : 0 < rate) (hD : 0 < D) (hb : D * (rate : Rat) ≤ 2 ^ 51) :
    repeatEnough R len rate D := by
  have hL : (0 : ℚ) < len := by exact_mod_cast hl
  have hr' : (0 : ℚ) < rate := by exact_mod_cast hr
  have hP : 0 < D * rate := mul_pos hD hr'
  unfold repeatEnough secToSamples numRepeats truncR
  rw [if_pos (hR.nonneg hP.le)]
  -- P (1-u)² ≤ q' len ≤ k len
  have hq := mul_le_mul_of_nonneg_right
    ((numRepeats_arg_ge hR len rate D hL hr' hD).trans Rat.le_ceil) hL.le
  rw [show D / ((len : ℚ) / rate) * (1 - 1 / 2 ^ 53) ^ 2 * len = D * rate * (1 - 1 / 2 ^ 53) ^ 2 by
    field_simp] at hq
  -- n ≤ R P ≤ P (1 + u)
  have hn := (Rat.floor_le (R (D * rate))).trans (hR.bounds hP.le).2
  generalize (R (D * (rate : ℚ))).floor = n at hn ⊢
  generalize (R (D / R ((len : ℚ) / (rate : ℚ)))).ceil = k at hq ⊢
  -- otherwise k len + 1 ≤ n, which the two bounds exclude for P ≤ 2^51
  by_contra hlt
  have hc : ((k * (len : ℤ) + 1 : ℤ) : ℚ) ≤ (n : ℚ) := by exact_mod_cast (by omega : k * (len : ℤ) + 1 ≤ n)
  push_cast at hc
  linarith

/-- the code itself -/
theorem repeatEnough_rne53 (len : Nat) (rate : Int) (D : Rat)
    (hl : 0 < len) (hr : 0 < rate) (hD : 0 < D) (hb : D * (rate : Rat) ≤ 2 ^ 51) :
    repeatEnough rne53 len rate D :=
  repeatEnough_float rounding_rne53 len rate D hl hr hD hb

/-- `repeat_spec_float` without the side condition.  The code
(`R = rne53`) on a non-empty input with positive rate and duration and `D·rate ≤ 2^51` returns
exactly `int(D·rate)` samples (float product), sample `i` = input sample `i mod len`. -/
theorem repeat_spec_float_total {α} (xs : List α) (rate : Int) (D : Rat)
    (hx : xs ≠ []) (hr : 0 < rate) (hD : 0 < D) (hb : D * (rate : Rat) ≤ 2 ^ 51) :
    ∃ ys, repeatSamples xs rate D = .ok ys ∧ ys.length = (secToSamples rne53 D rate).toNat ∧
      ∀ i, i < (secToSamples rne53 D rate).toNat → ys[i]? = xs[i % xs.length]? :=
  repeat_spec_float xs rate D hx hr hD
    (repeatEnough_rne53 xs.length rate D (List.length_pos_iff.mpr hx) hr hD hb)

/-! non-vacuity: 0.35 s (the double nearest to 35/100, which is below it) at 100 Hz on three
samples — the float product rounds up to exactly 35, the float quotient to 35/3 + ε, 12 copies -/
example : repeatEnough rne53 3 100 (rne53 (35 / 100)) :=
  repeatEnough_float rounding_rne53 3 100 _ (by norm_num) (by norm_num) (by decide +kernel)
    (by decide +kernel)

example : ∃ ys, repeatSamples [7, 8, 9] 100 (rne53 (35 / 100)) = .ok ys ∧ ys.length = 35 ∧
    ∀ i, i < 35 → ys[i]? = [7, 8, 9][i % 3]? := by
  have h := repeat_spec_float_total [7, 8, 9] 100 (rne53 (35 / 100)) (by simp) (by norm_num)
    (by decide +kernel) (by decide +kernel)
  have e : (secToSamples rne53 (rne53 (35 / 100)) 100).toNat = 35 := by decide +kernel
  rw [e] at h
  exact h

/-- some magnitude bound is necessary: with `3·2^52 + 4` requested samples (a float64) on a
3-sample input the float quotient `(3·2^52+4)/3 = 2^52 + 1 + 1/3` rounds down to the integer
`2^52 + 1`, and `3·(2^52+1) < 3·2^52 + 4`: the result would be one sample short -/
example : ¬ repeatEnough rne53 3 1 (3 * 2 ^ 52 + 4) := by decide +kernel

/-- … and `2^51` is within a factor two of the truth: a float64 duration with
`D·rate ≈ 2^52.007` at 8000 Hz on 4 214 028 samples for which the real arithmetic
(`int(D*8000) = 4524778115321101`, `ceil(D/(4214028/8000))*4214028 = 4524778115321100`)
comes out one sample short -/
example : ¬ repeatEnough rne53 4214028 8000 (4633372790088807 / 8192) := by decide +kernel

end NSV.C20

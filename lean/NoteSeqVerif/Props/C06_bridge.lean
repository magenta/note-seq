import NoteSeqVerif.Model.C06Time
import NoteSeqVerif.Generated.C06T2
/-! # C06 — translator tie T2 for the float preamble of every `to_sequence`

`Generated/C06T2.lean` is the symbolic execution of the Python source of the `to_sequence` methods up to the
event loop (seven of them: `LeadSheet.to_sequence` computes no time itself, it delegates to Melody and
ChordProgression): `seconds_per_step` of all seven, and `sequence_start_time` of Melody, DrumTrack, ChordProgression
and PianorollSequence (not of the three performance types), as expressions in `qpm`, the resolution and `start_step`,
with the rounding operator after every float operation.  They are the model functions of `Model/C06Time.lean` that the
float half of C06 (`step_quantize_exact` and its instances) is stated about. -/
namespace NSV.C06

theorem t2_melody_sps (R : Rat → Rat) (t0 qpm : Rat) (spq s0 : Int) :
    Gen2.melody_to_sequence_seconds_per_step R t0 qpm spq s0 = secPerStepR R qpm spq := rfl
theorem t2_melody_start (R : Rat → Rat) (t0 qpm : Rat) (spq s0 : Int) :
    Gen2.melody_to_sequence_sequence_start_time R t0 qpm spq s0 = seqStartAddR R t0 (secPerStepR R qpm spq) s0 := rfl
theorem t2_drums_sps (R : Rat → Rat) (t0 qpm : Rat) (spq s0 : Int) :
    Gen2.drums_to_sequence_seconds_per_step R t0 qpm spq s0 = secPerStepR R qpm spq := rfl
theorem t2_drums_start (R : Rat → Rat) (t0 qpm : Rat) (spq s0 : Int) :
    Gen2.drums_to_sequence_sequence_start_time R t0 qpm spq s0 = seqStartAddR R t0 (secPerStepR R qpm spq) s0 := rfl
theorem t2_chords_sps (R : Rat → Rat) (t0 qpm : Rat) (spq s0 : Int) :
    Gen2.chords_to_sequence_seconds_per_step R t0 qpm spq s0 = secPerStepR R qpm spq := rfl
theorem t2_chords_start (R : Rat → Rat) (t0 qpm : Rat) (spq s0 : Int) :
    Gen2.chords_to_sequence_sequence_start_time R t0 qpm spq s0 = seqStartAddR R t0 (secPerStepR R qpm spq) s0 := rfl
theorem t2_pianoroll_sps (R : Rat → Rat) (qpm : Rat) (spq s0 : Int) :
    Gen2.pianoroll_to_sequence_seconds_per_step R qpm spq s0 = secPerStepR R qpm spq := rfl
theorem t2_pianoroll_start (R : Rat → Rat) (qpm : Rat) (spq s0 : Int) :
    Gen2.pianoroll_to_sequence_sequence_start_time R qpm spq s0 = seqStartR R (secPerStepR R qpm spq) s0 := rfl
theorem t2_performance_sps (R : Rat → Rat) (sps : Int) :
    Gen2.performance_to_sequence_seconds_per_step R sps = secPerStepAbsR R sps := rfl
theorem t2_metric_sps (R : Rat → Rat) (qpm : Rat) (spq : Int) :
    Gen2.metric_to_sequence_seconds_per_step R qpm spq = secPerStepMetricR R qpm spq := rfl
theorem t2_noteperf_sps (R : Rat → Rat) (sps : Int) :
    Gen2.noteperf_to_sequence_seconds_per_step R sps = secPerStepAbsR R sps := rfl

/-- non-vacuity: 120 qpm at 4 steps per quarter is 1/8 s per step through the regenerated definition -/
example : Gen2.melody_to_sequence_seconds_per_step rne53 0 120 4 0 = 1/8 := by decide +kernel

end NSV.C06

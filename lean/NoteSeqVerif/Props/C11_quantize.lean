import NoteSeqVerif.Props.C01
import NoteSeqVerif.Proofs.C11WF
-- THEOREMS: wf_quantizeNotes wf_quantize_absolute wf_quantize_relative
-- THEOREMS: no_invention_quantize_absolute no_invention_quantize_relative
/-! # C11 (b) — quantization returns well-formed sequences and invents nothing
Corollaries of the C01 theorems (model `NSV.C01`).  `R` is any monotone rounding
operator with `R 0 = 0` (so the statements hold for IEEE doubles as well as for exact arithmetic). -/
namespace NSV.C11
open NSV.C01

/-- `_quantize_notes`: whenever it returns, `0 ≤ qs < qe ≤ total_quantized_steps` and no step is negative -/
theorem wf_quantizeNotes (q : Rat → Int) (hq : ∀ a b, a ≤ b → q a ≤ q b) (s r : NoteSeq)
    (hwf : ∀ n ∈ s.notes, n.start ≤ n.end_) (h : quantizeNotes q s = .ok r) : WFQ r := by
  have h1 := quantize_min_len q hq s r hwf h
  have h2 := (quantize_total_covers q s r h).2
  have h3 := quantize_nonneg q s r h
  exact ⟨fun n hn => ⟨(h3.1 n hn).1, by have := h1 n hn; omega, h2 n hn⟩, h3.2.1, h3.2.2⟩

/-- quantization writes the step fields only: the times, and with them well-formedness of times, carry over
(tempos and time signatures are stated separately: `quantize_note_sequence` replaces them) -/
theorem WF.of_quantized {q : Rat → Int} {s r : NoteSeq} (hw : WF s)
    (hn : r.notes = s.notes.map (fun n => { n with qs := q n.start, qe := fixEnd (q n.start) (q n.end_) }))
    (hcc : r.ccs = s.ccs.map (fun c => { c with qstep := q c.time }))
    (htx : r.texts = s.texts.map (fun c => { c with qstep := q c.time }))
    (htp : ∀ e ∈ r.tempos, 0 ≤ e.time) (hts : ∀ e ∈ r.timeSigs, 0 ≤ e.time)
    (hks : r.keySigs = s.keySigs) (hb : r.bends = s.bends) (hsa : r.sectionAnns = s.sectionAnns)
    (htot : r.totalTime = s.totalTime) : WF r := by
  have ev := hw.events
  refine ⟨?_, htot ▸ hw.total, ⟨htp, hts, hks ▸ ev.keySigs, ?_, ?_, hb ▸ ev.bends, hsa ▸ ev.sectionAnns⟩⟩
  · rw [hn, htot]; exact List.forall_mem_map.mpr hw.notes
  · rw [htx]; exact List.forall_mem_map.mpr ev.texts
  · rw [hcc]; exact List.forall_mem_map.mpr ev.ccs

/-- `quantize_note_sequence_absolute`: for a well-formed input every result is well-formed, in its
quantized fields (`WFQ`) and — the times being untouched — in its times (`WF`). -/
theorem wf_quantize_absolute (R : Rat → Rat) (hR : ∀ a b, a ≤ b → R a ≤ R b) (c : Rat) (s r : NoteSeq)
    (sps : Int) (hs : 0 ≤ sps) (hw : WF s) (h : quantizeAbsR R c s sps = .ok r) : WFQ r ∧ WF r := by
  have hs' : (0 : Rat) ≤ (sps : Rat) := by exact_mod_cast hs
  have hq : ∀ a b : Rat, a ≤ b → qstepR R c a (sps : Rat) ≤ qstepR R c b (sps : Rat) :=
    fun a b hab => qstep_mono R hR c a b _ hs' hab
  refine ⟨?_, ?_⟩
  · unfold quantizeAbsR at h
    exact wf_quantizeNotes _ hq { s with spq := 0, sps := sps, totalQSteps := qstepR R c s.totalTime (sps : Rat) } r
      (fun n hn => (hw.notes n hn).2.1) h
  · have hf := quantizeAbs_frame R c s r sps h
    simp only [] at hf
    obtain ⟨hn, hcc, htx, htp, hts, hks, hb, hsa, _, htot, _⟩ := hf
    exact hw.of_quantized (q := fun t => qstepR R c t (sps : Rat)) hn hcc htx (htp ▸ hw.events.tempos) (hts ▸ hw.events.timeSigs) hks hb hsa htot

/-- `quantize_note_sequence`: the same, for every steps-per-quarter `≥ 0` and non-negative tempo
(the single tempo and time signature it keeps are placed at time 0). -/
theorem wf_quantize_relative (R : Rat → Rat) (hR : ∀ a b, a ≤ b → R a ≤ R b) (hR0 : R 0 = 0) (c dq : Rat)
    (s r : NoteSeq) (spq : Int) (hspq : 0 ≤ spq) (hqpm : 0 ≤ (keptTempo dq s).qpm) (hw : WF s)
    (h : quantizeRelR R c dq s spq = .ok r) : WFQ r ∧ WF r := by
  have hsps := spsR_nonneg R hR hR0 spq _ hspq hqpm
  have hq : ∀ a b : Rat, a ≤ b →
      qstepR R c a (spsR R spq (keptTempo dq s).qpm) ≤ qstepR R c b (spsR R spq (keptTempo dq s).qpm) :=
    fun a b hab => qstep_mono R hR c a b _ hsps hab
  refine ⟨?_, ?_⟩
  · exact wf_quantizeNotes _ hq
      { s with spq := spq, sps := 0, timeSigs := [keptTimeSig s], tempos := [keptTempo dq s],
               totalQSteps := qstepR R c s.totalTime (spsR R spq (keptTempo dq s).qpm) } r
      (fun n hn => (hw.notes n hn).2.1) (quantizeRel_ok R c dq s r spq h)
  · have hf := quantizeRel_frame R c dq s r spq h
    simp only [] at hf
    obtain ⟨hn, hcc, htx, htp, hts, hks, hb, hsa, _, htot, _⟩ := hf
    refine hw.of_quantized (q := fun t => qstepR R c t (spsR R spq (keptTempo dq s).qpm)) hn hcc htx ?_ ?_
      hks hb hsa htot
    · intro e he; rw [htp] at he; simp at he; subst he
      unfold keptTempo; split <;> simp
    · intro e he; rw [hts] at he; simp at he; subst he
      unfold keptTimeSig; split <;> simp

theorem no_invention_quantize_absolute (R : Rat → Rat) (c : Rat) (s r : NoteSeq) (sps : Int)
    (h : quantizeAbsR R c s sps = .ok r) :
    NoInvention s.notes r.notes ∧ NoDuplication s.notes r.notes ∧ r.notes.length = s.notes.length := by
  have hf := (quantizeAbs_frame R c s r sps h)
  simp only [] at hf
  rw [hf.1]
  apply no_invention_map
  intro n
  exact SameNote.refl n

theorem no_invention_quantize_relative (R : Rat → Rat) (c dq : Rat) (s r : NoteSeq) (spq : Int)
    (h : quantizeRelR R c dq s spq = .ok r) :
    NoInvention s.notes r.notes ∧ NoDuplication s.notes r.notes ∧ r.notes.length = s.notes.length := by
  have hf := (quantizeRel_frame R c dq s r spq h)
  simp only [] at hf
  rw [hf.1]
  apply no_invention_map
  intro n
  exact SameNote.refl n

/-! non-vacuity: a well-formed sequence that quantizes, and the statement evaluated on it -/
def exQ : NoteSeq :=
  { notes := [{ pitch := 60, velocity := 100, start := 1/4, end_ := 1/4, qs := 0, qe := 0, instrument := 0
                program := 0, isDrum := false, numerator := 0, denominator := 0, voice := 7, part := 0, pitchName := 0 }]
    tempos := [⟨0, 120⟩], totalTime := 1 }

example : (quantizeAbsR id (1/2) exQ 4).toOption.map (fun r => r.notes.map (fun n => (n.qs, n.qe, n.voice))) =
    some [(1, 2, 7)] ∧ (quantizeRelR id (1/2) 120 exQ 4).toOption.map (fun r => (r.notes.map (fun n => (n.qs, n.qe)), r.totalQSteps)) =
    some ([(2, 3)], 8) := by decide +kernel

end NSV.C11

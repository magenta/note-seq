import NoteSeqVerif.Proofs.C20
import NoteSeqVerif.Proofs.C20_rne
/-! C20 — crop_samples, repeat_samples_to_duration, make_stereo over `List` models of any length (the
65 536-value int16 round trip is `Props/C20_pcm.lean`; the side condition `repeatEnough` of the repeat
theorems is proved for the float computation in `Props/C20_repeat.lean`). -/
namespace NSV.C20

/-! ## crop_samples

`R` is the rounding applied to the float product `seconds * sample_rate`; the code is `R = rne53`
(`crop`), the exact-arithmetic reading is `R = id`.  `SignPreserving R` is all the theorems need. -/

theorem signPreserving_rne53 : SignPreserving rne53 :=
  ⟨rne_zero 53, rne_pos 53 (by decide)⟩

theorem signPreserving_id : SignPreserving id := ⟨rfl, fun _ h => h⟩

/-- for non-negative offset/length the result is exactly the existing samples with
index in `[a, a+n)`, `a = int(begin·rate)`, `n = int(length·rate)` -/
theorem crop_spec {α} {R} (hR : SignPreserving R) (xs : List α) (rate : Int) (b len : Rat)
    (hr : 0 ≤ rate) (hb : 0 ≤ b) (hl : 0 ≤ len) :
    cropR R xs rate b len =
      (xs.drop (secToSamples R b rate).toNat).take (secToSamples R len rate).toNat := by
  unfold cropR
  exact pySlice_nonneg xs _ _ (secToSamples_nonneg hR b rate hb hr) (secToSamples_nonneg hR len rate hl hr)

/-- element-wise reading: output index `i` is input index `a + i` as long as `i < n` and it exists -/
theorem crop_getElem? {α} {R} (hR : SignPreserving R) (xs : List α) (rate : Int) (b len : Rat)
    (hr : 0 ≤ rate) (hb : 0 ≤ b) (hl : 0 ≤ len) (i : Nat) :
    (cropR R xs rate b len)[i]? =
      if i < (secToSamples R len rate).toNat then xs[(secToSamples R b rate).toNat + i]? else none := by
  rw [crop_spec hR xs rate b len hr hb hl, List.getElem?_take, List.getElem?_drop]

theorem crop_length {α} {R} (hR : SignPreserving R) (xs : List α) (rate : Int) (b len : Rat)
    (hr : 0 ≤ rate) (hb : 0 ≤ b) (hl : 0 ≤ len) :
    (cropR R xs rate b len).length =
      min (secToSamples R len rate).toNat (xs.length - (secToSamples R b rate).toNat) := by
  rw [crop_spec hR xs rate b len hr hb hl, List.length_take, List.length_drop]

/-- the code itself (`R = rne53`) -/
theorem crop_spec_float {α} (xs : List α) (rate : Int) (b len : Rat)
    (hr : 0 ≤ rate) (hb : 0 ≤ b) (hl : 0 ≤ len) (i : Nat) :
    (crop xs rate b len)[i]? =
      if i < (secToSamples rne53 len rate).toNat
      then xs[(secToSamples rne53 b rate).toNat + i]? else none :=
  crop_getElem? signPreserving_rne53 xs rate b len hr hb hl i

-- 0.35 s · 100 Hz: the float product is exactly 35 although 0.35 (as a double) is below 35/100;
-- crop beyond the end returns only what exists
example : crop [10, 11, 12, 13, 14] 2 1 (3 / 2) = [12, 13, 14] := by decide +kernel
example : crop [10, 11, 12, 13, 14] 2 2 5 = [14] ∧ crop [10, 11, 12] 2 5 5 = ([] : List Nat) := by
  decide +kernel
example : secToSamples rne53 (rne53 (35 / 100)) 100 = 35 ∧ secToSamples id (rne53 (35 / 100)) 100 = 34 := by
  decide +kernel

/-- errors, in the order the Python raises them -/
theorem repeat_errors {α} (R : Rat → Rat) (xs : List α) (rate : Int) (D : Rat) :
    (rate = 0 → repeatR R xs rate D = .error "ZeroDivisionError") ∧
    (rate ≠ 0 → R ((xs.length : Rat) / (rate : Rat)) = 0 →
      repeatR R xs rate D = .error "ZeroDivisionError") ∧
    (rate ≠ 0 → R ((xs.length : Rat) / (rate : Rat)) ≠ 0 → numRepeats R xs.length rate D ≤ 0 →
      repeatR R xs rate D = .error "ValueError") := by
  unfold repeatR
  refine ⟨fun h => by simp [h], fun h1 h2 => by simp [h1, h2], fun h1 h2 h3 => by simp [h1, h2, h3]⟩

/-- an empty input is a `ZeroDivisionError` (`duration / 0.0`), whatever the duration -/
theorem repeat_empty {α} {R} (hR : SignPreserving R) (rate : Int) (D : Rat) :
    repeatR R ([] : List α) rate D = .error "ZeroDivisionError" := by
  unfold repeatR
  by_cases h : rate = 0
  · simp [h]
  · have z : (0 : Rat) / (rate : Rat) = 0 := by simp [Rat.div_def, Rat.zero_mul]
    simp [h, z, hR.zero]

/-- whenever the call returns, the result is a prefix of the cyclic repetition of the input, of
length `min (int(D·rate)) (num_repeats · len)` — no side condition -/
theorem repeat_prefix {α} {R} (hR : SignPreserving R) (xs : List α) (rate : Int) (D : Rat)
    (hr : 0 ≤ rate) (hD : 0 ≤ D) (ys : List α) (h : repeatR R xs rate D = .ok ys) :
    ys.length = min (secToSamples R D rate).toNat ((numRepeats R xs.length rate D).toNat * xs.length) ∧
    ∀ i, i < ys.length → ys[i]? = xs[i % xs.length]? := by
  unfold repeatR at h
  split at h
  · cases h
  · split at h
    · cases h
    · simp only at h
      split at h
      · cases h
      · have h := (Except.ok.inj h).symm
        rw [crop_spec hR _ rate 0 D hr Rat.le_refl hD, secToSamples_zero hR] at h
        simp only [Int.toNat_zero, List.drop_zero] at h
        subst h
        have hlen : (List.take (secToSamples R D rate).toNat
            (List.replicate (numRepeats R xs.length rate D).toNat xs).flatten).length =
            min (secToSamples R D rate).toNat ((numRepeats R xs.length rate D).toNat * xs.length) := by
          rw [List.length_take, length_flatten_replicate]
        refine ⟨hlen, fun i hi => ?_⟩
        rw [hlen] at hi
        rw [List.getElem?_take, if_pos (by omega), getElem?_flatten_replicate _ _ _ (by omega)]

/-- non-empty input, positive rate and duration, and the explicit side condition
`int(D·rate) ≤ num_repeats · len` on the float ceiling: exactly `int(D·rate)` samples, sample `i`
is input sample `i mod len` -/
theorem repeat_spec {α} {R} (hR : SignPreserving R) (xs : List α) (rate : Int) (D : Rat)
    (hx : xs ≠ []) (hr : 0 < rate) (hD : 0 < D) (side : repeatEnough R xs.length rate D) :
    ∃ ys, repeatR R xs rate D = .ok ys ∧ ys.length = (secToSamples R D rate).toNat ∧
      ∀ i, i < (secToSamples R D rate).toNat → ys[i]? = xs[i % xs.length]? := by
  have hlen : 0 < xs.length := List.length_pos_iff.mpr hx
  have hsd : 0 < R ((xs.length : Rat) / (rate : Rat)) :=
    hR.pos _ (rat_div_pos _ _ (Rat.natCast_pos.mpr hlen) (Rat.intCast_pos.mpr hr))
  have hnr : 0 < numRepeats R xs.length rate D := by
    unfold numRepeats
    exact rat_ceil_pos _ (hR.pos _ (rat_div_pos _ _ hD hsd))
  have hok : repeatR R xs rate D =
      .ok (cropR R (List.replicate (numRepeats R xs.length rate D).toNat xs).flatten rate 0 D) := by
    unfold repeatR
    have h1 : rate ≠ 0 := by omega
    have h2 : R ((xs.length : Rat) / (rate : Rat)) ≠ 0 := by grind
    have h3 : ¬ numRepeats R xs.length rate D ≤ 0 := by omega
    simp [h1, h2, h3]
  refine ⟨_, hok, ?_⟩
  obtain ⟨p1, p2⟩ := repeat_prefix hR xs rate D (by omega) (Rat.le_of_lt hD) _ hok
  have hn := secToSamples_nonneg hR D rate (Rat.le_of_lt hD) (by omega)
  unfold repeatEnough at side
  have hmin : (secToSamples R D rate).toNat ≤ (numRepeats R xs.length rate D).toNat * xs.length := by
    have e : ((numRepeats R xs.length rate D).toNat : Int) = numRepeats R xs.length rate D := by omega
    have : ((secToSamples R D rate).toNat : Int) ≤
        (((numRepeats R xs.length rate D).toNat * xs.length : Nat) : Int) := by
      rw [Int.natCast_mul, e]; omega
    exact Int.ofNat_le.mp this
  rw [Nat.min_eq_left hmin] at p1
  exact ⟨p1, fun i hi => p2 i (by omega)⟩

/-- in exact arithmetic the side condition always holds:
`⌊D·rate⌋ ≤ ⌈D / (len/rate)⌉ · len` -/
theorem repeatEnough_exact (len : Nat) (rate : Int) (D : Rat) (hl : 0 < len) (hr : 0 < rate)
    (hD : 0 < D) : repeatEnough id len rate D := by
  unfold repeatEnough secToSamples numRepeats truncR
  simp only [id]
  have hl' : (0 : Rat) < (len : Rat) := Rat.natCast_pos.mpr hl
  have hr' : (0 : Rat) < (rate : Rat) := Rat.intCast_pos.mpr hr
  have hp : 0 ≤ D * (rate : Rat) := Rat.le_of_lt (Rat.mul_pos hD hr')
  simp only [hp, if_true]
  have e : D / ((len : Rat) / (rate : Rat)) * (len : Rat) = D * (rate : Rat) := by grind
  have a := Rat.floor_le (D * (rate : Rat))
  have b := @Rat.le_ceil (D / ((len : Rat) / (rate : Rat)))
  have c : D / ((len : Rat) / (rate : Rat)) * (len : Rat) ≤
      ((D / ((len : Rat) / (rate : Rat))).ceil : Rat) * (len : Rat) :=
    Rat.mul_le_mul_of_nonneg_right b (Rat.le_of_lt hl')
  apply Rat.intCast_le_intCast.mp
  rw [Rat.intCast_mul, Rat.intCast_natCast]
  grind

/-- exact-arithmetic reading of the property: no side condition at all -/
theorem repeat_spec_exact {α} (xs : List α) (rate : Int) (D : Rat)
    (hx : xs ≠ []) (hr : 0 < rate) (hD : 0 < D) :
    ∃ ys, repeatR id xs rate D = .ok ys ∧ ys.length = (D * (rate : Rat)).floor.toNat ∧
      ∀ i, i < (D * (rate : Rat)).floor.toNat → ys[i]? = xs[i % xs.length]? := by
  have h := repeat_spec signPreserving_id xs rate D hx hr hD
    (repeatEnough_exact xs.length rate D (List.length_pos_iff.mpr hx) hr hD)
  have e : secToSamples id D rate = (D * (rate : Rat)).floor := by
    unfold secToSamples truncR
    have : 0 ≤ D * (rate : Rat) :=
      Rat.le_of_lt (Rat.mul_pos hD (Rat.intCast_pos.mpr hr))
    simp [this]
  rw [e] at h
  exact h

/-- the code itself (`R = rne53`), side condition explicit (it is decidable, and evaluated by the
driver on every correspondence input) -/
theorem repeat_spec_float {α} (xs : List α) (rate : Int) (D : Rat)
    (hx : xs ≠ []) (hr : 0 < rate) (hD : 0 < D) (side : repeatEnough rne53 xs.length rate D) :
    ∃ ys, repeatSamples xs rate D = .ok ys ∧ ys.length = (secToSamples rne53 D rate).toNat ∧
      ∀ i, i < (secToSamples rne53 D rate).toNat → ys[i]? = xs[i % xs.length]? :=
  repeat_spec signPreserving_rne53 xs rate D hx hr hD side

/-- non-positive durations are rejected (`np.concatenate` of nothing), in exact arithmetic -/
theorem repeat_nonpos_exact {α} (xs : List α) (rate : Int) (D : Rat)
    (hx : xs ≠ []) (hr : 0 < rate) (hD : D ≤ 0) : repeatR id xs rate D = .error "ValueError" := by
  have hl' : (0 : Rat) < (xs.length : Rat) := Rat.natCast_pos.mpr (List.length_pos_iff.mpr hx)
  have hr' : (0 : Rat) < (rate : Rat) := Rat.intCast_pos.mpr hr
  have hsd := rat_div_pos _ _ hl' hr'
  refine (repeat_errors id xs rate D).2.2 (by omega) (by simp only [id]; grind) ?_
  unfold numRepeats
  simp only [id]
  apply Rat.ceil_le_iff.mpr
  have : D / ((xs.length : Rat) / (rate : Rat)) = D * ((xs.length : Rat) / (rate : Rat))⁻¹ := Rat.div_def _ _
  have hinv : 0 < ((xs.length : Rat) / (rate : Rat))⁻¹ := Rat.inv_pos.mpr hsd
  have := Rat.mul_le_mul_of_nonneg_right hD (Rat.le_of_lt hinv)
  grind

example : repeatSamples [1, 2, 3] 2 4 = .ok [1, 2, 3, 1, 2, 3, 1, 2] := by decide +kernel
example : repeatEnough rne53 3 2 4 := by decide +kernel
example : repeatSamples ([] : List Nat) 2 4 = .error "ZeroDivisionError" ∧
    repeatSamples [1, 2, 3] 2 0 = .error "ValueError" := by decide +kernel

/-! ### multi-channel input (shape `[n, channels]`, what `make_stereo` returns)

`crop_samples` slices and `repeat_samples_to_duration` concatenates / takes `len` along axis 0, so on
a 2-D array they act on FRAMES.  Every theorem above is stated for `List α` with `α` arbitrary:
`α := frame` (a pair for stereo) is the multi-channel statement, no new model is needed.
`repeat_spec_frames` spells that instance out; `crop_map` / `repeat_map` say that the functions
commute with any per-frame map, in particular with the projection to one channel: each channel of
the repeated stereo signal is the repetition of that channel (errors included). -/

theorem crop_map {α β} (f : α → β) (R : Rat → Rat) (xs : List α) (rate : Int) (b len : Rat) :
    cropR R (xs.map f) rate b len = (cropR R xs rate b len).map f := by
  unfold cropR
  exact pySlice_map f xs _ _

theorem repeat_map {α β} (f : α → β) (R : Rat → Rat) (xs : List α) (rate : Int) (D : Rat) :
    repeatR R (xs.map f) rate D = (repeatR R xs rate D).map (List.map f) := by
  unfold repeatR
  simp only [List.length_map]
  split
  · rfl
  · split
    · rfl
    · split
      · rfl
      · simp only [Except.map, ← List.map_replicate, ← List.map_flatten, crop_map]

/-- **repeat_spec for stereo frames**: a non-empty list of (left, right) frames, positive rate and
duration, side condition on the float ceiling: exactly `int(D·rate)` frames, frame `i` is input
frame `i mod len`, and each channel of the result is the mono repetition of that channel -/
theorem repeat_spec_frames {α} {R} (hR : SignPreserving R) (xs : List (α × α)) (rate : Int) (D : Rat)
    (hx : xs ≠ []) (hr : 0 < rate) (hD : 0 < D) (side : repeatEnough R xs.length rate D) :
    ∃ ys, repeatR R xs rate D = .ok ys ∧ ys.length = (secToSamples R D rate).toNat ∧
      (∀ i, i < (secToSamples R D rate).toNat → ys[i]? = xs[i % xs.length]?) ∧
      repeatR R (xs.map Prod.fst) rate D = .ok (ys.map Prod.fst) ∧
      repeatR R (xs.map Prod.snd) rate D = .ok (ys.map Prod.snd) := by
  obtain ⟨ys, h, hl, hi⟩ := repeat_spec hR xs rate D hx hr hD side
  refine ⟨ys, h, hl, hi, ?_, ?_⟩
  · rw [repeat_map, h]; rfl
  · rw [repeat_map, h]; rfl

example : repeatSamples [((1 : Int), (-1 : Int)), (2, -2), (3, -3)] 2 (5 / 2) =
    .ok [(1, -1), (2, -2), (3, -3), (1, -1), (2, -2)] := by decide +kernel
example : crop [((1 : Int), (-1 : Int)), (2, -2), (3, -3)] 2 (1 / 2) 1 = [(2, -2), (3, -3)] := by
  decide +kernel
example : repeatEnough rne53 3 2 (5 / 2) := by decide +kernel

theorem stereo_dtype_error {α} (z : α) (dl dr : Dtype) (l r : List α) (h : dl ≠ dr) :
    makeStereo z dl dr l r = .error "AudioIODataTypeError" := by
  simp [makeStereo, h]

/-- same dtype ⇒ `max |l| |r|` frames, frame `i` is `(l[i], r[i])` with the
shorter channel padded by zeros (`getD` here *is* the specification of zero padding) -/
theorem stereo_spec {α} (z : α) (dt : Dtype) (l r : List α) :
    makeStereo z dt dt l r =
      .ok ((List.range (max l.length r.length)).map (fun i => (l[i]?.getD z, r[i]?.getD z))) := by
  have hl : ((List.range (max l.length r.length)).map fun i => l[i]?.getD z).length =
      max l.length r.length := by rw [List.length_map, List.length_range]
  simp only [makeStereo, ne_eq, not_true_eq_false, if_false, stereo_rows,
    pad_eq_map z l _ (Nat.le_max_left ..), pad_eq_map z r _ (Nat.le_max_right ..)]
  rw [List.take_left' hl, List.drop_left' hl, List.zip_map']

/-- consequences: length, and both channels are kept in order in front of their padding -/
theorem stereo_channels {α} (z : α) (dt : Dtype) (l r : List α) :
    ∃ out, makeStereo z dt dt l r = .ok out ∧ out.length = max l.length r.length ∧
      out.map Prod.fst = l ++ List.replicate (max l.length r.length - l.length) z ∧
      out.map Prod.snd = r ++ List.replicate (max l.length r.length - r.length) z := by
  refine ⟨_, stereo_spec z dt l r, by rw [List.length_map, List.length_range], ?_, ?_⟩
  · rw [pad_eq_map z l _ (Nat.le_max_left ..), List.map_map]; rfl
  · rw [pad_eq_map z r _ (Nat.le_max_right ..), List.map_map]; rfl

example : makeStereo 0 .float32 .float32 [1, 2, 3] [7] = .ok [(1, 7), (2, 0), (3, 0)] := by decide
example : makeStereo 0 .int16 .int16 ([] : List Int) [7, 8] = .ok [(0, 7), (0, 8)] := by decide
example : makeStereo 0 .int16 .float32 [1] [2] = .error "AudioIODataTypeError" := by decide

end NSV.C20

import NoteSeqVerif.Proofs.C13
/-! # C13 — operation *sequences*: shift after shift, stretch after stretch, stretch after shift

Composition laws in exact arithmetic (`R = id`).  The float program rounds after every operation, so for doubles the
laws hold exactly on inputs for which every product and sum is representable — dyadic times and factors, which is the
stream `compose` of the correspondence check — and up to the roundings of the two-step computation otherwise.

`stretch_keeps_status` / `shift_keeps_status`: neither operation changes the quantization status, so a result can
always be fed to the next operation. -/
namespace NSV.C13

theorem mapNotes_mapNotes (g h : Rat → Rat) (l : List Note) :
    mapNotes h (mapNotes g l) = mapNotes (h ∘ g) l := by
  simp [mapNotes, List.map_map, Function.comp_def]

theorem mapNotes_id (g : Rat → Rat) (hg : ∀ t, g t = t) (l : List Note) : mapNotes g l = l := by
  induction l with
  | nil => rfl
  | cons n l ih =>
    simp only [mapNotes, List.map_cons] at ih ⊢
    rw [ih]; simp [hg]

theorem map_time_id {α} (upd : α → Rat → α) (tm : α → Rat) (g : Rat → Rat) (hg : ∀ t, g t = t)
    (hu : ∀ e, upd e (tm e) = e) (l : List α) : l.map (fun e => upd e (g (tm e))) = l := by
  induction l with
  | nil => rfl
  | cons e l ih => simp [hg, hu]

theorem shift_keeps_status (R : Rat → Rat) (d : Rat) (s r : NoteSeq) (h : shiftR R d s = .ok r) :
    r.isQuantized = s.isQuantized := by
  rw [shiftR_eq] at h
  split at h; · cases h
  split at h; · cases h
  cases h; rfl

theorem stretch_keeps_status (R : Rat → Rat) (f : Rat) (s r : NoteSeq) (h : stretchR R f s = .ok r) :
    r.isQuantized = s.isQuantized := by
  rw [stretchR_eq] at h
  split at h; · cases h
  split at h; · cases h; rfl
  split at h; · cases h
  cases h; rfl

theorem shiftSeq_shiftSeq (a b : Rat) (s : NoteSeq) : shiftSeq id b (shiftSeq id a s) = shiftSeq id (a + b) s := by
  simp [shiftSeq, List.map_map, Function.comp_def, Rat.add_assoc]

/-- **shift after shift**: for every unquantized sequence and all offsets `a, b > 0`, shifting the result of a shift
is one shift by the sum — notes, all seven event containers and `total_time` alike, `subsequence_info` cleared. -/
theorem shift_shift (a b : Rat) (s : NoteSeq) (ha : 0 < a) (hb : 0 < b) (hq : s.isQuantized = false) :
    (shiftR id a s).bind (shiftR id b) = shiftR id (a + b) s := by
  have hab : 0 < a + b := by grind
  rw [shiftR_ok id a s ha hq, shiftR_ok id (a + b) s hab hq]
  show shiftR id b (shiftSeq id a s) = _
  rw [shiftR_ok id b (shiftSeq id a s) hb hq, shiftSeq_shiftSeq]

/-- the value `stretchR id f` returns on an unquantized sequence for `f ≠ 0` (for `f = 1` it is `s`
up to `t * 1 = t`; see `stretchVal_one`) -/
def stretchVal (f : Rat) (s : NoteSeq) : NoteSeq := movedSeq (· * f) (· / f) s

theorem stretchVal_one (s : NoteSeq) : stretchVal 1 s = s := by
  have div_one : ∀ q : Rat, q / 1 = q := fun q => by grind
  cases s
  simp only [stretchVal, movedSeq, NoteSeq.mk.injEq, Rat.mul_one, div_one, and_true]
  refine ⟨mapNotes_id _ (by simp) _, ?_, ?_, ?_, ?_, ?_, ?_, ?_⟩ <;> simp

theorem stretchVal_stretchVal (f g : Rat) (s : NoteSeq) :
    stretchVal g (stretchVal f s) = stretchVal (f * g) s := by
  have div_div : ∀ q : Rat, q / f / g = q / (f * g) := fun q => by grind
  simp [stretchVal, movedSeq, mapNotes, List.map_map, Function.comp_def, Rat.mul_assoc, div_div]

/-- `stretchR id f` on an unquantized sequence, `f ≠ 0`, in one formula (the `f = 1` early return included) -/
theorem stretchR_id_val (f : Rat) (s : NoteSeq) (h0 : f ≠ 0) (hq : s.isQuantized = false) :
    stretchR id f s = .ok (stretchVal f s) := by
  by_cases h1 : f = 1
  · subst h1; rw [stretchVal_one]; simp [stretchR_eq, hq]
  · exact stretchR_ok id f s hq h1 (Or.inl h0)

/-- **stretch after stretch**: for all non-zero factors, stretching the result of a stretch is one stretch by the
product — in particular `g = 1 / f` gives back the input itself, although the code takes its `== 1.0` early return in
the one-step computation and walks every container in the two-step computation. -/
theorem stretch_stretch (f g : Rat) (s : NoteSeq) (hf : f ≠ 0) (hg : g ≠ 0) (hq : s.isQuantized = false) :
    (stretchR id f s).bind (stretchR id g) = stretchR id (f * g) s := by
  rw [stretchR_id_val f s hf hq, stretchR_id_val (f * g) s (fun h => (Rat.mul_eq_zero.mp h).elim hf hg) hq]
  show stretchR id g (stretchVal f s) = _
  rw [stretchR_id_val g (stretchVal f s) hg hq, stretchVal_stretchVal]

/-- stretching by `f` and then by `1 / f` is the identity on unquantized sequences (corollary) -/
theorem stretch_inverse (f : Rat) (s : NoteSeq) (hf : f ≠ 0) (hq : s.isQuantized = false) :
    (stretchR id f s).bind (stretchR id (1 / f)) = .ok s := by
  rw [stretch_stretch f (1 / f) s hf (by grind) hq, show f * (1 / f) = 1 by grind]
  simp [stretchR_eq, hq]

theorem stretchVal_shiftSeq (d f : Rat) (s : NoteSeq) :
    stretchVal f (shiftSeq id d s) = shiftSeq id (d * f) (stretchVal f s) := by
  simp [stretchVal, movedSeq, shiftSeq, mapNotes, List.map_map, Function.comp_def, Rat.add_mul]

/-- **stretch after shift**: for `d > 0`, `f > 0`, stretching a shifted sequence is shifting the stretched sequence by
the stretched offset `d * f` (both clear `subsequence_info`, because the shift does). -/
theorem stretch_shift (d f : Rat) (s : NoteSeq) (hd : 0 < d) (hf : 0 < f) (hq : s.isQuantized = false) :
    (shiftR id d s).bind (stretchR id f) = (stretchR id f s).bind (shiftR id (d * f)) := by
  have hf0 : f ≠ 0 := Rat.ne_of_gt hf
  rw [shiftR_ok id d s hd hq, stretchR_id_val f s hf0 hq]
  show stretchR id f (shiftSeq id d s) = shiftR id (d * f) (stretchVal f s)
  rw [stretchR_id_val f (shiftSeq id d s) hf0 hq, shiftR_ok id (d * f) (stretchVal f s) (Rat.mul_pos hd hf) hq,
    stretchVal_shiftSeq]

/-! ### non-vacuity: a concrete sequence through two steps -/
def cNote : Note :=
  { pitch := 60, velocity := 100, start := 1, end_ := 2, qs := 0, qe := 0, instrument := 0
    program := 0, isDrum := false, numerator := 0, denominator := 0, voice := 7, part := 0, pitchName := 0 }
def cSeq : NoteSeq :=
  { notes := [cNote], tempos := [⟨0, 120⟩, ⟨2, 60⟩], timeSigs := [⟨0, 4, 4⟩], sectionAnns := [⟨1, 0⟩]
    totalTime := 2, hasSub := true, subStart := 1 }

example : cSeq.isQuantized = false ∧
    ((stretchR id 3 cSeq).bind (stretchR id (1 / 2))).toOption.map (fun r => (r.tempos, r.totalTime, r.hasSub)) =
      some ([⟨0, 80⟩, ⟨3, 40⟩], 3, true) ∧
    (stretchR id 3 cSeq).bind (stretchR id (1 / 3)) = .ok cSeq ∧
    ((shiftR id (1 / 2) cSeq).bind (stretchR id 2)).toOption.map (fun r => (r.notes.map (·.start), r.totalTime, r.hasSub)) =
      some ([3], 5, false) :=
  ⟨by decide +kernel, by decide +kernel, stretch_inverse 3 cSeq (by decide +kernel) (by decide +kernel),
    by decide +kernel⟩

end NSV.C13

import NoteSeqVerif.Props.C10
/-! C10 — event-sequence transposition, event by event: `ChordProgression.transpose k` maps EVERY
event through `transpose_chord_symbol` independently of its neighbours (a `List.map` / `List.mapM`
characterisation of the in-place loop), `LeadSheet.transpose` / `squash` move melody and chords by
the same amount, and `k` then `−k` returns every event to its root, bass, pitch classes and quality
whatever the figures around it are (held chords, ladders whose consecutive figures are `k` apart,
`N.C.` entries).

`sp` is the (unverified, monitored) regex splitter of chord figures, as in `Props/C10.lean`: every
theorem holds for every splitter. -/
namespace NSV.C10
open Gen

/-- one event whose figure the splitter reads as `c f` -/
theorem cpEvent_figure (sp : String → Except Err Sym) (c : String → Sym) (k : Int) (f : String)
    (h : f ≠ NO_CHORD → sp f = .ok (c f)) : cpEvent sp k f = .ok (cpFigure c k f) := by
  unfold cpEvent cpFigure transposeFigure
  by_cases hf : f ≠ NO_CHORD
  · rw [if_pos hf, if_pos hf, h hf]
  · rw [if_neg hf, if_neg hf]

/-- **`ChordProgression.transpose k` is `mapM` of the one-event body**: it returns normally with the
events `out` exactly when mapping every event — on its own — through
`if figure != NO_CHORD: transpose_chord_symbol(figure, k)` succeeds with `out`, and it raises `e`
exactly when that map meets its first error `e`.  Nothing in the result at position `i` depends on
any event other than `figs[i]`. -/
theorem chord_progression_transpose_mapM (sp : String → Except Err Sym) (k : Int) (figs : List String) :
    (∀ out, cpTranspose sp k figs = (out, none) ↔ figs.mapM (cpEvent sp k) = .ok out) ∧
    (∀ e, (cpTranspose sp k figs).2 = some e ↔ figs.mapM (cpEvent sp k) = .error e) := by
  have h := chord_progression_transpose_spec sp k figs
  cases hr : figs.mapM (cpEvent sp k) with
  | ok out0 =>
    rw [hr] at h
    rw [h]
    exact ⟨fun out => by simp, fun e => by simp⟩
  | error e0 =>
    rw [hr] at h
    obtain ⟨_, _, _, _, _, _, _, h4⟩ := h
    rw [h4]
    exact ⟨fun out => by simp, fun e => by simp⟩

/-- a normal return: every event went through the one-event body -/
theorem cpTranspose_ok {sp : String → Except Err Sym} {k : Int} {figs : List String}
    (h : (cpTranspose sp k figs).2 = none) :
    figs.map (cpEvent sp k) = (cpTranspose sp k figs).1.map .ok := by
  have hs := chord_progression_transpose_spec sp k figs
  cases hm : figs.mapM (cpEvent sp k) with
  | ok out => rw [hm] at hs; rw [hs]; exact mapM_eq_ok.mp hm
  | error e =>
    rw [hm] at hs
    obtain ⟨_, _, _, _, _, _, _, h4⟩ := hs
    rw [h4] at h; cases h

/-- **the `List.map` form**: when every figure other than `N.C.` can be split (`c f` is what the
splitter reads in `f`), the progression afterwards is the input mapped through
`f ↦ render (transpose (c f) k)` (`N.C.` ↦ `N.C.`), and nothing is raised -/
theorem chord_progression_transpose_map (sp : String → Except Err Sym) (c : String → Sym) (k : Int)
    (figs : List String) (hs : ∀ f ∈ figs, f ≠ NO_CHORD → sp f = .ok (c f)) :
    cpTranspose sp k figs = (figs.map (cpFigure c k), none) := by
  apply ((chord_progression_transpose_mapM sp k figs).1 _).mpr
  exact mapM_eq_ok.mpr (map_ok_of_forall fun f hf => cpEvent_figure sp c k f (hs f hf))

/-- conversely, a normal return means every figure other than `N.C.` was split: the `List.map` form
applies to exactly the calls that do not raise -/
theorem chord_progression_transpose_ok (sp : String → Except Err Sym) (k : Int) (figs : List String)
    (h : (cpTranspose sp k figs).2 = none) : ∀ f ∈ figs, f ≠ NO_CHORD → ∃ c, sp f = .ok c := by
  intro f hf hne
  obtain ⟨g, _, hg⟩ := map_ok_mem' (cpTranspose_ok h) hf
  unfold cpEvent transposeFigure at hg
  rw [if_pos hne] at hg
  cases hs : sp f with
  | ok c => exact ⟨c, rfl⟩
  | error e => rw [hs] at hg; cases hg

/-- **independence of the neighbours, position by position**: after a normal return the event at
position `i` is the one-event body applied to the event that was at position `i` — the same value
the one-element progression `[figs[i]]` gets -/
theorem chord_progression_transpose_event (sp : String → Except Err Sym) (k : Int) (figs : List String)
    (h : (cpTranspose sp k figs).2 = none) :
    (cpTranspose sp k figs).1.length = figs.length ∧
    ∀ (i : Nat) (h1 : i < figs.length) (h2 : i < (cpTranspose sp k figs).1.length),
      cpEvent sp k figs[i] = .ok (cpTranspose sp k figs).1[i] ∧
      cpTranspose sp k [figs[i]] = ([(cpTranspose sp k figs).1[i]], none) := by
  have hp := cpTranspose_ok h
  refine ⟨map_ok_length hp, ?_⟩
  intro i h1 h2
  have hev := map_ok_get hp i h1 h2
  refine ⟨hev, ?_⟩
  apply ((chord_progression_transpose_mapM sp k [figs[i]]).1 _).mpr
  rw [List.mapM_cons, hev]
  rfl

/-- **compositional form**: transposing a concatenation is transposing the parts (when the first
part does not raise) — what precedes an event has no influence on what happens to it -/
theorem chord_progression_transpose_append (sp : String → Except Err Sym) (k : Int) (a b : List String)
    (h : (cpTranspose sp k a).2 = none) :
    cpTranspose sp k (a ++ b) = ((cpTranspose sp k a).1 ++ (cpTranspose sp k b).1, (cpTranspose sp k b).2) := by
  unfold cpTranspose at *
  generalize Int.fmod k NOTES_PER_OCTAVE = k' at *
  induction a with
  | nil => rfl
  | cons f fs ih =>
    rw [List.cons_append, cpLoop_cons sp k' f (fs ++ b)]
    rw [cpLoop_cons sp k' f fs] at h ⊢
    revert h
    cases cpEvent sp k' f with
    | error e => intro h; cases h
    | ok g => intro h; simp only [ih h, List.cons_append]

/-- non-vacuity, on exactly the shape a memo over the previous *transposed* figure gets wrong: a
progression whose consecutive figures are `k` apart (`C`, `D`, `E` by `+2`; a cycle of fifths by `+7`),
with a held chord and an `N.C.` in between -/
example :
    let sp : String → Except Err Sym := fun t =>
      if t = "C" then .ok ⟨⟨.C, 0⟩, "", "", [], none⟩ else if t = "D" then .ok ⟨⟨.D, 0⟩, "", "", [], none⟩
      else if t = "E" then .ok ⟨⟨.E, 0⟩, "", "", [], none⟩ else if t = "G" then .ok ⟨⟨.G, 0⟩, "", "", [], none⟩
      else .error chordSymbolError
    cpTranspose sp 2 ["C", "D", "D", "N.C.", "E", "C"] = (["D", "E", "E", "N.C.", "Gb", "D"], none) ∧
    cpTranspose sp 7 ["C", "G", "D"] = (["G", "D", "A"], none) ∧
    ["C", "D", "D", "N.C.", "E", "C"].mapM (cpEvent sp 2) = .ok ["D", "E", "E", "N.C.", "Gb", "D"] ∧
    cpTranspose sp 2 ["D", "H", "D"] = (["E", "H", "D"], some chordSymbolError) ∧
    ["D", "H", "D"].mapM (cpEvent sp 2) = .error chordSymbolError := by
  decide +kernel

/-- what the statement says about the chord `c` after a transposition by `k` that produced `c'` -/
def ChordMoved (k : Int) (c c' : Sym) : Prop :=
  symRoot c' = Int.fmod (symRoot c + k) 12 ∧ symBass c' = Int.fmod (symBass c + k) 12 ∧
  symPitches c' = (symPitches c).map (List.map (fun p => Int.fmod (p + k) 12)) ∧
  symQuality c' = symQuality c

theorem chordMoved_transposeSym (k : Int) (c : Sym) : ChordMoved k c (transposeSym c k) := by
  obtain ⟨h1, h2, h3, _, _, _, h7⟩ := transpose_symbol_hom c k
  exact ⟨h1, h2, h3, h7⟩

/-- **`LeadSheet.transpose k`**: for every lead sheet whose figures can be split and every range of at
least an octave, nothing is raised, the melody is `Melody.transpose` event by event, the chords are
`transpose_chord_symbol` event by event, and BOTH moved by the same `k`: every pitch ends in
`[min, max)` congruent to `e + k`, special events and `N.C.` are untouched, and every chord's root,
bass and pitch classes moved by `k` modulo 12 with its quality unchanged -/
theorem lead_sheet_transpose_together (sp : String → Except Err Sym) (c : String → Sym) (k mn mx : Int)
    (es : List Int) (figs : List String) (hr : NOTES_PER_OCTAVE ≤ mx - mn)
    (hs : ∀ f ∈ figs, f ≠ NO_CHORD → sp f = .ok (c f)) :
    lsTranspose sp k mn mx es figs = (es.map (melEvent k mn mx), figs.map (cpFigure c k), none) ∧
    (∀ e ∈ es, (e < MIN_MIDI_PITCH → melEvent k mn mx e = e) ∧
      (MIN_MIDI_PITCH ≤ e → mn ≤ melEvent k mn mx e ∧ melEvent k mn mx e < mx ∧
        (melEvent k mn mx e - (e + k)) % NOTES_PER_OCTAVE = 0)) ∧
    (∀ f ∈ figs, (f = NO_CHORD → cpFigure c k f = f) ∧
      (f ≠ NO_CHORD → cpFigure c k f = render (transposeSym (c f) k) ∧ ChordMoved k (c f) (transposeSym (c f) k))) := by
  refine ⟨?_, ?_, ?_⟩
  · unfold lsTranspose melTranspose
    rw [chord_progression_transpose_map sp c k figs hs]
  · intro e _
    exact ⟨melody_transpose_special k mn mx e, melody_transpose_fold k mn mx e hr⟩
  · intro f _
    exact ⟨fun h => by unfold cpFigure; rw [if_neg (by simp [h])],
      fun h => ⟨by unfold cpFigure; rw [if_pos h], chordMoved_transposeSym k (c f)⟩⟩

/-- **`LeadSheet.squash`**: the amount `a` that `Melody.squash` computed and returned is the amount the
chords are transposed by — melody (into `[min, max)`, congruent to `e + a`) and every chord (root,
bass, pitch classes by `a` modulo 12) move together, and `a ≡ transpose_to_key − major_key` -/
theorem lead_sheet_squash_together (R : Rat → Rat) (sp : String → Except Err Sym) (c : String → Sym)
    (mn mx toKey : Int) (es : List Int) (figs : List String) (hr : NOTES_PER_OCTAVE ≤ mx - mn)
    (hev : ∀ e ∈ es, e ≤ MAX_MIDI_PITCH) (hs : ∀ f ∈ figs, f ≠ NO_CHORD → sp f = .ok (c f)) :
    let r := lsSquashR R sp mn mx toKey es figs
    let a := r.2.1
    r.2.2 = (figs.map (cpFigure c a), none) ∧
    ((a - (toKey - majorKey es)) % NOTES_PER_OCTAVE = 0 ∨ (a = 0 ∧ ∀ e ∈ es, e < MIN_MIDI_PITCH)) ∧
    r.1.length = es.length ∧
    (∀ (i : Nat) (h : i < es.length) (h' : i < r.1.length),
      (es[i] < MIN_MIDI_PITCH → r.1[i] = es[i]) ∧
      (MIN_MIDI_PITCH ≤ es[i] → mn ≤ r.1[i] ∧ r.1[i] < mx ∧ (r.1[i] - (es[i] + a)) % NOTES_PER_OCTAVE = 0)) ∧
    (∀ f ∈ figs, f ≠ NO_CHORD → ChordMoved a (c f) (transposeSym (c f) a)) := by
  intro r a
  have hsq := squash_spec R es mn mx (some toKey) hr hev
  simp only [] at hsq
  obtain ⟨h1, h2, h3⟩ := hsq
  refine ⟨?_, h1, h2, h3, fun f _ _ => chordMoved_transposeSym a (c f)⟩
  simp only [r, a, lsSquashR]
  rw [chord_progression_transpose_map sp c _ figs hs]

/-- non-vacuity of `lead_sheet_squash_together`: a C-major fragment over C, D (a tone above: the figure the
preceding chord becomes), N.C., squashed into `[48, 84)` in D (key 2): the amount is 2 for melody and chords -/
example :
    let sp : String → Except Err Sym := fun t =>
      if t = "C" then .ok ⟨⟨.C, 0⟩, "", "", [], none⟩ else if t = "D" then .ok ⟨⟨.D, 0⟩, "", "", [], none⟩
      else .error chordSymbolError
    NOTES_PER_OCTAVE ≤ (84 : Int) - 48 ∧ (∀ e ∈ [-2, 60, 62, 64, -1], e ≤ MAX_MIDI_PITCH) ∧
    lsSquashR rne53 sp 48 84 2 [-2, 60, 62, 64, -1] ["C", "D", "D", "N.C.", "C"] =
      ([-2, 62, 64, 66, -1], 2, ["D", "E", "E", "N.C.", "D"], none) := by
  decide +kernel

/-- a re-assembled figure starts with a letter `A`..`G`, so it is never the `N.C.` marker -/
theorem render_ne_no_chord (c : Sym) : render c ≠ NO_CHORD := by
  intro h
  have h' := congrArg String.toList h
  unfold render pcToString pcChars NO_CHORD at h'
  simp only [String.toList_append, String.toList_ofList, List.cons_append] at h'
  have hd := congrArg List.head? h'
  simp only [List.head?_cons] at hd
  cases hc : c.root.step <;> rw [hc] at hd <;> simp [Step.letter] at hd <;> revert hd <;> decide

/-- **`k` then `−k` on a progression**: if the splitter reads every
figure, and re-reads every transposed figure as the transposed structure (the monitored string-layer
fact), then the second call raises nothing, keeps `N.C.` and the length, and returns every chord to
a figure with the same root, bass, pitch classes and quality — independently of which figures stand
next to each other (in particular when consecutive figures are `k` apart) -/
theorem chord_progression_round_trip (sp : String → Except Err Sym) (c : String → Sym) (k : Int)
    (figs : List String) (hs : ∀ f ∈ figs, f ≠ NO_CHORD → sp f = .ok (c f))
    (hre : ∀ f ∈ figs, f ≠ NO_CHORD → sp (render (transposeSym (c f) k)) = .ok (transposeSym (c f) k)) :
    let back := cpTranspose sp (-k) (cpTranspose sp k figs).1
    back.2 = none ∧
    Pointwise (fun f g => if f ≠ NO_CHORD then
        ∃ c', g = render c' ∧ symRoot c' = symRoot (c f) ∧ symBass c' = symBass (c f) ∧
          symPitches c' = symPitches (c f) ∧ symQuality c' = symQuality (c f)
      else g = f) figs back.1 := by
  intro back
  -- what the second call makes of the event that was `f`: the one-event body on the transposed figure
  let bk : String → String := fun f =>
    if f ≠ NO_CHORD then render (transposeSym (transposeSym (c f) k) (-k)) else f
  have hev : ∀ f ∈ figs, cpEvent sp (-k) (cpFigure c k f) = .ok (bk f) := by
    intro f hf
    by_cases hfn : f ≠ NO_CHORD
    · simp only [cpFigure, bk, if_pos hfn, cpEvent, if_pos (render_ne_no_chord _), transposeFigure, hre f hf hfn]
    · simp only [cpFigure, bk, if_neg hfn, cpEvent]
  have hb : back = (figs.map bk, none) := by
    simp only [back, chord_progression_transpose_map sp c k figs hs]
    apply ((chord_progression_transpose_mapM sp (-k) _).1 _).mpr
    rw [mapM_eq_ok, List.map_map, List.map_map]
    exact List.map_congr_left hev
  rw [hb]
  refine ⟨rfl, Pointwise.map _ _ _ fun f _ => ?_⟩
  by_cases hfn : f ≠ NO_CHORD
  · rw [if_pos hfn]
    exact ⟨_, by simp only [bk, if_pos hfn], transpose_symbol_inverse (c f) k⟩
  · rw [if_neg hfn]; simp only [bk, if_neg hfn]

example :
    let sp : String → Except Err Sym := fun t =>
      if t = "C" then .ok ⟨⟨.C, 0⟩, "", "", [], none⟩ else if t = "D" then .ok ⟨⟨.D, 0⟩, "", "", [], none⟩
      else if t = "E" then .ok ⟨⟨.E, 0⟩, "", "", [], none⟩ else .error chordSymbolError
    cpTranspose sp (-2) (cpTranspose sp 2 ["C", "D", "N.C.", "C"]).1 = (["C", "D", "N.C.", "C"], none) ∧
    lsTranspose sp 2 48 84 [60, -2, 83, -1] ["C", "D", "N.C.", "C"] =
      ([62, -2, 73, -1], ["D", "E", "N.C.", "D"], none) := by
  decide +kernel

end NSV.C10

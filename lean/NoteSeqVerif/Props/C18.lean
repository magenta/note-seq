import NoteSeqVerif.Proofs.C18Frames
import NoteSeqVerif.Proofs.C18EncC
import NoteSeqVerif.Proofs.C18Dec
/-! C18 — property theorems (DESIGN 6.18).

`R` = rounding after every float64 operation (`rne53` in the driver), `R32` = float32 store,
`Rv` = arithmetic of the velocity array's dtype.  Theorems quantified over `R` hold for every
function, those with `Rounding R` for every operator with the three IEEE properties, those with
`id` are the exact-arithmetic reading. -/
namespace NSV.C18

/-- an `if` depends on its condition only up to equivalence, whichever way each side is decided -/
theorem ite_congr_iff {α} {p q : Prop} {ip : Decidable p} {iq : Decidable q} (h : p ↔ q) (a b : α) :
    @ite α p ip a b = @ite α q iq a b := by
  by_cases hp : p
  · rw [if_pos hp, if_pos (h.mp hp)]
  · rw [if_neg hp, if_neg (mt h.mpr hp)]

theorem ite_one_ne_zero {q : Prop} [Decidable q] : (if q then (1 : Rat) else 0) ≠ 0 ↔ q := by
  split <;> simp [*]

/-- **rejections (1)**: a roll is returned only if every in-range note has `velocity ≤ max_velocity`
and the onset mode is known — i.e. a too-loud in-range note or an unknown mode (with an in-range
note) always raises -/
theorem encode_ok_valid {R R32 : Rat → Rat} {eps : Rat} {c : Cfg} {total : Rat} {notes : List PNote}
    {ccs : List PCC} {pr : Pianoroll} (h : encode R R32 eps c total notes ccs = .ok pr) :
    ∀ nt ∈ notes, InRange c nt → nt.velocity ≤ c.maxVelocity ∧ (c.mode = 0 ∨ c.mode = 1) := by
  intro nt hnt hr
  obtain ⟨nf, hnf, hv, _⟩ := stepErr_none_iff.mp ((encode_ok_iff.mp h).2.2.1 nt hnt) hr
  exact ⟨hv, (noteFrames_ok hnf).1⟩

/-- **rejections (2)**: an unknown onset mode raises ValueError as soon as one note is in range -/
theorem encode_unknown_mode (R R32 : Rat → Rat) (eps : Rat) (c : Cfg) (total : Rat) (notes : List PNote)
    (ccs : List PCC) (h0 : c.mode ≠ 0) (h1 : c.mode ≠ 1) (hex : ∃ nt ∈ notes, InRange c nt) :
    encode R R32 eps c total notes ccs = .error .valueError := by
  unfold encode
  simp only
  split
  · rfl
  · -- every note in range raises ValueError, the others nothing
    have herr : ∀ nt, C12.stepErr R eps c total (numRows R c.fps total).toNat nt =
        if C12.outOfRange c nt then none else some .valueError := by
      intro nt
      unfold C12.stepErr
      split
      · rfl
      · rw [noteFrames_bad_mode nt h0 h1]
    obtain ⟨nt, hnt, hr⟩ := hex
    rw [C12.encNotes_eq]
    cases hfs : (sortByStart notes).findSome? (C12.stepErr R eps c total (numRows R c.fps total).toNat) with
    | none =>
      have := List.findSome?_eq_none_iff.mp hfs nt ((mem_sortByStart nt notes).mpr hnt)
      rw [herr, if_neg (by unfold C12.outOfRange InRange at *; omega)] at this
      cases this
    | some e =>
      obtain ⟨x, _, hx⟩ := List.exists_of_findSome?_eq_some hfs
      rw [herr] at hx
      split at hx <;> cases hx
      rfl

/-- **no exception on a well-formed input**: `sequence_to_pianoroll` returns a roll under the hypotheses below and
nothing else — any rounding that keeps non-negative values non-negative, any `eps`, window, onset/offset lengths, delay
(also negative), occupancy, either `onset_overlap` and blank setting, notes in any order, note ends / total time
unrelated.  (F-C18-2, F-C18-3 and F-C18-4 are the findings in which such inputs raised; `encode_ok_valid` /
`encode_unknown_mode` are the converse for velocity and mode.) -/
theorem encode_defined {R : Rat → Rat} (hR0 : ∀ x : Rat, 0 ≤ x → 0 ≤ R x) (R32 : Rat → Rat) (eps : Rat)
    (c : Cfg) (total : Rat) (notes : List PNote) (ccs : List PCC)
    (hfps : 0 ≤ c.fps) (htot : 0 ≤ total) (hp : c.minPitch ≤ c.maxPitch + 1)
    (hm : c.mode = 0 ∨ c.mode = 1) (hmv : c.maxVelocity ≠ 0)
    (hn : ∀ nt ∈ notes, InRange c nt → 0 ≤ nt.start ∧ nt.velocity ≤ c.maxVelocity)
    (hc : ∀ cc ∈ ccs, 0 ≤ cc.time ∧ 0 ≤ cc.number ∧ cc.number < 128) :
    ∃ pr, encode R R32 eps c total notes ccs = .ok pr := by
  have hrows : 0 ≤ numRows R c.fps total := by
    unfold numRows
    have h2 : 0 ≤ R (R (total * c.fps) + 1) := hR0 _ (Rat.add_nonneg (hR0 _ (Rat.mul_nonneg htot hfps)) (by decide))
    rw [truncR_of_nonneg _ h2]; exact floor_nonneg_of_nonneg _ h2
  refine ⟨_, encode_ok_iff.mpr ⟨hrows, by omega, fun nt hnt => stepErr_none_iff.mpr fun hr => ?_, fun cc hcc => ?_,
    _, _, rfl, rfl, rfl⟩⟩
  · -- the end frame is not negative, which is what `paintNote_defined` asks for
    obtain ⟨nf, hnf⟩ := noteFrames_defined (R := R) (eps := eps) (total := total)
      (n := (numRows R c.fps total).toNat) nt hm
    obtain ⟨_, _, hoe, h1, h2⟩ := noteFrames_ok hnf
    have hef : 0 ≤ nf.ef := by
      cases ho : c.overlap with
      | false => have := h1 ho; omega
      | true =>
        rw [(h2 ho).2]
        have := (framesFromTimes_nonneg hR0 eps c.fps c.occ nt.start nt.end_ hfps (hn nt hnt hr).1).2
        omega
    obtain ⟨_, hok⟩ := paintNote_defined R R32 c (numRows R c.fps total).toNat (initRolls 0 0) nt 0 nf
      (hn nt hnt hr).2 hmv hoe hef
    exact ⟨nf, hnf, paintErr_none_iff.mp (paintNote_ok_iff.mp hok).1⟩
  · obtain ⟨h1, h2, h3⟩ := hc cc hcc
    have h0 := (framesFromTimes_nonneg hR0 eps c.fps c.occ cc.time 0 hfps h1).1
    unfold C12.ccErr
    split
    · rename_i hlt
      rw [intIdx_of_nonneg h0 hlt, intIdx_of_nonneg h2 (by omega)]
    · rfl

/-- **roll length**: the active, onsets and active-velocities rolls have `int(total_time · fps + 1)` frames
(`numRows`; the other four rolls: `roll_size`), which in exact arithmetic is `⌊total·fps⌋ + 1` (`numRows_id`) -/
theorem roll_length {R R32 : Rat → Rat} {eps : Rat} {c : Cfg} {total : Rat} {notes : List PNote}
    {ccs : List PCC} {pr : Pianoroll} (h : encode R R32 eps c total notes ccs = .ok pr) :
    pr.active.length = (numRows R c.fps total).toNat ∧ pr.onsets.length = (numRows R c.fps total).toNat ∧
    pr.activeVelocities.length = (numRows R c.fps total).toNat := by
  obtain ⟨_, _, _, _, _, _, rfl, rfl, rfl⟩ := encode_ok_iff.mp h
  exact ⟨(stepFn_length (proj := (·.active)) runs_active _ _).trans (by simp [initRolls]),
    (stepFn_length (proj := (·.onsets)) runs_onsets _ _).trans (by simp [initRolls]),
    (stepFn_length (proj := (·.vels)) runs_vels _ _).trans (by simp [initRolls])⟩

/-- **roll size** (with `roll_length`): the remaining four rolls also have `int(total_time · fps + 1)` frames -/
theorem roll_size {R R32 : Rat → Rat} {eps : Rat} {c : Cfg} {total : Rat} {notes : List PNote}
    {ccs : List PCC} {pr : Pianoroll} (h : encode R R32 eps c total notes ccs = .ok pr) :
    pr.weights.length = (numRows R c.fps total).toNat ∧ pr.offsets.length = (numRows R c.fps total).toNat ∧
    pr.onsetVelocities.length = (numRows R c.fps total).toNat ∧
    pr.controlChanges.length = (numRows R c.fps total).toNat := by
  obtain ⟨_, _, _, _, _, _, rfl, rfl, rfl⟩ := encode_ok_iff.mp h
  have hl := fun {proj sel} (hrun : RunsProg R R32 c (numRows R c.fps total).toNat proj sel) =>
    stepFn_length (eps := eps) (total := total) hrun (sortByStart notes)
      (initRolls (numRows R c.fps total).toNat (c.maxPitch - c.minPitch + 1).toNat)
  refine ⟨(hl runs_weights).trans (by simp [initRolls]), (hl runs_offsets).trans (by simp [initRolls]), ?_, ?_⟩
  · rw [List.length_zipWith, hl runs_vels, hl runs_onsets]; simp [initRolls]
  · rw [ccFn_eq, length_foldl_colProg]; simp

/-- onset frames in window mode: `[f₀ - window, f₀ + window] ∩ [0, n)` around the delayed first frame -/
theorem noteFrames_window (R : Rat → Rat) (eps : Rat) (c : Cfg) (total : Rat) (n : Nat) (nt : PNote)
    (hm : c.mode = 0) :
    ∃ nf, noteFrames R eps c total n nt = .ok nf ∧
      ∀ f : Nat, f < n → (inSlice n nf.os nf.oe f = true ↔
        (framesFromTimes R eps c.fps c.occ (R (nt.start + R (c.delayMs / 1000)))
            (R (nt.end_ + R (c.delayMs / 1000)))).1 - c.window ≤ (f : Int) ∧
        (f : Int) ≤ (framesFromTimes R eps c.fps c.occ (R (nt.start + R (c.delayMs / 1000)))
            (R (nt.end_ + R (c.delayMs / 1000)))).1 + c.window) := by
  unfold noteFrames
  simp only [hm, ↓reduceIte]
  refine ⟨_, rfl, ?_⟩
  intro f hf
  simp only
  rw [inSlice_iff n _ _ f (by omega) (by omega) hf]
  omega

/-- onset frames in length mode: the frames of `[onset, min(end, onset + onset_length_ms))`, clipped at 0 -/
theorem noteFrames_length (R : Rat → Rat) (eps : Rat) (c : Cfg) (total : Rat) (n : Nat) (nt : PNote)
    (hm : c.mode = 1) :
    ∃ nf, noteFrames R eps c total n nt = .ok nf ∧
      (nf.os, nf.oe) =
        (max 0 (framesFromTimes R eps c.fps c.occ (R (nt.start + R (c.delayMs / 1000)))
          (rmin (R (nt.end_ + R (c.delayMs / 1000)))
            (R (R (nt.start + R (c.delayMs / 1000)) + R (c.onsetLenMs / 1000))))).1,
         max 0 (framesFromTimes R eps c.fps c.occ (R (nt.start + R (c.delayMs / 1000)))
          (rmin (R (nt.end_ + R (c.delayMs / 1000)))
            (R (R (nt.start + R (c.delayMs / 1000)) + R (c.onsetLenMs / 1000))))).2) := by
  unfold noteFrames
  simp [hm]

open Classical in
/-- **frames_of_note** (exact arithmetic, `R = id`; occupancy 0, overlapping onsets, no blank frame):
a cell of the active roll is 1 exactly when some in-range note of that pitch has
`⌊x_s⌋ ≤ f < max(⌈x_e⌉, ⌊x_s⌋ + 1)`, where `x_s = snap(start·fps)`, `x_e = snap(end·fps)` and `snap`
moves a position to the nearest integer only inside the documented window (`snap_close`, `snap_int`);
every other cell is 0; out-of-range pitches contribute nothing.  `hfps` and `hstart` make the start
position non-negative: the code takes `int()` of it, which is the floor only there.  (`hm` is implied by
`h` as soon as a note is in range — `encode_ok_valid` — and without such a note every cell is 0 on both sides.) -/
theorem frames_of_note (eps : Rat) (c : Cfg) (total : Rat) (notes : List PNote) (ccs : List PCC)
    (pr : Pianoroll) (hfps : 0 ≤ c.fps) (hb : c.blank = false) (ho : c.overlap = true) (hocc : c.occ = 0)
    (hm : c.mode = 0 ∨ c.mode = 1) (h : encode id id eps c total notes ccs = .ok pr)
    (hstart : ∀ nt ∈ notes, 0 ≤ nt.start) (f p : Nat)
    (hf : f < (numRows id c.fps total).toNat) (hp : p < (c.maxPitch - c.minPitch + 1).toNat) :
    getCell pr.active f p = some
      (if ∃ nt ∈ notes, InRange c nt ∧ p = colOf c nt ∧
          (snap eps (nt.start * c.fps)).floor ≤ (f : Int) ∧
          (f : Int) < max ((snap eps (nt.start * c.fps)).floor + 1) (snap eps (nt.end_ * c.fps)).ceil
       then 1 else 0) := by
  rw [enc_active_cell hb h f p hf hp]
  congr 1
  have key : ∀ nt ∈ notes,
      (NoteCovers id eps c total (numRows id c.fps total).toNat (selActive c) f p nt = true ↔
        InRange c nt ∧ p = colOf c nt ∧
          (snap eps (nt.start * c.fps)).floor ≤ (f : Int) ∧
          (f : Int) < max ((snap eps (nt.start * c.fps)).floor + 1) (snap eps (nt.end_ * c.fps)).ceil) := by
    intro nt hnt
    rw [NoteCovers_active_iff]
    obtain ⟨nf, hnf, hsf, hef⟩ := noteFrames_overlap id eps c total (numRows id c.fps total).toNat nt hm ho
    have hs0 : 0 ≤ snap eps (nt.start * c.fps) := snap_nonneg _ _ (Rat.mul_nonneg (hstart nt hnt) hfps)
    have hfl := floor_nonneg_of_nonneg _ hs0
    rw [hocc, framesFromTimes_occ0, timeToFrames_id, timeToFrames_id, truncR_of_nonneg _ hs0] at hsf hef
    simp only at hsf hef
    rw [hnf]
    simp only [Except.ok.injEq, exists_eq_left', hsf, hef]
    rw [inSlice_iff _ _ _ f (by omega) (by omega) hf]
  exact ite_congr_iff (exists_congr fun nt => and_congr_right fun hnt => key nt hnt) _ _

/-- **onset roll** (any rounding, any parameters): a cell is 1 exactly when some in-range note's onset
span contains it -/
theorem enc_onset_cell {R R32 : Rat → Rat} {eps : Rat} {c : Cfg} {total : Rat} {notes : List PNote}
    {ccs : List PCC} {pr : Pianoroll} (h : encode R R32 eps c total notes ccs = .ok pr) (f p : Nat)
    (hf : f < (numRows R c.fps total).toNat) (hp : p < (c.maxPitch - c.minPitch + 1).toNat) :
    getCell pr.onsets f p = some
      (if ∃ nt ∈ notes, NoteCovers R eps c total (numRows R c.fps total).toNat (selOnset c) f p nt = true
       then 1 else 0) := by
  obtain ⟨_, _, _, _, _, _, rfl, rfl, rfl⟩ := encode_ok_iff.mp h
  exact stepFn_unit_cell (proj := (·.onsets)) runs_onsets (fun _ _ => rfl) (fun _ _ => rfl) notes rfl hf hp

/-- **offsets roll** (any rounding, any parameters): a cell is 1 exactly when some in-range note's
offset span contains it -/
theorem enc_offset_cell {R R32 : Rat → Rat} {eps : Rat} {c : Cfg} {total : Rat} {notes : List PNote}
    {ccs : List PCC} {pr : Pianoroll} (h : encode R R32 eps c total notes ccs = .ok pr) (f p : Nat)
    (hf : f < (numRows R c.fps total).toNat) (hp : p < (c.maxPitch - c.minPitch + 1).toNat) :
    getCell pr.offsets f p = some
      (if ∃ nt ∈ notes, NoteCovers R eps c total (numRows R c.fps total).toNat (selOffset c) f p nt = true
       then 1 else 0) := by
  obtain ⟨_, _, _, _, _, _, rfl, rfl, rfl⟩ := encode_ok_iff.mp h
  exact stepFn_unit_cell (proj := (·.offsets)) runs_offsets (fun _ _ => rfl) (fun _ _ => rfl) notes rfl hf hp

/-- the velocity roll as the fold it is: a cell starts at 0 and every note that paints it, in start order, stores
its scaled velocity there -/
theorem enc_velocity_fold {R R32 : Rat → Rat} {eps : Rat} {c : Cfg} {total : Rat} {notes : List PNote}
    {ccs : List PCC} {pr : Pianoroll} (h : encode R R32 eps c total notes ccs = .ok pr) (f p : Nat)
    (hf : f < (numRows R c.fps total).toNat) (hp : p < (c.maxPitch - c.minPitch + 1).toNat) :
    getCell pr.activeVelocities f p = some ((sortByStart notes).foldl (fun x nt =>
      if NoteCovers R eps c total (numRows R c.fps total).toNat (selVel R R32 c) f p nt
      then noteVal R eps c total (numRows R c.fps total).toNat (selVel R R32 c) nt else x) 0) := by
  obtain ⟨_, _, _, _, _, _, rfl, rfl, rfl⟩ := encode_ok_iff.mp h
  rw [stepFn_cell (proj := (·.vels)) runs_vels _ rfl hf hp]
  simp only [progOp_cell (selVel R R32 c) (fun _ _ => rfl)]

/-- **velocity roll** (any rounding, any parameters): a cell that no note paints holds 0; otherwise it
holds `float32(velocity / max_velocity)` of the LAST note in start order that paints it -/
theorem enc_velocity_cell {R R32 : Rat → Rat} {eps : Rat} {c : Cfg} {total : Rat} {notes : List PNote}
    {ccs : List PCC} {pr : Pianoroll} (h : encode R R32 eps c total notes ccs = .ok pr) (f p : Nat)
    (hf : f < (numRows R c.fps total).toNat) (hp : p < (c.maxPitch - c.minPitch + 1).toNat) :
    ((∀ nt ∈ notes, NoteCovers R eps c total (numRows R c.fps total).toNat (selActive c) f p nt = false) ∧
      getCell pr.activeVelocities f p = some 0) ∨
    (∃ l1 nt l2, sortByStart notes = l1 ++ nt :: l2 ∧
      NoteCovers R eps c total (numRows R c.fps total).toNat (selActive c) f p nt = true ∧
      (∀ o ∈ l2, NoteCovers R eps c total (numRows R c.fps total).toNat (selActive c) f p o = false) ∧
      getCell pr.activeVelocities f p =
        some (R32 (R ((nt.velocity : Rat) / (c.maxVelocity : Rat))))) := by
  rw [enc_velocity_fold h f p hf hp]
  simp only [← NoteCovers_vel_eq R R32]
  rcases foldl_sel_cases (sortByStart notes)
      (NoteCovers R eps c total (numRows R c.fps total).toNat (selVel R R32 c) f p)
      (noteVal R eps c total (numRows R c.fps total).toNat (selVel R R32 c)) 0 with
    ⟨hno, hv⟩ | ⟨l1, nt, l2, hl, hc, hall, hv⟩
  · exact Or.inl ⟨fun nt hnt => hno nt ((mem_sortByStart nt notes).mpr hnt), by rw [hv]⟩
  · exact Or.inr ⟨l1, nt, l2, hl, hc, hall, by rw [hv, noteVal_vel R R32 eps c total _ f p nt hc]⟩

/-- what the float32 store of a velocity must satisfy (true of IEEE rounding to 24 bits) -/
structure Rounding32 (R32 : Rat → Rat) : Prop where
  mono : ∀ x y : Rat, x ≤ y → R32 x ≤ R32 y
  one : R32 1 = 1
  pos : ∀ x : Rat, 0 < x → 0 < R32 x

/-- **weights roll** (any rounding, any parameters, with or without the blank frame): a cell starts at
1 and every note of its pitch, in start order, applies `wUpd` to it (the decaying weights past the end of
the roll are simply absent — the list is clipped like the slice) -/
theorem enc_weights_cell {R R32 : Rat → Rat} {eps : Rat} {c : Cfg} {total : Rat} {notes : List PNote}
    {ccs : List PCC} {pr : Pianoroll} (h : encode R R32 eps c total notes ccs = .ok pr) (f p : Nat)
    (hf : f < (numRows R c.fps total).toNat) (hp : p < (c.maxPitch - c.minPitch + 1).toNat) :
    getCell pr.weights f p = some
      ((sortByStart notes).foldl (noteW R R32 eps c total (numRows R c.fps total).toNat f p) 1) := by
  obtain ⟨_, _, hN, _, _, _, rfl, rfl, rfl⟩ := encode_ok_iff.mp h
  rw [stepFn_cell (proj := (·.weights)) runs_weights _ rfl hf hp]
  exact congrArg some (foldl_congr_mem _ _ fun x nt hnt =>
    noteW_eq_prog (hN nt ((mem_sortByStart nt notes).mp hnt)) hf p x)

/-- **control-change roll** (any rounding): a cell starts at 0 and holds `control_value + 1` of the LAST
control change in time order (`sorted(..., key=time)`, stable) that falls into its frame with its
controller number; control changes at or past the last frame are ignored -/
theorem enc_cc_cell {R R32 : Rat → Rat} {eps : Rat} {c : Cfg} {total : Rat} {notes : List PNote}
    {ccs : List PCC} {pr : Pianoroll} (h : encode R R32 eps c total notes ccs = .ok pr) (f k : Nat)
    (hf : f < (numRows R c.fps total).toNat) (hk : k < 128) :
    getCell pr.controlChanges f k = some
      ((sortCCs ccs).foldl (fun x cc =>
        if ccHits R eps c (numRows R c.fps total).toNat f k cc then cc.value + 1 else x) 0) := by
  obtain ⟨_, _, _, _, _, _, rfl, rfl, rfl⟩ := encode_ok_iff.mp h
  exact ccFn_cell R eps c _ hf hk

/-- **runs_decode**: without onset predictions the notes are exactly the maximal runs of active
frames of each pitch (the run still open at the last frame is closed by the appended silent
frame: `frameCol` reads `false` there), minus those that fail the `min_duration_ms` test; every
note spans `[R (s·fls), R (e·fls))` with `fls = R (1/fps)` and carries the default velocity; the
notes come out ordered by end frame then pitch (`emitLt`), so no run yields two notes. -/
theorem runs_decode (R Rv : Rat → Rat) (d : DCfg) (frames : List (List Bool)) (w : Nat)
    (hfps : d.fps ≠ 0) (hne : frames ≠ []) (hrect : isRect frames frames.length w = true)
    (hw : w ≤ Gen.VEL_SLOTS) :
    ∃ ems : List Emit,
      decode R Rv d frames none none none =
        .ok (ems.map (emitNote R (R (1 / d.fps)) d.minMidiPitch),
             R (((frames.length + 1 : Nat) : Rat) * R (1 / d.fps))) ∧
      ems.Pairwise emitLt ∧
      ∀ e : Emit, e ∈ ems ↔
        e.pitch < w ∧ e.vel = d.velocity ∧ keepR R (R (1 / d.fps)) d.minDurMs e.s e.e = true ∧
          IsMaxRun (frameCol frames e.pitch) e.s e.e := by
  obtain ⟨res, hres⟩ := decodeCore_plain_ok R Rv d frames hw
  obtain ⟨ems, rfl, hsorted, hmem⟩ := decodeCore_ok hres
  refine ⟨ems, by rw [decode_plain_eq R Rv d frames w hfps hne hrect, hres], hsorted, fun e => ?_⟩
  have hcol := fun p k => colScan_runs (dparams R Rv d false false) rfl p (frameCol frames p) d.velocity _
    (fun j => mkCell_active_plain _ (getV none) j p) k e
  rw [hmem e]
  constructor
  · rintro ⟨k, _, p, hp, he⟩
    obtain ⟨⟨rfl, h2, h3, h4⟩, _⟩ := (hcol p k).mp he
    exact ⟨hp, h2, h3, h4⟩
  · rintro ⟨hp, h2, h3, h4⟩
    exact ⟨e.e, by have := h4.end_le; omega, e.pitch, hp, (hcol e.pitch e.e).mpr ⟨⟨rfl, h2, h3, h4⟩, rfl⟩⟩

/-- **onset_decode**: with onset predictions (and optional offset predictions / velocity values) the
notes returned are, pitch by pitch, exactly the `IsNote` spans of the column
`active = (frame ∨ onset) ∧ ¬offset` (predicted offsets clear frames first): a note begins only at
a frame with a predicted onset, a fresh onset (on after off) inside a run ends the note and begins
a new one, an inactive frame ends it; minus the notes failing the `min_duration_ms` test; the
velocity is `_unscale_velocity` of the value at the start frame (default velocity without values). -/
theorem onset_decode (R Rv : Rat → Rat) (d : DCfg) (frames ons : List (List Bool))
    (offs : Option (List (List Bool))) (vels : Option (List (List Rat)))
    (notes : List ONote) (total : Rat)
    (hdec : decode R Rv d frames (some ons) offs vels = .ok (notes, total)) :
    ∃ (w : Nat) (ems : List Emit),
      isRect frames frames.length w = true ∧
      notes = ems.map (emitNote R (R (1 / d.fps)) d.minMidiPitch) ∧
      total = R (((frames.length + 1 : Nat) : Rat) * R (1 / d.fps)) ∧
      ems.Pairwise emitLt ∧
      ∀ e : Emit, e ∈ ems ↔
        e.pitch < w ∧
        e.vel = velAt (dparams R Rv d true vels.isSome) (velCol vels e.pitch) d.velocity e.s ∧
        keepR R (R (1 / d.fps)) d.minDurMs e.s e.e = true ∧
        IsNote (actCol frames ons offs e.pitch) (onsCol ons e.pitch) e.s e.e := by
  obtain ⟨hfps, row0, rest, hfr, hshape, hcore⟩ := decode_ok_inv hdec
  unfold shapesOk at hshape
  simp only [Bool.and_eq_true] at hshape
  obtain ⟨⟨⟨hrect, hrectOns⟩, _⟩, hrectV⟩ := hshape
  have hol : ons.length = frames.length := (isRect_iff.mp hrectOns).1
  obtain ⟨ems, hres, hsorted, hmem⟩ := decodeCore_ok hcore
  injection hres with hnotes htotal
  refine ⟨row0.length, ems, hrect, hnotes, htotal, hsorted, fun e => ?_⟩
  have hcol := fun p (hp : p < row0.length) k => colScan_onsets (dparams R Rv d true vels.isSome) rfl p
    (actCol frames ons offs p) (onsCol ons p) (velCol vels p) d.velocity
    (by
      -- a predicted onset lies inside the roll, where the velocity matrix has a value
      intro hhv k _ hOk
      have hk : k < ons.length := getB_true_lt ons k p hOk
      cases vels with
      | none => cases hhv
      | some v => exact getM_some_of_rect v frames.length row0.length k p hrectV (by omega) hp)
    (fun i => mkCell (getB (some (toMat frames))) (getB (some (toMat ons))) (getB (offs.map toMat))
      (getV (vels.map toMat)) i p)
    (fun j => ⟨rfl, rfl, rfl, rfl⟩) k e
  rw [hmem e]
  constructor
  · rintro ⟨k, _, p, hp, he⟩
    obtain ⟨⟨rfl, h2, h3, h4⟩, _⟩ := (hcol p hp k).mp he
    exact ⟨hp, h2, h3, h4⟩
  · rintro ⟨hp, h2, h3, h4⟩
    exact ⟨e.e, by have := h4.end_le hol; omega, e.pitch, hp, (hcol e.pitch hp e.e).mpr ⟨⟨rfl, h2, h3, h4⟩, rfl⟩⟩

/-- a decoded note as the encoder sees it -/
def toPNote (o : ONote) : PNote := ⟨o.pitch, o.velocity, o.start, o.end_⟩

/-- the plain encoder configuration that mirrors a decoder configuration on `w` pitches: same frame rate and
lowest pitch, onsets in window mode and allowed to overlap, no occupancy threshold -/
structure Mirrors (c : Cfg) (d : DCfg) (w : Nat) : Prop where
  fps : c.fps = d.fps
  minPitch : c.minPitch = d.minMidiPitch
  maxPitch : c.maxPitch = d.minMidiPitch + (w : Int) - 1
  mode : c.mode = 0
  overlap : c.overlap = true
  occ : c.occ = 0

theorem Mirrors.cols {c : Cfg} {d : DCfg} {w : Nat} (hm : Mirrors c d w) :
    (c.maxPitch - c.minPitch + 1).toNat = w := by
  rw [hm.minPitch, hm.maxPitch]; omega

/-- the encoder reads a decoded note back as the frames `[e.s, e.e)` of pitch column `e.pitch`, provided
`time_to_frames` inverts the decoder's frame times up to frame `N` -/
theorem noteFrames_emit (R : Rat → Rat) (eps : Rat) {d : DCfg} {c : Cfg} {w : Nat} (hm : Mirrors c d w)
    (total : Rat) (n N : Nat)
    (hgrid : ∀ k : Nat, k ≤ N → timeToFrames R eps d.fps (R ((k : Rat) * R (1 / d.fps))) = (k : Rat))
    (e : Emit) (hse : e.s < e.e) (heN : e.e ≤ N) :
    colOf c (toPNote (emitNote R (R (1 / d.fps)) d.minMidiPitch e)) = e.pitch ∧
    ∃ nf, noteFrames R eps c total n (toPNote (emitNote R (R (1 / d.fps)) d.minMidiPitch e)) = .ok nf ∧
      nf.sf = (e.s : Int) ∧ nf.ef = (e.e : Int) := by
  obtain ⟨nf, hnf, hsf, hef⟩ := noteFrames_overlap R eps c total n
    (toPNote (emitNote R (R (1 / d.fps)) d.minMidiPitch e)) (.inl hm.mode) hm.overlap
  have hfr : framesFromTimes R eps c.fps c.occ (toPNote (emitNote R (R (1 / d.fps)) d.minMidiPitch e)).start
      (toPNote (emitNote R (R (1 / d.fps)) d.minMidiPitch e)).end_ = ((e.s : Int), (e.e : Int)) := by
    rw [hm.fps, hm.occ]
    exact framesFromTimes_grid R eps d.fps _ _ e.s e.e hse (hgrid e.s (by omega)) (hgrid e.e heN)
  rw [hfr] at hsf hef
  exact ⟨by simp only [colOf, toPNote, emitNote, hm.minPitch]; omega, nf, hnf, hsf, hef⟩

/-- the encoder re-paints a decoded note in exactly the frames of its run -/
theorem covers_of_emit (R : Rat → Rat) (eps : Rat) {d : DCfg} {c : Cfg} {w : Nat} (hm : Mirrors c d w)
    (total : Rat) (n N : Nat)
    (hgrid : ∀ k : Nat, k ≤ N → timeToFrames R eps d.fps (R ((k : Rat) * R (1 / d.fps))) = (k : Rat))
    (e : Emit) (hpw : e.pitch < w) (hse : e.s < e.e) (heN : e.e ≤ N) (f p : Nat) (hf : f < n) :
    NoteCovers R eps c total n (selActive c) f p (toPNote (emitNote R (R (1 / d.fps)) d.minMidiPitch e)) = true ↔
      p = e.pitch ∧ e.s ≤ f ∧ f < e.e := by
  obtain ⟨hcol, nf, hnf, hsf, hef⟩ := noteFrames_emit R eps hm total n N hgrid e hse heN
  have hin : InRange c (toPNote (emitNote R (R (1 / d.fps)) d.minMidiPitch e)) := by
    simp only [InRange, toPNote, emitNote, hm.minPitch, hm.maxPitch]; omega
  rw [NoteCovers_active_iff, hcol, hnf]
  simp only [Except.ok.injEq, exists_eq_left', hsf, hef,
    inSlice_iff n (e.s : Int) (e.e : Int) f (by omega) (by omega) hf, hin, true_and]
  omega

/-- the decoded notes of a roll (`ems`, as `runs_decode` describes them), encoded again, paint exactly the
active cells of the roll -/
theorem covers_decoded_iff (R : Rat → Rat) (eps : Rat) {d : DCfg} {c : Cfg} {w : Nat} (hm : Mirrors c d w)
    (frames : List (List Bool))
    (hgrid : ∀ k : Nat, k ≤ frames.length →
      timeToFrames R eps d.fps (R ((k : Rat) * R (1 / d.fps))) = (k : Rat))
    (hkeep : ∀ s e : Nat, s < e → keepR R (R (1 / d.fps)) d.minDurMs s e = true)
    (ems : List Emit)
    (hmem : ∀ e : Emit, e ∈ ems ↔
      e.pitch < w ∧ e.vel = d.velocity ∧ keepR R (R (1 / d.fps)) d.minDurMs e.s e.e = true ∧
        IsMaxRun (frameCol frames e.pitch) e.s e.e)
    (total : Rat) (n f p : Nat) (hf : f < n) (hp : p < w) :
    (∃ nt ∈ (ems.map (emitNote R (R (1 / d.fps)) d.minMidiPitch)).map toPNote,
      NoteCovers R eps c total n (selActive c) f p nt = true) ↔ frameCol frames p f = true := by
  constructor
  · rintro ⟨nt, hnt, hcov⟩
    simp only [List.mem_map] at hnt
    obtain ⟨o, ⟨e, he, rfl⟩, rfl⟩ := hnt
    obtain ⟨hpw, _, _, hrun⟩ := (hmem e).mp he
    obtain ⟨rfl, h1, h2⟩ := (covers_of_emit R eps hm total n frames.length hgrid e hpw hrun.1 hrun.end_le
      f p hf).mp hcov
    exact hrun.2.1 f h1 h2
  · intro hA
    obtain ⟨s, e, hrun, h1, h2⟩ := exists_maxRun (frameCol frames p) frames.length
      (fun k hk => by
        cases hg : frameCol frames p k with
        | false => rfl
        | true => have := getB_true_lt frames k p hg; omega) f hA
    have hem : (⟨p, s, e, d.velocity⟩ : Emit) ∈ ems :=
      (hmem ⟨p, s, e, d.velocity⟩).mpr ⟨hp, rfl, hkeep s e hrun.1, hrun⟩
    exact ⟨_, List.mem_map.mpr ⟨_, List.mem_map.mpr ⟨_, hem, rfl⟩, rfl⟩,
      (covers_of_emit R eps hm total n frames.length hgrid ⟨p, s, e, d.velocity⟩ hp hrun.1 hrun.end_le
        f p hf).mpr ⟨rfl, h1, h2⟩⟩

/-- Python truthiness of the float32 cells (`if active:`) -/
def toBoolRoll (m : List (List Rat)) : List (List Bool) := m.map (·.map (fun x => x != 0))

theorem frameCol_toBoolRoll (m : List (List Rat)) (p k : Nat) :
    frameCol (toBoolRoll m) p k = ((getCell m k p).map (fun x => x != 0)).getD false := by
  unfold frameCol getB toBoolRoll getCell
  simp only [getM_toMat, List.getElem?_map]
  cases m[k]? with
  | none => rfl
  | some row =>
    simp only [Option.map_some, Option.bind_some, List.getElem?_map]

/-- decoding a roll whose pitch columns are unions of separated intervals — `gl` lists them, each with its
pitch — returns exactly those intervals when `min_duration` lets everything through -/
theorem decode_separated (R Rv : Rat → Rat) (d : DCfg) (frames : List (List Bool)) (w : Nat)
    (hfps : d.fps ≠ 0) (hne : frames ≠ []) (hrect : isRect frames frames.length w = true)
    (hw : w ≤ Gen.VEL_SLOTS)
    (hkeep : ∀ s e : Nat, s < e → keepR R (R (1 / d.fps)) d.minDurMs s e = true)
    (gl : List Emit) (hgl : ∀ g ∈ gl, g.pitch < w ∧ g.s < g.e)
    (hsep : ∀ a ∈ gl, ∀ b ∈ gl, a.pitch = b.pitch → (a.s = b.s ∧ a.e = b.e) ∨ a.e < b.s ∨ b.e < a.s)
    (hcol : ∀ p, p < w → ∀ k, frameCol frames p k = true ↔ ∃ g ∈ gl, g.pitch = p ∧ g.s ≤ k ∧ k < g.e) :
    ∃ ems : List Emit,
      decode R Rv d frames none none none =
        .ok (ems.map (emitNote R (R (1 / d.fps)) d.minMidiPitch),
             R (((frames.length + 1 : Nat) : Rat) * R (1 / d.fps))) ∧
      ems.Pairwise emitLt ∧
      ∀ e : Emit, e ∈ ems ↔
        e.vel = d.velocity ∧ ∃ g ∈ gl, g.pitch = e.pitch ∧ g.s = e.s ∧ g.e = e.e := by
  obtain ⟨ems, hd, hsorted, hmem⟩ := runs_decode R Rv d frames w hfps hne hrect hw
  refine ⟨ems, hd, hsorted, fun e => ?_⟩
  have hruns : ∀ p, p < w → ∀ s e, IsMaxRun (frameCol frames p) s e ↔
      ∃ g ∈ gl, g.pitch = p ∧ g.s = s ∧ g.e = e := by
    intro p hp s e
    apply maxRun_of_separated _ (fun s e => ∃ g ∈ gl, g.pitch = p ∧ g.s = s ∧ g.e = e)
    · intro k
      rw [hcol p hp k]
      constructor
      · rintro ⟨g, hg, h1, h2, h3⟩; exact ⟨g.s, g.e, ⟨g, hg, h1, rfl, rfl⟩, h2, h3⟩
      · rintro ⟨_, _, ⟨g, hg, h1, rfl, rfl⟩, h2, h3⟩; exact ⟨g, hg, h1, h2, h3⟩
    · rintro _ _ ⟨g, hg, _, rfl, rfl⟩; exact (hgl g hg).2
    · rintro _ _ _ _ ⟨ga, hga, hpa, rfl, rfl⟩ ⟨gb, hgb, hpb, rfl, rfl⟩
      exact hsep ga hga gb hgb (by rw [hpa, hpb])
  rw [hmem e]
  constructor
  · rintro ⟨hp, hv, _, hrun⟩
    exact ⟨hv, (hruns e.pitch hp e.s e.e).mp hrun⟩
  · rintro ⟨hv, g, hg, h1, h2, h3⟩
    obtain ⟨hgp, hgse⟩ := hgl g hg
    have hp : e.pitch < w := by omega
    exact ⟨hp, hv, hkeep e.s e.e (by omega), (hruns e.pitch hp e.s e.e).mpr ⟨g, hg, h1, h2, h3⟩⟩

/-- the round trip encode → decode, given the active roll cell by cell: if it is non-zero exactly in the cells the
re-encoded grid notes `gl` paint — separated, inside the roll — it decodes to `gl`.
(How the encoder's active roll comes to be that, with or without blank frames, is the callers' part.) -/
theorem decode_grid_roll (R R32 Rv : Rat → Rat) (eps : Rat) {d : DCfg} {c : Cfg} {w : Nat} (hm : Mirrors c d w)
    (gl : List Emit) (total : Rat) (ccs : List PCC) (hfps : d.fps ≠ 0) (hw : w ≤ Gen.VEL_SLOTS)
    (hrows : 1 ≤ numRows R c.fps total)
    (hgrid : ∀ k : Nat, (k : Int) ≤ numRows R c.fps total →
      timeToFrames R eps d.fps (R ((k : Rat) * R (1 / d.fps))) = (k : Rat))
    (hkeep : ∀ s e : Nat, s < e → keepR R (R (1 / d.fps)) d.minDurMs s e = true)
    (hgl : ∀ g ∈ gl, g.pitch < w ∧ g.s < g.e ∧ (g.e : Int) ≤ numRows R c.fps total)
    (hsep : ∀ a ∈ gl, ∀ b ∈ gl, a.pitch = b.pitch → (a.s = b.s ∧ a.e = b.e) ∨ a.e < b.s ∨ b.e < a.s)
    (pr : Pianoroll)
    (henc : encode R R32 eps c total
      (gl.map fun g => toPNote (emitNote R (R (1 / d.fps)) d.minMidiPitch g)) ccs = .ok pr)
    (hcell : ∀ k p : Nat, k < (numRows R c.fps total).toNat → p < (c.maxPitch - c.minPitch + 1).toNat →
      ∃ x, getCell pr.active k p = some x ∧
        (x ≠ 0 ↔ ∃ nt ∈ gl.map (fun g => toPNote (emitNote R (R (1 / d.fps)) d.minMidiPitch g)),
          NoteCovers R eps c total (numRows R c.fps total).toNat (selActive c) k p nt = true)) :
    ∃ ems : List Emit,
      decode R Rv d (toBoolRoll pr.active) none none none =
        .ok (ems.map (emitNote R (R (1 / d.fps)) d.minMidiPitch),
             R ((((toBoolRoll pr.active).length + 1 : Nat) : Rat) * R (1 / d.fps))) ∧
      ems.Pairwise emitLt ∧
      ∀ e : Emit, e ∈ ems ↔
        e.vel = d.velocity ∧ ∃ g ∈ gl, g.pitch = e.pitch ∧ g.s = e.s ∧ g.e = e.e := by
  obtain ⟨hlen, hrl⟩ := encode_active_rect henc
  rw [hm.cols] at hrl hcell
  generalize pr.active = m at hlen hrl hcell ⊢
  generalize hn : (numRows R c.fps total).toNat = n at hlen hcell
  have hgrid : ∀ k : Nat, k ≤ n → timeToFrames R eps d.fps (R ((k : Rat) * R (1 / d.fps))) = (k : Rat) :=
    fun k hk => hgrid k (by omega)
  have hgl : ∀ g ∈ gl, g.pitch < w ∧ g.s < g.e ∧ g.e ≤ n :=
    fun g hg => ⟨(hgl g hg).1, (hgl g hg).2.1, by have := (hgl g hg).2.2; omega⟩
  have hblen : (toBoolRoll m).length = n := by simp [toBoolRoll, hlen]
  refine decode_separated R Rv d (toBoolRoll m) w hfps (fun h => by rw [h] at hblen; simp at hblen; omega) ?_ hw
    hkeep gl (fun g hg => ⟨(hgl g hg).1, (hgl g hg).2.1⟩) hsep fun p hp k => ?_
  · refine isRect_iff.mpr ⟨rfl, fun row hrow => ?_⟩
    simp only [toBoolRoll, List.mem_map] at hrow
    obtain ⟨r, hr, rfl⟩ := hrow
    rw [List.length_map]; exact hrl r hr
  · rw [frameCol_toBoolRoll]
    rcases Nat.lt_or_ge k n with hk | hk
    · obtain ⟨x, hx, hx0⟩ := hcell k p hk hp
      have hcov := fun g hg => covers_of_emit R eps hm total n n hgrid g (hgl g hg).1 (hgl g hg).2.1
        (hgl g hg).2.2 k p hk
      rw [hx]
      simp only [Option.map_some, Option.getD_some, bne_iff_ne, hx0]
      constructor
      · rintro ⟨nt, hnt, hc⟩
        obtain ⟨g, hg, rfl⟩ := List.mem_map.mp hnt
        obtain ⟨hp1, hp2, hp3⟩ := (hcov g hg).mp hc
        exact ⟨g, hg, hp1.symm, hp2, hp3⟩
      · rintro ⟨g, hg, hgp, h1, h2⟩
        exact ⟨_, List.mem_map.mpr ⟨g, hg, rfl⟩, (hcov g hg).mpr ⟨hgp.symm, h1, h2⟩⟩
    · have hnone : getCell m k p = none := by
        unfold getCell
        rw [List.getElem?_eq_none (by omega)]; rfl
      rw [hnone]
      simp only [Option.map_none, Option.getD_none, Bool.false_eq_true, false_iff]
      rintro ⟨g, hg, _, h1, h2⟩
      have := (hgl g hg).2.2
      omega

/-! ## non-vacuity: concrete inputs satisfying the hypotheses (kernel-evaluated) -/
def exD : DCfg := { fps := 100, minDurMs := 0, velocity := 70, minMidiPitch := 60, scale := 80, bias := 10 }
/-- two pitches; a run open at the last frame -/
def exFrames : List (List Bool) := [[true, false], [true, true], [false, true], [true, false]]
def exC : Cfg where
  fps := 100
  minPitch := 60
  maxPitch := 61
  maxVelocity := 127
  blank := false
  upweight := 5
  window := 1
  onsetLenMs := 0
  offsetLenMs := 0
  mode := 0
  delayMs := 0
  occ := 0
  overlap := true
def exNotes : List PNote := [⟨60, 100, 1 / 40, 9 / 200⟩, ⟨61, 1, 0, 0⟩, ⟨72, 90, 0, 1⟩, ⟨60, 127, 1 / 25, 3 / 50⟩]
def isOk {α} (r : Except Err α) : Bool := match r with | .ok _ => true | .error _ => false

-- runs_decode / roll_roundtrip*: all hypotheses hold for `exD`, `exFrames`, `exC`, and the decoder
-- returns three notes (one of them closed by the appended silent frame), the encoder a roll
example : exD.fps ≠ 0 ∧ exFrames ≠ [] ∧ isRect exFrames exFrames.length 2 = true ∧ 2 ≤ Gen.VEL_SLOTS ∧
    exFrames.length + 1 < 2 ^ 31 ∧ exD.minDurMs ≤ 0 ∧ exC.fps = exD.fps ∧ exC.minPitch = exD.minMidiPitch ∧
    exC.maxPitch = exD.minMidiPitch + (2 : Nat) - 1 := by decide +kernel
example : (match decode id id exD exFrames none none none with
  | .ok (notes, total) =>
      isOk (encode id id Gen.SNAP_EPS exC total (notes.map toPNote) []) && notes.length == 3
  | .error _ => false) = true := by decide +kernel
-- frames_of_note / enc_*_cell / roll_length: an off-grid sequence with an out-of-range pitch, a
-- zero-length note and two overlapping notes of one pitch encodes to a roll
theorem isOk_iff {α} {r : Except Err α} : isOk r = true ↔ ∃ a, r = .ok a := by
  cases r <;> simp [isOk]
theorem exEnc : ∃ pr, encode id id Gen.SNAP_EPS exC 1 exNotes [] = .ok pr := isOk_iff.mp (by decide +kernel)
theorem exEnc_rows : (numRows id exC.fps 1).toNat = 101 := by decide +kernel
theorem exEnc_cols : (exC.maxPitch - exC.minPitch + 1).toNat = 2 := by decide +kernel
example : isOk (encode id id Gen.SNAP_EPS exC 1 exNotes []) = true := isOk_iff.mpr exEnc
-- the cells are read off the cell formulas, which look at the notes only: evaluating the roll itself paints all
-- 101 frames once per cell asked for
example : (match encode id id Gen.SNAP_EPS exC 1 exNotes [] with
  | .ok pr => getCell pr.active 2 0 == some 1 && getCell pr.active 0 1 == some 1 &&
      getCell pr.active 6 0 == some 0 && pr.active.length == 101
  | .error _ => false) = true := by
  obtain ⟨pr, h⟩ := exEnc
  have A := fun f p => enc_active_cell rfl h f p
  rw [exEnc_rows, exEnc_cols] at A
  rw [h]
  dsimp only
  simp (disch := omega) only [A, (roll_length h).1, exEnc_rows]
  decide +kernel
-- encode_unknown_mode / encode_ok_valid: the rejected inputs exist
def errName {α} (r : Except Err α) : String := match r with | .ok _ => "ok" | .error e => e.name
example : errName (encode id id Gen.SNAP_EPS { exC with mode := 7 } 1 exNotes []) = "ValueError" := by
  decide +kernel
example : errName (encode id id Gen.SNAP_EPS { exC with maxVelocity := 100 } 1 exNotes []) = "ValueError" := by
  decide +kernel
-- encode_defined: its hypotheses hold for the inputs of F-C18-3 / F-C18-4 (here in exact arithmetic): a
-- delayed onset with onset_overlap = False and the blank frame, whose start frame lies past the roll; a note
-- starting at total_time with a negative delay and full-frame occupancy. Both encode to a roll.
def exC4 : Cfg := { exC with fps := 50, maxPitch := 75, blank := true, window := 0, onsetLenMs := 10, offsetLenMs := 10,
                             mode := 1, delayMs := 120, overlap := false }
def exC3 : Cfg := { exC with fps := 125 / 4, minPitch := 36, maxPitch := 36, delayMs := -300, occ := 1, overlap := false }
example : (∀ x : Rat, 0 ≤ x → 0 ≤ id x) ∧ 0 ≤ exC4.fps ∧ exC4.minPitch ≤ exC4.maxPitch + 1 ∧ exC4.mode = 1 ∧
    exC4.maxVelocity ≠ 0 := ⟨fun _ h => h, by decide +kernel, by decide +kernel, rfl, by decide +kernel⟩
example : isOk (encode id id Gen.SNAP_EPS exC4 (9 / 50) [⟨60, 78, 1 / 10, 9 / 50⟩] []) = true := by decide +kernel
example : isOk (encode id id Gen.SNAP_EPS exC3 (3 / 5) [⟨36, 46, 3 / 5, 3 / 5⟩, ⟨36, 1, 32 / 125, 17 / 40⟩] []) = true := by
  decide +kernel
-- enc_weights_cell / enc_offset_cell / roll_size: the note 60@[1/40, 9/200) at 100 fps has onset frames 1..3
-- (weight 5) and frame 4 after them (weight 5/1), its offset in frame 4; the later note of the same pitch has
-- onset frames 3..5 and its offset in frame 6; all seven rolls have 101 frames
example : (match encode id id Gen.SNAP_EPS exC 1 exNotes [] with
  | .ok pr => getCell pr.weights 1 0 == some 5 && getCell pr.weights 5 0 == some 5 && getCell pr.weights 6 0 == some 1 &&
      getCell pr.weights 0 0 == some 1 && getCell pr.offsets 4 0 == some 1 && getCell pr.offsets 5 0 == some 0 &&
      getCell pr.offsets 6 0 == some 1 &&
      pr.weights.length == 101 && pr.offsets.length == 101 && pr.onsetVelocities.length == 101 &&
      pr.controlChanges.length == 101
  | .error _ => false) = true := by
  obtain ⟨pr, h⟩ := exEnc
  have W := fun f p => enc_weights_cell h f p
  have O := fun f p => enc_offset_cell h f p
  obtain ⟨s1, s2, s3, s4⟩ := roll_size h
  rw [exEnc_rows] at W O s1 s2 s3 s4
  rw [exEnc_cols] at W O
  rw [h]
  dsimp only
  simp (disch := omega) only [W, O, s1, s2, s3, s4]
  decide +kernel
-- a long note at a high rate: the decaying weights 5/1, 5/2, 5/3 … after the onset frames, clipped at the roll's end
example : (match encode id id Gen.SNAP_EPS exC (1 / 20) [⟨60, 100, 0, 1⟩] [] with
  | .ok pr => getCell pr.weights 1 0 == some 5 && getCell pr.weights 2 0 == some 5 &&
      getCell pr.weights 3 0 == some (5 / 2) && getCell pr.weights 5 0 == some (5 / 4) && pr.weights.length == 6
  | .error _ => false) = true := by decide +kernel
-- enc_cc_cell: two control changes of one controller in one frame stored out of time order — the later one wins;
-- a control change past the last frame is ignored
example : (match encode id id Gen.SNAP_EPS exC (1 / 10) [] [⟨13 / 250, 64, 127⟩, ⟨51 / 1000, 64, 0⟩, ⟨1, 64, 5⟩] with
  | .ok pr => getCell pr.controlChanges 5 64 == some 128 && getCell pr.controlChanges 5 63 == some 0
  | .error _ => false) = true := by decide +kernel
-- roll_roundtrip_notes_*: separated grid notes (frames [1,3) and [4,6) of pitch 0, [0,2) of pitch 1) at 100 fps
def exGrid : List Emit := [⟨0, 1, 3, 90⟩, ⟨1, 0, 2, 64⟩, ⟨0, 4, 6, 127⟩]
example : (match encode id id Gen.SNAP_EPS exC (7 / 100)
      (exGrid.map fun g => toPNote (emitNote id (1 / 100) 60 g)) [] with
  | .ok pr => (match decode id id exD (toBoolRoll pr.active) none none none with
      | .ok (notes, _) => notes.length == 3 && numRows id exC.fps (7 / 100) == 8
      | .error _ => false)
  | .error _ => false) = true := by decide +kernel
-- onset_decode: onsets at frames 0 and 2 of pitch 0 (the second one fresh: splits the run), an active
-- frame without onset on pitch 1 (ignored), an offset clearing frame 3 of pitch 0, float velocities
example : (match decode id id exD [[true, true], [true, false], [true, false], [true, false]]
      (some [[true, false], [false, false], [true, false], [false, false]])
      (some [[false, false], [false, false], [false, false], [true, false]])
      (some [[1 / 2, 0], [0, 0], [1, 0], [0, 0]]) with
  | .ok (notes, _) => notes == [⟨60, 50, 0, 1 / 50⟩, ⟨60, 90, 1 / 50, 3 / 100⟩]
  | .error _ => false) = true := by decide +kernel
-- Rounding32 is inhabited (exact arithmetic)
example : Rounding32 id := ⟨fun _ _ h => h, rfl, fun _ h => h⟩

end NSV.C18

import NoteSeqVerif.Model.C11
import NoteSeqVerif.Generated.C11
/-! # C11 (a) — per-operation purity obligations

`pure_<op> : pureProg ir_<op> = true`, where `ir_<op>` is the reference IR that `gen/refir.py`
regenerates from the CURRENT Python source of `<op>` on every run (`Generated/C11.lean`).  These are
closed computations, re-decided by the kernel on every run; what an accepted IR means is
`NSV.C11.pure_sound` (`Props/C11.lean`). -/
namespace NSV.C11

open Gen

/-- `freshResult` asks, beyond `pureProg`, only that the entry's contract returns nothing of the input. -/
theorem fresh_of_pure {p : Prog} (hp : pureProg p = true)
    (hr : (p.contracts[p.entry]?).map (·.ret.inp) = some false) : freshResult p = true := by
  unfold freshResult
  rw [hp]
  cases hc : p.contracts[p.entry]? with
  | none => simp [hc] at hr
  | some c => simpa [hc] using hr

theorem pure_trim_note_sequence : pureProg ir_trim_note_sequence = true := by decide +kernel
theorem pure__extract_subsequences : pureProg ir__extract_subsequences = true := by decide +kernel
theorem pure_extract_subsequence : pureProg ir_extract_subsequence = true := by decide +kernel
theorem pure_split_note_sequence : pureProg ir_split_note_sequence = true := by decide +kernel
theorem pure_split_note_sequence_on_time_changes :
    pureProg ir_split_note_sequence_on_time_changes = true := by decide +kernel
theorem pure_split_note_sequence_on_silence : pureProg ir_split_note_sequence_on_silence = true := by decide +kernel
theorem pure_shift_sequence_times : pureProg ir_shift_sequence_times = true := by decide +kernel
theorem pure_stretch_note_sequence : pureProg ir_stretch_note_sequence = true := by decide +kernel
theorem pure_transpose_note_sequence : pureProg ir_transpose_note_sequence = true := by decide +kernel
theorem pure_quantize_note_sequence : pureProg ir_quantize_note_sequence = true := by decide +kernel
theorem pure_quantize_note_sequence_absolute : pureProg ir_quantize_note_sequence_absolute = true := by decide +kernel
theorem pure_apply_sustain_control_changes : pureProg ir_apply_sustain_control_changes = true := by decide +kernel
theorem pure_concatenate_sequences : pureProg ir_concatenate_sequences = true := by decide +kernel
theorem pure_merge_sequences : pureProg ir_merge_sequences = true := by decide +kernel
theorem pure_repeat_sequence_to_duration : pureProg ir_repeat_sequence_to_duration = true := by decide +kernel
theorem pure_expand_section_groups : pureProg ir_expand_section_groups = true := by decide +kernel
theorem pure_remove_redundant_data : pureProg ir_remove_redundant_data = true := by decide +kernel
theorem pure_adjust_notesequence_times : pureProg ir_adjust_notesequence_times = true := by decide +kernel
theorem pure_rectify_beats : pureProg ir_rectify_beats = true := by decide +kernel

/-! ## The result is a NEW NoteSequence

"Every operation documented as returning a new NoteSequence": whatever an accepted operation returns
contains no object that was reachable from its arguments (`NSV.C11.fresh_result_sound`), so no later
in-place edit of the result by the caller can reach the argument, for every argument value (factor
1.0, amount 0, an identity time map, a window covering everything, a single piece, no section groups …).
Re-decided against the IR of the current source on every run. -/
theorem fresh_trim_note_sequence : freshResult ir_trim_note_sequence = true := fresh_of_pure pure_trim_note_sequence (by decide)
theorem fresh__extract_subsequences : freshResult ir__extract_subsequences = true := fresh_of_pure pure__extract_subsequences (by decide)
theorem fresh_extract_subsequence : freshResult ir_extract_subsequence = true := fresh_of_pure pure_extract_subsequence (by decide)
theorem fresh_split_note_sequence : freshResult ir_split_note_sequence = true := fresh_of_pure pure_split_note_sequence (by decide)
theorem fresh_split_note_sequence_on_time_changes : freshResult ir_split_note_sequence_on_time_changes = true := fresh_of_pure pure_split_note_sequence_on_time_changes (by decide)
theorem fresh_split_note_sequence_on_silence : freshResult ir_split_note_sequence_on_silence = true := fresh_of_pure pure_split_note_sequence_on_silence (by decide)
theorem fresh_shift_sequence_times : freshResult ir_shift_sequence_times = true := fresh_of_pure pure_shift_sequence_times (by decide)
theorem fresh_stretch_note_sequence : freshResult ir_stretch_note_sequence = true := fresh_of_pure pure_stretch_note_sequence (by decide)
theorem fresh_transpose_note_sequence : freshResult ir_transpose_note_sequence = true := fresh_of_pure pure_transpose_note_sequence (by decide)
theorem fresh_quantize_note_sequence : freshResult ir_quantize_note_sequence = true := fresh_of_pure pure_quantize_note_sequence (by decide)
theorem fresh_quantize_note_sequence_absolute : freshResult ir_quantize_note_sequence_absolute = true := fresh_of_pure pure_quantize_note_sequence_absolute (by decide)
theorem fresh_apply_sustain_control_changes : freshResult ir_apply_sustain_control_changes = true := fresh_of_pure pure_apply_sustain_control_changes (by decide)
theorem fresh_concatenate_sequences : freshResult ir_concatenate_sequences = true := fresh_of_pure pure_concatenate_sequences (by decide)
theorem fresh_merge_sequences : freshResult ir_merge_sequences = true := fresh_of_pure pure_merge_sequences (by decide)
theorem fresh_repeat_sequence_to_duration : freshResult ir_repeat_sequence_to_duration = true := fresh_of_pure pure_repeat_sequence_to_duration (by decide)
theorem fresh_expand_section_groups : freshResult ir_expand_section_groups = true := fresh_of_pure pure_expand_section_groups (by decide)
theorem fresh_remove_redundant_data : freshResult ir_remove_redundant_data = true := fresh_of_pure pure_remove_redundant_data (by decide)
theorem fresh_adjust_notesequence_times : freshResult ir_adjust_notesequence_times = true := fresh_of_pure pure_adjust_notesequence_times (by decide)
theorem fresh_rectify_beats : freshResult ir_rectify_beats = true := fresh_of_pure pure_rectify_beats (by decide)

/-- `_quantize_notes` is documented to work in place; the obligation proved for it is its *contract*:
called on a wholly fresh first argument it writes nothing that existed before (that is how
`quantize_note_sequence(_absolute)` call it, which is part of their obligations above). -/
theorem contract__quantize_notes :
    ir__quantize_notes.contracts[ir__quantize_notes.entry]? = some ⟨[AbsVal.fresh, AbsVal.both], AbsVal.bot⟩ ∧
      checkList ir__quantize_notes.contracts ir__quantize_notes.ops ir__quantize_notes.contracts = true := by
  decide +kernel

/-! ### self-test: the `in_place=True` specialisations and `_quantize_notes` are not accepted
In all three slices the translator proposes for the entry a contract whose precondition demands a freshly
allocated first argument (cf. `contract__quantize_notes`); `checkList` holds for that proposal, and
`pureProg` is false because the precondition is not `topPre`, "any argument whatsoever".  That a write
through an alias of an argument is itself reported is shown by `exAlias` in `Props/C11.lean`. -/
theorem impure_stretch_note_sequence_in_place : pureProg ir_stretch_note_sequence__in_place = false := by
  decide +kernel
theorem impure_transpose_note_sequence_in_place : pureProg ir_transpose_note_sequence__in_place = false := by
  decide +kernel
theorem impure__quantize_notes : pureProg ir__quantize_notes = false := by decide +kernel

end NSV.C11

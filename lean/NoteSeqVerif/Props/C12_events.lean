import NoteSeqVerif.Proofs.C12B
import NoteSeqVerif.Props.C07
/-! C12 — event-sequence extraction does not depend on the storage order of notes and events.

For every pair of quantized NoteSequences related by `NSPerm` (any permutation of any repeated field) and equal scalar
parameters, the C07 models of `PianorollSequence`, `DrumTrack`, `ChordProgression`, `Melody`, `Performance`,
`MetricPerformance` and `NotePerformance` return *equal* results: the same event list, start/end step, bar length,
program/is_drum — or the same exception.  No bound on sizes.

Where the Python really reads storage order the hypothesis needed is explicit and decidable (`Proofs/C12B.lean`):
* `BarAgree`       — all stored time signatures have one (numerator, denominator): `steps_per_bar_in_quantized_sequence`
                     reads `time_signatures[0]` (Melody, DrumTrack, ChordProgression);
* `ChordTiesAgree` — chord symbols sharing (step, time) *before* `start_step` carry the same text (the sort key is
                     `(quantized_step, time)`; the last one in sorted order is the chord in force at `start_step`);
* `MelTiesAgree`   — selected notes sharing (start step, pitch, start time) share the end step (the sort key is
                     `(quantized_start_step, -pitch, start_time)`; `ignore_polyphonic_notes` keeps the first);
* `PerfTiesAgree`  — selected notes sharing (start time, pitch) share start step, end step and velocity bin.
Each is preserved by `NSPerm` (`*.perm`) and shown necessary by the counterexamples below (on each of them the real
Python shows the same dependence).  PianorollSequence and DrumTrack need no tie condition at all.
Relation to the property's quantifier ("no two same-pitch notes overlap or coincide, no two state events of one kind
share a time", stated on the *unquantized* sequence): `BarAgree` is what `quantize_note_sequence` enforces
(`MultipleTimeSignatureError`); `PerfTiesAgree` and `MelTiesAgree` follow from it (two notes of one pitch with one start
time overlap or coincide) and so does `ChordTiesAgree` (two chord symbols with one time share a time).  Quantization can
still put two non-overlapping notes of one pitch (resp. two chord symbols at different times) on one step; since the
third (resp. second) sort-key component is the unquantized time, Melody extraction with `ignore_polyphonic_notes` (resp.
ChordProgression extraction from a later `start_step`) does not depend on storage order there: `exMelTie` /
`exChordTie` below have exactly that shape (with the keys `(step, -pitch)` / `step` alone they would be
storage-order dependent: F-C12-3 / F-C12-4) and are covered by `melody_perm` / `chords_perm`
(`exMelTie_order_independent`, `exChordTie_order_independent`). -/
namespace NSV.C12
open NSV.C07

/-- `PianorollSequence(quantized_sequence=…)`: same frames or same exception, for *every* input (no tie condition:
painting happens in start-step order and the silenced frame before a re-strike wins over any earlier paint) -/
theorem pianoroll_perm {s s' : NoteSeq} (h : NSPerm s s') (startStep minP maxP : Int) (split : Bool) :
    pianorollFromQuantized s startStep minP maxP split = pianorollFromQuantized s' startStep minP maxP split := by
  have hp : (sortByInt (·.qs) s.notes).Perm (sortByInt (·.qs) s'.notes) := mergeSort_perm_of_perm _ h.notes
  unfold pianorollFromQuantized
  simp only [← h.spq, ← h.totalQSteps, hp.any_eq,
    rollFrames_perm _ hp (sortByInt_pairwise _ _) (sortByInt_pairwise _ _)]

/-- `DrumTrack.from_quantized_sequence`: same events, start/end step, bar length — or same exception -/
theorem drums_perm {s s' : NoteSeq} (h : NSPerm s s') (hb : BarAgree s) (searchStart gapBars : Int)
    (padEnd ignoreIsDrum : Bool) :
    drumsFromQuantized s searchStart gapBars padEnd ignoreIsDrum =
      drumsFromQuantized s' searchStart gapBars padEnd ignoreIsDrum := by
  have hsel := h.notes.filter (drumSel searchStart ignoreIsDrum)
  unfold drumsFromQuantized
  simp only [← stepsPerBar_perm h hb, ← h.spq, ← canonSet_perm (hsel.map (·.qs)), ← drumLoop_perm hsel]

/-- `ChordProgression.from_quantized_sequence`: same figures per step — or same exception (`CoincidentChordsError`
included: two different symbols on one step inside the range raise it in either order) -/
theorem chords_perm {s s' : NoteSeq} (h : NSPerm s s') (hb : BarAgree s) (startStep endStep : Int)
    (ht : ChordTiesAgree s startStep) :
    chordsFromQuantized s startStep endStep = chordsFromQuantized s' startStep endStep := by
  rw [chordsFromQuantized_eq, chordsFromQuantized_eq, ← stepsPerBar_perm h hb, ← h.spq]
  simp only [← chordsCoincident_perm h startStep endStep]
  cases stepsPerBar s with
  | error e => rfl
  | ok spb =>
    by_cases hc : ChordsCoincident s startStep endStep
    · simp only [hc, ↓reduceIte]
    · have : chordTab startStep Gen.NO_CHORD (chordAnns s) 0 (endStep - startStep).toNat =
          chordTab startStep Gen.NO_CHORD (chordAnns s') 0 (endStep - startStep).toNat := by
        refine List.map_congr_left fun i hi => chordAt_perm _ h _ fun a ha b hb' ka kb hq htm hle => ?_
        have := (List.mem_range'_1.mp hi).2
        by_cases hlt : a.qstep < startStep
        · exact ht a ha b hb' ka kb hq htm hlt
        · exact Classical.byContradiction fun hne => hc ⟨a, ha, b, hb', ka, kb, hq, by omega, by omega, hne⟩
      rw [this]

/-- `Melody.from_quantized_sequence`: same events, start/end step — or same exception (`PolyphonicMelodyError`,
`BadNoteError`, … included) -/
theorem melody_perm {s s' : NoteSeq} (h : NSPerm s s') (hb : BarAgree s) (searchStart inst gapBars : Int)
    (ignorePoly padEnd filterDrums : Bool) (ht : MelTiesAgree s searchStart inst filterDrums) :
    melodyFromQuantized s searchStart inst gapBars ignorePoly padEnd filterDrums =
      melodyFromQuantized s' searchStart inst gapBars ignorePoly padEnd filterDrums := by
  have hk := melSorted_key h ht
  unfold melodyFromQuantized
  rw [← stepsPerBar_perm h hb, ← h.spq]
  cases stepsPerBar s with
  | error e => rfl
  | ok spb =>
    simp only []
    generalize (s.notes.filter (melSel searchStart inst filterDrums)).mergeSort melLe = L at hk ⊢
    generalize (s'.notes.filter (melSel searchStart inst filterDrums)).mergeSort melLe = L' at hk ⊢
    cases L with
    | nil =>
      cases L' with
      | nil => rfl
      | cons b bs => simp at hk
    | cons a as =>
      cases L' with
      | nil => simp at hk
      | cons b bs =>
        have hq : a.qs = b.qs := by
          have := hk
          simp only [List.map_cons, List.cons.injEq, melKey, Prod.mk.injEq] at this
          exact this.1.1
        simp only [hq, melLoop_key filterDrums ignorePoly _ _ _ _ _ hk]

/-- `Performance(quantized_sequence=…)`: same events, program, is_drum — or same exception -/
theorem perf_perm {s s' : NoteSeq} (h : NSPerm s s') (startStep nb maxShift : Int) (inst : Option Int)
    (ht : PerfTiesAgree s startStep nb inst) :
    perfFromQuantized s startStep nb maxShift inst = perfFromQuantized s' startStep nb maxShift inst := by
  unfold perfFromQuantized
  rw [← h.sps, perfEvents_perm h ht, programAndIsDrum_perm h]

/-- `MetricPerformance(quantized_sequence=…)` -/
theorem metricPerf_perm {s s' : NoteSeq} (h : NSPerm s s') (startStep nb maxShiftQuarters : Int) (inst : Option Int)
    (ht : PerfTiesAgree s startStep nb inst) :
    metricPerfFromQuantized s startStep nb maxShiftQuarters inst =
      metricPerfFromQuantized s' startStep nb maxShiftQuarters inst := by
  unfold metricPerfFromQuantized
  rw [← h.spq, perfEvents_perm h ht, programAndIsDrum_perm h]

/-- `NotePerformance(quantized_sequence, …)`: same tuples — or same exception -/
theorem notePerf_perm {s s' : NoteSeq} (h : NSPerm s s') (nb : Int) (inst : Option Int)
    (startStep maxShift maxDur : Int) (ht : PerfTiesAgree s startStep nb inst) :
    notePerfFromQuantized s nb inst startStep maxShift maxDur =
      notePerfFromQuantized s' nb inst startStep maxShift maxDur := by
  unfold notePerfFromQuantized
  rw [← h.sps, programAndIsDrum_perm h inst,
    notePerfLoop_key nb maxShift maxDur _ _ startStep (sortedNotes_key h ht)]

/-! ## Non-vacuity: the hypotheses hold on non-trivial inputs (C07's examples and their reversals), the two storage
orders really differ, and the common result is not an error / not empty -/

example : revAll exRel ≠ exRel ∧ revAll exAbs ≠ exAbs := by decide
example : BarAgree exRel ∧ ChordTiesAgree exRel 0 ∧ ChordTiesAgree exRel 12 ∧ MelTiesAgree exRel 0 0 true ∧
    PerfTiesAgree exAbs 0 8 none ∧ PerfTiesAgree exAbs 0 0 none := by decide +kernel
example := pianoroll_perm (nsperm_revAll exRel) 0 55 64 true
example := drums_perm (nsperm_revAll exRel) (by decide) 0 1 true false
example := chords_perm (nsperm_revAll exRel) (by decide) 0 12 (by decide)
example := chords_perm (nsperm_revAll exRel) (by decide) 12 40 (by decide +kernel)
example := melody_perm (nsperm_revAll exRel) (by decide) 0 0 1 true false true (by decide +kernel)
example := perf_perm (nsperm_revAll exAbs) 0 8 8 none (by decide +kernel)
example := metricPerf_perm (nsperm_revAll { exAbs with spq := 4 }) 0 0 2 none (by decide +kernel)
example := notePerf_perm (nsperm_revAll exAbs) 8 none 0 26 4 (by decide +kernel)
/-- the common results are real results (evaluated on the stored-in-order originals; the theorems carry them over
to every other storage order) -/
example : ∃ r, pianorollFromQuantized exRel 0 55 64 true = .ok r ∧ (r.length : Int) = 26 := by
  obtain ⟨evs, h, hl, _⟩ := pianoroll_frame_mem exRel 0 55 64 true (by decide) (by decide) (by decide) (by decide)
  exact ⟨evs, h, by rw [hl]; decide⟩
example : (drumsFromQuantized exRel 0 1 true false).toOption.map (·.events.length) = some 16 := by decide +kernel
example : ∃ r, chordsFromQuantized exRel 0 12 = .ok r ∧ r.events.length = 12 := by
  obtain ⟨E, hE, hl, _⟩ := chords_steps exRel 0 12 16 exRel_spb (by decide) exRel_noCoincidence
  exact ⟨_, hE, by simp only []; omega⟩
example : (melodyFromQuantized exRel 0 0 1 true false true).toOption.map (·.events) = some [64, -2, 60, -2, 60, -2] := by
  unfold melodyFromQuantized
  rw [exRel_spb, exRel_melSorted]
  decide +kernel
example : ∃ r, perfFromQuantized exAbs 0 8 8 none = .ok r := by
  obtain ⟨evs, he⟩ := perf_defined exAbs 0 8 8 none (by decide) (by decide) (by
    intro n hn _ _
    simp only [exAbs, List.mem_cons, List.not_mem_nil, or_false] at hn
    rcases hn with rfl | rfl | rfl | rfl <;> decide)
  exact ⟨_, by simp only [perfFromQuantized, he]; rfl⟩

/-! ## The hypotheses are needed: the MODEL (= the Python) reads storage order exactly there -/

/-- two different time signatures (at different times — allowed by the quantifier): the first stored decides the bar -/
def exTwoSigs : NoteSeq := { exRel with timeSigs := [⟨0, 4, 4⟩, ⟨2, 3, 4⟩] }
example : ¬ BarAgree exTwoSigs ∧ stepsPerBar exTwoSigs = .ok 16 ∧ stepsPerBar (revAll exTwoSigs) = .ok 12 ∧
    drumsFromQuantized exTwoSigs 20 1 false true ≠ drumsFromQuantized (revAll exTwoSigs) 20 1 false true := by
  decide +kernel

/-- two different chord symbols with one (step, time) before the start step: the one stored last is in force.  (Outside
the property's quantifier — two chord symbols share a time.) -/
def exChordSame : NoteSeq := { exRel with texts := [⟨1/4, 2, 1, "x43"⟩, ⟨1/4, 2, 1, "x47"⟩] }
theorem exChordSame_sorted : chordAnns exChordSame = exChordSame.texts ∧
    chordAnns (revAll exChordSame) = exChordSame.texts.reverse :=
  ⟨List.mergeSort_of_pairwise (by decide +kernel), List.mergeSort_of_pairwise (by decide +kernel)⟩
example : ¬ ChordTiesAgree exChordSame 4 ∧
    chordsFromQuantized exChordSame 4 8 ≠ chordsFromQuantized (revAll exChordSame) 4 8 := by
  refine ⟨by decide +kernel, ?_⟩
  have h : stepsPerBar (revAll exChordSame) = .ok 16 ∧ stepsPerBar exChordSame = .ok 16 := by decide +kernel
  unfold chordsFromQuantized
  rw [exChordSame_sorted.1, exChordSame_sorted.2, h.1, h.2]
  decide +kernel
/-- … while inside the range both orders raise `CoincidentChordsError` (covered by `chords_perm`) -/
example : ChordTiesAgree exChordSame 0 ∧ chordsFromQuantized exChordSame 0 8 = .error .coincidentChordsError ∧
    chordsFromQuantized (revAll exChordSame) 0 8 = .error .coincidentChordsError := by
  have h : stepsPerBar (revAll exChordSame) = .ok 16 ∧ stepsPerBar exChordSame = .ok 16 := by decide +kernel
  unfold chordsFromQuantized
  rw [exChordSame_sorted.1, exChordSame_sorted.2, h.1, h.2]
  decide +kernel

/-- two notes of pitch 60 with one start time on step 0 with different ends: `ignore_polyphonic_notes` keeps the one
stored first.  (Outside the property's quantifier — two notes of one pitch coincide at their start.) -/
def exMelSame : NoteSeq := { exRel with notes := [exNote 60 0 1, exNote 60 0 3] }
example : ¬ MelTiesAgree exMelSame 0 0 true ∧
    melodyFromQuantized exMelSame 0 0 1 true false true ≠ melodyFromQuantized (revAll exMelSame) 0 0 1 true false true := by
  refine ⟨by decide +kernel, ?_⟩
  have h : stepsPerBar (revAll exMelSame) = .ok 16 ∧ stepsPerBar exMelSame = .ok 16 := by decide +kernel
  have h1 : (exMelSame.notes.filter (melSel 0 0 true)).mergeSort melLe = exMelSame.notes :=
    List.mergeSort_of_pairwise (by decide +kernel)
  have h2 : ((revAll exMelSame).notes.filter (melSel 0 0 true)).mergeSort melLe = exMelSame.notes.reverse :=
    List.mergeSort_of_pairwise (by decide +kernel)
  unfold melodyFromQuantized
  rw [h1, h2, h.1, h.2]
  decide +kernel

/-- two notes with one start time and pitch but different velocity bins: the VELOCITY events come in storage order -/
def exPerfTie : NoteSeq := { exAbs with notes := [exNote 60 0 4 10, exNote 60 0 4 120] }
example : ¬ PerfTiesAgree exPerfTie 0 8 none ∧ PerfTiesAgree exPerfTie 0 0 none ∧
    perfFromQuantized exPerfTie 0 8 8 none ≠ perfFromQuantized (revAll exPerfTie) 0 8 8 none := by
  refine ⟨by decide +kernel, by decide +kernel, ?_⟩
  have h1 : sortedNotes exPerfTie 0 none = exPerfTie.notes := List.mergeSort_of_pairwise (by decide +kernel)
  have h2 : sortedNotes (revAll exPerfTie) 0 none = exPerfTie.notes.reverse :=
    List.mergeSort_of_pairwise (by decide +kernel)
  have h3 : noteEvents exPerfTie.notes = onsets exPerfTie.notes ++ offsets exPerfTie.notes :=
    List.mergeSort_of_pairwise (by decide +kernel)
  have h4 : noteEvents exPerfTie.notes.reverse = onsets exPerfTie.notes.reverse ++ offsets exPerfTie.notes.reverse :=
    List.mergeSort_of_pairwise (by decide +kernel)
  unfold perfFromQuantized perfEvents
  rw [h1, h2, h3, h4]
  decide +kernel

/-! ## Ties on a step that the unquantized time resolves (the shapes of F-C12-3 / F-C12-4) -/

/-- chord symbols 'C' at 0.25 s and 'G7' at 0.26 s both quantize to step 2 (4 steps per quarter, 120 qpm); a
progression extracted over `[4, 8)`.  With the sort key `quantized_step` alone the chord in force at step 4 would be
the one stored last. -/
def exChordTie : NoteSeq := { exRel with texts := [⟨1/4, 2, 1, "x43"⟩, ⟨13/50, 2, 1, "x47"⟩] }

/-- stored in time order, the chord at 0.26 s last: the sort leaves the list as it is -/
theorem exChordTie_sorted : chordAnns exChordTie = exChordTie.texts :=
  List.mergeSort_of_pairwise (by decide +kernel)

/-- `ChordTiesAgree` holds (the two symbols differ in time), so `chords_perm` applies: the progression over `[4, 8)`
is the same for the two storage orders, and it is the later chord (`G7`, hex `x47`) on all four steps -/
theorem exChordTie_order_independent : revAll exChordTie ≠ exChordTie ∧ ChordTiesAgree exChordTie 4 ∧
    chordsFromQuantized exChordTie 4 8 = chordsFromQuantized (revAll exChordTie) 4 8 ∧
    (chordsFromQuantized exChordTie 4 8).toOption.map (·.events) = some ["x47", "x47", "x47", "x47"] := by
  refine ⟨by decide +kernel, by decide +kernel, chords_perm (nsperm_revAll exChordTie) (by decide) 4 8 (by decide +kernel), ?_⟩
  have h : stepsPerBar exChordTie = .ok 16 := by decide +kernel
  unfold chordsFromQuantized
  rw [exChordTie_sorted, h]
  decide +kernel

/-- notes of pitch 60 at 0.0–0.05 s and 0.06–0.4 s: they do not overlap, both start on step 0, they end on steps 1
and 3.  With the sort key `(step, -pitch)` alone, `ignore_polyphonic_notes` would keep whichever is stored first
(`[60]` vs `[60, -2, -2]`). -/
def exMelTie : NoteSeq := { exRel with notes := [exNote 60 0 1 100 0 false 0, exNote 60 0 3 100 0 false (3/50)] }

/-- `MelTiesAgree` holds (the two notes differ in start time), so `melody_perm` applies: the melody is the same for
the two storage orders, and it keeps the note that starts first (`[60]`) -/
theorem exMelTie_order_independent : revAll exMelTie ≠ exMelTie ∧ MelTiesAgree exMelTie 0 0 true ∧
    melodyFromQuantized exMelTie 0 0 1 true false true = melodyFromQuantized (revAll exMelTie) 0 0 1 true false true ∧
    (melodyFromQuantized exMelTie 0 0 1 true false true).toOption.map (·.events) = some [60] := by
  refine ⟨by decide +kernel, by decide +kernel,
    melody_perm (nsperm_revAll exMelTie) (by decide) 0 0 1 true false true (by decide +kernel), ?_⟩
  have h : stepsPerBar exMelTie = .ok 16 := by decide +kernel
  have h1 : (exMelTie.notes.filter (melSel 0 0 true)).mergeSort melLe = exMelTie.notes :=
    List.mergeSort_of_pairwise (by decide +kernel)
  unfold melodyFromQuantized
  rw [h1, h]
  decide +kernel

/-! ## program / is_drum of a performance, as a function of the BAG of notes

`programAndIsDrum_perm` (used in `perf_perm`, `metricPerf_perm`, `notePerf_perm`) says the result is the same for every
storage order; the two theorems below say WHAT it is, in terms that do not mention order at all (the docstring of
`_program_and_is_drum_from_sequence`).  `program_fold_depends_on_order`: the natural one-pass rewrite is not. -/

theorem canonSet_eq_singleton {l : List Int} {p : Int} :
    canonSet l = [p] ↔ l ≠ [] ∧ ∀ x ∈ l, x = p := by
  constructor
  · intro h
    refine ⟨?_, ?_⟩
    · rintro rfl
      simp [canonSet] at h
    · intro x hx
      have := (mem_canonSet (y := x) (l := l)).mpr hx
      rw [h] at this
      simpa using this
  · rintro ⟨hne, hall⟩
    refine sorted_ext (canonSet_sorted l) (List.pairwise_singleton _ _) fun x => ?_
    rw [mem_canonSet, List.mem_singleton]
    refine ⟨hall x, ?_⟩
    rintro rfl
    obtain ⟨a, ha⟩ := List.exists_mem_of_ne_nil l hne
    exact hall a ha ▸ ha

/-- the three verdicts of `_program_and_is_drum_from_sequence` on the selected notes: all drums (also: no note at
all); at least one note and no drum, the program being the single one if there is a single one; mixed -/
theorem programAndIsDrum_cases (s : NoteSeq) (inst : Option Int) :
    ((∀ n ∈ s.notes.filter (instOk inst), n.isDrum = true) ∧ programAndIsDrum s inst = (none, some true)) ∨
    ((s.notes.filter (instOk inst) ≠ [] ∧ ∀ n ∈ s.notes.filter (instOk inst), n.isDrum = false) ∧
      (programAndIsDrum s inst).2 = some false ∧
      ∀ p, (programAndIsDrum s inst).1 = some p ↔
        canonSet ((s.notes.filter (instOk inst)).map (·.program)) = [p]) ∨
    ((¬ ∀ n ∈ s.notes.filter (instOk inst), n.isDrum = true) ∧
      (¬ ∀ n ∈ s.notes.filter (instOk inst), n.isDrum = false) ∧ programAndIsDrum s inst = (none, none)) := by
  unfold programAndIsDrum
  generalize s.notes.filter (instOk inst) = notes
  by_cases h1 : notes.all (·.isDrum) = true
  · exact .inl ⟨List.all_eq_true.mp h1, by rw [if_pos h1]⟩
  · have hno : ¬ ∀ n ∈ notes, n.isDrum = true := fun h => h1 (List.all_eq_true.mpr h)
    rw [if_neg h1]
    by_cases h2 : notes.all (fun n => !n.isDrum) = true
    · have hnd : ∀ n ∈ notes, n.isDrum = false := fun n hn => by simpa using List.all_eq_true.mp h2 n hn
      refine .inr (.inl ⟨⟨fun e => h1 (by rw [e]; rfl), hnd⟩, ?_⟩)
      rw [if_pos h2]
      split
      · rename_i q hq
        exact ⟨rfl, fun p => by rw [hq]; simp⟩
      · rename_i hq
        exact ⟨rfl, fun p => ⟨(fun h => nomatch h), fun h => absurd h (hq p)⟩⟩
    · refine .inr (.inr ⟨hno, fun h => h2 (List.all_eq_true.mpr fun n hn => by simp [h n hn]), ?_⟩)
      rw [if_neg h2]

theorem not_drum_and_not {notes : List Note} (hne : notes ≠ []) (hd : ∀ n ∈ notes, n.isDrum = true)
    (hn : ∀ n ∈ notes, n.isDrum = false) : False := by
  obtain ⟨a, ha⟩ := List.exists_mem_of_ne_nil notes hne
  exact absurd ((hd a ha).symm.trans (hn a ha)) (by decide)

/-- what `_program_and_is_drum_from_sequence` returns, as a property of the BAG of selected notes (its docstring: "If
multiple programs are found (or if is_drum is True), program will be None"): the program is `p` exactly when there is at
least one selected note, none of them is a drum and ALL of them carry program `p` — no reference to storage order -/
theorem programAndIsDrum_program_spec (s : NoteSeq) (inst : Option Int) (p : Int) :
    (programAndIsDrum s inst).1 = some p ↔
      (s.notes.filter (instOk inst) ≠ [] ∧ ∀ n ∈ s.notes.filter (instOk inst), n.isDrum = false ∧ n.program = p) := by
  rcases programAndIsDrum_cases s inst with ⟨hd, e⟩ | ⟨⟨hne, hnd⟩, _, hp⟩ | ⟨_, hn, e⟩
  · rw [e]
    exact ⟨(fun h => nomatch h), fun h => (not_drum_and_not h.1 hd fun n hn => (h.2 n hn).1).elim⟩
  · rw [hp p, canonSet_eq_singleton]
    constructor
    · rintro ⟨_, hall⟩
      exact ⟨hne, fun n hn => ⟨hnd n hn, hall _ (List.mem_map.mpr ⟨n, hn, rfl⟩)⟩⟩
    · rintro ⟨_, hall⟩
      refine ⟨by simpa using hne, fun x hx => ?_⟩
      obtain ⟨n, hn, rfl⟩ := List.mem_map.mp hx
      exact (hall n hn).2
  · rw [e]
    exact ⟨(fun h => nomatch h), fun h => (hn fun n hn' => (h.2 n hn').1).elim⟩

/-- … and `is_drum` is `True` / `False` exactly when all selected notes are / none is a drum (docstring: "If multiple
values of is_drum are found, is_drum will be None"; no selected note at all counts as all-drums) -/
theorem programAndIsDrum_isDrum_spec (s : NoteSeq) (inst : Option Int) :
    ((programAndIsDrum s inst).2 = some true ↔ ∀ n ∈ s.notes.filter (instOk inst), n.isDrum = true) ∧
    ((programAndIsDrum s inst).2 = some false ↔
      s.notes.filter (instOk inst) ≠ [] ∧ ∀ n ∈ s.notes.filter (instOk inst), n.isDrum = false) := by
  rcases programAndIsDrum_cases s inst with ⟨hd, e⟩ | ⟨⟨hne, hnd⟩, e, _⟩ | ⟨hd, hn, e⟩
  · rw [e]
    exact ⟨⟨fun _ => hd, fun _ => rfl⟩, (fun h => nomatch h), fun h => (not_drum_and_not h.1 hd h.2).elim⟩
  · rw [e]
    exact ⟨⟨(fun h => nomatch h), fun h => (not_drum_and_not hne h hnd).elim⟩, fun _ => ⟨hne, hnd⟩, fun _ => rfl⟩
  · rw [e]
    exact ⟨⟨(fun h => nomatch h), fun h => absurd h hd⟩, (fun h => nomatch h), fun h => absurd h.2 hn⟩

/-- the one-pass computation in which `none` stands both for "no note seen yet" and for "conflict" (so a conflict is
forgotten at the next note): the result depends on where the odd note sits in the storage order -/
def programFold (ps : List Int) : Option Int :=
  ps.foldl (fun acc p => match acc with
    | none => some p
    | some q => if p = q then some q else none) none

theorem program_fold_depends_on_order :
    ([1, 2, 2] : List Int).Perm [2, 2, 1] ∧ programFold [1, 2, 2] = some 2 ∧ programFold [2, 2, 1] = none := by
  refine ⟨?_, by decide, by decide⟩
  exact (List.perm_append_comm (l₁ := [1]) (l₂ := [2, 2]))

/-- non-vacuity: three notes of instrument 0, programs 1, 2, 2 (any storage order): no program; uniform program 5: 5 -/
def exProg (a b c : Int) : NoteSeq :=
  { exAbs with notes := [{ exNote 60 0 4 80 with program := a }, { exNote 64 4 8 80 with program := b },
                         { exNote 67 8 12 80 with program := c }] }
example : (programAndIsDrum (exProg 1 2 2) (some 0)).1 = none ∧ (programAndIsDrum (exProg 2 2 1) (some 0)).1 = none ∧
    (programAndIsDrum (exProg 5 5 5) (some 0)) = (some 5, some false) ∧
    (exProg 5 5 5).notes.filter (instOk (some 0)) ≠ [] := by decide +kernel
example := (programAndIsDrum_program_spec (exProg 5 5 5) (some 0) 5).mp (by decide +kernel)

end NSV.C12

import NoteSeqVerif.Model.NoteSeq
import NoteSeqVerif.Generated.C05
/-! C05 — the MusicXML parser (`musicxml_parser.py`: `MusicXMLParserState`, `MusicXMLDocument._parse`,
`ScorePart`, `Part._parse` / `_repair_empty_measure`, `Measure._parse*` / `_fix_time_signature`,
`Note._parse` / `_parse_pitch` / `pitch_to_midi_pitch`, `NoteDuration.parse_duration` /
`duration_ratio`, `ChordSymbol`, `TimeSignature`, `KeySignature`, `Tempo`, the `get_*`
de-duplication) and the reader (`musicxml_reader.musicxml_to_sequence_proto`), transcribed on an
ABSTRACT SCORE: parts → measures → element list.  `xml.etree` and `zipfile` are not modelled: the
harness renders the abstract score to MusicXML text (and to a compressed `.mxl`) for the real code
and to wire tokens for this model.  Texts that Python turns into numbers (`int(..)`, `float(..)`)
arrive already converted (or as `bad` when the conversion would raise `ValueError`).

Every definition takes the rounding operator `R` applied after each float operation, in the
operation order of the Python; the driver instantiates `R := rne53`, the theorems use `R := id` (exact
arithmetic), an arbitrary `R`, or any `Rounding R` (`Props/C05_float.lean`).
The model follows the code as it is, including the tempo state that is not reset per part
(open finding F-C05-4). -/
namespace NSV.C05
open NSV

/-- exceptions the modelled Python raises (names = Python classes) -/
inductive Err
  | unpitchedNoteError | pitchStepParseError | chordSymbolParseError
  | multipleTimeSignatureError | alternatingTimeSignatureError | timeSignatureParseError
  | keyParseError | invalidNoteDurationTypeError
  | zeroDivisionError | attributeError | indexError
deriving DecidableEq, Repr

def Err.name : Err → String
  | .unpitchedNoteError => "UnpitchedNoteError"
  | .pitchStepParseError => "PitchStepParseError"
  | .chordSymbolParseError => "ChordSymbolParseError"
  | .multipleTimeSignatureError => "MultipleTimeSignatureError"
  | .alternatingTimeSignatureError => "AlternatingTimeSignatureError"
  | .timeSignatureParseError => "TimeSignatureParseError"
  | .keyParseError => "KeyParseError"
  | .invalidNoteDurationTypeError => "InvalidNoteDurationTypeError"
  | .zeroDivisionError => "ZeroDivisionError"
  | .attributeError => "AttributeError"
  | .indexError => "IndexError"

/-! ## the abstract score -/

/-- a text Python passes to `int()`: the parsed value, or `bad` when `int()` raises `ValueError` -/
inductive IntTxt | int (i : Int) | bad
deriving DecidableEq, Repr

inductive NoteKind
  /-- `<pitch><step/><alter/>?<octave/></pitch>`; `alter` is `float(text)` (0 when absent) -/
  | pitched (step : String) (alter : Rat) (octave : Int)
  | rest
  | unpitched
deriving DecidableEq, Repr

/-- `<note>`: children in schema order `chord? (pitch|rest|unpitched) duration? voice? type? dot*
time-modification?` -/
structure NoteEl where
  kind : NoteKind
  chord : Bool
  /-- `none`: no `<duration>` (grace note) -/
  duration : Option Int
  voice : Option Int
  type : Option String
  dots : Nat
  /-- `<actual-notes>`, `<normal-notes>` -/
  tuplet : Option (Int × Int)
deriving DecidableEq, Repr

/-- children of `<attributes>` the parser looks at, in document order -/
inductive AttrChild
  | divisions (d : Int)
  /-- `fifths = none`: no `<fifths>` element; `mode`: text of `<mode>` if present -/
  | key (fifths : Option Int) (mode : Option String)
  /-- all `<beats>` texts and all `<beat-type>` texts -/
  | time (beats : List IntTxt) (beatTypes : List IntTxt)
  | transpose (chromatic : Int)
deriving DecidableEq, Repr

/-- `<sound tempo=? dynamics=?/>` inside a `<direction>`; tempo is `float(text)` -/
structure Sound where
  tempo : Option Rat
  dynamics : Option Int
deriving DecidableEq, Repr

/-- children of `<harmony>` the parser looks at, in document order -/
inductive HChild
  /-- `<root>`: `root-step` text (none: element missing), `root-alter` text (none: missing) -/
  | root (step : Option String) (alter : Option IntTxt)
  /-- `<kind>` text, stripped (none: empty element) -/
  | kind (text : Option String)
  /-- `<degree>`: `value = none` when `degree-value` is missing, empty or not an integer;
  `type = none` when `degree-type` is missing -/
  | degree (value : Option Int) (alter : Option IntTxt) (type : Option String)
  | bass (step : Option String) (alter : Option IntTxt)
  | offset (v : IntTxt)
deriving DecidableEq, Repr

/-- children of `<measure>` -/
inductive El
  | attributes (cs : List AttrChild)
  | note (n : NoteEl)
  | backup (d : Int)
  | forward (d : Int)
  | direction (sounds : List Sound)
  | harmony (cs : List HChild)
  /-- any other tag (ignored) -/
  | other
deriving DecidableEq, Repr

/-- `<score-part id=…>` with the texts of `<midi-channel>` / `<midi-program>` when present -/
structure ScorePartEl where
  id : String
  channel : Option Int
  program : Option Int
deriving DecidableEq, Repr

structure PartEl where
  /-- the `id` attribute (`''` when absent, as in `Part.__init__`) -/
  id : String
  measures : List (List El)
deriving DecidableEq, Repr

structure Score where
  scoreParts : List ScorePartEl
  parts : List PartEl
deriving DecidableEq, Repr

/-! ## parser state and parsed objects -/

/-- `TimeSignature` (`__eq__` compares exactly these three fields) -/
structure TSig where
  num : Int
  den : Int
  time : Rat
deriving DecidableEq, Repr

/-- `KeySignature` (`__eq__`: key, mode, time_position) -/
structure KSig where
  key : Int
  minor : Bool
  time : Rat
deriving DecidableEq, Repr

structure TempoMark where
  time : Rat
  qpm : Rat
deriving DecidableEq, Repr

structure ChordSym where
  time : Rat
  figure : String
deriving DecidableEq, Repr

/-- the fields of a parsed `Note` / `NoteDuration` the reader uses -/
structure PNote where
  voice : Int
  isRest : Bool
  pitch : Int
  channel : Int
  program : Int
  velocity : Int
  /-- `note_duration.duration` (MusicXML divisions) -/
  duration : Int
  /-- `note_duration.time_position` -/
  time : Rat
  /-- `note_duration.seconds` -/
  seconds : Rat
  type : String
  dots : Nat
  tuplet : Rat
  grace : Bool
deriving DecidableEq, Repr

/-- `MusicXMLParserState` -/
structure PState where
  divisions : Int
  qpm : Rat
  spq : Rat
  tp : Rat
  velocity : Int
  program : Int
  channel : Int
  /-- `previous_note`: its `duration` and `time_position` -/
  prev : Option (Int × Rat)
  transpose : Int
  ts : Option TSig
deriving DecidableEq, Repr

def PState.init : PState :=
  { divisions := Gen.INIT_DIVISIONS, qpm := Gen.INIT_QPM, spq := Gen.INIT_SPQ, tp := 0,
    velocity := Gen.INIT_VELOCITY, program := Gen.DEFAULT_MIDI_PROGRAM,
    channel := Gen.DEFAULT_MIDI_CHANNEL, prev := none, transpose := 0, ts := none }

/-- a `Measure` object while / after it is parsed -/
structure MState where
  notes : List PNote := []
  chords : List ChordSym := []
  tempos : List TempoMark := []
  ts : Option TSig := none
  ks : Option KSig := none
  /-- sum of the durations of the voice-1 non-chord notes -/
  duration : Int := 0
deriving DecidableEq, Repr

/-! ## durations → seconds -/

/-- `d * (STANDARD_PPQ / divisions)`, then `(ticks / STANDARD_PPQ) * seconds_per_quarter`
(the arithmetic shared by `parse_duration`, `_parse_backup`, `_parse_forward`) -/
def secondsOf (R : Rat → Rat) (st : PState) (d : Int) : Except Err Rat :=
  if st.divisions = 0 then .error .zeroDivisionError
  else
    let ticks := R ((d : Rat) * R ((Gen.STANDARD_PPQ : Rat) / (st.divisions : Rat)))
    .ok (R (R (ticks / (Gen.STANDARD_PPQ : Rat)) * st.spq))

/-- `<harmony><offset>`: `offset * STANDARD_PPQ / divisions`, then `ticks / STANDARD_PPQ * spq` -/
def offsetSeconds (R : Rat → Rat) (st : PState) (o : Int) : Except Err Rat :=
  if st.divisions = 0 then .error .zeroDivisionError
  else
    let ticks := R (((o * Gen.STANDARD_PPQ : Int) : Rat) / (st.divisions : Rat))
    .ok (R (R (ticks / (Gen.STANDARD_PPQ : Rat)) * st.spq))

/-! ## notes -/

/-- Python `Fraction(n, d)` for `d ≠ 0` -/
def pyFraction (n d : Int) : Rat := mkRat (if d < 0 then -n else n) d.natAbs

/-- `Note.pitch_to_midi_pitch(step, alter, octave)` -/
def pitchToMidi (step : String) (alter : Rat) (octave : Int) : Except Err Int :=
  match Gen.stepTable.lookup step with
  | none => .error .pitchStepParseError
  | some pc => .ok ((12 + (pc + truncR alter)) + octave * 12)

def lookupType (t : String) : Option Rat := Gen.typeRatioMap.lookup t

/-- `Note._parse` for children in schema order, including `NoteDuration.parse_duration` -/
def parseNote (R : Rat → Rat) (st : PState) (n : NoteEl) : Except Err (PState × PNote) :=
  -- <pitch> / <rest> / <unpitched>
  let pitchE : Except Err Int := match n.kind with
    | .pitched step alter octave => match pitchToMidi step alter octave with
        | .ok p => .ok (p + st.transpose)
        | .error e => .error e
    | .rest => .ok 0
    | .unpitched => .error .unpitchedNoteError
  match pitchE with
  | .error e => .error e
  | .ok pitch =>
    -- <duration>
    let durE : Except Err (PState × Int × Rat × Rat × Bool) := match n.duration with
      | none => .ok (st, 0, 0, 0, true)
      | some d0 =>
        if n.chord then
          match st.prev with
          | none => .error .attributeError
          | some (pd, pt) => match secondsOf R st pd with
              | .error e => .error e
              | .ok sec => .ok (st, pd, pt, sec, false)
        else
          match secondsOf R st d0 with
          | .error e => .error e
          | .ok sec => .ok ({ st with tp := R (st.tp + sec) }, d0, st.tp, sec, false)
    match durE with
    | .error e => .error e
    | .ok (st1, dur, time, sec, grace) =>
      -- <type>
      let tyE : Except Err String := match n.type with
        | none => .ok "quarter"
        | some t => if (lookupType t).isSome then .ok t else .error .invalidNoteDurationTypeError
      match tyE with
      | .error e => .error e
      | .ok ty =>
        -- <time-modification>: Fraction(actual, normal)
        let tupE : Except Err Rat := match n.tuplet with
          | none => .ok 1
          | some (a, b) => if b = 0 then .error .zeroDivisionError else .ok (pyFraction a b)
        match tupE with
        | .error e => .error e
        | .ok tup =>
          .ok (st1, { voice := n.voice.getD 1, isRest := n.kind == .rest, pitch := pitch,
                      channel := st.channel, program := st.program, velocity := st.velocity,
                      duration := dur, time := time, seconds := sec, type := ty, dots := n.dots,
                      tuplet := tup, grace := grace })

/-! ## attributes -/

/-- `TimeSignature._parse` -/
def parseTime (st : PState) (beats beatTypes : List IntTxt) : Except Err TSig :=
  if beats.length > 1 ∨ beatTypes.length > 1 then .error .alternatingTimeSignatureError
  else match beats, beatTypes with
    | [b], [t] => match b, t with
        | .int n, .int d => .ok ⟨n, d, st.tp⟩
        | _, _ => .error .timeSignatureParseError
    | _, _ => .error .attributeError     -- `find('beats')` is None

/-- one child of `<attributes>` (`Measure._parse_attributes`) -/
def parseAttr (st : PState) (m : MState) : AttrChild → Except Err (PState × MState)
  | .divisions d => .ok ({ st with divisions := d }, m)
  | .key fifths mode => match fifths with
      | none => .error .keyParseError
      | some f => .ok (st, { m with ks := some ⟨f, mode == some "minor", st.tp⟩ })
  | .time beats beatTypes => match m.ts with
      | some _ => .error .multipleTimeSignatureError
      | none => match parseTime st beats beatTypes with
          | .error e => .error e
          | .ok ts => .ok ({ st with ts := some ts }, { m with ts := some ts })
  | .transpose c =>
      let st' := { st with transpose := c }
      match m.ks with
      | none => .ok (st', m)
      | some k =>
          let newKey := k.key + Int.fmod (c * (-5)) 12
          let newKey := if newKey > 6 then newKey - 12 else newKey
          .ok (st', { m with ks := some { k with key := newKey } })

def parseAttrs (st : PState) (m : MState) : List AttrChild → Except Err (PState × MState)
  | [] => .ok (st, m)
  | c :: cs => match parseAttr st m c with
      | .error e => .error e
      | .ok (st', m') => parseAttrs st' m' cs

/-! ## direction -/

/-- one `<sound>` of `Measure._parse_direction` (dynamics is read only next to a tempo) -/
def parseSound (R : Rat → Rat) (st : PState) (m : MState) (s : Sound) : PState × MState :=
  match s.tempo with
  | none => (st, m)
  | some q =>
      let qpm := if q = 0 then Gen.DEFAULT_QPM else q
      let st1 := { st with qpm := qpm, spq := R (60 / qpm) }
      let st2 := match s.dynamics with
        | none => st1
        | some v => { st1 with velocity := v }
      (st2, { m with tempos := m.tempos ++ [⟨st.tp, qpm⟩] })

def parseSounds (R : Rat → Rat) (st : PState) (m : MState) : List Sound → PState × MState
  | [] => (st, m)
  | s :: ss => let r := parseSound R st m s; parseSounds R r.1 r.2 ss

/-! ## harmony -/

/-- `ChordSymbol._alter_to_string` -/
def alterToString : IntTxt → Except Err String
  | .bad => .error .chordSymbolParseError
  | .int i => match Gen.alterStrings.lookup i with
      | some s => .ok s
      | none => .error .chordSymbolParseError

/-- `ChordSymbol._parse_pitch` (root or bass) -/
def parseHPitch (st : PState) (step : Option String) (alter : Option IntTxt) : Except Err String :=
  match step with
  | none => .error .chordSymbolParseError
  | some s =>
    let aE : Except Err String := match alter with
      | none => .ok ""
      | some t => alterToString t
    match aE with
    | .error e => .error e
    | .ok a => if st.transpose ≠ 0 then .error .chordSymbolParseError else .ok (s ++ a)

/-- `ChordSymbol._parse_degree` -/
def parseDegree (value : Option Int) (alter : Option IntTxt) (type : Option String) :
    Except Err String :=
  match value with
  | none => .error .chordSymbolParseError
  | some v =>
    let aE : Except Err String := match alter with
      | none => .ok ""
      | some t => alterToString t
    match aE with
    | .error e => .error e
    | .ok a =>
      match type with
      | none => .error .chordSymbolParseError
      | some t =>
        if t = "add" then .ok ((if a = "" then "add" else "") ++ a ++ toString v)
        else if t = "subtract" then .ok ("no" ++ toString v)
        else if t = "alter" then
          (if a = "" then .error .chordSymbolParseError else .ok (a ++ toString v))
        else .error .chordSymbolParseError

/-- the `ChordSymbol` object while its children are read -/
structure HState where
  time : Rat
  root : Option String := none
  kind : String := ""
  degrees : List String := []
  bass : Option String := none
deriving DecidableEq, Repr

def parseHChild (R : Rat → Rat) (st : PState) (h : HState) : HChild → Except Err HState
  | .root step alter => match parseHPitch st step alter with
      | .error e => .error e
      | .ok r => .ok { h with root := some r }
  | .kind none => .ok h
  | .kind (some t) => match Gen.chordKindAbbreviations.lookup t with
      | none => .error .chordSymbolParseError
      | some k => .ok { h with kind := k }
  | .degree v a t => match parseDegree v a t with
      | .error e => .error e
      | .ok d => .ok { h with degrees := h.degrees ++ [d] }
  | .bass step alter => match parseHPitch st step alter with
      | .error e => .error e
      | .ok r => .ok { h with bass := some r }
  | .offset .bad => .error .chordSymbolParseError
  | .offset (.int o) => match offsetSeconds R st o with
      | .error e => .error e
      | .ok sec => .ok { h with time := R (h.time + sec) }

def parseHChildren (R : Rat → Rat) (st : PState) (h : HState) : List HChild → Except Err HState
  | [] => .ok h
  | c :: cs => match parseHChild R st h c with
      | .error e => .error e
      | .ok h' => parseHChildren R st h' cs

/-- `ChordSymbol.get_figure_string` -/
def figureOf (h : HState) (root : String) : String :=
  let degs := String.join (h.degrees.map (fun d => "(" ++ d ++ ")"))
  let bass := match h.bass with
    | none => ""
    | some b => if b = "" then "" else "/" ++ b
  root ++ h.kind ++ degs ++ bass

/-- `ChordSymbol._parse` followed (in the reader) by `get_figure_string` -/
def parseHarmony (R : Rat → Rat) (st : PState) (cs : List HChild) : Except Err ChordSym :=
  match parseHChildren R st { time := st.tp } cs with
  | .error e => .error e
  | .ok h =>
    if h.kind = "N.C." then .ok ⟨h.time, h.kind⟩
    else match h.root with
      | none => .error .chordSymbolParseError
      | some r => .ok ⟨h.time, figureOf h r⟩

/-! ## measure -/

/-- one child of `<measure>` (`Measure._parse`) -/
def parseEl (R : Rat → Rat) (st : PState) (m : MState) : El → Except Err (PState × MState)
  | .attributes cs => parseAttrs st m cs
  | .backup d => match secondsOf R st d with
      | .error e => .error e
      | .ok sec => .ok ({ st with tp := R (st.tp - sec) }, m)
  | .forward d => match secondsOf R st d with
      | .error e => .error e
      | .ok sec => .ok ({ st with tp := R (st.tp + sec) }, m)
  | .direction sounds => .ok (parseSounds R st m sounds)
  | .note n => match parseNote R st n with
      | .error e => .error e
      | .ok (st', pn) =>
          .ok ({ st' with prev := some (pn.duration, pn.time) },
               { m with notes := m.notes ++ [pn],
                        duration := if pn.voice = 1 ∧ ¬ n.chord then m.duration + pn.duration
                                    else m.duration })
  | .harmony cs => match parseHarmony R st cs with
      | .error e => .error e
      | .ok c => .ok (st, { m with chords := m.chords ++ [c] })
  | .other => .ok (st, m)

def parseEls (R : Rat → Rat) (st : PState) (m : MState) : List El → Except Err (PState × MState)
  | [] => .ok (st, m)
  | e :: es => match parseEl R st m e with
      | .error e => .error e
      | .ok (st', m') => parseEls R st' m' es

/-- `Measure._fix_time_signature` (`start` = the cursor when the measure began) -/
def fixTimeSignature (st : PState) (m : MState) (start : Rat) : Except Err (PState × MState) :=
  let numerator := m.duration
  let denominator := st.divisions * 4
  if denominator = 0 then .error .zeroDivisionError
  else
    let fts := pyFraction numerator denominator
    match st.ts, m.ts with
    | none, none =>
        let ts : TSig := ⟨fts.num, fts.den, 0⟩
        .ok ({ st with ts := some ts }, { m with ts := some ts })
    | none, some _ => .error .attributeError    -- `None.numerator` (never reached by the parser)
    | some g, mts =>
        if g.den = 0 then .error .zeroDivisionError
        else
          let fsts := pyFraction g.num g.den
          let pickup : Bool := numerator < g.num
          let new : Int × Int :=
            if fts = 1 ∧ pickup = false then (g.den, g.den) else (fts.num, fts.den)
          if pickup = true ∨ (mts.isNone ∧ fts ≠ fsts) then
            let ts : TSig := ⟨new.1, new.2, start⟩
            .ok ({ st with ts := some ts }, { m with ts := some ts })
          else .ok (st, m)

def isNote : El → Bool | .note _ => true | _ => false
def isForward : El → Bool | .forward _ => true | _ => false

/-- the rest `_repair_empty_measure` inserts -/
def repairRest (d : Int) : El :=
  .note { kind := .rest, chord := false, duration := some d, voice := some 1, type := some "whole",
          dots := 0, tuplet := none }

/-- `Part._repair_empty_measure`: a measure with no note and exactly one `<forward>` loses the
forward and gets a whole-measure rest of that duration appended -/
def repairMeasure (els : List El) : List El :=
  if (els.filter isNote).length = 0 ∧ (els.filter isForward).length = 1 then
    match els.find? isForward with
    | some (.forward d) => els.filter (fun e => ! isForward e) ++ [repairRest d]
    | _ => els
  else els

/-- `Measure.__init__` on an already repaired element list -/
def parseMeasure (R : Rat → Rat) (st : PState) (els : List El) : Except Err (PState × MState) :=
  match parseEls R st {} els with
  | .error e => .error e
  | .ok (st', m) => fixTimeSignature st' m st.tp

/-! ## part, document -/

/-- `ScorePart._parse` → (midi_channel, midi_program) -/
def scorePartMidi (sp : ScorePartEl) : Int × Int :=
  match sp.channel, sp.program with
  | some c, some p => (c, p)
  | _, _ => (Gen.DEFAULT_MIDI_CHANNEL, Gen.DEFAULT_MIDI_PROGRAM)

/-- `self._score_parts[id]` (a dict: the last `<score-part>` with that id wins) or a default one -/
def lookupScorePart (sps : List ScorePartEl) (id : String) : Int × Int :=
  match (sps.filter (fun sp => sp.id = id)).getLast? with
  | some sp => scorePartMidi sp
  | none => (Gen.DEFAULT_MIDI_CHANNEL, Gen.DEFAULT_MIDI_PROGRAM)

def parseMeasures (R : Rat → Rat) (st : PState) : List (List El) → Except Err (PState × List MState)
  | [] => .ok (st, [])
  | els :: rest => match parseMeasure R st (repairMeasure els) with
      | .error e => .error e
      | .ok (st', m) => match parseMeasures R st' rest with
          | .error e => .error e
          | .ok (st'', ms) => .ok (st'', m :: ms)

/-- the state `Part._parse` starts from: cursor, channel, program and transposition are reset,
everything else (divisions, tempo, velocity, previous note, time signature) is inherited -/
def partStart (sps : List ScorePartEl) (st : PState) (p : PartEl) : PState :=
  let cp := lookupScorePart sps p.id
  { st with tp := 0, channel := cp.1, program := cp.2, transpose := 0 }

def parsePart (R : Rat → Rat) (sps : List ScorePartEl) (st : PState) (p : PartEl) :
    Except Err (PState × List MState) :=
  parseMeasures R (partStart sps st p) p.measures

/-- the part loop of `MusicXMLDocument._parse`; `total` is `total_time_secs` -/
def parseParts (R : Rat → Rat) (sps : List ScorePartEl) (st : PState) (total : Rat) :
    List PartEl → Except Err (PState × Rat × List (List MState))
  | [] => .ok (st, total, [])
  | p :: ps => match parsePart R sps st p with
      | .error e => .error e
      | .ok (st', ms) =>
          let total' := if st'.tp > total then st'.tp else total
          match parseParts R sps st' total' ps with
          | .error e => .error e
          | .ok (st'', t, rest) => .ok (st'', t, ms :: rest)

/-- a parsed `MusicXMLDocument` -/
structure Doc where
  parts : List (List MState)
  total : Rat
  /-- the parser state after the last part (`get_tempos` reads its `qpm`) -/
  final : PState
deriving Repr

def parseDoc (R : Rat → Rat) (sc : Score) : Except Err Doc :=
  match parseParts R sc.scoreParts PState.init 0 sc.parts with
  | .error e => .error e
  | .ok (st, total, parts) => .ok ⟨parts, total, st⟩

/-! ## reader -/

/-- `if x not in acc: acc.append(x)` over a list, in order -/
def dedup {α} [DecidableEq α] : List α → List α → List α
  | acc, [] => acc
  | acc, x :: xs => if x ∈ acc then dedup acc xs else dedup (acc ++ [x]) xs

def Doc.measures (d : Doc) : List MState := d.parts.flatten

/-- `get_time_signatures` -/
def getTimeSignatures (d : Doc) : List TSig := dedup [] (d.measures.filterMap (·.ts))

/-- `get_key_signatures` (default: C major at 0) -/
def getKeySignatures (d : Doc) : List KSig :=
  match dedup [] (d.measures.filterMap (·.ks)) with
  | [] => [⟨0, false, 0⟩]
  | l => l

/-- `get_tempos`: the first part's marks, or one default tempo carrying the final `state.qpm` -/
def getTempos (d : Doc) : List TempoMark :=
  match (match d.parts with | [] => [] | p :: _ => p.flatMap (·.tempos)) with
  | [] => [⟨0, d.final.qpm⟩]
  | l => l

/-- Python `lst[i]` -/
def pyIndex {α} (l : List α) (i : Int) : Except Err α :=
  let j := if i < 0 then i + l.length else i
  if j < 0 then .error .indexError
  else match l[j.toNat]? with
    | some a => .ok a
    | none => .error .indexError

/-- key and mode of the NoteSequence key signature (`MAJOR = 0`, `MINOR = 1`) -/
def readerKey (key : Int) (minor : Bool) : Except Err (Int × Int) :=
  match pyIndex Gen.musicProtoKeys (key + 7) with
  | .error e => .error e
  | .ok k => if minor then .ok (Int.fmod (k + 9) 12, 1) else .ok (k, 0)

def readerKeys : List KSig → Except Err (List KeySig)
  | [] => .ok []
  | k :: ks => match readerKey k.key k.minor with
      | .error e => .error e
      | .ok (key, mode) => match readerKeys ks with
          | .error e => .error e
          | .ok r => .ok (⟨k.time, key, mode⟩ :: r)

/-- `0.5^1 + … + 0.5^dots` times `r` (the loop of `duration_ratio`) -/
def dotSum (r : Rat) : Nat → Rat
  | 0 => 0
  | k + 1 => dotSum r k + (1 / 2 : Rat) ^ (k + 1) * r

/-- `NoteDuration.duration_ratio` -/
def durationRatio (n : PNote) : Except Err Rat :=
  match lookupType n.type with
  | none => .error .invalidNoteDurationTypeError   -- never: the type setter checked it
  | some tr =>
    if n.tuplet = 0 then .error .zeroDivisionError
    else
      let typeRatio := tr / n.tuplet
      if n.grace then .ok 0 else .ok (typeRatio + dotSum typeRatio n.dots)

/-- one note of the reader's note loop -/
def readerNote (R : Rat → Rat) (part : Nat) (n : PNote) : Except Err Note :=
  match durationRatio n with
  | .error e => .error e
  | .ok r =>
    let start := if n.time < 0 then 0 else n.time
    .ok { pitch := n.pitch, velocity := n.velocity, start := start, end_ := R (start + n.seconds),
          qs := 0, qe := 0, instrument := n.channel, program := n.program, isDrum := false,
          numerator := r.num, denominator := r.den, voice := n.voice, part := part, pitchName := 0 }

def readerNotes (R : Rat → Rat) (part : Nat) : List PNote → Except Err (List Note)
  | [] => .ok []
  | n :: ns =>
    if n.isRest then readerNotes R part ns
    else match readerNote R part n with
      | .error e => .error e
      | .ok x => match readerNotes R part ns with
          | .error e => .error e
          | .ok r => .ok (x :: r)

def readerParts (R : Rat → Rat) : Nat → List (List MState) → Except Err (List Note)
  | _, [] => .ok []
  | i, p :: ps => match readerNotes R i (p.flatMap (·.notes)) with
      | .error e => .error e
      | .ok a => match readerParts R (i + 1) ps with
          | .error e => .error e
          | .ok b => .ok (a ++ b)

/-- `musicxml_to_sequence_proto`; `metaTag` carries the number of `part_infos` -/
def toSequence (R : Rat → Rat) (d : Doc) : Except Err NoteSeq :=
  match readerKeys (getKeySignatures d) with
  | .error e => .error e
  | .ok ks => match readerParts R 0 d.parts with
    | .error e => .error e
    | .ok notes =>
      .ok { notes := notes,
            tempos := (getTempos d).map (fun t => ⟨t.time, t.qpm⟩),
            timeSigs := (getTimeSignatures d).map (fun t => ⟨t.time, t.num, t.den⟩),
            keySigs := ks,
            texts := (d.measures.flatMap (·.chords)).map (fun c => ⟨c.time, 0, 1, c.figure⟩),
            totalTime := d.total,
            tpq := Gen.STANDARD_PPQ,
            metaTag := s!"parts{d.parts.length}" }

/-- `musicxml_file_to_sequence_proto` on an abstract score -/
def convertR (R : Rat → Rat) (sc : Score) : Except Err NoteSeq :=
  match parseDoc R sc with
  | .error e => .error e
  | .ok d => toSequence R d

def convert := convertR rne53

/-! ## `.mxl` container: choice of the root file (`MusicXMLDocument._get_score`) -/

/-- `rootfiles`: (`media-type` attribute if present, `full-path`); result: the chosen path.
`none` = `MusicXMLParseError` -/
def chooseRootfile (musicxmlMime : String) : String → List (Option String × String) → Option String
  | cur, [] => if cur = "" then none else some cur
  | cur, (mt, path) :: rest =>
      match mt with
      | some t =>
          if t = musicxmlMime then
            (if cur = "" then chooseRootfile musicxmlMime path rest else none)
          else chooseRootfile musicxmlMime cur rest
      | none => if cur = "" then chooseRootfile musicxmlMime path rest else none

end NSV.C05

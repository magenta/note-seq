import NoteSeqVerif.Model.C13
/-! C13 — declarative specifications the property theorems are stated against (core Lean only).
Nothing here is executed by the driver. -/
namespace NSV.C13

/-- "every note and event time moved by `g`, every tempo value by `q`, nothing else changed"
(all fields of a NoteSeq except the three `subsequence_info` ones, which each theorem states) -/
structure Moved (g q : Rat → Rat) (s r : NoteSeq) : Prop where
  notes : r.notes = s.notes.map (fun n => { n with start := g n.start, end_ := g n.end_ })
  tempos : r.tempos = s.tempos.map (fun e => { e with time := g e.time, qpm := q e.qpm })
  timeSigs : r.timeSigs = s.timeSigs.map (fun e => { e with time := g e.time })
  keySigs : r.keySigs = s.keySigs.map (fun e => { e with time := g e.time })
  texts : r.texts = s.texts.map (fun e => { e with time := g e.time })
  ccs : r.ccs = s.ccs.map (fun e => { e with time := g e.time })
  bends : r.bends = s.bends.map (fun e => { e with time := g e.time })
  sectionAnns : r.sectionAnns = s.sectionAnns.map (fun e => { e with time := g e.time })
  totalTime : r.totalTime = g s.totalTime
  sgroups : r.sgroups = s.sgroups
  totalQSteps : r.totalQSteps = s.totalQSteps
  spq : r.spq = s.spq
  sps : r.sps = s.sps
  tpq : r.tpq = s.tpq
  metaTag : r.metaTag = s.metaTag

/-- the shifted sequence, written out (what `shift_sequence_times` returns when it returns) -/
def shiftSeq (R : Rat → Rat) (d : Rat) (s : NoteSeq) : NoteSeq :=
  let g := fun t => R (t + d)
  { s with
    notes := s.notes.map (fun n => { n with start := g n.start, end_ := g n.end_ })
    tempos := s.tempos.map (fun e => { e with time := g e.time })
    timeSigs := s.timeSigs.map (fun e => { e with time := g e.time })
    keySigs := s.keySigs.map (fun e => { e with time := g e.time })
    texts := s.texts.map (fun e => { e with time := g e.time })
    ccs := s.ccs.map (fun e => { e with time := g e.time })
    bends := s.bends.map (fun e => { e with time := g e.time })
    sectionAnns := s.sectionAnns.map (fun e => { e with time := g e.time })
    totalTime := g s.totalTime
    hasSub := false, subStart := 0, subEnd := 0 }

/-- the error of a result, if any (for decidable statements about rejected inputs) -/
def errOf {α} : Except Err α → Option Err
  | .error e => some e
  | .ok _ => none

/-! ### the value in force -/

/-- the oracle's reading of "the value in force at `t`": walk the events in list order and
remember the value of every event at or before `t` -/
def inEffect {α β} (time : α → Rat) (val : α → β) (t : Rat) : List α → Option β → Option β
  | [], cur => cur
  | e :: l, cur => if time e ≤ t then inEffect time val t l (some (val e)) else inEffect time val t l cur

/-- value in force at `t` for events in any storage order: time order first (stable) -/
def inForce {α β} (time : α → Rat) (val : α → β) (l : List α) (t : Rat) : Option β :=
  inEffect time val t (sortByRat time l) none

/-- an element of a time-ordered list together with its predecessor -/
def withPred {α} (prev : α) (l : List α) : List (α × α) := (prev :: l).zip l

/-! ### concatenation offsets -/

/-- where piece `i` is placed: the running `current_total_time` before piece `i`, together with
the running `cat_seq.total_time` (the `MergeFrom` rule: a zero `total_time` does not overwrite) -/
def catOffsets (R : Rat → Rat) (useD : Bool) : Rat → Rat → List (MSeq × Rat) → List Rat
  | _, _, [] => []
  | cur, tot, (s, d) :: rest =>
    let st := if 0 < cur then R (s.ns.totalTime + cur) else s.ns.totalTime
    let tot' := if st ≠ 0 then st else tot
    cur :: catOffsets R useD (if useD then R (cur + d) else tot') tot' rest

/-- piece `s` as it is merged at offset `o` -/
def placed (R : Rat → Rat) (o : Rat) (s : MSeq) : MSeq :=
  if 0 < o then { s with ns := shiftSeq R o s.ns } else s

def placedList (R : Rat → Rat) (pairs : List (MSeq × Rat)) (offs : List Rat) : List MSeq :=
  (pairs.zip offs).map (fun po => placed R po.2 po.1.1)

/-- exact prefix sums `[0, d₀, d₀+d₁, …]` (as many as there are `ds`) -/
def prefixSums : Rat → List Rat → List Rat
  | _, [] => []
  | acc, d :: ds => acc :: prefixSums (acc + d) ds

/-- a piece raises at offset `o`: explicit duration too short, or a quantized piece that has to be shifted -/
def pieceProblem (useD : Bool) (p : MSeq × Rat) (o : Rat) : Prop :=
  (useD = true ∧ p.2 < p.1.ns.totalTime) ∨ (0 < o ∧ p.1.ns.isQuantized = true)

/-- protobuf scalar merge over a list of sources: the last non-default value wins -/
def lastNZ {α} [DecidableEq α] [OfNat α 0] (init : α) (l : List α) : α :=
  l.foldl (fun acc x => if x ≠ 0 then x else acc) init

/-! ### time maps -/

/-- the end of a kept note: a collapsed note gets `minimum_duration` -/
def adjEnd (f R : Rat → Rat) (md : Rat) (n : Note) : Rat :=
  if f n.start = f n.end_ then R (f n.end_ + md) else f n.end_

def adjImage (f R : Rat → Rat) (md : Rat) (n : Note) : Note :=
  { n with start := f n.start, end_ := adjEnd f R md n }

/-- what `adjust_notesequence_times` does with one note: `none` = skipped -/
def adjNote (f R : Rat → Rat) (md : Rat) (n : Note) : Option Note :=
  if f n.start = f n.end_ ∧ md = 0 then none else some (adjImage f R md n)

/-- running `total_time` of the note loop: the largest kept end, starting from `tot` -/
def maxEnd (tot : Rat) (l : List Note) : Rat := l.foldl (fun acc n => if acc < n.end_ then n.end_ else acc) tot

/-- a note that is kept but makes the call raise -/
def adjBad (f R : Rat → Rat) (md : Rat) (n : Note) : Prop :=
  ∃ m, adjNote f R md n = some m ∧ (m.end_ < m.start ∨ m.start < 0 ∨ m.end_ < 0)

def lastY : Rat × Rat → List (Rat × Rat) → Rat
  | p, [] => p.2
  | _, q :: rest => lastY q rest

/-- knots with strictly increasing abscissae -/
def XInc : Rat × Rat → List (Rat × Rat) → Prop
  | _, [] => True
  | p, q :: rest => p.1 < q.1 ∧ XInc q rest

/-- knots with strictly increasing abscissae and non-decreasing ordinates -/
def KnotsOK : Rat × Rat → List (Rat × Rat) → Prop
  | _, [] => True
  | p, q :: rest => p.1 < q.1 ∧ p.2 ≤ q.2 ∧ KnotsOK q rest

end NSV.C13

namespace NSV.C13

/-- the event times `adjust_notesequence_times` must map (every container except tempos, which it deletes) -/
def adjustedTimes (s : NoteSeq) : List Rat :=
  s.ccs.map (·.time) ++ s.bends.map (·.time) ++ s.timeSigs.map (·.time) ++ s.keySigs.map (·.time) ++
    s.texts.map (·.time) ++ s.sectionAnns.map (·.time)

/-- the result of `adjust_notesequence_times`, written out -/
def adjusted (f R : Rat → Rat) (md : Rat) (s : NoteSeq) : NoteSeq :=
  { s with
    notes := s.notes.filterMap (adjNote f R md)
    totalTime := maxEnd 0 (s.notes.filterMap (adjNote f R md))
    tempos := []
    timeSigs := s.timeSigs.map (fun e => { e with time := f e.time })
    keySigs := s.keySigs.map (fun e => { e with time := f e.time })
    texts := s.texts.map (fun e => { e with time := f e.time })
    ccs := s.ccs.map (fun e => { e with time := f e.time })
    bends := s.bends.map (fun e => { e with time := f e.time })
    sectionAnns := s.sectionAnns.map (fun e => { e with time := f e.time }) }

/-- the padded, de-duplicated beat list of `rectify_beats` and its regular image -/
def beatKnots (R : Rat → Rat) (bpm : Rat) (s : NoteSeq) : List (Rat × Rat) :=
  let uniq := uniqBeats ([0] ++ sortByRat id (beatTimes s) ++ [s.totalTime])
  uniq.zip (rectTimes R (R (60 / bpm)) uniq.length)

/-- the pieces of a concatenation as they are merged (offsets from the running total / durations) -/
def catPairs (seqs : List MSeq) (durs : List Rat) : List (MSeq × Rat) :=
  if !durs.isEmpty then seqs.zip durs else seqs.map (fun s => (s, (0 : Rat)))

def catOffs (R : Rat → Rat) (seqs : List MSeq) (durs : List Rat) : List Rat :=
  catOffsets R (!durs.isEmpty) 0 0 (catPairs seqs durs)

def catPieces (R : Rat → Rat) (seqs : List MSeq) (durs : List Rat) : List MSeq :=
  placedList R (catPairs seqs durs) (catOffs R seqs durs)

end NSV.C13

import NoteSeqVerif.Model.C17
/-! C17 — object identity: several objects per history (core Lean only).

`Model/C17.lean` describes what one call does to its receiver.  A Python history, however, holds
several objects: `copy.deepcopy(s)` and `s[i:j]` RETURN a new object and leave `s` alive, and the
caller may go on with either.  This file adds that layer.

* `Heap σ` / `hskip` — a list of objects of one class plus the index of the object the next call
  goes to.  A call that returns a new object (`Sem.fresh`: slice, strided slice, deepcopy) leaves
  its receiver alone, appends the result and makes it current; every other call replaces the
  receiver's state; `switch k` makes object `k` current.  Objects never share storage: that is
  what `SimpleEventSequence._from_event_list` (`list(events)`), `__getitem__` (a new list) and the
  default `copy.deepcopy` (PianorollSequence, Performance) do, and the lock-step check observes
  every object of the real heap to confirm it.
* `LStore` / `sskip` — `LeadSheet` holds REFERENCES to a `Melody` and a `ChordProgression` object
  (`self._melody = melody`): cells of melodies, cells of chord progressions, lead sheets as pairs
  of cell indices.  `append` / `set_length` / `increase_resolution` mutate the two cells in place
  (and are therefore seen by every lead sheet built from the same objects), slice / deepcopy /
  construction from event lists allocate fresh cells, `_reset` rebinds the receiver to two fresh
  cells, `share a b` is `LeadSheet(leads[a].melody, leads[b].chords)` (no copy — the constructor
  stores the objects it is given), and `melody op` / `chords op` call an in-place method of the
  current lead sheet's melody / chords object directly, behind the lead sheet's back. -/
namespace NSV.C17

/-! ### objects of one class -/

/-- the per-class semantics a heap is built over -/
structure Sem (σ ο : Type) where
  /-- result / exception of the call -/
  step : σ → ο → Except Err σ
  /-- the receiver after the call, for a caller that catches the exception -/
  skip : σ → ο → σ
  /-- does a successful call return a new object and leave the receiver as it is? -/
  fresh : ο → Bool

structure Heap (σ : Type) where
  objs : List σ
  cur : Nat
deriving Repr

inductive HOp (ο : Type)
  | op (o : ο)
  | switch (k : Nat)
deriving Repr

section Generic
variable {σ ο : Type}

/-- exception status of one heap operation (`switch` to an object that does not exist: IndexError
of the harness's object list) -/
def hstatus (m : Sem σ ο) (h : Heap σ) : HOp ο → Except Err Unit
  | .switch k => if k < h.objs.length then .ok () else .error .indexError
  | .op o =>
      match h.objs[h.cur]? with
      | none => .error .indexError
      | some s => (m.step s o).map (fun _ => ())

/-- the heap after one operation of a caller that catches exceptions -/
def hskip (m : Sem σ ο) (h : Heap σ) : HOp ο → Heap σ
  | .switch k => if k < h.objs.length then { h with cur := k } else h
  | .op o =>
      match h.objs[h.cur]? with
      | none => h
      | some s =>
          if m.fresh o then
            (match m.step s o with
             | .ok s' => ⟨h.objs ++ [s'], h.objs.length⟩
             | .error _ => h)
          else { h with objs := h.objs.set h.cur (m.skip s o) }

def hrun (m : Sem σ ο) (h : Heap σ) (ops : List (HOp ο)) : Heap σ := ops.foldl (hskip m) h

end Generic

/-- SimpleEventSequence family: slices and deepcopy return new objects -/
def opFresh {α : Type} : Op α → Bool
  | .slice _ _ => true
  | .sliceStep _ _ _ => true
  | .deepcopy => true
  | _ => false

def seqSem {α : Type} (c : Cls α) : Sem (Seq α) (Op α) := ⟨step c, stepSkip c, opFresh⟩

def rollFresh : ROp → Bool
  | .deepcopy => true
  | _ => false

def rollSem : Sem Roll ROp := ⟨rstep, rstepSkip, rollFresh⟩

def perfFresh : POp → Bool
  | .deepcopy => true
  | _ => false

def perfSem : Sem Perf POp := ⟨pstep, pstepSkip, perfFresh⟩

def nperfFresh : NOp → Bool
  | .deepcopy => true
  | _ => false

def nperfSem : Sem NPerf NOp := ⟨nstep, nstepSkip, nperfFresh⟩

/-! ### lead sheets: references to melody and chord objects -/

structure LStore where
  mels : List (Seq Int)
  chds : List (Seq String)
  /-- `(index of the Melody object, index of the ChordProgression object)` -/
  leads : List (Nat × Nat)
  cur : Nat
deriving Repr

inductive SOp
  | lead (op : LOp)
  | switch (k : Nat)
  | share (a b : Nat)
  | melody (op : Op Int)
  | chords (op : Op String)
deriving Repr

/-- the lead sheet `k` as a value: what its methods see through the two references -/
def LStore.view (st : LStore) (k : Nat) : Option LeadSheet :=
  match st.leads[k]? with
  | none => none
  | some (mi, ci) =>
      match st.mels[mi]?, st.chds[ci]? with
      | some m, some c => some ⟨m, c⟩
      | _, _ => none

/-- does the LeadSheet call return a new lead sheet? -/
def lopFresh : LOp → Bool
  | .slice _ _ => true
  | .sliceStep _ _ _ => true
  | .deepcopy => true
  | .init .. => true
  | _ => false

/-- what one call does to the store -/
inductive Effect
  /-- nothing (an exception before any mutation, or a call that has no effect) -/
  | none
  /-- the caller goes on with lead sheet `k` -/
  | setCur (k : Nat)
  /-- the Melody and the ChordProgression object of the current lead sheet are mutated in place -/
  | write (m : Seq Int) (c : Seq String)
  /-- a new lead sheet with a new Melody and a new ChordProgression object; it becomes current -/
  | alloc (l : LeadSheet)
  /-- the current lead sheet drops its two objects and gets two new ones (`_reset`) -/
  | rebind (l : LeadSheet)
  /-- a new lead sheet holding the Melody object of lead sheet `a` and the ChordProgression object
  of lead sheet `b`; it becomes current -/
  | share (a b : Nat)
deriving Repr

/-- the effect of a call, computed from what the call sees through the references -/
def effect (st : LStore) : SOp → Effect
  | .switch k => if k < st.leads.length then .setCur k else .none
  | .lead op =>
      match st.view st.cur with
      | none => .none
      | some l =>
          match lstep l op with
          | .error _ => .none
          | .ok l' =>
              if lopFresh op then .alloc l'
              else match op with
                | .reset => .rebind l'      -- `self._melody = Melody(); self._chords = ChordProgression()`
                | _ => .write l'.melody l'.chords
  | .share a b =>
      match st.view a, st.view b with
      | some la, some lb =>
          (match mkLeadSheet la.melody lb.chords with
           | .ok _ => .share a b
           | .error _ => .none)
      | _, _ => .none
  | .melody op =>
      match st.view st.cur with
      | none => .none
      | some l => if opFresh op then .none else .write (stepSkip melodyCls l.melody op) l.chords
  | .chords op =>
      match st.view st.cur with
      | none => .none
      | some l => if opFresh op then .none else .write l.melody (stepSkip chordCls l.chords op)

def LStore.apply (st : LStore) : Effect → LStore
  | .none => st
  | .setCur k => { st with cur := k }
  | .write m c =>
      match st.leads[st.cur]? with
      | some (mi, ci) => { st with mels := st.mels.set mi m, chds := st.chds.set ci c }
      | none => st
  | .alloc l =>
      ⟨st.mels ++ [l.melody], st.chds ++ [l.chords], st.leads ++ [(st.mels.length, st.chds.length)], st.leads.length⟩
  | .rebind l =>
      { st with mels := st.mels ++ [l.melody], chds := st.chds ++ [l.chords],
                leads := st.leads.set st.cur (st.mels.length, st.chds.length) }
  | .share a b =>
      match st.leads[a]?, st.leads[b]? with
      | some (ma, _), some (_, cb) => { st with leads := st.leads ++ [(ma, cb)], cur := st.leads.length }
      | _, _ => st

/-- exception status of one call -/
def sstatus (st : LStore) : SOp → Except Err Unit
  | .switch k => if k < st.leads.length then .ok () else .error .indexError
  | .lead op =>
      match st.view st.cur with
      | none => .error .indexError
      | some l => (lstep l op).map (fun _ => ())
  | .share a b =>
      match st.view a, st.view b with
      | some la, some lb => (mkLeadSheet la.melody lb.chords).map (fun _ => ())
      | _, _ => .error .indexError
  | .melody op =>
      match st.view st.cur with
      | none => .error .indexError
      | some l => if opFresh op then .error .notImplemented else (step melodyCls l.melody op).map (fun _ => ())
  | .chords op =>
      match st.view st.cur with
      | none => .error .indexError
      | some l => if opFresh op then .error .notImplemented else (step chordCls l.chords op).map (fun _ => ())

/-- the store after one call of a caller that catches exceptions -/
def sskip (st : LStore) (op : SOp) : LStore := st.apply (effect st op)

def srun (st : LStore) (ops : List SOp) : LStore := ops.foldl sskip st

/-- a store holding the one lead sheet `l` -/
def LStore.single (l : LeadSheet) : LStore := ⟨[l.melody], [l.chords], [(0, 0)], 0⟩

end NSV.C17

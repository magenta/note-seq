import NoteSeqVerif.Common.Wire
import NoteSeqVerif.Common.Float
import NoteSeqVerif.Generated.C18
/-! C18 — frame pianorolls (`sequences_lib.py`: sequence_to_pianoroll, pianoroll_to_note_sequence,
pianoroll_onsets_to_note_sequence, _unscale_velocity).

Every Python float is its exact rational value.  `R` is the rounding applied after each float64
operation (driver: `rne53`, exact-arithmetic theorems: `id`), `R32` the rounding of a store into a
numpy float32 array (driver: `rne24`).  Rolls are `List (List _)` (frames × pitches).  numpy basic
slicing (negative bounds count from the end, bounds clamp to the array) and the broadcasting rule
of a list assigned to a slice are transcribed in `normIdx` / `sliceLen` (third-party semantics). -/
namespace NSV.C18

inductive Err where
  | valueError | indexError | zeroDivisionError
  | shape   -- input matrices not rectangular / not of one shape: outside the modelled domain
deriving Repr, DecidableEq

def Err.name : Err → String
  | .valueError => "ValueError"
  | .indexError => "IndexError"
  | .zeroDivisionError => "ZeroDivisionError"
  | .shape => "Shape"

structure PNote where
  pitch : Int
  velocity : Int
  start : Rat
  end_ : Rat
deriving Repr, DecidableEq

structure PCC where
  time : Rat
  number : Int
  value : Int
deriving Repr, DecidableEq

/-! ### float helpers (exact operations: no rounding) -/
def rabs (x : Rat) : Rat := if x < 0 then -x else x
/-- Python `max(a, b)` -/
def rmax (a b : Rat) : Rat := if a < b then b else a
/-- Python `min(a, b)` -/
def rmin (a b : Rat) : Rat := if b < a then b else a

/-- Python `round(x)` on a float: nearest integer, ties to even -/
def roundHalfEven (x : Rat) : Int :=
  let f := x.floor
  let d := x - (f : Rat)
  if d < 1 / 2 then f else if 1 / 2 < d then f + 1 else if f % 2 = 0 then f else f + 1

/-- `time_to_frames`: `time * fps`, snapped to the nearest integer when within `eps·max(1,|x|)` -/
def timeToFrames (R : Rat → Rat) (eps fps t : Rat) : Rat :=
  let frames := R (t * fps)
  let nearest := roundHalfEven frames
  if rabs (R (frames - (nearest : Rat))) ≤ R (eps * rmax 1 (rabs frames)) then (nearest : Rat)
  else frames

/-- `frames_from_times` -/
def framesFromTimes (R : Rat → Rat) (eps fps occ s e : Rat) : Int × Int :=
  let sfs := timeToFrames R eps fps s
  let efs := timeToFrames R eps fps e
  let sf0 := truncR sfs
  let socc := R (((sf0 + 1 : Int) : Rat) - sfs)
  let sf := if 0 < occ ∧ socc < occ then sf0 + 1 else sf0
  let ef0 := efs.ceil
  let eocc := R (R (efs - (sf : Rat)) - 1)
  let ef1 := if 0 < occ ∧ eocc < occ then ef0 - 1 else ef0
  (sf, max (sf + 1) ef1)

/-! ### numpy indexing -/
/-- a slice bound `i` on an axis of length `n` -/
def normIdx (n : Nat) (i : Int) : Nat :=
  if i < 0 then (i + (n : Int)).toNat else if (n : Int) < i then n else i.toNat

def inSlice (n : Nat) (a b : Int) (i : Nat) : Bool := normIdx n a ≤ i && i < normIdx n b
def sliceLen (n : Nat) (a b : Int) : Nat := normIdx n b - normIdx n a

/-- `m[a:b, col] = v` -/
def paint {α} (m : List (List α)) (a b : Int) (col : Nat) (v : α) : List (List α) :=
  let lo := normIdx m.length a
  let hi := normIdx m.length b
  m.mapIdx fun i row => if lo ≤ i ∧ i < hi then row.set col v else row

/-- `m[a:b, col] = [f 0, f 1, …]` (shapes already checked; a one-element list broadcasts) -/
def paintSeq {α} (m : List (List α)) (a b : Int) (col : Nat) (bcast : Bool) (f : Nat → α) :
    List (List α) :=
  let lo := normIdx m.length a
  let hi := normIdx m.length b
  m.mapIdx fun i row =>
    if lo ≤ i ∧ i < hi then row.set col (f (if bcast then 0 else i - lo)) else row

/-- `m[r, col] = v` for an in-range row `r` -/
def setCell {α} (m : List (List α)) (r col : Nat) (v : α) : List (List α) :=
  m.mapIdx fun i row => if i = r then row.set col v else row

/-- an integer (non-slice) index: `none` = IndexError -/
def intIdx (n : Nat) (i : Int) : Option Nat :=
  if 0 ≤ i then (if i < (n : Int) then some i.toNat else none)
  else if 0 ≤ i + (n : Int) then some (i + (n : Int)).toNat else none

/-! ### sequence_to_pianoroll -/
structure Cfg where
  fps : Rat
  minPitch : Int
  maxPitch : Int
  maxVelocity : Int
  blank : Bool          -- add_blank_frame_before_onset
  upweight : Rat        -- onset_upweight
  window : Int          -- onset_window
  onsetLenMs : Rat
  offsetLenMs : Rat
  mode : Nat            -- 0 = 'window', 1 = 'length_ms', anything else = unknown mode
  delayMs : Rat
  occ : Rat             -- min_frame_occupancy_for_label
  overlap : Bool        -- onset_overlap
deriving Repr

structure Rolls where
  active : List (List Rat)
  weights : List (List Rat)
  onsets : List (List Rat)
  offsets : List (List Rat)
  vels : List (List Rat)
deriving Repr

/-- all frame indices of one note -/
structure NF where
  sf : Int
  ef : Int
  os : Int
  oe : Int
  fs : Int
  fe : Int
deriving Repr, DecidableEq

def noteFrames (R : Rat → Rat) (eps : Rat) (c : Cfg) (total : Rat) (n : Nat) (nt : PNote) :
    Except Err NF :=
  let fft := framesFromTimes R eps c.fps c.occ
  let se := fft nt.start nt.end_
  let ost := R (nt.start + R (c.delayMs / 1000))
  let oet := R (nt.end_ + R (c.delayMs / 1000))
  let ons : Except Err (Int × Int) :=
    if c.mode = 0 then
      let f := (fft ost oet).1
      .ok (max 0 (f - c.window), min (n : Int) (f + c.window + 1))
    else if c.mode = 1 then
      .ok (fft ost (rmin oet (R (ost + R (c.onsetLenMs / 1000)))))
    else .error .valueError
  match ons with
  | .error e => .error e
  | .ok (os0, oe0) =>
    let os := max 0 os0
    let oe := max 0 oe0
    let offst := rmin nt.end_ (R (total - R (c.offsetLenMs / 1000)))
    let offet := R (offst + R (c.offsetLenMs / 1000))
    let off := fft offst offet
    let fe := max off.2 (off.1 + 1)
    let sf := if c.overlap then se.1 else oe
    let ef := if c.overlap then se.2 else max (oe + 1) se.2
    .ok { sf := sf, ef := ef, os := os, oe := oe, fs := off.1, fe := fe }

/-- the body of the note loop after the frame arithmetic -/
def paintNote (R R32 : Rat → Rat) (c : Cfg) (n : Nat) (st : Rolls) (nt : PNote) (col : Nat) (f : NF) :
    Except Err Rolls :=
  let offsets := paint st.offsets f.fs f.fe col 1
  let onsets := paint st.onsets f.os f.oe col 1
  let active := paint st.active f.sf f.ef col 1
  if nt.velocity > c.maxVelocity then .error .valueError
  else if c.maxVelocity = 0 then .error .zeroDivisionError
  else
    let vels := paint st.vels f.sf f.ef col (R32 (R ((nt.velocity : Rat) / (c.maxVelocity : Rat))))
    let w1 := paint st.weights f.os f.oe col (R32 c.upweight)
    let we := min f.ef (n : Int)            -- weights_end_frame = min(end_frame, roll_weights.shape[0])
    let len := (we - f.oe).toNat            -- len(range(1, weights_end_frame - onset_end_frame + 1))
    -- numpy: a list assigned to a slice must have the slice's length or length 1 (`paintNote_defined`:
    -- this can only fail for `end_frame < 0`, i.e. for notes before time 0)
    if len ≠ sliceLen n f.oe we ∧ len ≠ 1 then .error .valueError
    else
      let w2 := paintSeq w1 f.oe we col (len == 1) fun j => R32 (R (c.upweight / ((j + 1 : Nat) : Rat)))
      -- `if 0 < start_frame <= roll.shape[0]:` — the integer index `start_frame - 1` is in range
      if c.blank ∧ 0 < f.sf ∧ f.sf ≤ (n : Int) then
        let r := (f.sf - 1).toNat
        .ok { active := setCell active r col 0, weights := setCell w2 r col 1, onsets := onsets,
              offsets := offsets, vels := vels }
      else .ok { active := active, weights := w2, onsets := onsets, offsets := offsets, vels := vels }

def encNote (R R32 : Rat → Rat) (eps : Rat) (c : Cfg) (total : Rat) (n : Nat) (st : Rolls) (nt : PNote) :
    Except Err Rolls :=
  if nt.pitch < c.minPitch ∨ nt.pitch > c.maxPitch then .ok st
  else
    match noteFrames R eps c total n nt with
    | .error e => .error e
    | .ok f => paintNote R R32 c n st nt (nt.pitch - c.minPitch).toNat f

def encNotes (R R32 : Rat → Rat) (eps : Rat) (c : Cfg) (total : Rat) (n : Nat) :
    Rolls → List PNote → Except Err Rolls
  | st, [] => .ok st
  | st, nt :: rest =>
    match encNote R R32 eps c total n st nt with
    | .error e => .error e
    | .ok st' => encNotes R R32 eps c total n st' rest

/-- the control-change loop body; `encode` feeds it `sorted(control_changes, key=time)` -/
def encCCs (R : Rat → Rat) (eps : Rat) (c : Cfg) (n : Nat) :
    List (List Int) → List PCC → Except Err (List (List Int))
  | m, [] => .ok m
  | m, cc :: rest =>
    let frame := (framesFromTimes R eps c.fps c.occ cc.time 0).1
    if frame < (n : Int) then
      match intIdx n frame, intIdx 128 cc.number with
      | some r, some k => encCCs R eps c n (setCell m r k (cc.value + 1)) rest
      | _, _ => .error .indexError
    else encCCs R eps c n m rest

/-- stable insertion sort by a rational key (Python `sorted(key=…)`): `a` goes before the first
element whose key is not smaller, so equal keys keep their storage order.  (Structural recursion,
so concrete instances reduce in the kernel; same result as core `List.mergeSort`.) -/
def insertBy {α} (key : α → Rat) (a : α) : List α → List α
  | [] => [a]
  | b :: l => if key a ≤ key b then a :: b :: l else b :: insertBy key a l

def sortBy {α} (key : α → Rat) : List α → List α
  | [] => []
  | a :: l => insertBy key a (sortBy key l)

/-- `sorted(sequence.notes, key=lambda n: n.start_time)` -/
def sortByStart (l : List PNote) : List PNote := sortBy (·.start) l
/-- `sorted(sequence.control_changes, key=lambda cc: cc.time)` -/
def sortCCs (l : List PCC) : List PCC := sortBy (·.time) l

structure Pianoroll where
  active : List (List Rat)
  weights : List (List Rat)
  onsets : List (List Rat)
  onsetVelocities : List (List Rat)
  activeVelocities : List (List Rat)
  offsets : List (List Rat)
  controlChanges : List (List Int)
deriving Repr

/-- `np.zeros` / `np.ones_like` -/
def initRolls (n w : Nat) : Rolls :=
  let zero : List (List Rat) := List.replicate n (List.replicate w 0)
  { active := zero, weights := List.replicate n (List.replicate w 1),
    onsets := zero, offsets := zero, vels := zero }

def numRows (R : Rat → Rat) (fps total : Rat) : Int := truncR (R (R (total * fps) + 1))

def encode (R R32 : Rat → Rat) (eps : Rat) (c : Cfg) (total : Rat) (notes : List PNote)
    (ccs : List PCC) : Except Err Pianoroll :=
  let rowsI := numRows R c.fps total
  let colsI := c.maxPitch - c.minPitch + 1
  if rowsI < 0 ∨ colsI < 0 then .error .valueError
  else
    let n := rowsI.toNat
    let w := colsI.toNat
    match encNotes R R32 eps c total n (initRolls n w) (sortByStart notes) with
    | .error e => .error e
    | .ok st =>
      match encCCs R eps c n (List.replicate n (List.replicate 128 0)) (sortCCs ccs) with
      | .error e => .error e
      | .ok cc =>
        .ok { active := st.active, weights := st.weights, onsets := st.onsets,
              onsetVelocities := List.zipWith (List.zipWith fun v o => R32 (v * o)) st.vels st.onsets,
              activeVelocities := st.vels, offsets := st.offsets, controlChanges := cc }

/-! ### pianoroll_to_note_sequence -/
/-- `_unscale_velocity` (NaN is outside the model); `Rv` = arithmetic of the velocity array's dtype -/
def unscale (Rv : Rat → Rat) (scale bias v : Rat) : Int :=
  truncR (Rv (Rv (rmax (rmin v 1) 0 * scale) + bias))

structure CellIn where
  active : Bool
  on : Bool
  prevOn : Bool
  vel : Option Rat
deriving Repr, DecidableEq

/-- a note handed to `sequence.notes.add()`: pitch index, start frame, end frame, velocity -/
structure Emit where
  pitch : Nat
  s : Nat
  e : Nat
  vel : Int
deriving Repr, DecidableEq

structure DParams where
  hasOn : Bool                 -- onset_predictions is not None
  hasVel : Bool                -- velocity_values is not None
  keep : Nat → Nat → Bool      -- the min_duration_ms test of end_pitch
  unscale : Rat → Int

abbrev Cell := Option Nat × Int     -- pitch_start_step.get(pitch), onset_velocities[pitch]

/-- start a note at frame `i`; the flag is "IndexError" (onset_velocities has 128 entries;
velocity_values has no row for the appended frame) -/
def startCell (P : DParams) (i p : Nat) (velOld : Int) (c : CellIn) : Cell × Bool :=
  if P.hasVel then
    match c.vel with
    | some v => ((some i, P.unscale v), decide (Gen.VEL_SLOTS ≤ p))
    | none => ((some i, velOld), true)
  else ((some i, velOld), false)

/-- `end_pitch` -/
def endEmit (P : DParams) (p s e : Nat) (vel : Int) : Option Emit × Bool :=
  if P.keep s e then (some ⟨p, s, e, vel⟩, decide (Gen.VEL_SLOTS ≤ p)) else (none, false)

/-- one iteration of the inner loop (`process_active_pitch` / `end_pitch`) -/
def cellStep (P : DParams) (i p : Nat) (st : Cell) (c : CellIn) : Cell × Option Emit × Bool :=
  if c.active then
    match st.1 with
    | none =>
      if P.hasOn then
        if c.on then
          let r := startCell P i p st.2 c
          (r.1, none, r.2)
        else (st, none, false)
      else ((some i, st.2), none, false)
    | some s =>
      if P.hasOn && c.on && !c.prevOn then
        let em := endEmit P p s i st.2
        let r := startCell P i p st.2 c
        (r.1, em.1, em.2 || r.2)
      else (st, none, false)
  else
    match st.1 with
    | some s =>
      let em := endEmit P p s i st.2
      ((none, st.2), em.1, em.2)
    | none => (st, none, false)

/-- one frame: all pitches in order, starting at pitch index `p` -/
def frameStep (P : DParams) (i : Nat) : Nat → List Cell → List CellIn → List Cell × List Emit × Bool
  | p, st :: sts, c :: cs =>
    let r := cellStep P i p st c
    let rest := frameStep P i (p + 1) sts cs
    (r.1 :: rest.1, (match r.2.1 with | some e => e :: rest.2.1 | none => rest.2.1), r.2.2 || rest.2.2)
  | _, _, _ => ([], [], false)

/-- the frame loop, starting at frame `i` -/
def scan (P : DParams) : Nat → List Cell → List (List CellIn) → List Emit × Bool
  | _, _, [] => ([], false)
  | i, st, row :: rows =>
    let r := frameStep P i 0 st row
    let rest := scan P (i + 1) r.1 rows
    (r.2.1 ++ rest.1, r.2.2 || rest.2)

def isRect {α} (m : List (List α)) (rows cols : Nat) : Bool :=
  m.length == rows && m.all (fun r => r.length == cols)

/-- matrix lookup; an index past the end reads `none` -/
def toMat {α} (m : List (List α)) : Array (Array α) := (m.map List.toArray).toArray
def getM {α} (m : Array (Array α)) (i p : Nat) : Option α := (m[i]?).bind (·[p]?)
/-- boolean lookup: `false` past the end, which is what the appended silent frame reads as -/
def getB (m : Option (Array (Array Bool))) (i p : Nat) : Bool :=
  match m with
  | some a => (getM a i p).getD false
  | none => false

/-- velocity lookup: `none` without `velocity_values` and past the end (numpy would raise) -/
def getV (m : Option (Array (Array Rat))) (i p : Nat) : Option Rat :=
  match m with
  | some a => getM a i p
  | none => none

/-- cell `(i, p)` of the arrays after the preprocessing block.  `F`, `O`, `X` read the frame / onset /
offset arrays with one silent frame appended (row `n` reads `false`); onsets are or-ed into the
frames, then frames with a predicted offset are cleared; `onset_predictions[i - 1]` at `i = 0` is
numpy's row `-1`, the appended silent row. -/
def mkCell (F O X : Nat → Nat → Bool) (V : Nat → Nat → Option Rat) (i p : Nat) : CellIn :=
  let a0 := F i p || O i p
  { active := a0 && !(a0 && X i p), on := O i p,
    prevOn := if i = 0 then false else O (i - 1) p, vel := V i p }

def prepareWith (F O X : Nat → Nat → Bool) (V : Nat → Nat → Option Rat) (n w : Nat) :
    List (List CellIn) :=
  (List.range (n + 1)).map fun i => (List.range w).map fun p => mkCell F O X V i p

def prepare (frames : List (List Bool)) (ons offs : Option (List (List Bool)))
    (vels : Option (List (List Rat))) (w : Nat) : List (List CellIn) :=
  let fa := some (toMat frames)
  let oa := ons.map toMat
  let xa := offs.map toMat
  let va := vels.map toMat
  prepareWith (getB fa) (getB oa) (getB xa) (getV va) frames.length w

structure DCfg where
  fps : Rat
  minDurMs : Rat
  velocity : Int
  minMidiPitch : Int
  scale : Rat
  bias : Rat
deriving Repr

structure ONote where
  pitch : Int
  velocity : Int
  start : Rat
  end_ : Rat
deriving Repr, DecidableEq

def keepR (R : Rat → Rat) (fls minDur : Rat) (s e : Nat) : Bool :=
  decide (minDur ≤ R (R (R ((e : Rat) * fls) - R ((s : Rat) * fls)) * 1000))

def dparams (R Rv : Rat → Rat) (d : DCfg) (hasOn hasVel : Bool) : DParams :=
  { hasOn := hasOn, hasVel := hasVel, keep := keepR R (R (1 / d.fps)) d.minDurMs,
    unscale := unscale Rv d.scale d.bias }

def emitNote (R : Rat → Rat) (fls : Rat) (minMidiPitch : Int) (e : Emit) : ONote :=
  { pitch := (e.pitch : Int) + minMidiPitch, velocity := e.vel,
    start := R ((e.s : Rat) * fls), end_ := R ((e.e : Rat) * fls) }

/-- all given matrices are `n × w` (the modelled domain; numpy broadcasting of other shapes is not) -/
def shapesOk (frames : List (List Bool)) (ons offs : Option (List (List Bool)))
    (vels : Option (List (List Rat))) (n w : Nat) : Bool :=
  isRect frames n w
    && (match ons with | some o => isRect o n w | none => true)
    && (match offs with | some o => isRect o n w | none => true)
    && (match vels with | some v => isRect v n w | none => true)

/-- the loop of `pianoroll_to_note_sequence` on `w` pitch columns -/
def decodeCore (R Rv : Rat → Rat) (d : DCfg) (frames : List (List Bool))
    (ons offs : Option (List (List Bool))) (vels : Option (List (List Rat))) (w : Nat) :
    Except Err (List ONote × Rat) :=
  let fls := R (1 / d.fps)
  let P := dparams R Rv d ons.isSome (ons.isSome && vels.isSome)
  let r := scan P 0 (List.replicate w (none, d.velocity)) (prepare frames ons offs vels w)
  if r.2 then .error .indexError
  else .ok (r.1.map (emitNote R fls d.minMidiPitch), R (((frames.length + 1 : Nat) : Rat) * fls))

/-- `pianoroll_to_note_sequence`: the notes in the order they are added, and `total_time` -/
def decode (R Rv : Rat → Rat) (d : DCfg) (frames : List (List Bool))
    (ons offs : Option (List (List Bool))) (vels : Option (List (List Rat))) :
    Except Err (List ONote × Rat) :=
  if d.fps = 0 then .error .zeroDivisionError
  else match frames with
  | [] => .error .indexError
  | row0 :: _ =>
    if shapesOk frames ons offs vels frames.length row0.length then
      decodeCore R Rv d frames ons offs vels row0.length
    else .error .shape

/-! ### pianoroll_onsets_to_note_sequence -/
def onsetRow (R : Rat → Rat) (un : Rat → Int) (fls dur : Rat) (minMidiPitch : Int) (f : Nat) :
    Nat → List Bool → List Rat → List ONote
  | p, b :: bs, v :: vs =>
    let rest := onsetRow R un fls dur minMidiPitch f (p + 1) bs vs
    if b then
      let st := R ((f : Rat) * fls)
      { pitch := (p : Int) + minMidiPitch, velocity := un v, start := st, end_ := R (st + dur) } :: rest
    else rest
  | _, _, _ => []

def onsetRows (R : Rat → Rat) (un : Rat → Int) (fls dur : Rat) (minMidiPitch : Int) :
    Nat → List (List Bool) → List (List Rat) → List ONote
  | f, r :: rs, v :: vs =>
    onsetRow R un fls dur minMidiPitch f 0 r v ++ onsetRows R un fls dur minMidiPitch (f + 1) rs vs
  | _, _, _ => []

/-- `np.nonzero` enumerates row-major; `velocity_values=None` means a constant int32 array -/
def decodeOnsets (R Rv : Rat → Rat) (d : DCfg) (dur : Rat) (onsets : List (List Bool))
    (vels : Option (List (List Rat))) : Except Err (List ONote × Rat) :=
  if d.fps = 0 then .error .zeroDivisionError
  else
    let n := onsets.length
    let w := match onsets with | r :: _ => r.length | [] => 0
    let okShape := isRect onsets n w && (match vels with | some v => isRect v n w | none => true)
    if !okShape then .error .shape
    else
      let fls := R (1 / d.fps)
      let vl := match vels with
        | some v => v
        | none => onsets.map fun r => r.map fun _ => (d.velocity : Rat)
      .ok (onsetRows R (unscale Rv d.scale d.bias) fls dur d.minMidiPitch 0 onsets vl,
           R (R ((n : Rat) * fls) + dur))

/-! ### executable instances -/
def encodeF := encode rne53 rne24 Gen.SNAP_EPS
def decodeF (prec : Nat) := decode rne53 (rne prec)
def decodeOnsetsF (prec : Nat) := decodeOnsets rne53 (rne prec)

end NSV.C18

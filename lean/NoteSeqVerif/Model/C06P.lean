import NoteSeqVerif.Model.C07
import NoteSeqVerif.Model.C06Time
import NoteSeqVerif.Generated.C06P
/-! C06 (performance half) — rendering a performance back to a NoteSequence (core Lean only).

Transcriptions of `performance_lib.BasePerformance._to_sequence`, `Performance.to_sequence`,
`MetricPerformance.to_sequence`, `NotePerformance.to_sequence`, composed with the C01 quantizers and the C07
extractors (`perfFromQuantized`, `metricPerfFromQuantized`, `notePerfFromQuantized`, imported, not copied).

The renderer is split the way the Python computes it: an integer part (which notes, from which step to which
step, with which velocity — `decodeEvents`, FIFO matching per pitch in a dict that remembers insertion order)
and a float part per note (`mkNote`: `step * seconds_per_step + sequence_start_time`, `R` after every float
operation, `Model/C06Time.lean`).

Second half of the file: the decidable predicates `CanonicalPerf` / `CanonicalNotePerf` ("what extraction itself
produces"), evaluated by the driver on every correspondence input and compared with the harness' own reading. -/
namespace NSV.C06P
open NSV.C07 NSV.C06

/-- exceptions `to_sequence` can raise -/
inductive RErr where
  | valueError          -- 'Unknown event type' (a DURATION event in a Performance)
  | assertionError      -- `assert self._num_velocity_bins` on a VELOCITY event with 0 bins
  | zeroDivisionError   -- `1.0 / steps_per_second`, `60.0 / (spq * qpm)`, `127 / num_velocity_bins` with 0
deriving Repr, DecidableEq

def RErr.name : RErr → String
  | .valueError => "ValueError"
  | .assertionError => "AssertionError"
  | .zeroDivisionError => "ZeroDivisionError"

/-! ### integer part of `_to_sequence` -/

/-- a rendered note before its times are computed: steps are relative to the performance's `start_step` -/
structure RNote where
  pitch : Int
  s : Int          -- `pitch_start_step`
  e : Int          -- `step` when the note is closed
  vel : Int        -- `pitch_velocity`
deriving Repr, DecidableEq

/-- `pitch_start_steps_and_velocities`: a `defaultdict(list)`; keys in insertion order -/
abbrev Tab := List (Int × List (Int × Int))

/-- `d[p]` (the value; a missing key reads as `[]` — and is created, see `tabSet`) -/
def tabGet (t : Tab) (p : Int) : List (Int × Int) :=
  match t.find? (fun e => e.1 == p) with
  | some e => e.2
  | none => []

/-- `d[p] = l`; a new key goes to the end -/
def tabSet (t : Tab) (p : Int) (l : List (Int × Int)) : Tab :=
  if t.any (fun e => e.1 == p) then t.map (fun e => if e.1 == p then (p, l) else e) else t ++ [(p, l)]

structure DState where
  step : Int
  vel : Int
  tab : Tab
  out : List RNote
deriving Repr, DecidableEq

/-- body of `for i, event in enumerate(self)` -/
def decStep (nb : Int) (st : DState) : PEvent → Except RErr DState
  | .noteOn p => .ok { st with tab := tabSet st.tab p (tabGet st.tab p ++ [(st.step, st.vel)]) }
  | .noteOff p =>
    match tabGet st.tab p with
    | [] => .ok { st with tab := tabSet st.tab p [] }        -- the lookup creates the key
    | (ps, pv) :: rest =>
      let st' := { st with tab := tabSet st.tab p rest }
      if st.step = ps then .ok st'                            -- zero duration: ignored
      else .ok { st' with out := st'.out ++ [⟨p, ps, st.step, pv⟩] }
  | .timeShift v => .ok { st with step := st.step + v }
  | .velocity b =>
    if nb = 0 then .error .assertionError
    else .ok { st with vel := Gen.velocityBinToVelocity b nb }
  | .duration _ => .error .valueError

def decLoop (nb : Int) : DState → List PEvent → Except RErr DState
  | st, [] => .ok st
  | st, e :: es =>
    match decStep nb st e with
    | .error x => .error x
    | .ok st' => decLoop nb st' es

/-- "There could be remaining pitches that were never ended. End them now": dict order, then list order -/
def closeOpen (step : Int) (t : Tab) : List RNote :=
  t.flatMap fun e => (e.2.filter (fun x => x.1 != step)).map fun x => ⟨e.1, x.1, step, x.2⟩

/-- the notes `_to_sequence` adds, in the order it adds them -/
def decodeEvents (nb velocity : Int) (evs : List PEvent) : Except RErr (List RNote) :=
  match decLoop nb ⟨0, velocity, [], []⟩ evs with
  | .error x => .error x
  | .ok st => .ok (st.out ++ closeOpen st.step st.tab)

/-! ### float part -/

structure RenderCfg where
  sigma : Rat              -- seconds_per_step
  sst : Rat                -- sequence_start_time
  maxDur : Option Rat      -- max_note_duration (`None` / falsy `0.0` = unlimited)
  instrument : Int
  program : Int
  isDrum : Bool

/-- `note.start_time = pitch_start_step * seconds_per_step + sequence_start_time`, `note.end_time = step * …`,
the `max_note_duration` cut (`end - start > max` → `end = start + max`) -/
def mkNote (R : Rat → Rat) (c : RenderCfg) (r : RNote) : Note :=
  let st := stepTimeR R c.sigma c.sst r.s
  let en0 := stepTimeR R c.sigma c.sst r.e
  let en := match c.maxDur with
    | some d => if d ≠ 0 ∧ R (en0 - st) > d then R (st + d) else en0
    | none => en0
  { pitch := r.pitch, velocity := r.vel, start := st, end_ := en, qs := 0, qe := 0,
    instrument := c.instrument, program := c.program, isDrum := c.isDrum,
    numerator := 0, denominator := 0, voice := 0, part := 0, pitchName := 0 }

/-- `if note.end_time > sequence.total_time: sequence.total_time = note.end_time` over the notes in order -/
def totalTimeOf (notes : List Note) : Rat := notes.foldl (fun t n => if n.end_ > t then n.end_ else t) 0

/-- the Python object: `BasePerformance` fields -/
structure PerfObj where
  events : List PEvent
  startStep : Int
  nb : Int                  -- num_velocity_bins
  maxShift : Int            -- max_shift_steps
  stepsPer : Int            -- steps_per_second / steps_per_quarter
  program : Option Int
  isDrum : Option Bool
deriving Repr, DecidableEq

/-- arguments of `to_sequence` -/
structure SeqArgs where
  velocity : Int
  instrument : Int
  program : Option Int
  maxDur : Option Rat
deriving Repr, DecidableEq

/-- `program` / `is_drum` resolution at the top of `_to_sequence` -/
def resolveProgram (arg self : Option Int) : Int :=
  match arg with
  | some x => x
  | none => match self with
    | some y => y
    | none => Gen.DEFAULT_PROGRAM

def resolveDrum (self : Option Bool) : Bool :=
  match self with
  | some b => b
  | none => false

/-- `BasePerformance._to_sequence(seconds_per_step, velocity, instrument, program, max_note_duration)` -/
def toSequenceCore (R : Rat → Rat) (σ : Rat) (p : PerfObj) (a : SeqArgs) : Except RErr NoteSeq :=
  let sst := seqStartR R σ p.startStep
  match decodeEvents p.nb a.velocity p.events with
  | .error x => .error x
  | .ok rs =>
    let cfg : RenderCfg := ⟨σ, sst, a.maxDur, a.instrument, resolveProgram a.program p.program, resolveDrum p.isDrum⟩
    let notes := rs.map (mkNote R cfg)
    .ok { notes := notes, totalTime := totalTimeOf notes, tpq := Gen.STANDARD_PPQ }

/-- `Performance.to_sequence`: `seconds_per_step = 1.0 / self.steps_per_second` -/
def perfToSequenceR (R : Rat → Rat) (p : PerfObj) (a : SeqArgs) : Except RErr NoteSeq :=
  if p.stepsPer = 0 then .error .zeroDivisionError
  else toSequenceCore R (secPerStepAbsR R p.stepsPer) p a

/-- `MetricPerformance.to_sequence`: `seconds_per_step = 60.0 / (self.steps_per_quarter * qpm)`, then
`sequence.tempos.add(qpm=qpm)` -/
def metricToSequenceR (R : Rat → Rat) (p : PerfObj) (a : SeqArgs) (qpm : Rat) : Except RErr NoteSeq :=
  if R ((p.stepsPer : Rat) * qpm) = 0 then .error .zeroDivisionError
  else match toSequenceCore R (secPerStepMetricR R qpm p.stepsPer) p a with
    | .error x => .error x
    | .ok s => .ok { s with tempos := [⟨0, qpm⟩] }

/-! ### NotePerformance -/

structure NotePerfObj where
  events : List NPTuple
  startStep : Int
  nb : Int
  stepsPerSecond : Int
  program : Option Int
  isDrum : Option Bool
deriving Repr, DecidableEq

/-- the loop of `NotePerformance.to_sequence`: one note per tuple, `step += TIME_SHIFT`, end at `step + DURATION`,
velocity `velocity_bin_to_velocity(bin, num_velocity_bins)` (division by the bin count) -/
def notePerfNotes (nb : Int) : Int → List NPTuple → Except RErr (List RNote)
  | _, [] => .ok []
  | step, t :: ts =>
    if nb = 0 then .error .zeroDivisionError
    else match notePerfNotes nb (step + t.shift) ts with
      | .error x => .error x
      | .ok r => .ok (⟨t.pitch, step + t.shift, step + t.shift + t.dur, Gen.velocityBinToVelocity t.bin nb⟩ :: r)

/-- `NotePerformance.to_sequence(instrument, program)` -/
def notePerfToSequenceR (R : Rat → Rat) (p : NotePerfObj) (instrument : Int) (program : Option Int) :
    Except RErr NoteSeq :=
  if p.stepsPerSecond = 0 then .error .zeroDivisionError
  else
    let σ := secPerStepAbsR R p.stepsPerSecond
    let sst := seqStartR R σ p.startStep
    match notePerfNotes p.nb 0 p.events with
    | .error x => .error x
    | .ok rs =>
      let cfg : RenderCfg := ⟨σ, sst, none, instrument, resolveProgram program p.program, resolveDrum p.isDrum⟩
      let notes := rs.map (mkNote R cfg)
      .ok { notes := notes, totalTime := totalTimeOf notes, tpq := Gen.STANDARD_PPQ }

/-! ### the round trips: render → quantize at the same resolution → extract -/

def liftR {α} : Except RErr α → Except String α
  | .ok a => .ok a
  | .error e => .error e.name
def liftQ {α} : Except Err α → Except String α
  | .ok a => .ok a
  | .error e => .error e.name
def liftX {α} : Except XErr α → Except String α
  | .ok a => .ok a
  | .error e => .error e.name

/-- `Performance(quantized_sequence=quantize_note_sequence_absolute(p.to_sequence(…), sps), start_step, bins,
max_shift_steps, instrument=filt)` -/
def rtPerfR (R : Rat → Rat) (p : PerfObj) (a : SeqArgs) (filt : Option Int) : Except String PerfResult :=
  (liftR (perfToSequenceR R p a)).bind fun ns =>
    (liftQ (C01.quantizeAbsR R C01.Gen.QUANTIZE_CUTOFF ns p.stepsPer)).bind fun q =>
      liftX (perfFromQuantized q p.startStep p.nb p.maxShift filt)

/-- `MetricPerformance(quantized_sequence=quantize_note_sequence(p.to_sequence(…, qpm), spq), start_step, bins,
max_shift_quarters, instrument=filt)` -/
def rtMetricR (R : Rat → Rat) (p : PerfObj) (a : SeqArgs) (qpm : Rat) (maxShiftQuarters : Int)
    (filt : Option Int) : Except String PerfResult :=
  (liftR (metricToSequenceR R p a qpm)).bind fun ns =>
    (liftQ (C01.quantizeRelR R C01.Gen.QUANTIZE_CUTOFF C01.Gen.DEFAULT_QPM ns p.stepsPer)).bind fun q =>
      liftX (metricPerfFromQuantized q p.startStep p.nb maxShiftQuarters filt)

/-- `NotePerformance(quantize_note_sequence_absolute(p.to_sequence(…), sps), bins, instrument=filt, start_step,
max_shift_steps, max_duration_steps)` -/
def rtNotePerfR (R : Rat → Rat) (p : NotePerfObj) (instrument : Int) (program : Option Int)
    (maxShift maxDur : Int) (filt : Option Int) : Except String NotePerfResult :=
  (liftR (notePerfToSequenceR R p instrument program)).bind fun ns =>
    (liftQ (C01.quantizeAbsR R C01.Gen.QUANTIZE_CUTOFF ns p.stepsPerSecond)).bind fun q =>
      liftX (notePerfFromQuantized q p.nb filt p.startStep maxShift maxDur)

/-! ### canonical event lists: what extraction itself produces -/

/-- what both directions look at: the NOTE_ON / NOTE_OFF events, each with the step at which it happens
(steps relative to `cur`) and, for a NOTE_ON, the velocity bin in force (`0` for a NOTE_OFF) -/
structure SEv where
  step : Int
  isOff : Bool
  pitch : Int
  bin : Int
deriving Repr, DecidableEq

def stream (cur bin : Int) : List PEvent → List SEv
  | [] => []
  | .timeShift v :: r => stream (cur + v) bin r
  | .velocity b :: r => stream cur b r
  | .noteOn p :: r => ⟨cur, false, p, bin⟩ :: stream cur bin r
  | .noteOff p :: r => ⟨cur, true, p, 0⟩ :: stream cur bin r
  | .duration _ :: r => stream cur bin r

/-- the extractor's serialisation of an on/off stream (the loop of `_from_quantized_sequence` without the note
bookkeeping): time shifts up to the event's step, maximal chunks first (`shiftLoop`, C07); a VELOCITY event iff
bins are used and a NOTE_ON's bin differs from the current one; then the event -/
def emit (nb ms : Int) : Int → Int → List SEv → List PEvent
  | _, _, [] => []
  | cur, bin, e :: es =>
    let sh := if e.step > cur then shiftLoop ms (e.step - cur).toNat (e.step - cur) else []
    let cur' := if e.step > cur then e.step else cur
    if e.isOff then sh ++ .noteOff e.pitch :: emit nb ms cur' bin es
    else if nb ≠ 0 ∧ e.bin ≠ bin then sh ++ .velocity e.bin :: .noteOn e.pitch :: emit nb ms cur' e.bin es
    else sh ++ .noteOn e.pitch :: emit nb ms cur' bin es

/-- an open note of the FIFO matching: pitch, number of its NOTE_ON among the NOTE_ONs, start step, bin -/
structure OpenE where
  pitch : Int
  idx : Nat
  s : Int
  bin : Int
deriving Repr, DecidableEq

/-- an on/off event annotated with the note it belongs to under FIFO matching: `idx` = number of that note's
NOTE_ON among all NOTE_ONs, `s` = its start step, `bin` = the bin in force at its NOTE_ON -/
structure AEv where
  step : Int
  idx : Nat
  isOff : Bool
  pitch : Int
  s : Int
  bin : Int
deriving Repr, DecidableEq

structure AnState where
  nOn : Nat
  open_ : List OpenE
  out : List AEv
  ok : Bool               -- every NOTE_OFF so far ended an open note of its pitch
deriving Repr, DecidableEq

def anStep (st : AnState) (e : SEv) : AnState :=
  if e.isOff then
    match st.open_.find? (fun o => o.pitch == e.pitch) with
    | none => { st with ok := false }
    | some o => { st with open_ := st.open_.eraseP (fun o => o.pitch == e.pitch),
                          out := st.out ++ [⟨e.step, o.idx, true, e.pitch, o.s, o.bin⟩] }
  else { st with nOn := st.nOn + 1,
                 open_ := st.open_ ++ [⟨e.pitch, st.nOn, e.step, e.bin⟩],
                 out := st.out ++ [⟨e.step, st.nOn, false, e.pitch, e.step, e.bin⟩] }

def annotate (es : List SEv) : AnState := es.foldl anStep ⟨0, [], [], true⟩

/-- the extractor's order of `note_events = sorted(onsets + offsets)`: `(step, idx, is_offset)` -/
def aevLt (a b : AEv) : Bool :=
  decide (a.step < b.step) ||
    (a.step == b.step && (decide (a.idx < b.idx) || (a.idx == b.idx && !a.isOff && b.isOff)))

/-- the extractor's order of `sorted_notes`: `(start, pitch)`; strict: no two notes share start step and pitch -/
def onLt (a b : AEv) : Bool := decide (a.step < b.step) || (a.step == b.step && decide (a.pitch < b.pitch))

/-- … the same, allowing several notes of one pitch to start on one step -/
def onLe (a b : AEv) : Bool := decide (a.step < b.step) || (a.step == b.step && decide (a.pitch ≤ b.pitch))

/-- the on/off stream is one the extractor can produce:
* every NOTE_OFF ends an open note of its pitch and no note is left open;
* the events are in `(step, note, on-before-off)` order where "note" is the FIFO-matched note, numbered by its
  NOTE_ON — at one step the NOTE_OFFs come first, in the order of their notes' NOTE_ONs;
* the NOTE_ONs are in `(step, pitch)` order (`strict`: strictly);
* every note ends after it starts;
* with velocity bins, every NOTE_ON has a bin (≥ 1) in force. -/
def streamOk (nb : Int) (strict : Bool) (es : List SEv) : Bool :=
  let st := annotate es
  st.ok && st.open_.isEmpty &&
  decide (st.out.Pairwise (fun a b => aevLt a b = true)) &&
  decide ((st.out.filter (fun a => !a.isOff)).Pairwise
    (fun a b => (if strict then onLt a b else onLe a b) = true)) &&
  st.out.all (fun a => !a.isOff || decide (a.s < a.step)) &&
  (nb == 0 || st.out.all (fun a => a.isOff || decide (1 ≤ a.bin)))

/-- `CanonicalPerfB nb ms strict evs`: the event list is laid out as the extractor lays out its own stream
(`emit ∘ stream = id`: time shifts in `1..ms`, maximal chunks then the remainder, none trailing; VELOCITY only
directly before the NOTE_ON that changes the bin, never with `nb = 0`; no DURATION events), every event passes
the `PerformanceEvent` validator, and the stream is one the extractor can produce (`streamOk`). -/
def CanonicalPerfB (nb ms : Int) (strict : Bool) (evs : List PEvent) : Bool :=
  decide (1 ≤ ms) && evs.all PEvent.valid &&
  decide (emit nb ms 0 0 (stream 0 0 evs) = evs) && streamOk nb strict (stream 0 0 evs)

/-- canonical, strict: no two notes of one pitch start on one step.  These lists are normal forms: the round trip of
ANY event list rendering to the same notes returns them, whatever the storage order of the rendered notes
(`roundtrip_Performance_normal`); the extractor's output on overlap-free input satisfies it (`extract_canonical_Perf`) -/
def CanonicalPerf (nb ms : Int) (evs : List PEvent) : Prop := CanonicalPerfB nb ms true evs = true

/-- canonical at full strength (several NOTE_ONs of one pitch on one step allowed): what the property quantifies over
(`roundtrip_Performance`, `roundtrip_MetricPerformance`) -/
def CanonicalPerfFull (nb ms : Int) (evs : List PEvent) : Prop := CanonicalPerfB nb ms false evs = true

instance (nb ms : Int) (evs : List PEvent) : Decidable (CanonicalPerf nb ms evs) :=
  inferInstanceAs (Decidable (_ = true))
instance (nb ms : Int) (evs : List PEvent) : Decidable (CanonicalPerfFull nb ms evs) :=
  inferInstanceAs (Decidable (_ = true))

/-- NotePerformance: tuples "sorted as the extractor sorts" — a tuple with shift 0 does not have a lower pitch
than its predecessor (notes of one step are in pitch order) -/
def npOrdered : List NPTuple → Bool
  | a :: b :: r => (b.shift != 0 || decide (a.pitch ≤ b.pitch)) && npOrdered (b :: r)
  | _ => true

def npTupleOk (ms md : Int) (t : NPTuple) : Bool :=
  decide (0 ≤ t.shift) && decide (t.shift ≤ ms) && decide (0 ≤ t.pitch) && decide (t.pitch ≤ 127) &&
  decide (1 ≤ t.bin) && decide (t.bin ≤ 127) && decide (1 ≤ t.dur) && decide (t.dur ≤ md)

def CanonicalNotePerfB (ms md : Int) (ts : List NPTuple) : Bool := ts.all (npTupleOk ms md) && npOrdered ts

def CanonicalNotePerf (ms md : Int) (ts : List NPTuple) : Prop := CanonicalNotePerfB ms md ts = true

instance (ms md : Int) (ts : List NPTuple) : Decidable (CanonicalNotePerf ms md ts) :=
  inferInstanceAs (Decidable (_ = true))

end NSV.C06P

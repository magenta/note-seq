import NoteSeqVerif.Generated.C17
/-! C17 — event sequences: executable model (core Lean only).

Transcribes, as the code is now, `events_lib.SimpleEventSequence` (and through a class record
`Cls` its subclasses `Melody`, `DrumTrack`, `ChordProgression`), `lead_sheets_lib.LeadSheet`,
`pianoroll_lib.PianorollSequence`, `performance_lib.BasePerformance` (the code `Performance` and
`MetricPerformance` share; the two differ only in their constructor and resolution attribute) and
`performance_lib.NotePerformance`.  This file describes what ONE call does to its receiver;
histories over several objects (deepcopy / slices return new objects, lead sheets hold references
to melody and chord objects) are in `Model/C17Heap.lean`.

Conventions
* A Python exception is an `Except Err` value.  In the SimpleEventSequence family and in LeadSheet
  every exception is raised *before* anything is mutated (validation in `append`, in
  `_from_event_list`, in the LeadSheet constructor), so "error = object unchanged" is the Python
  behaviour and `runSkip` (a caller that catches the exception and carries on) keeps the state.
  `PianorollSequence.set_length` / `BasePerformance.set_length` with a negative length mutate and
  then fail their `assert`; `rstep`/`pstep` return `assertionError` and `rstepSkip`/`pstepSkip`
  continue from the mutated state, as the Python object does.
* Slices: unit stride `s[i:j]` (`Op.slice`, either bound possibly `None`, negative or past the
  end) and extended slices `s[i:j:k]` with an explicit stride (`Op.sliceStep`, CPython's
  `slice.indices` for any `k`, `ValueError` for `k = 0`).
* Python list primitives are modelled once (`pySlice`, `pyDelSlice`, `pyIndex`, `pyRepeat`,
  `pyRange`) with CPython's clamping rules (`slice.indices`). -/
namespace NSV.C17

inductive Err
  | valueError | indexError | notImplemented | assertionError | mismatch | diverges
deriving DecidableEq, Repr

def Err.name : Err → String
  | .valueError => "ValueError"
  | .indexError => "IndexError"
  | .notImplemented => "NotImplementedError"
  | .assertionError => "AssertionError"
  | .mismatch => "MelodyChordsMismatchError"
  | .diverges => "Diverges"

/-! ### Python list primitives -/
section Py
variable {α : Type}

/-- one bound of `slice(i, j).indices(len)` for stride 1: negative counts from the end, then clamp
to `[0, len]` -/
def clampIdx (len : Nat) (i : Int) : Nat :=
  if i < 0 then (i + len).toNat else min i.toNat len

def sliceLo (len : Nat) : Option Int → Nat
  | none => 0
  | some i => clampIdx len i

def sliceHi (len : Nat) : Option Int → Nat
  | none => len
  | some j => clampIdx len j

/-- `l[i:j]` -/
def pySlice (l : List α) (i j : Option Int) : List α :=
  (l.drop (sliceLo l.length i)).take (sliceHi l.length j - sliceLo l.length i)

/-- `del l[i:j]` -/
def pyDelSlice (l : List α) (i j : Option Int) : List α :=
  l.take (sliceLo l.length i) ++ l.drop (max (sliceLo l.length i) (sliceHi l.length j))

/-- `l[i]` for an `int` -/
def pyIndex (l : List α) (i : Int) : Except Err α :=
  let k := if i < 0 then i + l.length else i
  if k < 0 then .error .indexError
  else match l[k.toNat]? with
    | some a => .ok a
    | none => .error .indexError

/-- `[a] * k` (empty for `k ≤ 0`) -/
def pyRepeat (a : α) (k : Int) : List α := List.replicate k.toNat a

/-! extended slices `l[i:j:k]`: CPython `PySlice_Unpack` / `PySlice_AdjustIndices`
(= `slice(i, j, k).indices(len)`), `k ≠ 0` -/

/-- one explicit bound: a negative bound counts from the end and is clamped from below at `lower`,
a non-negative one is clamped from above at `upper`; `(lower, upper)` is `(0, len)` for a positive
stride and `(-1, len - 1)` for a negative one -/
def clampStep (len : Nat) (neg : Bool) (i : Int) : Int :=
  let lower : Int := if neg then -1 else 0
  let upper : Int := if neg then (len : Int) - 1 else len
  if i < 0 then (if i + len < lower then lower else i + len)
  else (if i > upper then upper else i)

/-- `slice(i, j, k).indices(len)[0]` -/
def stepLo (len : Nat) (k : Int) : Option Int → Int
  | none => if k < 0 then (len : Int) - 1 else 0
  | some i => clampStep len (decide (k < 0)) i

/-- `slice(i, j, k).indices(len)[1]` -/
def stepHi (len : Nat) (k : Int) : Option Int → Int
  | none => if k < 0 then -1 else len
  | some j => clampStep len (decide (k < 0)) j

/-- `len(range(lo, hi, k))` -/
def stepCount (lo hi k : Int) : Nat :=
  if k < 0 then (if hi < lo then ((lo - hi - 1) / (-k) + 1).toNat else 0)
  else (if lo < hi then ((hi - lo - 1) / k + 1).toNat else 0)

/-- `l[i:j:k]`, `k ≠ 0`: the elements at `lo, lo + k, lo + 2k, …`.  Every index is inside the list
(`py_slice_step_elements` in `Props/C17.lean`), so the `filterMap` never drops anything. -/
def pySliceStep (l : List α) (i j : Option Int) (k : Int) : List α :=
  (List.range (stepCount (stepLo l.length k i) (stepHi l.length k j) k)).filterMap
    (fun (m : Nat) => l[(stepLo l.length k i + (m : Int) * k).toNat]?)

/-- `list(range(a, b))` -/
def pyRange (a b : Int) : List Int := (List.range (b - a).toNat).map (fun (k : Nat) => a + (k : Int))

end Py

/-! ### SimpleEventSequence and subclasses -/

/-- `_events, _start_step, _end_step, _steps_per_bar, _steps_per_quarter` -/
structure Seq (α : Type) where
  events : List α
  start : Int
  stop : Int
  spb : Int
  spq : Int
deriving Repr

/-- what distinguishes the subclasses: pad event, the fill event hard-wired by an overriding
`increase_resolution`, event validation (`append`, `_from_event_list`), the cleaning done by
`_from_event_list`, and `Melody.set_length`'s scan for a sounding note. -/
structure Cls (α : Type) where
  pad : α
  fixedFill : Option α
  valid : α → Bool
  clean : List α → List α
  sustain : List α → Option α

def simpleCls {α : Type} (pad : α) : Cls α :=
  { pad := pad, fixedFill := none, valid := fun _ => true, clean := id, sustain := fun _ => none }

/-- `MIN_MELODY_EVENT <= event <= MAX_MELODY_EVENT` -/
def melValid (e : Int) : Bool := decide (Gen.MIN_MELODY_EVENT ≤ e) && decide (e ≤ Gen.MAX_MELODY_EVENT)

/-- `Melody._from_event_list`: NOTE_OFF / NO_EVENT before the first pitch become NO_EVENT -/
def melClean : List Int → List Int
  | [] => []
  | e :: rest =>
      if e = Gen.MELODY_NO_EVENT ∨ e = Gen.MELODY_NOTE_OFF then Gen.MELODY_NO_EVENT :: melClean rest
      else e :: rest

/-- `Melody.set_length`: scan `reversed(range(old_len))`; argument is the reversed old event list -/
def melSustainRev : List Int → Option Int
  | [] => none
  | e :: rest =>
      if e = Gen.MELODY_NOTE_OFF then none
      else if e ≠ Gen.MELODY_NO_EVENT then some Gen.MELODY_NOTE_OFF
      else melSustainRev rest

def melSustain (evs : List Int) : Option Int := melSustainRev evs.reverse

def melodyCls : Cls Int :=
  { pad := Gen.MELODY_NO_EVENT, fixedFill := some Gen.MELODY_NO_EVENT, valid := melValid,
    clean := melClean, sustain := melSustain }

/-- a drum event as Python sees it: is it a `frozenset`, and its members -/
structure DrumEv where
  isFrozenset : Bool
  pitches : List Int
deriving DecidableEq, Repr

def drumValid (e : DrumEv) : Bool :=
  e.isFrozenset && e.pitches.all (fun p => decide (Gen.MIN_MIDI_PITCH ≤ p) && decide (p ≤ Gen.MAX_MIDI_PITCH))

def drumCls : Cls DrumEv :=
  { pad := ⟨true, []⟩, fixedFill := some ⟨true, []⟩, valid := drumValid, clean := id,
    sustain := fun _ => none }

def chordCls : Cls String := simpleCls Gen.NO_CHORD

section Simple
variable {α : Type}

/-- constructor with `events=None` -/
def Seq.empty (start spb spq : Int) : Seq α := ⟨[], start, start, spb, spq⟩

/-- `_from_event_list` (validation, cleaning, `_end_step = start_step + len(self)`) -/
def fromEventList (c : Cls α) (events : List α) (start spb spq : Int) : Except Err (Seq α) :=
  if events.all c.valid then
    .ok ⟨c.clean events, start, start + ((c.clean events).length : Int), spb, spq⟩
  else .error .valueError

/-- `SimpleEventSequence.set_length` -/
def baseSetLength (c : Cls α) (s : Seq α) (n : Int) (fl : Bool) : Seq α :=
  let len : Int := s.events.length
  let ev :=
    if n > len then
      (if fl then pyRepeat c.pad (n - len) ++ s.events else s.events ++ pyRepeat c.pad (n - len))
    else
      (if fl then pyDelSlice s.events none (some (len - n)) else pyDelSlice s.events (some n) none)
  if fl then { s with events := ev, start := s.stop - n } else { s with events := ev, stop := s.start + n }

/-- `set_length` including the `Melody` override (`events[old_len] = NOTE_OFF` when a note is
sounding; index `old_len` exists because `n > old_len`) -/
def setLength (c : Cls α) (s : Seq α) (n : Int) (fl : Bool) : Seq α :=
  let s' := baseSetLength c s n fl
  if n > (s.events.length : Int) ∧ fl = false then
    match c.sustain s.events with
    | some x => { s' with events := s'.events.set s.events.length x }
    | none => s'
  else s'

/-- the per-event expansion of `increase_resolution` -/
def fillOf (f : Option α) (k : Int) (e : α) : List α :=
  match f with
  | none => pyRepeat e k
  | some x => e :: pyRepeat x (k - 1)

/-- `increase_resolution(k, fill_event)`; subclasses that override it pass their own fill event -/
def incRes (c : Cls α) (s : Seq α) (k : Int) (fill : Option α) : Seq α :=
  let f := match c.fixedFill with
    | some x => some x
    | none => fill
  ⟨s.events.flatMap (fillOf f k), s.start * k, s.stop * k, s.spb * k, s.spq * k⟩

inductive Op (α : Type)
  | append (e : α)
  | setLength (n : Int) (fromLeft : Bool)
  | slice (i j : Option Int)
  | sliceStep (i j : Option Int) (k : Int)
  | incRes (k : Int) (fill : Option α)
  | deepcopy
  | reinit (events : List α) (start spb spq : Int)
  | reset
deriving Repr

def step (c : Cls α) (s : Seq α) : Op α → Except Err (Seq α)
  | .append e =>
      if c.valid e then .ok { s with events := s.events ++ [e], stop := s.stop + 1 }
      else .error .valueError
  | .setLength n fl => .ok (setLength c s n fl)
  | .slice i j =>
      fromEventList c (pySlice s.events i j) (s.start + (sliceLo s.events.length i : Int)) s.spb s.spq
  | .sliceStep i j k =>
      -- `self._events.__getitem__(key)` raises "slice step cannot be zero" before anything else
      if k = 0 then .error .valueError
      else fromEventList c (pySliceStep s.events i j k) (s.start + stepLo s.events.length k i) s.spb s.spq
  | .incRes k fill => .ok (incRes c s k fill)
  | .deepcopy => fromEventList c s.events s.start s.spb s.spq
  | .reinit ev st b q => fromEventList c ev st b q
  | .reset => .ok ⟨[], 0, 0, Gen.DEFAULT_STEPS_PER_BAR, Gen.DEFAULT_STEPS_PER_QUARTER⟩

/-- a caller that catches exceptions: a failed operation leaves the object as it was -/
def stepSkip (c : Cls α) (s : Seq α) (op : Op α) : Seq α :=
  match step c s op with
  | .ok s' => s'
  | .error _ => s

def runSkip (c : Cls α) (s : Seq α) (ops : List (Op α)) : Seq α := ops.foldl (stepSkip c) s

/-! observations -/
def Seq.len (s : Seq α) : Nat := s.events.length
def Seq.iter (s : Seq α) : List α := s.events
def Seq.index (s : Seq α) (i : Int) : Except Err α := pyIndex s.events i
def Seq.steps (s : Seq α) : List Int := pyRange s.start s.stop

end Simple

/-! ### LeadSheet -/
structure LeadSheet where
  melody : Seq Int
  chords : Seq String
deriving Repr

/-- `LeadSheet(melody, chords)` / `_from_melody_and_chords` -/
def mkLeadSheet (m : Seq Int) (c : Seq String) : Except Err LeadSheet :=
  if m.events.length ≠ c.events.length ∨ m.spb ≠ c.spb ∨ m.spq ≠ c.spq ∨ m.start ≠ c.start ∨
      m.stop ≠ c.stop then .error .mismatch
  else .ok ⟨m, c⟩

inductive LOp
  | append (m : Int) (c : String)
  | setLength (n : Int)
  | slice (i j : Option Int)
  | sliceStep (i j : Option Int) (k : Int)
  | incRes (k : Int)
  | deepcopy
  | init (mev : List Int) (ms mb mq : Int) (cev : List String) (cs cb cq : Int)
  | reset
deriving Repr

def lstep (l : LeadSheet) : LOp → Except Err LeadSheet
  | .append m c => do
      let m' ← step melodyCls l.melody (.append m)
      let c' ← step chordCls l.chords (.append c)
      pure ⟨m', c'⟩
  | .setLength n => .ok ⟨setLength melodyCls l.melody n false, setLength chordCls l.chords n false⟩
  | .slice i j => do
      let m' ← step melodyCls l.melody (.slice i j)
      let c' ← step chordCls l.chords (.slice i j)
      mkLeadSheet m' c'
  | .sliceStep i j k => do
      let m' ← step melodyCls l.melody (.sliceStep i j k)
      let c' ← step chordCls l.chords (.sliceStep i j k)
      mkLeadSheet m' c'
  | .incRes k => .ok ⟨incRes melodyCls l.melody k none, incRes chordCls l.chords k none⟩
  | .deepcopy => do
      let m' ← step melodyCls l.melody .deepcopy
      let c' ← step chordCls l.chords .deepcopy
      mkLeadSheet m' c'
  | .init mev ms mb mq cev cs cb cq => do
      let m' ← fromEventList melodyCls mev ms mb mq
      let c' ← fromEventList chordCls cev cs cb cq
      mkLeadSheet m' c'
  | .reset => .ok ⟨Seq.empty 0 Gen.DEFAULT_STEPS_PER_BAR Gen.DEFAULT_STEPS_PER_QUARTER,
                   Seq.empty 0 Gen.DEFAULT_STEPS_PER_BAR Gen.DEFAULT_STEPS_PER_QUARTER⟩

def lstepSkip (l : LeadSheet) (op : LOp) : LeadSheet :=
  match lstep l op with
  | .ok l' => l'
  | .error _ => l

def lrunSkip (l : LeadSheet) (ops : List LOp) : LeadSheet := ops.foldl lstepSkip l

def LeadSheet.len (l : LeadSheet) : Nat := l.melody.events.length
/-- `zip(self._melody, self._chords)` -/
def LeadSheet.iter (l : LeadSheet) : List (Int × String) := l.melody.events.zip l.chords.events
/-- `(self._melody[i], self._chords[i])` -/
def LeadSheet.index (l : LeadSheet) (i : Int) : Except Err (Int × String) := do
  let m ← pyIndex l.melody.events i
  let c ← pyIndex l.chords.events i
  pure (m, c)
def LeadSheet.steps (l : LeadSheet) : List Int := l.melody.steps

/-! ### PianorollSequence -/
structure Roll where
  events : List (List Int)
  start : Int
  spq : Int
  minPitch : Int
  maxPitch : Int
deriving Repr

inductive ROp
  | append (e : List Int) (shiftRange : Bool)
  | setLength (n : Int) (fromLeft : Bool)
  | deepcopy
deriving Repr

/-- the mutation done by `set_length(n)` before its closing `assert` -/
def rollSetLengthCore (r : Roll) (n : Int) : Roll :=
  let len : Int := r.events.length
  let ev := if len < n then r.events ++ pyRepeat [] (n - len)
            else if len > n then pyDelSlice r.events (some n) none
            else r.events
  { r with events := ev }

def rstep (r : Roll) : ROp → Except Err Roll
  | .append e sh =>
      let e' := if sh then (e.filter (fun p => decide (r.minPitch ≤ p) && decide (p ≤ r.maxPitch))).map (· - r.minPitch)
                else e
      .ok { r with events := r.events ++ [e'] }
  | .setLength n fl =>
      if fl then .error .notImplemented
      else
        let r' := rollSetLengthCore r n
        if (r'.events.length : Int) = n then .ok r' else .error .assertionError
  | .deepcopy => .ok r

/-- a caller that catches exceptions.  Every exception leaves the object unchanged except the
`assert` closing `set_length`, which fires after the mutation. -/
def rstepSkip (r : Roll) (op : ROp) : Roll :=
  match op with
  | .setLength n false => rollSetLengthCore r n
  | _ => match rstep r op with
    | .ok r' => r'
    | .error _ => r

def rrunSkip (r : Roll) (ops : List ROp) : Roll := ops.foldl rstepSkip r

def Roll.len (r : Roll) : Nat := r.events.length
def Roll.numSteps (r : Roll) : Int := r.events.length
def Roll.stop (r : Roll) : Int := r.start + r.numSteps
def Roll.steps (r : Roll) : List Int := pyRange r.start r.stop
def Roll.index (r : Roll) (i : Int) : Except Err (List Int) := pyIndex r.events i

/-! ### BasePerformance (Performance, MetricPerformance) -/
structure PEvent where
  ty : Nat
  val : Int
deriving DecidableEq, Repr

/-- `PerformanceEvent(event_type, event_value)` with its attrs validator -/
def mkEvent (ty : Nat) (v : Int) : Except Err PEvent :=
  if ty = Gen.NOTE_ON ∨ ty = Gen.NOTE_OFF then
    (if Gen.MIN_MIDI_PITCH ≤ v ∧ v ≤ Gen.MAX_MIDI_PITCH then .ok ⟨ty, v⟩ else .error .valueError)
  else if ty = Gen.TIME_SHIFT then
    (if 0 ≤ v then .ok ⟨ty, v⟩ else .error .valueError)
  else if ty = Gen.DURATION then
    (if 1 ≤ v then .ok ⟨ty, v⟩ else .error .valueError)
  else if ty = Gen.VELOCITY then
    (if 1 ≤ v ∧ v ≤ Gen.MAX_NUM_VELOCITY_BINS then .ok ⟨ty, v⟩ else .error .valueError)
  else .error .valueError

structure Perf where
  events : List PEvent
  start : Int
  maxShift : Int
deriving Repr

def isShift (e : PEvent) : Bool := e.ty = Gen.TIME_SHIFT

/-- `num_steps`: sum of the TIME_SHIFT values -/
def numStepsOf : List PEvent → Int
  | [] => 0
  | e :: rest => (if isShift e then e.val else 0) + numStepsOf rest

/-- `steps`: the step at which each event happens -/
def stepsFrom : Int → List PEvent → List Int
  | _, [] => []
  | st, e :: rest => st :: stepsFrom (if isShift e then st + e.val else st) rest

/-- the tail of `_append_steps` after the last event was (possibly) extended: full shifts while
`n >= max`, then the remainder.  For `max ≤ 0 ≤ n - max` the Python loop does not terminate. -/
def appendTail (mx n : Int) : Except Err (List PEvent) :=
  if n < mx then
    (if n > 0 then do let e ← mkEvent Gen.TIME_SHIFT n; pure [e] else .ok [])
  else if mx ≤ 0 then .error .diverges
  else do
    let full ← mkEvent Gen.TIME_SHIFT mx
    let r := n - (n / mx) * mx
    if r > 0 then do
      let e ← mkEvent Gen.TIME_SHIFT r
      pure (List.replicate (n / mx).toNat full ++ [e])
    else pure (List.replicate (n / mx).toNat full)

/-- `_append_steps`; `rev` is the event list reversed (its head is `events[-1]`) -/
def appendStepsRev (mx : Int) (rev : List PEvent) (n : Int) : Except Err (List PEvent) :=
  match rev with
  | last :: before =>
      if isShift last ∧ last.val < mx then do
        let added := min n (mx - last.val)
        let last' ← mkEvent Gen.TIME_SHIFT (last.val + added)
        let tail ← appendTail mx (n - added)
        pure (before.reverse ++ [last'] ++ tail)
      else do
        let tail ← appendTail mx n
        pure (rev.reverse ++ tail)
  | [] => do
      let tail ← appendTail mx n
      pure tail

def appendSteps (p : Perf) (n : Int) : Except Err Perf := do
  let ev ← appendStepsRev p.maxShift p.events.reverse n
  pure { p with events := ev }

/-- the loop of `_trim_steps` on the reversed event list; `t` = `steps_trimmed` -/
def trimRev : List PEvent → Int → Int → Except Err (List PEvent)
  | [], _, _ => .ok []
  | e :: rest, t, n =>
      if t < n then
        (if isShift e then
          (if t + e.val > n then do
            let e' ← mkEvent Gen.TIME_SHIFT (e.val - n + t)
            pure (e' :: rest)
          else trimRev rest (t + e.val) n)
        else trimRev rest t n)
      else .ok (e :: rest)

def trimSteps (p : Perf) (n : Int) : Except Err Perf := do
  let rev ← trimRev p.events.reverse 0 n
  pure { p with events := rev.reverse }

inductive POp
  | append (ty : Nat) (v : Int)
  | appendBad
  | setLength (n : Int) (fromLeft : Bool)
  | truncate (n : Int)
  | appendSteps (n : Int)
  | trimSteps (n : Int)
  | deepcopy
deriving Repr

/-- the mutation done by `set_length(n)` before its closing `assert` -/
def perfSetLengthCore (p : Perf) (n : Int) : Except Err Perf :=
  let ns := numStepsOf p.events
  if ns < n then appendSteps p (n - ns)
  else if ns > n then trimSteps p (ns - n)
  else pure p

def pstep (p : Perf) : POp → Except Err Perf
  | .append ty v => do
      let e ← mkEvent ty v
      pure { p with events := p.events ++ [e] }
  | .appendBad => .error .valueError
  | .setLength n fl =>
      if fl then .error .notImplemented
      else do
        let p' ← perfSetLengthCore p n
        if numStepsOf p'.events = n then pure p' else .error .assertionError
  | .truncate n => .ok { p with events := pySlice p.events none (some n) }
  | .appendSteps n => appendSteps p n
  | .trimSteps n => trimSteps p n
  | .deepcopy => .ok p

/-- a caller that catches exceptions.  Every exception leaves the object unchanged (the
`PerformanceEvent` validator raises before the assignment) except the `assert` closing
`set_length`, which fires after the mutation. -/
def pstepSkip (p : Perf) (op : POp) : Perf :=
  match op with
  | .setLength n false =>
      (match perfSetLengthCore p n with
       | .ok p' => p'
       | .error _ => p)
  | _ => match pstep p op with
    | .ok p' => p'
    | .error _ => p

def prunSkip (p : Perf) (ops : List POp) : Perf := ops.foldl pstepSkip p

def Perf.len (p : Perf) : Nat := p.events.length
def Perf.numSteps (p : Perf) : Int := numStepsOf p.events
def Perf.stop (p : Perf) : Int := p.start + p.numSteps
def Perf.steps (p : Perf) : List Int := stepsFrom p.start p.events
def Perf.index (p : Perf) (i : Int) : Except Err PEvent := pyIndex p.events i

/-! ### NotePerformance

Events are 4-tuples `(TIME_SHIFT, NOTE_ON, VELOCITY, DURATION)` of `PerformanceEvent`s; the model
keeps the four values.  `append` only checks `isinstance(event, tuple)`; `set_length` is a
documented no-op ("This is not actually implemented"); `truncate`, `__len__`, `__getitem__`,
`__iter__`, `start_step`, `end_step = start_step + num_steps` are inherited from BasePerformance;
`num_steps` and `steps` are overridden. -/
structure NEvent where
  shift : Int
  pitch : Int
  vel : Int
  dur : Int
deriving DecidableEq, Repr

structure NPerf where
  events : List NEvent
  start : Int
  maxShift : Int
deriving Repr

inductive NOp
  | append (e : NEvent)
  | appendBad
  | setLength (n : Int) (fromLeft : Bool)
  | truncate (n : Int)
  | deepcopy
deriving Repr

def nstep (p : NPerf) : NOp → Except Err NPerf
  | .append e => .ok { p with events := p.events ++ [e] }
  | .appendBad => .error .valueError
  | .setLength _ _ => .ok p
  | .truncate n => .ok { p with events := pySlice p.events none (some n) }
  | .deepcopy => .ok p

def nstepSkip (p : NPerf) (op : NOp) : NPerf :=
  match nstep p op with
  | .ok p' => p'
  | .error _ => p

def nrunSkip (p : NPerf) (ops : List NOp) : NPerf := ops.foldl nstepSkip p

def shiftSum : List NEvent → Int
  | [] => 0
  | e :: rest => e.shift + shiftSum rest

/-- `num_steps`: every time shift plus the duration of the last note -/
def NPerf.numSteps (p : NPerf) : Int :=
  shiftSum p.events + (match p.events.getLast? with | some e => e.dur | none => 0)

/-- `steps`: `step += event[0].event_value; result.append(step)` -/
def nstepsFrom : Int → List NEvent → List Int
  | _, [] => []
  | st, e :: rest => (st + e.shift) :: nstepsFrom (st + e.shift) rest

def NPerf.len (p : NPerf) : Nat := p.events.length
def NPerf.stop (p : NPerf) : Int := p.start + p.numSteps
def NPerf.steps (p : NPerf) : List Int := nstepsFrom p.start p.events
def NPerf.index (p : NPerf) (i : Int) : Except Err NEvent := pyIndex p.events i

end NSV.C17
